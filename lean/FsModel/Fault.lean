/-
  FsModel.Fault — primitive-step programs of every *move* path of pyfilesystem2, executed with
  one injected failure (or a crash) at an arbitrary step.                           (property C07)

  * A **primitive step** (`Prim`) is one call on a filesystem object or on a file object it
    returned (`exists/getinfo/scandir/listdir/openbin/read/write/close/makedir/remove/removedir/
    setinfo`, the entry of a compound library call such as `upload`, `download`, `copy`,
    `makedirs`, `removetree`), `os.rename`, and the critical sections of `MemoryFS.move/movedir/
    removetree`, which run under the filesystem lock without any I/O in between (one step).
  * The **state** is two stores (`a`: the source filesystem, `b`: the destination filesystem;
    a same-filesystem move uses side `a` for both) mapping component paths to bytes, plus the
    list of directories, plus the one chunk buffer of `tools.copy_file_data`.
  * A **program** (`Prog`) is the step sequence a move performs, with the `try/except/else`,
    `try/finally` and `with` structure of the Python code.  Programs are produced by
    transcribing `FS.move`, `FS.movedir`, `FS.copy`, `FS.upload/download`, `FS.removetree`,
    `MemoryFS.move/movedir/removetree`, `OSFS.copy/removetree`, `fs.move.move_file/move_dir/
    move_fs`, `fs.copy.copy_file_internal/copy_structure/copy_dir_if/copy_modified_time`
    (`workers = 0`: `Copier.copy` is `copy_file_internal`).  Branches of the Python code that
    only *read* the state (`if not overwrite and self.exists(dst)`, the length of a loop) are
    resolved when the program is generated from the initial state: query steps do not change
    the state and a failure aborts the normal flow, so the state they see is the initial one.
  * `exec` runs a program with an optional `Fault`: step `k` raises an `FSError`
    (`OperationFailed`) or an `OSError` *instead of* executing, and the exception propagates
    through the handlers exactly as written; or the process stops there (`crash`: no handler,
    no `finally` runs).  `late := true` is the variant "the step took effect, then raised".
-/
import FsModel.Basic

namespace Fs.Fault
open Fs

abbrev Name := Str
/-- a path is its list of components (`iteratepath`); `[]` is the root -/
abbrev Path := List Name

/-! ## Stores -/

abbrev Files := List (Path × Bytes)

/-- first entry for `p` -/
def fget : Files → Path → Option Bytes
  | [], _ => none
  | (q, b) :: r, p => if q = p then some b else fget r p

def fdel (fs : Files) (p : Path) : Files := fs.filter (fun e => decide (e.1 ≠ p))

def fset (fs : Files) (p : Path) (b : Bytes) : Files := (p, b) :: fdel fs p

/-- `r` is `p` or an ancestor of `p` (`fs.path.isbase` on components) -/
def isPre (r p : Path) : Bool := r.isPrefixOf p

/-- `combine(droot, frombase(root, p))` -/
def rebase (root droot p : Path) : Path := droot ++ p.drop root.length

structure Store where
  files : Files
  dirs : List Path
  deriving DecidableEq, Repr, Inhabited

namespace Store
def isFile (st : Store) (p : Path) : Bool := (fget st.files p).isSome
def isDir (st : Store) (p : Path) : Bool := decide (p = []) || decide (p ∈ st.dirs)
def has (st : Store) (p : Path) : Bool := st.isFile p || st.isDir p
/-- some entry lies strictly below `p` -/
def hasChild (st : Store) (p : Path) : Bool :=
  st.files.any (fun e => isPre p e.1 && decide (e.1 ≠ p)) || st.dirs.any (fun d => isPre p d && decide (d ≠ p))
def parentOk (st : Store) (p : Path) : Bool := st.isDir p.dropLast
def setFile (st : Store) (p : Path) (b : Bytes) : Store := { st with files := fset st.files p b }
def delFile (st : Store) (p : Path) : Store := { st with files := fdel st.files p }
def addDir (st : Store) (p : Path) : Store := { st with dirs := p :: st.dirs }
def delDir (st : Store) (p : Path) : Store := { st with dirs := st.dirs.filter (fun d => decide (d ≠ p)) }
/-- remove everything at or below `p` (the root itself is never removed) -/
def delTree (st : Store) (p : Path) : Store :=
  { files := st.files.filter (fun e => !isPre p e.1), dirs := st.dirs.filter (fun d => !isPre p d) }
/-- re-link the subtree `p` as `q` -/
def moveTree (st : Store) (p q : Path) : Store :=
  { files := ((st.files.filter (fun e => isPre p e.1)).map (fun e => (rebase p q e.1, e.2)))
              ++ st.files.filter (fun e => !isPre p e.1),
    dirs := ((st.dirs.filter (fun d => isPre p d)).map (rebase p q)) ++ st.dirs.filter (fun d => !isPre p d) }
end Store

inductive Side where
  | a | b
  deriving DecidableEq, Repr, Inhabited

structure State where
  a : Store
  b : Store
  buf : Bytes := []
  deriving DecidableEq, Repr, Inhabited

namespace State
def get (s : State) : Side → Store
  | .a => s.a
  | .b => s.b
def put (s : State) : Side → Store → State
  | .a, st => { s with a := st }
  | .b, st => { s with b := st }
def file (s : State) (σ : Side) (p : Path) : Option Bytes := fget (s.get σ).files p
end State

/-! ## Exceptions -/

/-- what a step can raise: an `fs.errors` class, or a plain `OSError` -/
inductive Exc where
  | fs (e : Err)
  | os
  deriving DecidableEq, Repr, Inhabited

/-- the `except` clauses that occur on the move paths -/
inductive Catch where
  | fsError          -- `except FSError`           (move_file: cleanup of the destination)
  | osError          -- `except OSError`           (FS.move: rename attempt)
  | notFound         -- `except ResourceNotFound`  (tools.get_intermediate_dirs)
  | dirExists        -- `except DirectoryExists`   (FS.makedirs)
  deriving DecidableEq, Repr

def Catch.matches : Catch → Exc → Bool
  | .fsError, .fs _ => true
  | .osError, .os => true
  | .notFound, .fs .ResourceNotFound => true
  | .dirExists, .fs .DirectoryExists => true
  | _, _ => false

/-! ## Primitive steps -/

inductive Prim where
  /-- entry of a compound library call (`upload`, `download`, `copy`, `makedirs`, `removetree`,
      `move`, `movedir`, `open` …): a call on the filesystem that can fail before doing anything -/
  | call (name : String) (σ : Side) (p : Path)
  | exists_ (σ : Side) (p : Path)
  | getinfo (σ : Side) (p : Path)
  | scandir (σ : Side) (p : Path)
  | openR (σ : Side) (p : Path)
  | openW (σ : Side) (p : Path)
  /-- `read(chunk)` at offset `off` of the handle on `(σ, p)` into the buffer -/
  | read (σ : Side) (p : Path) (off len : Nat)
  /-- `write(buffer)` on the handle on `(σ, p)` (appends: the handle was opened with `w`) -/
  | write (σ : Side) (p : Path)
  | close (σ : Side) (p : Path)
  | makedir (σ : Side) (p : Path) (recreate : Bool)
  /-- `remove` (`os := true`: the `os.remove` inside `OSFS.removetree`) -/
  | remove (σ : Side) (p : Path) (os : Bool)
  | removedir (σ : Side) (p : Path) (os : Bool)
  | setinfo (σ : Side) (p : Path)
  /-- `OSFS.copy`: `shutil.copy2`, opaque -/
  | copyAtomic (σ : Side) (p q : Path)
  /-- `os.rename(src_sys_path, dst_sys_path)`; assumed atomic -/
  | rename (σ : Side) (p : Path) (τ : Side) (q : Path)
  /-- critical section of `MemoryFS.move` (checks + re-link under the lock) -/
  | relinkFile (σ : Side) (p q : Path) (overwrite : Bool)
  /-- critical section of `MemoryFS.movedir` for a destination that does not exist yet -/
  | relinkDir (σ : Side) (p q : Path) (create : Bool)
  /-- `MemoryFS.removetree` (one `remove_entry`/`clear` under the lock) -/
  | unlinkTree (σ : Side) (p : Path)
  deriving DecidableEq, Repr

namespace Prim

def name : Prim → String
  | call n _ _ => n
  | exists_ .. => "exists" | getinfo .. => "getinfo" | scandir .. => "scandir"
  | openR .. => "openbin_r" | openW .. => "openbin_w" | read .. => "read" | write .. => "write"
  | close .. => "close" | makedir .. => "makedir"
  | remove _ _ false => "remove" | remove _ _ true => "os.remove"
  | removedir _ _ false => "removedir" | removedir _ _ true => "os.rmdir"
  | setinfo .. => "setinfo" | copyAtomic .. => "shutil.copy2" | rename .. => "os.rename"
  | relinkFile .. => "mem.relink_file" | relinkDir .. => "mem.relink_dir" | unlinkTree .. => "mem.unlink_tree"

def side : Prim → Side
  | call _ σ _ | exists_ σ _ | getinfo σ _ | scandir σ _ | openR σ _ | openW σ _ | read σ _ _ _
  | write σ _ | close σ _ | makedir σ _ _ | remove σ _ _ | removedir σ _ _ | setinfo σ _
  | copyAtomic σ _ _ | rename σ _ _ _ | relinkFile σ _ _ _ | relinkDir σ _ _ _ | unlinkTree σ _ => σ

def path : Prim → Path
  | call _ _ p | exists_ _ p | getinfo _ p | scandir _ p | openR _ p | openW _ p | read _ p _ _
  | write _ p | close _ p | makedir _ p _ | remove _ p _ | removedir _ p _ | setinfo _ p
  | copyAtomic _ p _ | rename _ p _ _ | relinkFile _ p _ _ | relinkDir _ p _ _ | unlinkTree _ p => p

/-- may this step change the content found at file path `x` of side `ρ`? (syntactic) -/
def mutates (pr : Prim) (ρ : Side) (x : Path) : Bool :=
  match pr with
  | openW σ p | write σ p | remove σ p _ => decide (σ = ρ) && decide (p = x)
  | copyAtomic σ _ q => decide (σ = ρ) && decide (q = x)
  | rename σ p τ q => (decide (σ = ρ) && decide (p = x)) || (decide (τ = ρ) && decide (q = x))
  | relinkFile σ p q _ => decide (σ = ρ) && (decide (p = x) || decide (q = x))
  | relinkDir σ p q _ => decide (σ = ρ) && (isPre p x || isPre q x)
  | unlinkTree σ p => decide (σ = ρ) && isPre p x
  | _ => false

/-- steps without any effect on the state (queries, `close`, entries of compound calls) -/
def isPure : Prim → Bool
  | .call .. | .exists_ .. | .getinfo .. | .scandir .. | .openR .. | .close .. | .setinfo .. => true
  | _ => false

/-- the step as executed when it does not fail by injection: the new state, or the exception the
    real call raises in this state (without effect) -/
def step (pr : Prim) (s : State) : Except Exc State :=
  match pr with
  | call _ _ _ => .ok s
  | exists_ _ _ => .ok s
  | getinfo σ p => if (s.get σ).has p then .ok s else .error (.fs .ResourceNotFound)
  | scandir σ p =>
      if (s.get σ).isDir p then .ok s
      else if (s.get σ).isFile p then .error (.fs .DirectoryExpected) else .error (.fs .ResourceNotFound)
  | openR σ p =>
      if (s.get σ).isFile p then .ok s
      else if (s.get σ).isDir p then .error (.fs .FileExpected) else .error (.fs .ResourceNotFound)
  | openW σ p =>
      if p = [] then .error (.fs .FileExpected)
      else if !(s.get σ).parentOk p then .error (.fs .ResourceNotFound)
      else if (s.get σ).isDir p then .error (.fs .FileExpected)
      else .ok (s.put σ ((s.get σ).setFile p []))
  | read σ p off len => .ok { s with buf := (((s.file σ p).getD []).drop off).take len }
  | write σ p =>
      match s.file σ p with
      | some cur => .ok (s.put σ ((s.get σ).setFile p (cur ++ s.buf)))
      | none => .ok s            -- the handle points to an unlinked file: nothing visible changes
  | close _ _ => .ok s
  | makedir σ p recreate =>
      if p = [] then (if recreate then .ok s else .error (.fs .DirectoryExists))
      else if !(s.get σ).parentOk p then .error (.fs .ResourceNotFound)
      else if (s.get σ).isDir p then (if recreate then .ok s else .error (.fs .DirectoryExists))
      else if (s.get σ).isFile p then .error (.fs .DirectoryExists)
      else .ok (s.put σ ((s.get σ).addDir p))
  | remove σ p os =>
      if (s.get σ).isFile p then .ok (s.put σ ((s.get σ).delFile p))
      else if os then .error .os
      else if (s.get σ).isDir p then .error (.fs .FileExpected) else .error (.fs .ResourceNotFound)
  | removedir σ p os =>
      if p = [] then .error (if os then .os else .fs .RemoveRootError)
      else if (s.get σ).isDir p then
        (if (s.get σ).hasChild p then .error (if os then .os else .fs .DirectoryNotEmpty)
         else .ok (s.put σ ((s.get σ).delDir p)))
      else if os then .error .os
      else if (s.get σ).isFile p then .error (.fs .DirectoryExpected) else .error (.fs .ResourceNotFound)
  | setinfo σ p => if (s.get σ).has p then .ok s else .error (.fs .ResourceNotFound)
  | copyAtomic σ p q =>
      match s.file σ p with
      | none => .error (.fs .FileExpected)
      | some b =>
        if p = q then .error (.fs .IllegalDestination)
        else if !(s.get σ).parentOk q then .error (.fs .DirectoryExpected)
        else if (s.get σ).isDir q then .error (.fs .FileExpected)
        else .ok (s.put σ ((s.get σ).setFile q b))
  | rename σ p τ q =>
      match s.file σ p with
      | none => .error .os
      | some b =>
        if q = [] || !(s.get τ).parentOk q || (s.get τ).isDir q then .error .os
        else
          let s1 := s.put σ ((s.get σ).delFile p)
          .ok (s1.put τ ((s1.get τ).setFile q b))
  | relinkFile σ p q overwrite =>
      match s.file σ p with
      | none => .error (.fs (if (s.get σ).isDir p then .FileExpected else .ResourceNotFound))
      | some b =>
        if !(s.get σ).parentOk q then .error (.fs .ResourceNotFound)
        else if !overwrite && (s.get σ).has q then .error (.fs .DestinationExists)
        else if p = q then .ok s
        else if q = [] || (s.get σ).isDir q then .error (.fs .FileExpected)
        else .ok (s.put σ (((s.get σ).delFile p).setFile q b))
  | relinkDir σ p q create =>
      if p = [] || !(s.get σ).isDir p then
        .error (.fs (if (s.get σ).isFile p then .DirectoryExpected else .ResourceNotFound))
      else if !(s.get σ).parentOk q || (s.get σ).has q || (s.get σ).hasChild q || isPre p q then
        .error (.fs .ResourceNotFound)
      else if !create then .error (.fs .ResourceNotFound)
      else .ok (s.put σ ((s.get σ).moveTree p q))
  | unlinkTree σ p =>
      if p = [] then .ok (s.put σ ((s.get σ).delTree p))
      else if (s.get σ).isDir p then .ok (s.put σ ((s.get σ).delTree p))
      else if (s.get σ).isFile p then .error (.fs .DirectoryExpected) else .error (.fs .ResourceNotFound)

end Prim

/-! ## Programs -/

/-- the control structure of the Python code around the primitive steps.  Every `try` body that
    has an `except` clause on the move paths is a single call, so `tryCatch/tryElse` guard one
    primitive step. -/
inductive Prog where
  | skip
  | prim (p : Prim)
  /-- an explicit `raise` statement (not a fault point) -/
  | raise (x : Exc)
  | seq (a b : Prog)
  /-- `try: p  except c: handler [; raise]` — `reraise` re-raises the caught exception after
      the handler returned -/
  | tryCatch (p : Prim) (c : Catch) (handler : Prog) (reraise : Bool)
  /-- `try: p  except c: handler  else: els` — with the rest of the function after the `try`
      moved into `handler` when `els` ends in `return` -/
  | tryElse (p : Prim) (c : Catch) (handler : Prog) (els : Prog)
  /-- `try: body finally: fin`; also `with f: body` (`fin` = `f.close()`) -/
  | tryFinally (body fin : Prog)
  deriving Repr

infixr:60 " ;; " => Prog.seq

namespace Prog

/-- the primitive steps of a program, in textual order -/
def prims : Prog → List Prim
  | skip => []
  | prim p => [p]
  | raise _ => []
  | seq a b => a.prims ++ b.prims
  | tryCatch p _ h _ => p :: h.prims
  | tryElse p _ h e => p :: (h.prims ++ e.prims)
  | tryFinally b f => b.prims ++ f.prims

/-- no handler of the program swallows exception `x`: an `except` clause that matches `x`
    re-raises -/
def transparent (x : Exc) : Prog → Bool
  | .skip | .prim _ | .raise _ => true
  | .seq a b => a.transparent x && b.transparent x
  | .tryCatch _ c h rr => (!c.matches x || rr) && h.transparent x
  | .tryElse _ c h e => !c.matches x && h.transparent x && e.transparent x
  | .tryFinally b f => b.transparent x && f.transparent x

def seqs : List Prog → Prog
  | [] => skip
  | p :: ps => seq p (seqs ps)

end Prog

/-! ## Execution with one fault -/

inductive Kind where
  | fserr   -- step raises `fs.errors.OperationFailed`
  | oserr   -- step raises `OSError`
  | crash   -- the process stops before the step; no handler runs
  deriving DecidableEq, Repr

structure Fault where
  pos : Nat
  kind : Kind
  /-- `true`: the step takes effect and *then* raises (not an atomic failure) -/
  late : Bool := false
  deriving DecidableEq, Repr

def Kind.exc : Kind → Exc
  | .fserr => .fs .OperationFailed
  | .oserr => .os
  | .crash => .os

inductive Out where
  | ok
  | raised (x : Exc)
  | crashed
  deriving DecidableEq, Repr

def Out.isErr : Out → Bool
  | .raised _ => true
  | _ => false

structure Res where
  state : State
  out : Out
  /-- number of the next primitive step -/
  ctr : Nat
  /-- the fault position was reached -/
  hit : Bool
  deriving Repr

/-- one primitive step under a fault -/
def execPrim (f : Option Fault) (p : Prim) (n : Nat) (s : State) : Res :=
  match f with
  | some ⟨k, kind, late⟩ =>
    if k = n then
      match kind with
      | .crash => ⟨s, .crashed, n + 1, true⟩
      | _ =>
        if late then
          match p.step s with
          | .ok s' => ⟨s', .raised kind.exc, n + 1, true⟩
          | .error _ => ⟨s, .raised kind.exc, n + 1, true⟩
        else ⟨s, .raised kind.exc, n + 1, true⟩
    else
      match p.step s with
      | .ok s' => ⟨s', .ok, n + 1, false⟩
      | .error x => ⟨s, .raised x, n + 1, false⟩
  | none =>
    match p.step s with
    | .ok s' => ⟨s', .ok, n + 1, false⟩
    | .error x => ⟨s, .raised x, n + 1, false⟩

/-- run `prog` from step number `n` in state `s` -/
def exec (f : Option Fault) : Prog → Nat → State → Res
  | .skip, n, s => ⟨s, .ok, n, false⟩
  | .prim p, n, s => execPrim f p n s
  | .raise x, n, s => ⟨s, .raised x, n, false⟩
  | .seq a b, n, s =>
    let r := exec f a n s
    match r.out with
    | .ok => let r2 := exec f b r.ctr r.state; { r2 with hit := r.hit || r2.hit }
    | _ => r
  | .tryCatch p c h rr, n, s =>
    let r := execPrim f p n s
    match r.out with
    | .raised x =>
      if c.matches x then
        let r2 := exec f h r.ctr r.state
        match r2.out with
        | .ok => { r2 with out := if rr then .raised x else .ok, hit := r.hit || r2.hit }
        | _ => { r2 with hit := r.hit || r2.hit }
      else r
    | _ => r
  | .tryElse p c h e, n, s =>
    let r := execPrim f p n s
    match r.out with
    | .ok => let r2 := exec f e r.ctr r.state; { r2 with hit := r.hit || r2.hit }
    | .raised x =>
      if c.matches x then
        let r2 := exec f h r.ctr r.state; { r2 with hit := r.hit || r2.hit }
      else r
    | .crashed => r
  | .tryFinally b fin, n, s =>
    let r := exec f b n s
    match r.out with
    | .crashed => r
    | o =>
      let r2 := exec f fin r.ctr r.state
      match r2.out with
      | .ok => { r2 with out := o, hit := r.hit || r2.hit }
      | _ => { r2 with hit := r.hit || r2.hit }

/-- the run with step `k` failing (`FSError`/`OSError`) or the process stopping at `k` -/
def runFault (prog : Prog) (k : Nat) (kind : Kind) (s : State) : Res :=
  exec (some ⟨k, kind, false⟩) prog 0 s

/-- the same with a failure reported *after* the step took effect -/
def runFaultLate (prog : Prog) (k : Nat) (kind : Kind) (s : State) : Res :=
  exec (some ⟨k, kind, true⟩) prog 0 s

/-- the un-faulted run -/
def run (prog : Prog) (s : State) : Res := exec none prog 0 s

/-- the state when the process stops just before step `k` -/
def prefixRun (prog : Prog) (k : Nat) (s : State) : State := (runFault prog k .crash s).state

/-! ## The move programs -/

inductive Backend where
  | base   -- only the essential methods are overridden: every default of `fs/base.py` is used
  | mem    -- MemoryFS
  | os     -- OSFS
  deriving DecidableEq, Repr

/-- a move configuration -/
structure Cfg where
  /-- `src_fs is dst_fs` -/
  same : Bool := false
  srcB : Backend := .mem
  dstB : Backend := .mem
  preserve : Bool := false
  /-- `cleanup_dst_on_error` of `move_file` -/
  cleanup : Bool := true
  /-- `overwrite` of `FS.move` (move_file passes `True`) -/
  overwrite : Bool := true
  /-- `create` of `FS.movedir` -/
  create : Bool := true
  /-- `copy_modified_time(src, dst)` is (still) called *after* an atomic move (`os.rename` in
      `FS.move`, the re-link of `MemoryFS.move/movedir`), when the source no longer exists —
      the call then raises `ResourceNotFound` although the move is complete (a defect of the
      pinned tree, see findings/C07-preserve-time-after-atomic-move.md).  The harness probes the
      real code and selects the variant; every theorem holds for both. -/
  ptAfterAtomic : Bool := true
  /-- bytes per `read` minus one (so the chunk size is never 0) -/
  chunk : Nat := 1048575
  deriving DecidableEq, Repr

namespace Cfg
def srcSide (_ : Cfg) : Side := .a
def dstSide (c : Cfg) : Side := if c.same then .a else .b
def chunkSize (c : Cfg) : Nat := c.chunk + 1
/-- `preserve_time` handling after an atomic move -/
def preserveAtomic (c : Cfg) : Bool := c.preserve && c.ptAfterAtomic
def dstBackend (c : Cfg) : Backend := if c.same then c.srcB else c.dstB
/-- `move_file` attempts an `os.rename` (whose failure it handles by falling back to a copy):
    same OSFS, or two filesystems that both have system paths -/
def usesRename (c : Cfg) : Bool :=
  (c.same && decide (c.srcB = .os)) || (!c.same && decide (c.srcB = .os) && decide (c.dstB = .os))
end Cfg

/-- number of non-empty chunks of a file of `len` bytes -/
def nChunks (c len : Nat) : Nat := (len + c - 1) / c

/-- `tools.copy_file_data`: `for chunk in iter(lambda: read(c) or None, None): write(chunk)` —
    `k` more chunks from chunk index `i`, then the read that returns `b""` -/
def copyLoop (σ : Side) (p : Path) (τ : Side) (q : Path) (c : Nat) : Nat → Nat → Prog
  | i, 0 => .prim (.read σ p (i * c) c)
  | i, k + 1 => .prim (.read σ p (i * c) c) ;; .prim (.write τ q) ;; copyLoop σ p τ q c (i + 1) k

/-- `with src.openbin(p) as rf: dst.upload(q, rf)` (`FS.upload`: `with self.openbin(q, "wb") as
    wf: copy_file_data(rf, wf)`) -/
def uploadCopy (σ : Side) (p : Path) (τ : Side) (q : Path) (c len : Nat) : Prog :=
  .prim (.openR σ p) ;;
  .tryFinally
    (.prim (.call "upload" τ q) ;; .prim (.openW τ q) ;;
      .tryFinally (copyLoop σ p τ q c 0 (nChunks c len)) (.prim (.close τ q)))
    (.prim (.close σ p))

/-- `with dst.openbin(q, "w") as wf: src.download(p, wf)` (`FS.download`: `with self.openbin(p)
    as rf: copy_file_data(rf, wf)`) — used when the destination has a system path -/
def downloadCopy (σ : Side) (p : Path) (τ : Side) (q : Path) (c len : Nat) : Prog :=
  .prim (.openW τ q) ;;
  .tryFinally
    (.prim (.call "download" σ p) ;; .prim (.openR σ p) ;;
      .tryFinally (copyLoop σ p τ q c 0 (nChunks c len)) (.prim (.close σ p)))
    (.prim (.close τ q))

/-- `copy.copy_modified_time` -/
def copyModTime (σ : Side) (p : Path) (τ : Side) (q : Path) : Prog :=
  .prim (.getinfo σ p) ;; .prim (.setinfo τ q)

def preservePart (pt : Bool) (σ : Side) (p : Path) (τ : Side) (q : Path) : Prog :=
  if pt then copyModTime σ p τ q else .skip

def fileLen (s : State) (σ : Side) (p : Path) : Nat := ((s.file σ p).getD []).length

/-- `FS.copy(p, q, overwrite=True)` on one filesystem (`OSFS.copy` is `shutil.copy2`) -/
def fsCopy (cfg : Cfg) (s : State) (σ : Side) (p q : Path) : Prog :=
  .prim (.call "copy" σ p) ;;
  (match cfg.srcB with
   | .os => .prim (.copyAtomic σ p q)
   | _ =>
     if p = q then .raise (.fs .IllegalDestination)
     else uploadCopy σ p σ q cfg.chunkSize (fileLen s σ p) ;; preservePart cfg.preserve σ p σ q)

/-- `copy.copy_file_internal` -/
def copyFileInternal (cfg : Cfg) (s : State) (p q : Path) : Prog :=
  if cfg.same then
    (if p = q then .raise (.fs .IllegalDestination) else fsCopy cfg s .a p q)
  else
    (match cfg.dstB with
     | .os => downloadCopy .a p .b q cfg.chunkSize (fileLen s .a p)
     | _ => uploadCopy .a p .b q cfg.chunkSize (fileLen s .a p)) ;;
    preservePart cfg.preserve .a p .b q

/-- the copy path of `FS.move`: `with self.open(p, "rb") as rf: self.upload(q, rf)`;
    `copy_modified_time`; — the final `self.remove(p)` is added by the caller -/
def fsMoveCopyPart (cfg : Cfg) (s : State) (σ : Side) (p : Path) (τ : Side) (q : Path) : Prog :=
  uploadCopy σ p τ q cfg.chunkSize (fileLen s σ p) ;; preservePart cfg.preserve σ p τ q

/-- `if not overwrite and self.exists(dst): raise DestinationExists(dst)`, then `k` -/
def owCheck (cfg : Cfg) (s : State) (τ : Side) (q : Path) (k : Prog) : Prog :=
  if cfg.overwrite then k
  else .prim (.exists_ τ q) ;; (if (s.get τ).has q then .raise (.fs .DestinationExists) else k)

/-- `FS.move` (fs/base.py).  `rename`: `getmeta()["supports_rename"]`.  `(σ, p)` and `(τ, q)` are
    on one filesystem object; the two sides differ only for the OSFS that `move_file` creates on
    the common parent of two system paths. -/
def fsMove (cfg : Cfg) (s : State) (rename : Bool) (σ : Side) (p : Path) (τ : Side) (q : Path) : Prog :=
  .prim (.call "move" σ p) ;;
  owCheck cfg s τ q
    (.prim (.getinfo σ p) ;;
     (if (s.get σ).isDir p then .raise (.fs .FileExpected)
      else if σ = τ ∧ p = q then .skip
      else
        let copyPath := fsMoveCopyPart cfg s σ p τ q ;; .prim (.remove σ p false)
        if rename then
          .tryElse (.rename σ p τ q) .osError copyPath (preservePart cfg.preserveAtomic σ p τ q)
        else copyPath))

/-- `MemoryFS.move` -/
def memMove (cfg : Cfg) (p q : Path) : Prog :=
  .prim (.call "move" .a p) ;; .prim (.relinkFile .a p q cfg.overwrite) ;;
  preservePart cfg.preserveAtomic .a p .a q

/-- `fs.move.move_file` -/
def moveFile (cfg : Cfg) (s : State) (p q : Path) : Prog :=
  if cfg.same then
    (match cfg.srcB with
     | .mem => memMove { cfg with overwrite := true } p q
     | .os => fsMove { cfg with overwrite := true } s true .a p .a q
     | .base => fsMove { cfg with overwrite := true } s false .a p .a q)
  else if cfg.srcB = .os ∧ cfg.dstB = .os then
    -- both have a system path: `OSFS(common).move(rel_src, rel_dst, overwrite=True)`
    fsMove { cfg with overwrite := true } s true .a p .b q
  else
    -- standard copy and delete
    (.prim (.call "copy_file" .a p) ;; copyFileInternal cfg s p q) ;;
    .tryCatch (.remove .a p false) .fsError
      (if cfg.cleanup then .prim (.remove .b q false) else .skip) true

/-! ### directory moves -/

/-- the entries of the subtree `root`, grouped by depth (breadth-first order of the walker) -/
def byDepth (ps : List Path) : List Path :=
  let m := ps.foldl (fun acc p => max acc p.length) 0
  (List.range (m + 1)).flatMap (fun n => ps.filter (fun p => p.length == n))

/-- directories of the subtree in walk order, the root first -/
def subDirs (st : Store) (root : Path) : List Path :=
  root :: byDepth (st.dirs.filter (fun d => isPre root d && decide (d ≠ root)))

def filesIn (st : Store) (d : Path) : List Path :=
  (st.files.filter (fun e => decide (e.1.dropLast = d) && decide (e.1 ≠ []))).map (·.1)

def dirsIn (st : Store) (d : Path) : List Path :=
  st.dirs.filter (fun x => decide (x.dropLast = d) && decide (x ≠ []))

/-- `FS.makedirs(root, recreate=True)` as `copy_structure` calls it right after
    `makedir(root, recreate=True)`: the probe of `get_intermediate_dirs` finds `root`, the
    `makedir` raises `DirectoryExists` (swallowed), `opendir` looks at it again -/
def makedirsExisting (τ : Side) (q : Path) : Prog :=
  .prim (.call "makedirs" τ q) ;;
  .tryCatch (.getinfo τ q) .notFound .skip false ;;
  .tryCatch (.makedir τ q false) .dirExists .skip false ;;
  .prim (.getinfo τ q)

/-- `copy.copy_structure`: one `scandir` per source directory, one `makedir(recreate=True)` per
    sub-directory -/
def copyStructure (cfg : Cfg) (s : State) (root droot : Path) : Prog :=
  if cfg.same ∧ isPre root droot then .raise (.fs .IllegalDestination)
  else
    makedirsExisting cfg.dstSide droot ;;
    Prog.seqs ((subDirs s.a root).map fun d =>
      .prim (.scandir .a d) ;;
      Prog.seqs ((dirsIn s.a d).map fun x => .prim (.makedir cfg.dstSide (rebase root droot x) true)))

/-- the paths of the files at or below `root` -/
def treeFiles (st : Store) (root : Path) : List Path :=
  (st.files.map (·.1)).filter (fun x => isPre root x)

/-- the file loop of `copy_dir_if("always")` with `workers = 0`: the walker scans every
    directory of the subtree and every file found is copied with `copy_file_internal`.
    (The real walker is lazy — it scans a directory, yields its files, then scans the next
    one; here all scans come first.  The difference stays inside one phase.) -/
def copyFiles (cfg : Cfg) (s : State) (root droot : Path) : Prog :=
  Prog.seqs ((subDirs s.a root).map fun d => .prim (.scandir .a d)) ;;
  Prog.seqs ((treeFiles s.a root).map fun x => copyFileInternal cfg s x (rebase root droot x))

/-- `removetree(root)` on the source -/
def removeTree (cfg : Cfg) (s : State) (root : Path) : Prog :=
  .prim (.call "removetree" .a root) ;;
  match cfg.srcB with
  | .mem => .prim (.unlinkTree .a root)
  | b =>
    let os := decide (b = .os)
    Prog.seqs ((subDirs s.a root).reverse.map fun d =>
      (if os then .skip else .prim (.scandir .a d)) ;;
      Prog.seqs ((filesIn s.a d).map fun x => .prim (.remove .a x os)) ;;
      (if d = root then .skip else .prim (.removedir .a d os))) ;;
    (if root = [] then .skip else .prim (.removedir .a root os))

/-- everything `move_dir` does before it touches the source: check, `makedir`, `copy_dir` -/
def moveDirCopyPhase (cfg : Cfg) (s : State) (root droot : Path) : Prog :=
  .prim (.getinfo .a root) ;;
  (if (s.a).isDir root then
     .prim (.makedir cfg.dstSide droot true) ;;
     copyStructure cfg s root droot ;;
     copyFiles cfg s root droot
   else .raise (.fs .DirectoryExpected))

/-- `fs.move.move_dir` (workers = 0) -/
def moveDir (cfg : Cfg) (s : State) (root droot : Path) : Prog :=
  moveDirCopyPhase cfg s root droot ;; removeTree cfg s root

/-- `fs.move.move_fs` -/
def moveFs (cfg : Cfg) (s : State) : Prog := moveDir cfg s [] []

/-- `if not create and not self.exists(dst): raise ResourceNotFound(dst)`, then `k` -/
def createCheck (cfg : Cfg) (s : State) (q : Path) (k : Prog) : Prog :=
  if cfg.create then k
  else .prim (.exists_ .a q) ;; (if (s.a).has q then k else .raise (.fs .ResourceNotFound))

/-- `FS.movedir` (fs/base.py) -/
def fsMovedir (cfg : Cfg) (s : State) (p q : Path) : Prog :=
  .prim (.call "movedir" .a p) ;;
  (if p = q then .skip
   else if isPre p q then .raise (.fs .IllegalDestination)
   else createCheck cfg s q (moveDir { cfg with same := true } s p q))

/-- `MemoryFS.movedir`: re-link when the destination does not exist, else the base class -/
def memMovedir (cfg : Cfg) (s : State) (p q : Path) : Prog :=
  .prim (.call "movedir" .a p) ;;
  (if p = q then .skip
   else if isPre p q then .raise (.fs .IllegalDestination)
   else if (s.a).isDir p ∧ (q = [] ∨ ((s.a).parentOk q ∧ (s.a).has q)) then
     fsMovedir { cfg with srcB := .mem } s p q
   else
     .prim (.relinkDir .a p q cfg.create) ;; preservePart cfg.preserveAtomic .a p .a q)

/-! ## The observables of C07 (executable, then as `Prop`s) -/

/-- the files of the source subtree, with their bytes -/
def srcFiles (s : State) (root : Path) : List (Path × Bytes) :=
  (s.a.files.filter (fun e => isPre root e.1)).filter (fun e => fget s.a.files e.1 == some e.2)

def srcIntactB (s s' : State) (root : Path) : Bool :=
  (srcFiles s root).all fun e => s'.file .a e.1 == some e.2

def dstCompleteB (τ : Side) (s s' : State) (root droot : Path) : Bool :=
  (srcFiles s root).all fun e => s'.file τ (rebase root droot e.1) == some e.2

def noLossB (τ : Side) (s s' : State) (root droot : Path) : Bool :=
  (srcFiles s root).all fun e =>
    s'.file .a e.1 == some e.2 || s'.file τ (rebase root droot e.1) == some e.2

/-- the phase a step falls in, from the state in which it is reached:
    0 = before the copy is complete, 1 = copy complete and source untouched,
    2 = the source has been (partly) removed -/
def phaseOf (τ : Side) (s cur : State) (root droot : Path) : Nat :=
  if !srcIntactB s cur root then 2 else if dstCompleteB τ s cur root droot then 1 else 0

/-! ### the same observables as propositions (what the theorems of C07 are about) -/

/-- **NoLoss**: every file of the source subtree `root` of `s` still has its original bytes
    readable at its source path in `s'`, or is complete at the corresponding destination path
    (`τ` is the side of the destination filesystem) -/
def NoLoss (τ : Side) (root droot : Path) (s s' : State) : Prop :=
  ∀ x b, isPre root x = true → s.file .a x = some b →
    s'.file .a x = some b ∨ s'.file τ (rebase root droot x) = some b

/-- every file of the source subtree is complete at its destination path -/
def Moved (τ : Side) (root droot : Path) (s s' : State) : Prop :=
  ∀ x b, isPre root x = true → s.file .a x = some b → s'.file τ (rebase root droot x) = some b

/-- every file of the source subtree is untouched -/
def SrcIntact (root : Path) (s s' : State) : Prop :=
  ∀ x b, isPre root x = true → s.file .a x = some b → s'.file .a x = some b

/-- the single-file versions (`move`, `move_file`): source `(a, p)`, destination `(τ, q)` -/
def NoLossFile (τ : Side) (p q : Path) (s s' : State) : Prop :=
  ∀ b, s.file .a p = some b → s'.file .a p = some b ∨ s'.file τ q = some b

def MovedFile (τ : Side) (p q : Path) (s s' : State) : Prop :=
  ∀ b, s.file .a p = some b → s'.file τ q = some b

/-- same-filesystem directory move: no destination path of a source file lies inside the source
    subtree again (for a destination outside the source, false only when the destination is a
    proper ancestor of the source and the source contains an entry named like its own first
    component below the destination — the known defect `movedir-dst-ancestor-of-src-name-clash`) -/
def NoClash (s : State) (root droot : Path) : Prop :=
  ∀ x, isPre root x = true → (s.a).isFile x = true → isPre root (rebase root droot x) = false

end Fs.Fault
