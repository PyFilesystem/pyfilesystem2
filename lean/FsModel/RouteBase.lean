/-
  FsModel.RouteBase — what MountFS and MultiFS have in common (C17).

  A composite filesystem owns no data: every public method it defines itself (a *primitive*,
  `Prim`) forwards to one or several member filesystems, and every method it inherits from
  `fs/base.py` is a *program over those primitives* (`Prog`).  Members are `Ref.State`s; a
  member call is `Ref.step` with the member-relative path; every member call is recorded
  in a trace of `Call`s (member index, method received, path received, and the call as a
  reference operation) — the first three are what the logging proxies of the harness observe on
  the real code.
-/
import FsModel.Ref

namespace Fs.Route
open Fs Fs.Path Fs.Ref

/-- methods a member filesystem can receive from a composite -/
inductive Meth where
  | getinfo | listdir | scandir | makedir | makedirs | openbin | open_ | remove | removedir
  | readbytes | getsize | gettype | isdir | isfile | exists_ | setinfo | validatepath
  | upload | writebytes | close | readtext | writetext | download
  deriving DecidableEq, Repr, Inhabited

def Meth.name : Meth → String
  | .getinfo => "getinfo" | .listdir => "listdir" | .scandir => "scandir" | .makedir => "makedir"
  | .makedirs => "makedirs" | .openbin => "openbin" | .open_ => "open" | .remove => "remove"
  | .removedir => "removedir" | .readbytes => "readbytes" | .getsize => "getsize"
  | .gettype => "gettype" | .isdir => "isdir" | .isfile => "isfile" | .exists_ => "exists"
  | .setinfo => "setinfo" | .validatepath => "validatepath" | .upload => "upload"
  | .writebytes => "writebytes" | .close => "close" | .readtext => "readtext"
  | .writetext => "writetext" | .download => "download"

deriving instance DecidableEq for Ref.Op

/-- one call received by a member: which member, which method, which path argument, and the
call's effect on the member as a reference operation (on that path) -/
structure Call where
  fs : Nat
  meth : Meth
  path : Str
  op : Ref.Op
  deriving DecidableEq, Repr, Inhabited

/-- the member filesystems of a composite, by index -/
abbrev Fss := Nat → Ref.State

def Fss.set (f : Fss) (i : Nat) (v : Ref.State) : Fss := fun j => if j = i then v else f j

def Fss.ofList (l : List Ref.State) : Fss := fun i =>
  match l[i]? with
  | some s => s
  | none => Ref.State.empty

/-- The public methods MountFS / MultiFS define themselves, as invoked by clients and by the
inherited `fs/base.py` defaults.  `open(p, "rb" | "wb" | "ab")` appear as `openRead`
(read everything), `openWrite` (truncate/create, write nothing) and `openAppend`;
`scanFirst` is `next(iter(scandir(p)), None) is None` (how `FS.isempty` uses `scandir`). -/
inductive Prim where
  | getinfo (p : Str) | listdir (p : Str) | scandir (p : Str) | scanFirst (p : Str)
  | makedir (p : Str) (recreate : Bool) | makedirs (p : Str) (recreate : Bool)
  | openbin (p : Str) (mode : Str)
  | openRead (p : Str) | openWrite (p : Str) | openAppend (p : Str) (data : Bytes)
  | remove (p : Str) | removedir (p : Str) | readbytes (p : Str) | getsize (p : Str)
  | gettype (p : Str) | isdir (p : Str) | isfile (p : Str) | setinfo (p : Str)
  | upload (p : Str) (data : Bytes) | writebytes (p : Str) (data : Bytes)
  | readtext (p : Str) | download (p : Str) | writetext (p : Str) (data : Bytes)
  | open_ (p : Str) (mode : Str) (data : Option Bytes)
  deriving Repr, Inhabited

def Prim.path : Prim → Str
  | .getinfo p | .listdir p | .scandir p | .scanFirst p | .makedir p _ | .makedirs p _
  | .openbin p _ | .openRead p | .openWrite p | .openAppend p _ | .remove p | .removedir p
  | .readbytes p | .getsize p | .gettype p | .isdir p | .isfile p | .setinfo p
  | .upload p _ | .writebytes p _ | .readtext p | .download p | .writetext p _ | .open_ p _ _ => p

/-- the method name the member receives -/
def Prim.meth : Prim → Meth
  | .getinfo _ => .getinfo | .listdir _ => .listdir | .scandir _ => .scandir
  | .scanFirst _ => .scandir | .makedir _ _ => .makedir | .makedirs _ _ => .makedirs
  | .openbin _ _ => .openbin | .openRead _ => .open_ | .openWrite _ => .open_
  | .openAppend _ _ => .open_ | .remove _ => .remove | .removedir _ => .removedir
  | .readbytes _ => .readbytes | .getsize _ => .getsize | .gettype _ => .gettype
  | .isdir _ => .isdir | .isfile _ => .isfile | .setinfo _ => .setinfo
  | .upload _ _ => .upload | .writebytes _ _ => .writebytes
  | .readtext _ => .readtext | .download _ => .download | .writetext _ _ => .writetext
  | .open_ _ _ _ => .open_

/-- `mode.replace("t", "")`: the mode `FS.open` hands to `openbin` -/
def binMode (m : Str) : Str := m.filter (· != 't')

/-- `len(set(mode)) == len(mode)` -/
def noRepeat : Str → Bool
  | [] => true
  | c :: cs => !cs.contains c && noRepeat cs

/-- `Mode(mode)` (the constructor validates; also `validate_open_mode`): non-empty, characters
among `rwxtab+`, first character among `rwxa`, not both `t` and `b`, and (since 10e1506, the
rules of `io.open`) no repeated character and exactly one of `r w x a`; `false` = `ValueError` -/
def modeOk (m : Str) : Bool :=
  match m with
  | [] => false
  | c :: _ =>
    m.all (fun x => modeValidChars.contains x) && ['r', 'w', 'x', 'a'].contains c &&
      !(m.contains 't' && m.contains 'b') && noRepeat m &&
      (['r', 'w', 'x', 'a'].filter fun x => m.contains x).length == 1

/-- `check_writable(mode)` = `Mode(mode).writing` -/
def checkWritable (m : Str) : Bool :=
  m.contains 'w' || m.contains 'a' || m.contains '+' || m.contains 'x'

def modeWb : Str := ['w', 'b']

/-- the effect of the forwarded call on the member, as a reference operation on the
member-relative path `r` -/
def Prim.memberOp : Prim → Str → Ref.Op
  | .getinfo _, r => .getinfo r
  | .listdir _, r => .listdir r
  | .scandir _, r => .listdir r
  | .scanFirst _, r => .isempty r
  | .makedir _ rc, r => .makedir r rc
  | .makedirs _ rc, r => .makedirs r rc
  | .openbin _ m, r => .openbin r m
  | .openRead _, r => .readbytes r
  | .openWrite _, r => .openbin r modeWb
  | .openAppend _ d, r => .appendbytes r d
  | .remove _, r => .remove r
  | .removedir _, r => .removedir r
  | .readbytes _, r => .readbytes r
  | .getsize _, r => .getsize r
  | .gettype _, r => .gettype r
  | .isdir _, r => .isdir r
  | .isfile _, r => .isfile r
  | .setinfo _, r => .settimes r
  | .upload _ d, r => .writebytes r d
  | .writebytes _ d, r => .writebytes r d
  | .readtext _, r => .readbytes r
  | .download _, r => .readbytes r
  | .writetext _ d, r => .writebytes r d
  | .open_ _ m _, r => .openbin r (binMode m)   -- the open itself; what is then written: `openCall`

/-- does the primitive create or write data (the calls MultiFS must send to its write layer)? -/
def Prim.writes : Prim → Bool
  | .makedir _ _ | .makedirs _ _ | .openWrite _ | .openAppend _ _ | .setinfo _
  | .upload _ _ | .writebytes _ _ => true
  | .writetext _ _ => true
  | .openbin _ m | .open_ _ m _ => m.contains 'w' || m.contains 'a' || m.contains '+' || m.contains 'x'
  | _ => false

/-- `member.validatepath(r)` (FS.validatepath of a MemoryFS-like member): closed check, invalid
characters, then `abspath(normpath(r))` — it fails exactly when the reference `exists` does,
and like it changes nothing -/
def validateOp (r : Str) : Ref.Op := .exists_ r

def memberValidate (m : Ref.State) (r : Str) : Res Unit :=
  match (Ref.step m (validateOp r)).2 with
  | .err e => .err e
  | .ok _ => .ok ()

/-- forward one call to member `i`: the member makes a reference step -/
def memberCall (f : Fss) (i : Nat) (meth : Meth) (path : Str) (op : Ref.Op) : Fss × Out × Call :=
  let m := Ref.step (f i) op
  (f.set i m.1, m.2, ⟨i, meth, path, op⟩)

/-- What a client that got a file object from `open(r, mode)` and wrote `d` at the position the
mode starts at, then closed it, did to the file (`old` = its content when opened): `a` appends,
`w`/`x` start from an empty file, `r+` overwrites from the start.  `none`: nothing is written
(no data, or a mode that cannot write). -/
def writeEffect (r bm : Str) (data : Option Bytes) (old : Bytes) : Option Ref.Op :=
  match data with
  | none => none
  | some d =>
    if !checkWritable bm then none
    else if bm.contains 'a' then some (.appendbytes r d)
    else if bm.contains 'w' || bm.contains 'x' then some (.writebytes r d)
    else some (.writebytes r (d ++ old.drop d.length))

/-- `member.open(r, mode)`, then optionally one `write(d)`, then `close()`: the member opens the
file (`openbin` with `mode` without `t`: verdict, creation, truncation) and, if that succeeded,
the written data lands as `writeEffect` says.  One call in the trace. -/
def openCall (f : Fss) (i : Nat) (r bm : Str) (data : Option Bytes) : Fss × Out × Call :=
  let m1 := Ref.step (f i) (.openbin r bm)
  let c : Call := ⟨i, .open_, r, .openbin r bm⟩
  let old : Bytes := match (Ref.step m1.1 (.readbytes r)).2 with
    | .ok (.bytes b) => b
    | _ => []
  match m1.2, writeEffect r bm data old with
  | .ok _, some w =>
    let m2 := Ref.step m1.1 w
    (f.set i m2.1, m2.2, c)
  | _, _ => (f.set i m1.1, m1.2, c)

/-- forward the primitive to member `i` with the member-relative path -/
def forward (f : Fss) (i : Nat) (pr : Prim) (path : Str) : Fss × Out × Call :=
  match pr with
  | .open_ _ m d => openCall f i path (binMode m) d
  | _ => memberCall f i pr.meth path (pr.memberOp path)

/-- `abspath(normpath(p))` when it succeeds (the value `validatepath` returns) -/
def absnorm (p : Str) : Str :=
  match normpath p with
  | .ok n => abspath n
  | .err _ => p

/-! ### programs over the primitives: the inherited defaults of fs/base.py -/

/-- A client of a composite filesystem that only uses its public methods.  `validate p k` is
`self.validatepath(p)` (on failure the program ends with that error, on success it continues
with `k`; the returned value is always `absnorm p`); `check k` is `self.check()`. -/
inductive Prog where
  | ret (o : Out)
  | call (p : Prim) (k : Out → Prog)
  | validate (p : Str) (k : Prog)
  | check (k : Prog)

/-- what a composite has to provide: its primitives, its `validatepath`, its closed flag -/
structure Sem (σ : Type) where
  prim : σ → Prim → σ × Out × List Call
  validate : σ → Str → Res Unit × List Call
  closed : σ → Bool

def Prog.run (sem : Sem σ) : Prog → σ → σ × Out × List Call
  | .ret o, s => (s, o, [])
  | .call p k, s =>
    let r1 := sem.prim s p
    let r2 := (k r1.2.1).run sem r1.1
    (r2.1, r2.2.1, r1.2.2 ++ r2.2.2)
  | .validate p k, s =>
    match sem.validate s p with
    | (.err e, t) => (s, .err e, t)
    | (.ok _, t) =>
      let r2 := k.run sem s
      (r2.1, r2.2.1, t ++ r2.2.2)
  | .check k, s => if sem.closed s then (s, .err .FilesystemClosed, []) else k.run sem s

def one (p : Prim) : Prog := .call p .ret

/-- `FS.exists`: `try: self.getinfo(path) except ResourceNotFound: False else: True` -/
def existsThen (p : Str) (k : Bool → Prog) : Prog :=
  .call (.getinfo p) fun
    | .ok _ => k true
    | .err .ResourceNotFound => k false
    | .err e => .ret (.err e)

def baseExists (p : Str) : Prog := existsThen p fun b => .ret (.ok (.bool b))

/-- `FS.create(path, wipe)` continued by `k created` -/
def createThen (p : Str) (wipe : Bool) (k : Bool → Prog) : Prog :=
  let doCreate : Prog := .call (.openWrite p) fun
    | .ok _ => k true
    | .err e => .ret (.err e)
  if wipe then doCreate
  else existsThen p fun b => if b then k false else doCreate

def baseCreate (p : Str) (wipe : Bool) : Prog := createThen p wipe fun b => .ret (.ok (.bool b))

/-- `FS.touch`: `if not self.create(path): self.setinfo(path, {...times...})` -/
def baseTouch (p : Str) : Prog :=
  createThen p false fun created => if created then .ret (.ok .unit) else one (.setinfo p)

def isDirInfo : Val → Bool
  | .info _ d _ => d
  | _ => false

/-- the tail of `FS.makedirs`: `makedir` every missing intermediate directory, then the
directory itself (each time tolerating `DirectoryExists` when `recreate`), then `opendir` -/
def makeLoop (p : Str) (recreate : Bool) : List Str → Prog
  | [] =>
    .call (.makedir p false) fun o =>
      let opendir : Prog := .call (.getinfo p) fun
        | .ok v => if isDirInfo v then .ret (.ok .unit) else .ret (.err .DirectoryExpected)
        | .err e => .ret (.err e)
      match o with
      | .ok _ => opendir
      | .err .DirectoryExists => if recreate then opendir else .ret (.err .DirectoryExists)
      | .err e => .ret (.err e)
  | d :: ds =>
    .call (.makedir d false) fun
      | .ok _ => makeLoop p recreate ds
      | .err .DirectoryExists => if recreate then makeLoop p recreate ds else .ret (.err .DirectoryExists)
      | .err e => .ret (.err e)

/-- `tools.get_intermediate_dirs`: walk `recursepath(abspath(path), reverse=True)` until an
existing directory is met; `acc` is `intermediates` in append order -/
def interLoop (p : Str) (recreate : Bool) : List Str → List Str → Prog
  | [], acc => makeLoop p recreate acc.reverse.dropLast
  | q :: qs, acc =>
    .call (.getinfo q) fun
      | .err .ResourceNotFound => interLoop p recreate qs (acc ++ [abspath q])
      | .err e => .ret (.err e)
      | .ok v => if isDirInfo v then makeLoop p recreate acc.reverse.dropLast
                 else .ret (.err .DirectoryExpected)

/-- `FS.makedirs` (the base-class default, which MountFS inherits) -/
def baseMakedirs (p : Str) (recreate : Bool) : Prog :=
  .check <|
    match recursepath (abspath p) true with
    | .err e => .ret (.err e)
    | .ok paths => interLoop p recreate paths []

def bytesOf : Out → Bytes
  | .ok (.bytes b) => b
  | _ => []

/-- `FS.move` (no `supports_rename` in the meta of a composite: always copy + remove) -/
def baseMove (src dst : Str) (overwrite : Bool) : Prog :=
  .validate src <| .validate dst <|
    let ns := absnorm src
    let nd := absnorm dst
    let body : Prog :=
      .call (.getinfo ns) fun
        | .err e => .ret (.err e)
        | .ok v =>
          if isDirInfo v then .ret (.err .FileExpected)
          else if ns = nd then .ret (.ok .unit)
          else .call (.openRead ns) fun
            | .err e => .ret (.err e)
            | .ok rd => .call (.upload nd (bytesOf (.ok rd))) fun
              | .err e => .ret (.err e)
              | .ok _ => one (.remove ns)
    if overwrite then body
    else existsThen nd fun b => if b then .ret (.err .DestinationExists) else body

/-- `FS.copy` -/
def baseCopy (src dst : Str) (overwrite : Bool) : Prog :=
  .validate src <| .validate dst <|
    let ns := absnorm src
    let nd := absnorm dst
    let body : Prog :=
      if ns = nd then .ret (.err .IllegalDestination)
      else .call (.openRead ns) fun
        | .err e => .ret (.err e)
        | .ok rd => one (.upload nd (bytesOf (.ok rd)))
    if overwrite then body
    else existsThen nd fun b => if b then .ret (.err .DestinationExists) else body

/-- Reference operations as programs: the ones both composites inherit from `fs/base.py` or
define as a plain primitive.  `makedirs` differs (MountFS inherits it, MultiFS defines it);
`removetree`, `movedir`, `copydir` are walker-based bulk programs of `fs/base.py`,
`fs/copy.py`, `fs/move.py`: they are *some* `Prog` (covered by the frame theorems for
arbitrary programs) but are not transcribed here (`none`). -/
def commonProg : Ref.Op → Option Prog
  | .exists_ p => some (baseExists p)
  | .isdir p => some (one (.isdir p))
  | .isfile p => some (one (.isfile p))
  | .listdir p => some (one (.listdir p))
  | .getsize p => some (one (.getsize p))
  | .gettype p => some (one (.gettype p))
  | .isempty p => some (one (.scanFirst p))
  | .getinfo p => some (one (.getinfo p))
  | .readbytes p => some (one (.readbytes p))
  | .makedir p rc => some (one (.makedir p rc))
  | .makedirs _ _ => none
  | .writebytes p d => some (one (.writebytes p d))
  | .appendbytes p d => some (one (.openAppend p d))
  | .create p w => some (baseCreate p w)
  | .touch p => some (baseTouch p)
  | .settimes p => some (one (.setinfo p))
  | .openbin p m => some (one (.openbin p m))
  | .remove p => some (one (.remove p))
  | .removedir p => some (one (.removedir p))
  | .removetree _ => none
  | .move s d ow => some (baseMove s d ow)
  | .copy s d ow => some (baseCopy s d ow)
  | .movedir _ _ _ => none
  | .copydir _ _ _ => none
  | .close => none

/-- is the reference operation one that creates or writes (never removes) data? -/
def creatingOrWriting : Ref.Op → Bool
  | .makedir _ _ | .makedirs _ _ | .writebytes _ _ | .appendbytes _ _ | .create _ _
  | .touch _ | .settimes _ | .copy _ _ _ => true
  | .openbin _ m => m.contains 'w' || m.contains 'a' || m.contains '+' || m.contains 'x'
  | _ => false

end Fs.Route
