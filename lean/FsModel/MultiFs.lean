/-
  FsModel.MultiFs — `MultiFS` **as coded** (fs/multifs.py + the fs/base.py, fs/copy.py, fs/move.py,
  fs/walk.py defaults it inherits), as a FUNCTOR over the step function of its layers.

  A layer is any `F : σ → Op → σ × Out` (`Ref.step`, `Mem.step`, a wrapper …; one `F` for all layers —
  heterogeneous stacks are a sum type).  The state of a MultiFS object is

      _filesystems   the list of layers in dict order: (name, priority, `_sort_index` at insertion, state)
      write_fs       the write layer, by its insertion index
      _sort_index, _closed, _auto_close

  `order` is `iterate_fs()` / `_fs_sequence`: descending `(priority, insertion index)`, i.e. priority
  descending, then latest added first.  It is *defined* through `Multi.sortDesc` (the C17 model), so the
  routing theorems of `FsProofs/C17` (`multi_iterate_order`, `multi_read_highest`, …) apply verbatim
  (`FsProofs/MultiRefines.multi_delegate_spec`).

  Every method is transcribed: which layer receives which call with which path, in which order, what
  happens to the result.  Layer calls are `Ref.Op`s:
    `fs.open(p, "rb")` + read = `readbytes`;  `upload` = `writebytes`;  `open(p, "ab")` + write = `appendbytes`;
    `open(p, "wb")` + close = `openbin p "wb"`;  `setinfo` (times) = `settimes`;
    `fs.validatepath(p)` fails exactly when `fs.exists(p)` fails (as in `Route.validateOp`);
    the `Info`s of `fs.scandir(p)` are `listdir p` + `getinfo (combine p name)` of the names not yet seen.
  Generators are the lists they yield; the walkers of `removetree` / `copy_dir` scan one directory at a time
  (the real walkers scan lazily entry by entry: no difference, because no method modifies the directory it is
  iterating other than by removing entries it has already been given).  The recursion of the walkers is
  bounded by `fuel` (directories visited); out of fuel = `Leak`.

  `overlay` (for `σ = Ref.State`): the tree the user sees — for each path the highest-priority layer
  that has it; directories merge, entries of the higher layer first (the order of `listdir`).

  No Mathlib import (the driver links this module).
-/
import FsModel.Ref
import FsModel.Multi
import FsModel.BaseWalk

namespace Fs.MultiFs
open Fs Fs.Path Fs.Ref

/- a layer filesystem (`FS σ`: one call = new state and outcome), `ScanInfo` and `normRes` are the ones of
`FsModel.BaseWalk`, whose walkers this file instantiates -/
export Fs.BaseWalk (FS ScanInfo normRes)

structure Layer (σ : Type) where
  name : Str
  prio : Int
  idx : Nat
  st : σ

structure MState (σ : Type) where
  layers : List (Layer σ)
  writeIdx : Option Nat
  sortIndex : Nat
  closed : Bool
  autoClose : Bool

section Config
variable {σ : Type}

/-- `MultiFS(auto_close=…)` -/
def init (autoClose : Bool) : MState σ :=
  { layers := [], writeIdx := none, sortIndex := 0, closed := false, autoClose := autoClose }

/-- `self._filesystems[name] = …`: replace in place when the name exists, else append -/
def dictSet (l : Layer σ) : List (Layer σ) → List (Layer σ)
  | [] => [l]
  | x :: xs => if x.name = l.name then l :: xs else x :: dictSet l xs

/-- `MultiFS.add_fs(name, fs, write, priority)` -/
def addFs (s : MState σ) (name : Str) (st : σ) (write : Bool) (prio : Int) : MState σ :=
  { s with
    layers := dictSet ⟨name, prio, s.sortIndex, st⟩ s.layers,
    sortIndex := s.sortIndex + 1,
    writeIdx := if write then some s.sortIndex else s.writeIdx }

/-- the C17 routing entries of the layers: member index = position in `_filesystems` -/
def entriesFrom (i : Nat) : List (Layer σ) → List Multi.Entry
  | [] => []
  | l :: ls => ⟨l.name, l.prio, l.idx, i⟩ :: entriesFrom (i + 1) ls

def entries (s : MState σ) : List Multi.Entry := entriesFrom 0 s.layers

/-- `iterate_fs()`: positions of the layers in descending `(priority, insertion index)` order -/
def order (s : MState σ) : List Nat := (Multi.sortDesc (entries s)).map (·.fs)

/-- position of the write layer (`write_fs`), if there is one -/
def writePos (s : MState σ) : Option Nat :=
  match s.writeIdx with
  | none => none
  | some w => s.layers.findIdx? (fun l => l.idx == w)

/-- one call on the layer at position `i` -/
def callLayer (F : FS σ) (s : MState σ) (i : Nat) (op : Op) : MState σ × Out :=
  match s.layers[i]? with
  | none => (s, .err .Leak)                      -- unreachable: positions come from `order` / `writePos`
  | some l =>
    let r := F l.st op
    ({ s with layers := s.layers.set i { l with st := r.1 } }, r.2)

end Config

section Methods
variable {σ : Type}

/-- `_delegate(path)`: the first layer, in `iterate_fs` order, whose `exists(path)` is true; an
exception raised by a layer's `exists` propagates -/
def delegateLoop (F : FS σ) (p : Str) : List Nat → MState σ → MState σ × Res (Option Nat)
  | [], s => (s, .ok none)
  | i :: is, s =>
    match callLayer F s i (.exists_ p) with
    | (s1, .ok (.bool true)) => (s1, .ok (some i))
    | (s1, .ok _) => delegateLoop F p is s1
    | (s1, .err e) => (s1, .err e)

def delegate (F : FS σ) (s : MState σ) (p : Str) : MState σ × Res (Option Nat) :=
  delegateLoop F p (order s) s

/-- `fs = self._delegate(path)`; `onNone` when there is none (`_delegate_required`: ResourceNotFound),
else the call on that layer -/
def onDelegate (F : FS σ) (s : MState σ) (p : Str) (op : Op) (onNone : Out := .err .ResourceNotFound) :
    MState σ × Out :=
  match delegate F s p with
  | (s1, .err e) => (s1, .err e)
  | (s1, .ok none) => (s1, onNone)
  | (s1, .ok (some i)) => callLayer F s1 i op

/-- `self._writable_required(path).<method>(…)`: ResourceReadOnly without a write layer -/
def onWrite (F : FS σ) (s : MState σ) (op : Op) : MState σ × Out :=
  match writePos s with
  | none => (s, .err .ResourceReadOnly)
  | some i => callLayer F s i op

/-- `MultiFS.getinfo`: `_delegate`, ResourceNotFound when none, then `fs.getinfo(abspath(normpath(path)))` -/
def getinfoM (F : FS σ) (s : MState σ) (p : Str) : MState σ × Out :=
  match delegate F s p with
  | (s1, .err e) => (s1, .err e)
  | (s1, .ok none) => (s1, .err .ResourceNotFound)
  | (s1, .ok (some i)) =>
    match normRes p with
    | .err e => (s1, .err e)
    | .ok q => callLayer F s1 i (.getinfo q)

/-- `FS.exists` (inherited): `try: self.getinfo(path) except ResourceNotFound: False else: True` -/
def existsM (F : FS σ) (s : MState σ) (p : Str) : MState σ × Out :=
  match getinfoM F s p with
  | (s1, .ok _) => (s1, .ok (.bool true))
  | (s1, .err .ResourceNotFound) => (s1, .ok (.bool false))
  | (s1, .err e) => (s1, .err e)

/-- the loop of `listdir`: every layer in `iterate_fs` order; ResourceNotFound is skipped;
DirectoryExpected (a file of that name) is re-raised while no layer has listed the path yet and skipped
afterwards; any other error propagates.  Result: (concatenated names, did any layer list the path) -/
def listLoop (F : FS σ) (p : Str) : List Nat → List Name → Bool → MState σ → MState σ × Res (List Name × Bool)
  | [], acc, ex, s => (s, .ok (acc, ex))
  | i :: is, acc, ex, s =>
    match callLayer F s i (.listdir p) with
    | (s1, .err .ResourceNotFound) => listLoop F p is acc ex s1
    | (s1, .err .DirectoryExpected) =>
      if ex then listLoop F p is acc ex s1 else (s1, .err .DirectoryExpected)
    | (s1, .err e) => (s1, .err e)
    | (s1, .ok (.names l)) => listLoop F p is (acc ++ l) true s1
    | (s1, .ok _) => listLoop F p is acc true s1

/-- `MultiFS.listdir`: the union, first occurrences kept (`list(OrderedDict.fromkeys(directory))`) -/
def listdirM (F : FS σ) (s : MState σ) (p : Str) : MState σ × Out :=
  match listLoop F p (order s) [] false s with
  | (s1, .err e) => (s1, .err e)
  | (s1, .ok (acc, true)) => (s1, .ok (.names (Multi.dedup acc)))
  | (s1, .ok (_, false)) => (s1, .err .ResourceNotFound)

/-- the `Info`s one layer contributes to `_scandir`: the names not seen so far, each described by
that layer -/
def scanNames (F : FS σ) (i : Nat) (p : Str) :
    List Name → List Name → List ScanInfo → MState σ → MState σ × Res (List Name × List ScanInfo)
  | [], seen, acc, s => (s, .ok (seen, acc))
  | n :: ns, seen, acc, s =>
    if n ∈ seen then scanNames F i p ns seen acc s
    else
      match callLayer F s i (.getinfo (combine p n)) with
      | (s1, .ok (.info _ d sz)) => scanNames F i p ns (seen ++ [n]) (acc ++ [(n, d, sz)]) s1
      | (s1, .ok _) => (s1, .err .Leak)           -- unreachable: `getinfo` returns an Info
      | (s1, .err e) => (s1, .err e)

/-- the loop of `MultiFS._scandir`, fully consumed -/
def scanLoop (F : FS σ) (p : Str) :
    List Nat → List Name → List ScanInfo → Bool → MState σ → MState σ × Res (List ScanInfo × Bool)
  | [], _, acc, ex, s => (s, .ok (acc, ex))
  | i :: is, seen, acc, ex, s =>
    match callLayer F s i (.listdir p) with
    | (s1, .err .ResourceNotFound) => scanLoop F p is seen acc ex s1
    | (s1, .err .DirectoryExpected) =>
      if ex then scanLoop F p is seen acc ex s1 else (s1, .err .DirectoryExpected)
    | (s1, .err e) => (s1, .err e)
    | (s1, .ok (.names l)) =>
      (match scanNames F i p l seen acc s1 with
       | (s2, .err e) => (s2, .err e)
       | (s2, .ok (seen2, acc2)) => scanLoop F p is seen2 acc2 true s2)
    | (s1, .ok _) => scanLoop F p is seen acc true s1

/-- `MultiFS.scandir(path)`, fully consumed (no page) -/
def scanM (F : FS σ) (s : MState σ) (p : Str) : MState σ × Res (List ScanInfo) :=
  match scanLoop F p (order s) [] [] false s with
  | (s1, .err e) => (s1, .err e)
  | (s1, .ok (acc, true)) => (s1, .ok acc)
  | (s1, .ok (_, false)) => (s1, .err .ResourceNotFound)

/-- `FS.isempty` = `next(iter(self.scandir(path)), None) is None`: the generator is advanced only
until the first entry is yielded, so layers after the first non-empty one are never asked -/
def scanFirstLoop (F : FS σ) (p : Str) : List Nat → Bool → MState σ → MState σ × Out
  | [], ex, s => (s, if ex then .ok (.bool true) else .err .ResourceNotFound)
  | i :: is, ex, s =>
    match callLayer F s i (.listdir p) with
    | (s1, .err .ResourceNotFound) => scanFirstLoop F p is ex s1
    | (s1, .err .DirectoryExpected) =>
      if ex then scanFirstLoop F p is ex s1 else (s1, .err .DirectoryExpected)
    | (s1, .err e) => (s1, .err e)
    | (s1, .ok (.names (_ :: _))) => (s1, .ok (.bool false))
    | (s1, .ok _) => scanFirstLoop F p is true s1

def isemptyM (F : FS σ) (s : MState σ) (p : Str) : MState σ × Out :=
  scanFirstLoop F p (order s) false s

/-- `MultiFS.validatepath` after `check()`: `write_fs.validatepath(path)` when there is a write layer,
else the base-class check (MultiFS declares no invalid characters); then `abspath(normpath(path))` -/
def validateM (F : FS σ) (s : MState σ) (p : Str) : MState σ × Res Str :=
  match writePos s with
  | some i =>
    (match callLayer F s i (.exists_ p) with
     | (s1, .err e) => (s1, .err e)
     | (s1, .ok _) => (s1, normRes p))
  | none => (s, normRes p)

/-- `MultiFS.openbin` after `check()`: `check_writable(mode)` (= `Mode(mode).writing`; the constructor
validates the mode) decides between the write layer and the layer that has the path -/
def openbinM (F : FS σ) (s : MState σ) (p m : Str) : MState σ × Out :=
  if !Route.modeOk m then (s, .err .ValueError)
  else if Route.checkWritable m then onWrite F s (.openbin p m)
  else onDelegate F s p (.openbin p m)

/-- `FS.create` (inherited): `if not wipe and self.exists(path): return False`; `self.open(path, "wb")` -/
def createM (F : FS σ) (s : MState σ) (p : Str) (wipe : Bool) : MState σ × Out :=
  let proceed (t : MState σ) : MState σ × Out :=
    match onWrite F t (.openbin p ['w', 'b']) with
    | (t1, .ok _) => (t1, .ok (.bool true))
    | r => r
  if wipe then proceed s
  else match existsM F s p with
    | (s1, .ok (.bool false)) => proceed s1
    | (s1, .ok _) => (s1, .ok (.bool false))
    | r => r

/-- `FS.touch` (inherited): `if not self.create(path): self.setinfo(path, {times})` -/
def touchM (F : FS σ) (s : MState σ) (p : Str) : MState σ × Out :=
  match createM F s p false with
  | (s1, .ok (.bool false)) =>
    (match onWrite F s1 (.settimes p) with
     | (s2, .ok _) => (s2, .ok .unit)
     | r => r)
  | (s1, .ok _) => (s1, .ok .unit)
  | r => r

/-- the transfer of `FS.move` / `FS.copy`: `with self.open(src, "rb") as f: self.upload(dst, f)` — read
through the layer that has `src`, write to the write layer -/
def transferM (F : FS σ) (s : MState σ) (ns nd : Str) : MState σ × Out :=
  match onDelegate F s ns (.readbytes ns) with
  | (s1, .ok (.bytes data)) => onWrite F s1 (.writebytes nd data)
  | (s1, .ok _) => (s1, .err .Leak)              -- unreachable: `readbytes` returns bytes
  | r => r

/-- the end of `FS.move`: the transfer, then `self.remove(src)` — on the layer that has the source -/
def moveFinish (F : FS σ) (t : MState σ) (ns nd : Str) : MState σ × Out :=
  match transferM F t ns nd with
  | (t2, .ok _) => onDelegate F t2 ns (.remove ns)
  | r => r

/-- `FS.move` after its destination check: `getinfo(src).is_dir` → FileExpected, the same-path exit,
the transfer and the removal -/
def moveBody (F : FS σ) (t : MState σ) (ns nd : Str) : MState σ × Out :=
  match getinfoM F t ns with
  | (t1, .ok (.info _ true _)) => (t1, .err .FileExpected)
  | (t1, .ok _) => if ns = nd then (t1, .ok .unit) else moveFinish F t1 ns nd
  | r => r

/-- `FS.move` (inherited; a MultiFS has no `supports_rename`: always copy + remove) -/
def moveM (F : FS σ) (s : MState σ) (a b : Str) (overwrite : Bool) : MState σ × Out :=
  match validateM F s a with
  | (s1, .err e) => (s1, .err e)
  | (s1, .ok ns) =>
    match validateM F s1 b with
    | (s2, .err e) => (s2, .err e)
    | (s2, .ok nd) =>
      if overwrite then moveBody F s2 ns nd
      else match existsM F s2 nd with
        | (s3, .ok (.bool false)) => moveBody F s3 ns nd
        | (s3, .ok _) => (s3, .err .DestinationExists)
        | r => r

/-- `FS.copy` (inherited) -/
def copyM (F : FS σ) (s : MState σ) (a b : Str) (overwrite : Bool) : MState σ × Out :=
  match validateM F s a with
  | (s1, .err e) => (s1, .err e)
  | (s1, .ok ns) =>
    match validateM F s1 b with
    | (s2, .err e) => (s2, .err e)
    | (s2, .ok nd) =>
      let body (t : MState σ) : MState σ × Out :=
        if ns = nd then (t, .err .IllegalDestination) else transferM F t ns nd
      if overwrite then body s2
      else match existsM F s2 nd with
        | (s3, .ok (.bool false)) => body s3
        | (s3, .ok _) => (s3, .err .DestinationExists)
        | r => r

/-! ### the walkers of `FS.removetree`, `FS.copydir`, `FS.movedir` (inherited): `FsModel.BaseWalk` over the
MultiFS's own methods -/

/-- the calls the base-class bulk algorithms make on a MultiFS object: `scandir` is `MultiFS.scandir`,
`makedir` / `makedirs` go to the WRITE layer, `remove` / `removedir` act on the layer that HAS the path,
`copy` is the inherited `FS.copy` (read through `_delegate`, write to the write layer) -/
def prim (F : FS σ) : BaseWalk.Prim (MState σ) where
  validatepath := validateM F
  exists_ := existsM F
  getinfo := getinfoM F
  scandir := scanM F
  makedir := fun s p => onWrite F s (.makedir p true)
  makedirs := fun s p => onWrite F s (.makedirs p true)
  copy := fun s a b => copyM F s a b true
  remove := fun s p => onDelegate F s p (.remove p)
  removedir := fun s p => onDelegate F s p (.removedir p)

/-- `FS.removetree(dir_path)` (inherited): `self.validatepath(dir_path)` comes first (since /repo 433aea4) —
`MultiFS.validatepath` starts with `self.check()` —, then the walk; the root itself is kept -/
def removetreeM (F : FS σ) (fuel : Nat) (s : MState σ) (p : Str) : MState σ × Out :=
  if s.closed then (s, .err .FilesystemClosed)
  else BaseWalk.removetree (prim F) fuel s p

/-- `copy_dir(fs, src_path, fs, dst_path)` -/
def copyDirM (F : FS σ) (fuel : Nat) (s : MState σ) (a b : Str) : MState σ × Out :=
  BaseWalk.copyDir (prim F) fuel s a b

/-- `FS.copydir` (inherited) -/
def copydirM (F : FS σ) (fuel : Nat) (s : MState σ) (a b : Str) (create : Bool) : MState σ × Out :=
  BaseWalk.copydir (prim F) fuel s a b create

/-- `FS.movedir` (inherited) → `move_dir(self, src_path, self, dst_path)` with the RAW arguments:
`getinfo(src).is_dir`, `makedir(dst, recreate=True)`, `copy_dir`, `removetree(src)` -/
def movedirM (F : FS σ) (fuel : Nat) (s : MState σ) (a b : Str) (create : Bool) : MState σ × Out :=
  BaseWalk.movedir (prim F) (removetreeM F fuel) fuel s a b create

/-! ### `close` -/

/-- `for _order, fs in self._filesystems.values(): fs.close()` (dict order; an exception propagates) -/
def closeLoop (F : FS σ) : List Nat → MState σ → MState σ × Out
  | [], s => (s, .ok .unit)
  | i :: is, s =>
    match callLayer F s i .close with
    | (s1, .ok _) => closeLoop F is s1
    | (s1, .err e) => (s1, .err e)

/-- `MultiFS.close()`: `_closed = True`; with `auto_close` every layer is closed and `_filesystems` is
cleared (so a second `close()` finds nothing to close: the guard `!s.closed`) -/
def closeM (F : FS σ) (s : MState σ) : MState σ × Out :=
  let s0 : MState σ := { s with closed := true }
  if s.autoClose && !s.closed then closeLoop F (List.range s.layers.length) s0
  else (s0, .ok .unit)

/-- one call on an OPEN MultiFS (everything after the first `self.check()`), `close` aside -/
def stepOpen (fuel : Nat) (F : FS σ) (s : MState σ) : Op → MState σ × Out
  | .close => closeM F s
  | .removetree p => removetreeM F fuel s p
  | .exists_ p => existsM F s p
  | .isdir p => onDelegate F s p (.isdir p) (.ok (.bool false))
  | .isfile p => onDelegate F s p (.isfile p) (.ok (.bool false))
  | .listdir p => listdirM F s p
  | .getsize p => onDelegate F s p (.getsize p)
  | .gettype p => onDelegate F s p (.gettype p)
  | .isempty p => isemptyM F s p
  | .getinfo p => getinfoM F s p
  | .readbytes p => onDelegate F s p (.readbytes p)
  | .makedir p r => onWrite F s (.makedir p r)
  | .makedirs p r => onWrite F s (.makedirs p r)
  | .writebytes p d => onWrite F s (.writebytes p d)
  | .appendbytes p d => onWrite F s (.appendbytes p d)     -- `self.open(path, "ab")`: a writing mode
  | .create p w => createM F s p w
  | .touch p => touchM F s p
  | .settimes p => onWrite F s (.settimes p)
  | .openbin p m => openbinM F s p m
  | .remove p => onDelegate F s p (.remove p)
  | .removedir p => onDelegate F s p (.removedir p)
  | .move a b o => moveM F s a b o
  | .copy a b o => copyM F s a b o
  | .movedir a b c => movedirM F fuel s a b c
  | .copydir a b c => copydirM F fuel s a b c

/-- One call on a MultiFS.  `fuel` bounds the number of directories the walkers of `removetree`,
`copydir`, `movedir` visit. -/
def step (fuel : Nat) (F : FS σ) (s : MState σ) (op : Op) : MState σ × Out :=
  match op with
  | .close => closeM F s
  | _ => if s.closed then (s, .err .FilesystemClosed) else stepOpen fuel F s op

end Methods

/-! ### the overlay: the tree the user sees (layers that are reference states) -/

mutual
/-- `hi` over what lies below it: a file shadows everything, a directory shadows a file and merges
with a directory -/
def overNode : Node → Option Node → Node
  | .file b, _ => .file b
  | .dir es, none => .dir es
  | .dir es, some (.file _) => .dir es
  | .dir es, some (.dir ds) => .dir (overEnts es ds)
/-- entries of the higher directory first (each over the lower entry of the same name), then the
remaining lower entries — the order of `MultiFS.listdir` -/
def overEnts : Ents → Ents → Ents
  | [], ds => ds
  | (k, v) :: es, ds => (k, overNode v (Ents.lookup k ds)) :: overEnts es (Ents.erase k ds)
end

/-- the overlay of a list of trees, highest priority first; `none` for the empty stack -/
def overlayRoots : List Node → Option Node
  | [] => none
  | r :: rs => some (overNode r (overlayRoots rs))

/-- the layer roots in `iterate_fs` order -/
def rootsInOrder (s : MState State) : List Node :=
  (order s).filterMap fun i => (s.layers[i]?).map (·.st.root)

/-- **the abstraction function**: the tree a user of the MultiFS sees (an empty stack shows no root at
all — `exists("/")` is `False` —; it is mapped to the empty directory) -/
def overlay (s : MState State) : State :=
  { root := (overlayRoots (rootsInOrder s)).getD (.dir []), closed := s.closed }

end Fs.MultiFs
