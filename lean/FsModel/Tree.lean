/-
  FsModel.Tree — the observable tree of a filesystem: names, resource types, file bytes.
  `get`/`set`/`del` recurse on the *path* (a list of clean components), not on the node.
-/
import FsModel.Basic
import FsModel.Path
import FsModel.PathSpec

namespace Fs
open Fs.Path

abbrev Name := Str

inductive Node where
  | file (data : Bytes)
  | dir (ents : List (Name × Node))
  deriving Repr, Inhabited

abbrev Ents := List (Name × Node)

namespace Ents

def lookup (c : Name) : Ents → Option Node
  | [] => none
  | (k, v) :: es => if k = c then some v else lookup c es

def erase (c : Name) : Ents → Ents
  | [] => []
  | (k, v) :: es => if k = c then es else (k, v) :: erase c es

/-- replace in place when the name exists (keeps its position), else append at the end -/
def put (c : Name) (n : Node) : Ents → Ents
  | [] => [(c, n)]
  | (k, v) :: es => if k = c then (k, n) :: es else (k, v) :: put c n es

def names (es : Ents) : List Name := es.map (·.1)

end Ents

namespace Node

def isDir : Node → Bool | dir _ => true | file _ => false
def isFile : Node → Bool | file _ => true | dir _ => false

def entries : Node → Ents | dir es => es | file _ => []

/-- the node at a component path, if every step exists and every proper ancestor is a directory -/
def get : List Name → Node → Option Node
  | [], n => some n
  | c :: cs, dir es => match Ents.lookup c es with
    | some ch => get cs ch
    | none => none
  | _ :: _, file _ => none

/-- `t.set cs v`: put `v` at the component path `cs` of tree `t` (no change when the parent is missing or not a
directory, or when `cs = []`) -/
def set : List Name → Node → Node → Node
  | [], n, _ => n
  | [c], dir es, v => dir (Ents.put c v es)
  | c :: d :: cs, dir es, v => match Ents.lookup c es with
    | some ch => dir (Ents.put c (set (d :: cs) ch v) es)
    | none => dir es
  | _ :: _, file b, _ => file b

/-- delete the entry at path `cs` (no change when it does not exist or `cs = []`) -/
def del : List Name → Node → Node
  | [], n => n
  | [c], dir es => dir (Ents.erase c es)
  | c :: d :: cs, dir es => match Ents.lookup c es with
    | some ch => dir (Ents.put c (del (d :: cs) ch) es)
    | none => dir es
  | _ :: _, file b => file b

end Node

/-- a legal resource name -/
def cleanName (c : Name) : Bool :=
  c != [] && c != ['.'] && c != ['.', '.'] && !c.contains '/' && !c.contains '\x00'

mutual
/-- well-formedness: legal names, unique per directory, recursively -/
def Node.wf : Node → Bool
  | .file _ => true
  | .dir es => entsWf es
def entsWf : Ents → Bool
  | [] => true
  | (k, v) :: es => cleanName k && (Ents.lookup k es).isNone && v.wf && entsWf es
end

mutual
/-- all (path, node) pairs below a node, parents before children, in entry order -/
def Node.walk (pre : List Name) : Node → List (List Name × Node)
  | .file _ => []
  | .dir es => entsWalk pre es
def entsWalk (pre : List Name) : Ents → List (List Name × Node)
  | [] => []
  | (k, v) :: es => (pre ++ [k], v) :: (v.walk (pre ++ [k]) ++ entsWalk pre es)
end

mutual
def Node.count : Node → Nat
  | .file _ => 1
  | .dir es => 1 + entsCount es
def entsCount : Ents → Nat
  | [] => 0
  | (_, v) :: es => v.count + entsCount es
end

/-- canonical dump used by the correspondence: `D<hex name>` / `F<hex name>:<hex bytes>`
nested with parentheses, entries in tree order. -/
partial def Node.dump (name : Name) : Node → String
  | .file b => "F" ++ strToHex name ++ ":" ++ bytesToHex b
  | .dir es => "D" ++ strToHex name ++ "(" ++ ",".intercalate (es.map fun (k, v) => v.dump k) ++ ")"

end Fs
