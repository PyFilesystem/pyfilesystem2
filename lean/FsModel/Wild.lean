/-
  FsModel.Wild — `fs/wildcard.py` as written: `_translate` (twice: the regex *text* it
  builds, character for character, and the `Regex` AST Python's parser makes of that text),
  `match`, `imatch`, `match_any`, `imatch_any`, `get_matcher`; and `WildSpec`, the documented
  (fnmatch) meaning of a wildcard pattern written directly.

  The `while i < n` loop of `_translate` is a structural recursion over the pattern with a
  *skip counter*: after a bracket expression of `k` characters the code sets `i = j + 1`;
  here the next `k + 1` characters are skipped.  (`wild_go_lex` in `Lemmas/PatTokens` gives the usual
  "continue after the bracket" equation.)
-/
import FsModel.Regex

namespace Fs.Wild
open Fs Fs.Regex

/-! ### the bracket scan shared by wildcard._translate and glob._translate

```
j = i
if j < n and pattern[j] == "!": j = j + 1
if j < n and pattern[j] == "]": j = j + 1
while j < n and pattern[j] != "]": j = j + 1
if j >= n: (no bracket expression)  else: stuff = pattern[i:j]
```
-/

/-- text up to (excluding) the first `]`, and what follows it -/
def untilClose : Str → Option (Str × Str)
  | [] => none
  | c :: r =>
    if c = ']' then some ([], r)
    else match untilClose r with
      | none => none
      | some (a, b) => some (c :: a, b)

/-- `s` is the text after `[`; result `(stuff, rest)` with `s = stuff ++ "]" ++ rest` -/
def scanClass (s : Str) : Option (Str × Str) :=
  let pre1 : Str × Str := match s with
    | '!' :: r => (['!'], r)
    | r => ([], r)
  let pre2 : Str × Str := match pre1.2 with
    | ']' :: r => (pre1.1 ++ [']'], r)
    | r => (pre1.1, r)
  match untilClose pre2.2 with
  | none => none
  | some (a, b) => some (pre2.1 ++ a, b)

/-- ASCII model of `str.lower()` -/
def lowerStr (s : Str) : Str := s.map lower

/-! ### `_translate`: the text -/

/-- `stuff.replace("\\", "\\\\")` -/
def escBackslash (s : Str) : Str := s.flatMap fun c => if c = '\\' then ['\\', '\\'] else [c]

/-- the `[%s]` piece for a bracket expression (`negText` is `"^"` here, `"^/"` in glob) -/
def classText (negText : Str) (stuff : Str) : Str :=
  let st := escBackslash stuff
  let st' := match st with
    | '!' :: r => negText ++ r
    | '^' :: r => '\\' :: '^' :: r
    | r => r
  '[' :: st' ++ [']']

def reEscape (c : Char) : Str := (LChar.lit c).toPy

def textGo : Str → Nat → Str
  | [], _ => []
  | _ :: cs, n + 1 => textGo cs n
  | c :: cs, 0 =>
    if c = '*' then "[^/]*".toList ++ textGo cs 0
    else if c = '?' then '.' :: textGo cs 0
    else if c = '[' then
      match scanClass cs with
      | none => '\\' :: '[' :: textGo cs 0
      | some (stuff, _) => classText ['^'] stuff ++ textGo cs (stuff.length + 1)
    else reEscape c ++ textGo cs 0

/-- `wildcard._translate(pattern, case_sensitive)` -/
def translateText (pat : Str) (caseSensitive : Bool := true) : Str :=
  textGo (if caseSensitive then pat else lowerStr pat) 0

/-- the full text handed to `re.compile` by `match` / `imatch` -/
def regexText (pat : Str) (caseSensitive : Bool) : Str :=
  "(?ms)".toList ++ translateText pat caseSensitive ++ "\\Z".toList

/-! ### `_translate`: the AST -/

def notSlash : Atom := .set true [.ch ⟨'/', false⟩]

/-- members of a set, read off the *raw* bracket text (what Python's set parser makes of the
escaped text): `a-b` is a range, a backslash is written doubled; `first` marks the position
where a literal `^` is written `\^`. -/
def rawChar (first : Bool) (c : Char) : LChar := ⟨c, c == '\\' || (first && c == '^')⟩

def rawItems : Str → Bool → TR (List SetItem)
  | [], _ => .ok []
  | a :: '-' :: b :: rest, first =>
    if b < a then .err .reError
    else match rawItems rest false with
      | .ok l => .ok (.range (rawChar first a) (rawChar false b) :: l)
      | .err e => .err e
  | a :: rest, first =>
    match rawItems rest false with
    | .ok l => .ok (.ch (rawChar first a) :: l)
    | .err e => .err e

/-- the atom for a bracket expression of wildcard._translate -/
def classAtom (stuff : Str) : TR Atom :=
  match stuff with
  | '!' :: r => (rawItems r false).map (Atom.set true)
  | r => (rawItems r true).map (Atom.set false)

def cons (i : Item) (r : TR (List Item)) : TR (List Item) := r.map (i :: ·)

def go : Str → Nat → TR (List Item)
  | [], _ => .ok []
  | _ :: cs, n + 1 => go cs n
  | c :: cs, 0 =>
    if c = '*' then cons (.star notSlash false) (go cs 0)
    else if c = '?' then cons (.one .any) (go cs 0)
    else if c = '[' then
      match scanClass cs with
      | none => cons (.one (.chr ⟨'[', true⟩)) (go cs 0)
      | some (stuff, _) =>
        match classAtom stuff with
        | .err e => .err e
        | .ok a => cons (.one a) (go cs (stuff.length + 1))
    else cons (.one (.chr (LChar.lit c))) (go cs 0)

/-- the items of `_translate(pattern, case_sensitive)` -/
def translate (pat : Str) (caseSensitive : Bool := true) : TR (List Item) :=
  go (if caseSensitive then pat else lowerStr pat) 0

/-- the compiled pattern of `match` (`caseSensitive = true`) / `imatch` -/
def compile (pat : Str) (caseSensitive : Bool) : TR Regex :=
  (translate pat caseSensitive).map fun items =>
    { inline := ['m', 's'], ic := !caseSensitive, items := items ++ [.endZ] }

/-- `wildcard.match(pattern, name)` / `imatch` (without the cache; see `Fs.LRU`) -/
def wmatch (pat name : Str) (caseSensitive : Bool := true) : TR Bool :=
  (compile pat caseSensitive).map (·.matches name)

/-- `any(match(p, name) for p in patterns)`: stops at the first `True`, an exception of an
earlier pattern propagates -/
def anyMatch (f : Str → TR Bool) : List Str → TR Bool
  | [] => .ok false
  | p :: ps =>
    match f p with
    | .err e => .err e
    | .ok true => .ok true
    | .ok false => anyMatch f ps

/-- `match_any` / `imatch_any` (= the callable returned by `get_matcher`) -/
def matchAny (pats : List Str) (name : Str) (caseSensitive : Bool := true) : TR Bool :=
  if pats.isEmpty then .ok true else anyMatch (fun p => wmatch p name caseSensitive) pats

def getMatcher (pats : List Str) (caseSensitive : Bool) : Str → TR Bool :=
  fun name => matchAny pats name caseSensitive

end Fs.Wild

/-! ## WildSpec — what a wildcard pattern means (fnmatch rules, written directly)

* `*` matches any run of characters (possibly empty), `?` exactly one character;
* `[seq]` one character that is in `seq`, `[!seq]` one that is not; inside, `a-b` is the
  range from `a` to `b`, a `]` directly after `[` / `[!` is an ordinary member, every other
  character (also `\`, `^`, `*`, `?`) stands for itself;
* a `[` without a closing `]` is an ordinary character, as is every other character;
* the whole name must be used up.
-/
namespace Fs.WildSpec
open Fs

inductive Tok where
  | star
  | any
  | cls (neg : Bool) (body : Str)
  | lit (c : Char)
  deriving DecidableEq, Repr

/-- position of the `]` that closes a bracket expression whose text (after `[` and an optional
`!`) is `s`; the first character can never close it -/
def findClose : Str → Option Nat
  | [] => none
  | c :: r => if c = ']' then some 0 else (findClose r).map (· + 1)

def closeIdx : Str → Option Nat
  | [] => none
  | _ :: r => (findClose r).map (· + 1)

def tokenize : Str → Nat → List Tok
  | [], _ => []
  | _ :: cs, n + 1 => tokenize cs n
  | c :: cs, 0 =>
    if c = '*' then .star :: tokenize cs 0
    else if c = '?' then .any :: tokenize cs 0
    else if c = '[' then
      let neg := cs.head? == some '!'
      let r := if neg then cs.tail else cs
      match closeIdx r with
      | some k => .cls neg (r.take k) :: tokenize cs (k + (if neg then 2 else 1))
      | none => .lit '[' :: tokenize cs 0
    else .lit c :: tokenize cs 0

/-- membership in the body of a bracket expression -/
def inBody : Str → Char → Bool
  | [], _ => false
  | a :: '-' :: b :: rest, c => (decide (a ≤ c) && decide (c ≤ b)) || inBody rest c
  | a :: rest, c => a == c || inBody rest c

def fold (cs : Bool) (c : Char) : Char := if cs then c else Regex.lower c

/-- case-insensitive membership: some case variant of `c` is a member (ASCII) -/
def inBodyCI (body : Str) (c : Char) : Bool :=
  inBody body (Regex.lower c) || inBody body (Regex.upper c)

def tokOk (cs : Bool) : Tok → Char → Bool
  | .star, _ => true
  | .any, _ => true
  | .cls neg body, c => (if cs then inBody body c else inBodyCI body c) != neg
  | .lit x, c => fold cs x == fold cs c

def starRun (k : Str → Bool) : Str → Bool
  | [] => k []
  | c :: cs => k (c :: cs) || starRun k cs

def tokMatch (cs : Bool) : List Tok → Str → Bool
  | [], s => s == []
  | t :: r, s =>
    match t with
    | .star => starRun (tokMatch cs r) s
    | _ =>
      match s with
      | c :: s' => tokOk cs t c && tokMatch cs r s'
      | [] => false

/-- the documented meaning of `wildcard.match(pattern, name)` (`cs = true`) / `imatch`;
for `imatch` the pattern is compared case-insensitively (ASCII). -/
def wmatches (pat name : Str) (cs : Bool := true) : Bool :=
  tokMatch cs (tokenize (if cs then pat else pat.map Regex.lower) 0) name

end Fs.WildSpec
