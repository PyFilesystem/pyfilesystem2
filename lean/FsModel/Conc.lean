/-
  FsModel.Conc — C08: methods as sequences of atomic segments, interleaving semantics,
  linearizability.

  A thread executes a list of instructions `acq l | rel l | step f`.  `step f` is one atomic
  access to the shared state `σ` (it may also update the thread's local variables `τ`);
  `acq l` can only be executed while lock `l` is free (mutual exclusion: the lock's contract,
  trusted) and `rel l` frees it.  Re-entrant acquisition is flattened away by the extractor
  (a nested `with self._lock` inside a locked block adds no instruction), so the model's locks
  need not be re-entrant.  A *locked segment* of the generated LockTable is `acq 0 :: steps ++
  [rel 0]`; an *unlocked segment* is its steps alone, one instruction per shared-state access.
  A schedule is the list of thread ids in the order they take steps — exactly what the
  deterministic scheduler of `harness/sched.py` replays on the real code.
-/
import FsModel.Ref
import FsModel.LockTypes

namespace Fs.Conc
open Fs Fs.Ref

/-! ### the generic machine -/

inductive Instr (σ τ : Type) where
  | acq (l : Nat)
  | rel (l : Nat)
  | step (f : σ → τ → σ × τ)

structure Cfg (σ τ : Type) where
  sh : σ
  locs : List τ
  progs : List (List (Instr σ τ))
  owner : Nat → Option Nat

namespace Cfg
variable {σ τ : Type}

def init (s : σ) (locs : List τ) (progs : List (List (Instr σ τ))) : Cfg σ τ :=
  { sh := s, locs := locs, progs := progs, owner := fun _ => none }

/-- every thread has run to completion -/
def done (c : Cfg σ τ) : Bool := c.progs.all (·.isEmpty)

/-- thread `i` executes its next instruction; `none` = it has none, or it is blocked on a lock -/
def stepT (c : Cfg σ τ) (i : Nat) : Option (Cfg σ τ) :=
  match c.progs[i]?, c.locs[i]? with
  | some (ins :: rest), some loc =>
    match ins with
    | .acq l =>
      if (c.owner l).isNone then
        some { c with progs := c.progs.set i rest, owner := fun x => if x = l then some i else c.owner x }
      else none
    | .rel l =>
      some { c with progs := c.progs.set i rest, owner := fun x => if x = l then none else c.owner x }
    | .step f =>
      let r := f c.sh loc
      some { c with sh := r.1, locs := c.locs.set i r.2, progs := c.progs.set i rest }
  | _, _ => none

/-- run a schedule (list of thread ids); `none` = the schedule is not executable -/
def exec (c : Cfg σ τ) : List Nat → Option (Cfg σ τ)
  | [] => some c
  | i :: is => match c.stepT i with
    | some c' => exec c' is
    | none => none

/-- the threads that can take a step now -/
def enabled (c : Cfg σ τ) : List Nat := (List.range c.progs.length).filter fun i => (c.stepT i).isSome

/-- some thread is unfinished and none can move -/
def deadlocked (c : Cfg σ τ) : Bool := !c.done && c.enabled.isEmpty

def size (c : Cfg σ τ) : Nat := (c.progs.map List.length).sum

/-- all maximal schedules from `c` with the configuration they end in (finished or deadlocked);
`fuel ≥ size c` explores everything -/
def runs : Nat → Cfg σ τ → List (List Nat × Cfg σ τ)
  | 0, c => [([], c)]
  | fuel + 1, c =>
    match c.enabled with
    | [] => [([], c)]
    | en => en.flatMap fun i =>
      match c.stepT i with
      | some c' => (runs fuel c').map fun (s, e) => (i :: s, e)
      | none => []

def allRuns (c : Cfg σ τ) : List (List Nat × Cfg σ τ) := runs c.size c

end Cfg

/-- the body of a thread run alone, atomically -/
def runBody {σ τ : Type} : List (σ → τ → σ × τ) → σ × τ → σ × τ
  | [], x => x
  | f :: fs, x => runBody fs (f x.1 x.2)

/-- one locked block: `with self._lock: body` -/
def lockedProg {σ τ : Type} (l : Nat) (body : List (σ → τ → σ × τ)) : List (Instr σ τ) :=
  .acq l :: (body.map .step ++ [.rel l])

/-- sequential reference: the calls in `order` run one after the other, each atomically -/
def seqExec {σ τ : Type} (bodies : List (List (σ → τ → σ × τ))) : List Nat → σ × List τ → σ × List τ
  | [], x => x
  | i :: is, x =>
    match bodies[i]?, x.2[i]? with
    | some b, some loc =>
      let r := runBody b (x.1, loc)
      seqExec bodies is (r.1, x.2.set i r.2)
    | _, _ => seqExec bodies is x

/-! ### MemoryFS / FS calls as segment lists over the reference tree -/

/-- thread-local variables of a call: its result once known (an exception ends the call: the
remaining steps become no-ops) -/
structure Loc where
  out : Option Out := none
  deriving Inhabited

abbrev I := Instr State Loc
abbrev Step := State → Loc → State × Loc

/-- a whole reference operation as one atomic step -/
def whole (op : Op) : Step := fun s l =>
  match l.out with
  | some _ => (s, l)
  | none => let r := step s op; (r.1, { out := some r.2 })

/-- a sub-call whose failure ends the call and whose success lets it continue (`k` inspects the
value: `none` = go on, `some o` = finish with `o`) -/
def sub (op : Op) (k : Val → Option Out) : Step := fun s l =>
  match l.out with
  | some _ => (s, l)
  | none =>
    let r := step s op
    match r.2 with
    | .err e => (r.1, { out := some (.err e) })
    | .ok v => (r.1, { out := k v })

/-- positional write of `data` at offset 0 of an existing file (what `_MemoryFile.write` does on
the shared BytesIO of the entry after another writer has put bytes there) -/
def overlay (data old : Bytes) : Bytes := data ++ old.drop data.length

/-- `write_file.write(contents)` of `FS.writebytes`: the file object was opened (created and
truncated) by an earlier step; the write lands at offset 0 of whatever the entry holds *now*.
Entry identity is not modelled: the step addresses the file by path (faithful as long as no
concurrent call unlinks or moves that file — the harness only compares such call sets). -/
def writeAt (p : Str) (data : Bytes) : Step := fun s l =>
  match l.out with
  | some _ => (s, l)
  | none =>
    match validate p with
    | .err e => (s, { out := some (.err e) })
    | .ok cs =>
      match s.root.get cs with
      | some (.file old) => ({ s with root := s.root.set cs (.file (overlay data old)) }, { out := some (.ok .unit) })
      | _ => (s, { out := some (.ok .unit) })

/-- which methods the implementation runs as one locked block.  Chosen from the GENERATED lock
table by the driver (`tableImpl` in `ConcDriver`), so the model follows the code that exists. -/
structure Impl where
  /-- `removedir` is one locked block (true once `MemoryFS.removedir` takes `self._lock`) -/
  removedirAtomic : Bool
  /-- `move` is one locked block (`MemoryFS.move`); false = `FS.move`: pre-checks outside the lock -/
  moveAtomic : Bool
  /-- `writebytes` is one locked block; false = `FS.writebytes`: open / write / close -/
  writebytesAtomic : Bool
  /-- `readbytes` is one locked block; false = `FS.readbytes`: open / read / close -/
  readbytesAtomic : Bool
  deriving DecidableEq, Repr

/-- the instruction list of one call -/
def segments (impl : Impl) : Op → List I
  | .removedir p =>
    if impl.removedirAtomic then lockedProg 0 [whole (.removedir p)]
    else
      -- _path = validatepath(path); if _path == "/": raise RemoveRootError     (thread-local)
      -- if not self.isempty(path): raise DirectoryNotEmpty                     (one locked block)
      -- self.removetree(_path)                                                 (another locked block)
      lockedProg 0 [fun s l =>
          match validate p with
          | .err e => (s, { out := some (.err e) })
          | .ok [] => (s, { out := some (.err .RemoveRootError) })
          | .ok _ => sub (.isempty p) (fun v => if v = .bool true then none else some (.err .DirectoryNotEmpty)) s l]
        ++ lockedProg 0 [whole (.removetree p)]
  | .move a b ow =>
    if impl.moveAtomic then lockedProg 0 [whole (.move a b ow)]
    else
      -- FS.move: `if not overwrite and self.exists(dst)`, `if self.getinfo(src).is_dir`,
      -- `if src == dst: return` outside the lock; then `with self._lock:` copy + remove
      (if ow then [] else
        lockedProg 0 [sub (.exists_ b) (fun v => if v = .bool true then some (.err .DestinationExists) else none)])
        ++ lockedProg 0 [fun s l =>
            match validate a, validate b with
            | .ok ca, .ok cb =>
              sub (.getinfo a) (fun v => match v with
                | .info _ true _ => some (.err .FileExpected)
                | _ => if ca = cb then some (.ok .unit) else none) s l
            | .err e, _ => (s, { out := l.out.orElse fun _ => some (.err e) })
            | _, .err e => (s, { out := l.out.orElse fun _ => some (.err e) })]
        ++ lockedProg 0 [whole (.move a b true)]
  | .writebytes p d =>
    if impl.writebytesAtomic then lockedProg 0 [whole (.writebytes p d)]
    else
      -- open(path, "wb"): one locked block in MemoryFS.openbin (create / truncate);
      -- write(): under the entry's own lock only; close(): no tree access
      lockedProg 0 [sub (.writebytes p []) (fun _ => none)] ++ [.step (writeAt p d)]
  | .readbytes p =>
    if impl.readbytesAtomic then lockedProg 0 [whole (.readbytes p)]
    else
      -- open(path, "rb"): one locked block in MemoryFS.openbin; read(): under the entry's own
      -- lock only (by path here, see `writeAt`); close(): no tree access
      lockedProg 0 [sub (.readbytes p) (fun _ => none)] ++ [.step (whole (.readbytes p))]
  | op => lockedProg 0 [whole op]

/-- is the call a single locked block under this implementation? -/
def isAtomic (impl : Impl) : Op → Bool
  | .removedir _ => impl.removedirAtomic
  | .move _ _ _ => impl.moveAtomic
  | .writebytes _ _ => impl.writebytesAtomic
  | .readbytes _ => impl.readbytesAtomic
  | _ => true

def initCfg (impl : Impl) (s : State) (calls : List Op) : Cfg State Loc :=
  Cfg.init s (calls.map fun _ => {}) (calls.map (segments impl))

/-- what is observable of a tree: every path with its kind and, for files, its bytes -/
def obsTree (t : Node) : List (List Name × Option Bytes) :=
  (t.walk []).map fun (p, n) => (p, match n with | .file b => some b | .dir _ => none)

/-- observable outcome of a finished run: per-call results and the final tree -/
def obs (c : Cfg State Loc) : List (Option Out) × List (List Name × Option Bytes) :=
  (c.locs.map (·.out), obsTree c.sh.root)

/-- the calls run sequentially (whole `Ref.step`s) in the given order of indices -/
def seqRef (calls : List Op) : List Nat → State × List (Option Out) → State × List (Option Out)
  | [], x => x
  | i :: is, x =>
    match calls[i]? with
    | some op => let r := step x.1 op; seqRef calls is (r.1, x.2.set i (some r.2))
    | none => seqRef calls is x

def seqObs (calls : List Op) (s : State) (order : List Nat) :
    List (Option Out) × List (List Name × Option Bytes) :=
  let r := seqRef calls order (s, calls.map fun _ => none)
  (r.2, obsTree r.1.root)

/-- all orders of `0 … n-1` -/
def perms : List Nat → List (List Nat)
  | [] => [[]]
  | x :: xs => (perms xs).flatMap fun p => (List.range (p.length + 1)).map fun k => p.take k ++ x :: p.drop k

/-- **linearizable**: every executable complete schedule ends with per-call results and a final
tree that some sequential order of the same calls produces -/
def Linearizable (impl : Impl) (calls : List Op) (s : State) : Prop :=
  ∀ sched c', (initCfg impl s calls).exec sched = some c' → c'.done = true →
    ∃ order, order.Perm (List.range calls.length) ∧ obs c' = seqObs calls s order

/-- executable check of one finished configuration against all sequential orders -/
def linOk (calls : List Op) (s : State) (c : Cfg State Loc) : Bool :=
  (perms (List.range calls.length)).any fun order => obs c == seqObs calls s order

abbrev Obs := List (Option Out) × List (List Name × Option Bytes)

/-- run one schedule to the end and compare: it is executable, complete, shows exactly the
observation `expected`, and its linearizability verdict is `lin` -/
def scheduleShows (impl : Impl) (s : State) (calls : List Op) (sched : List Nat) (expected : Obs) (lin : Bool) : Bool :=
  match (initCfg impl s calls).exec sched with
  | some c => c.done && obs c == expected && linOk calls s c == lin
  | none => false

theorem scheduleShows_spec {impl : Impl} {s : State} {calls : List Op} {sched : List Nat} {expected : Obs}
    {lin : Bool} (h : scheduleShows impl s calls sched expected lin = true) :
    ∃ c, (initCfg impl s calls).exec sched = some c ∧ c.done = true ∧ obs c = expected ∧
      linOk calls s c = lin := by
  unfold scheduleShows at h
  cases hc : (initCfg impl s calls).exec sched with
  | none => rw [hc] at h; cases h
  | some c =>
    rw [hc] at h
    simp only [Bool.and_eq_true, beq_iff_eq] at h
    exact ⟨c, rfl, h.1.1, h.1.2, h.2⟩

/-- every maximal run from `c` ends in a configuration satisfying `p` (no lists are built) -/
def Cfg.forallRuns {σ τ : Type} (p : Cfg σ τ → Bool) : Nat → Cfg σ τ → Bool
  | 0, c => p c
  | fuel + 1, c =>
    if (List.range c.progs.length).any (fun i => (c.stepT i).isSome) then
      (List.range c.progs.length).all fun i => match c.stepT i with
        | some c' => Cfg.forallRuns p fuel c'
        | none => true
    else p c

/-! ### Impl from the generated lock table -/

def Impl.ofShapes (removedir move writebytes readbytes : Lock.Shape) : Impl :=
  { removedirAtomic := removedir == .singleLocked,
    moveAtomic := move == .singleLocked,
    writebytesAtomic := writebytes == .singleLocked,
    readbytesAtomic := readbytes == .singleLocked }

/-! ### two filesystems, two locks: `copy_dir(A, B) ‖ copy_dir(B, A)` -/

/-- `with src_fs.lock(), dst_fs.lock(): …` : locks taken in argument order -/
def twoLockProg {σ τ : Type} (first second : Nat) (body : List (σ → τ → σ × τ)) : List (Instr σ τ) :=
  .acq first :: .acq second :: (body.map .step ++ [.rel second, .rel first])

/-! ### LRUCache (fs/lrucache.py) as a small state machine -/

namespace Lru

/-- the OrderedDict: keys with values, oldest first -/
abbrev Cache := List (Nat × Nat)

structure LLoc where
  val : Option Nat := none     -- the value (compiled pattern) the call ends up using
  raised : Bool := false       -- a KeyError is propagating out of the call
  miss : Bool := false         -- the caller caught the KeyError and took the compile path
  evict : Bool := false        -- `__setitem__` decided to evict the oldest entry
  deriving DecidableEq, Repr, Inhabited

def lookup (k : Nat) : Cache → Option Nat
  | [] => none
  | (a, v) :: r => if a = k then some v else lookup k r

def erase (k : Nat) : Cache → Cache
  | [] => []
  | (a, v) :: r => if a = k then r else (a, v) :: erase k r

/-- `OrderedDict.__setitem__`: in place when present (position kept), else appended -/
def put (k v : Nat) : Cache → Cache
  | [] => [(k, v)]
  | (a, w) :: r => if a = k then (a, v) :: r else (a, w) :: put k v r

/-- `LRUCache.__getitem__`: three C-level steps, each atomic under the GIL -/
def getitem (k : Nat) : List (Instr Cache LLoc) :=
  [ .step fun c l => if l.raised then (c, l) else
      match lookup k c with
      | some v => (c, { l with val := some v })
      | none => (c, { l with raised := true }),           -- value = _super.__getitem__(key)
    .step fun c l => if l.raised then (c, l) else
      match lookup k c with
      | some _ => (erase k c, l)
      | none => (c, { l with raised := true }),           -- _super.__delitem__(key)
    .step fun c l => if l.raised then (c, l) else
      (put k (l.val.getD 0) c, l) ]                       -- _super.__setitem__(key, value)

/-- `LRUCache.__setitem__` with capacity `cap` (executed when `guard` holds):
`if key not in self: if len(self) >= cap: self.popitem(last=False)`; `OrderedDict.__setitem__` -/
def setitemSteps (cap k v : Nat) (guard : LLoc → Bool) : List (Instr Cache LLoc) :=
  [ .step fun c l => if guard l && !l.raised then
        (c, { l with evict := (lookup k c).isNone && decide (c.length ≥ cap) }) else (c, l),
    .step fun c l => if guard l && !l.raised && l.evict then
        (match c with
         | [] => (c, { l with raised := true })           -- popitem on an empty dict: KeyError
         | _ :: r => (r, l))
      else (c, l),
    .step fun c l => if guard l && !l.raised then (put k v c, l) else (c, l) ]

def setitem (cap k v : Nat) : List (Instr Cache LLoc) := setitemSteps cap k v (fun _ => true)

/-- the caller pattern of `wildcard.match` / `glob.match`:
`try: pat = CACHE[key]` / `except KeyError: pat = compile(...); CACHE[key] = pat`;
the match result only depends on `pat` (= `val` at the end) -/
def lookupCall (k compiled : Nat) : List (Instr Cache LLoc) :=
  getitem k ++
  [ .step fun c l => if l.raised then (c, { l with raised := false, miss := true, val := some compiled }) else (c, l) ]

def matchCall (cap k compiled : Nat) : List (Instr Cache LLoc) :=
  getitem k ++
  [ .step fun c l => if l.raised then (c, { l with raised := false, miss := true, val := some compiled }) else (c, l) ] ++
  setitemSteps cap k compiled (·.miss)

end Lru

end Fs.Conc
