/-
  FsModel.Ref — the reference semantics of the FS API (DESIGN.md §3).

  `Ref.step : State → Op → State × Res Val` is the contract every writable filesystem is
  compared with; `Ref.adm` lists, for a state and an operation, every error class whose
  documented condition holds (backends may order their checks differently, the verdict and
  the resulting tree are exact).
-/
import FsModel.Tree

namespace Fs.Ref
open Fs Fs.Path

structure State where
  root : Node
  closed : Bool
  deriving Repr, Inhabited

def State.empty : State := { root := .dir [], closed := false }

inductive Val where
  | unit
  | bool (b : Bool)
  | bytes (b : Bytes)
  | names (l : List Name)
  | nat (n : Nat)
  | info (name : Name) (isDir : Bool) (size : Nat)
  deriving Repr, Inhabited, DecidableEq

inductive Op where
  | exists_ (p : Str) | isdir (p : Str) | isfile (p : Str)
  | listdir (p : Str) | getsize (p : Str) | gettype (p : Str) | isempty (p : Str)
  | getinfo (p : Str) | readbytes (p : Str)
  | makedir (p : Str) (recreate : Bool) | makedirs (p : Str) (recreate : Bool)
  | writebytes (p : Str) (data : Bytes) | appendbytes (p : Str) (data : Bytes)
  | create (p : Str) (wipe : Bool) | touch (p : Str) | settimes (p : Str)
  | openbin (p : Str) (mode : Str)
  | remove (p : Str) | removedir (p : Str) | removetree (p : Str)
  | move (s d : Str) (overwrite : Bool) | copy (s d : Str) (overwrite : Bool)
  | movedir (s d : Str) (create : Bool) | copydir (s d : Str) (create : Bool)
  | close
  deriving Repr, Inhabited

/-! ### path validation (FS.validatepath) -/

/-- `validatepath`: invalid characters, then `abspath (normpath p)`, as a component list -/
def validate (p : Str) : Res (List Name) :=
  if p.contains '\x00' then .err .InvalidCharsInPath
  else iteratepath p

/-! ### mode strings (fs/mode.py) -/

structure Mode where
  reading : Bool
  writing : Bool
  create : Bool
  truncate : Bool
  exclusive : Bool
  appending : Bool
  deriving Repr, DecidableEq

def modeValidChars : List Char := ['r', 'w', 'x', 't', 'a', 'b', '+']

/-- `Mode(mode).validate_bin()` followed by the flag properties; `none` = ValueError.  Since
`fix: Mode.validate rejects the mode strings io.open rejects` a mode string may not repeat a
character and must contain exactly one of `r w x a`. -/
def parseBinMode (m : Str) : Option Mode :=
  match m with
  | [] => none
  | c :: _ =>
    if !(m.all fun x => modeValidChars.contains x) then none
    else if !(['r', 'w', 'x', 'a'].contains c) then none
    else if m.contains 't' then none
    else if !m.Nodup then none
    else if (['r', 'w', 'x', 'a'].filter fun x => m.contains x).length != 1 then none
    else
      let has (x : Char) := m.contains x
      some { reading := has 'r' || has '+',
             writing := has 'w' || has 'a' || has '+' || has 'x',
             create := has 'a' || has 'w' || has 'x',
             truncate := has 'w' || has 'x',
             exclusive := has 'x',
             appending := has 'a' }

/-! ### helpers on the tree -/

def parentOf (cs : List Name) : List Name := cs.dropLast

/-- some proper prefix of `cs` is a file (the path is "blocked") -/
def blockedByFile (t : Node) : List Name → List Name → Bool
  | _, [] => false
  | pre, c :: cs =>
    (match t.get pre with
     | some (.file _) => true
     | _ => false) || (if cs = [] then false else blockedByFile t (pre ++ [c]) cs)

/-- `a` is a (non-strict) component prefix of `b` -/
def isPrefix : List Name → List Name → Bool
  | [], _ => true
  | _ :: _, [] => false
  | a :: as, b :: bs => a == b && isPrefix as bs

mutual
/-- merge a source node over an optional existing destination node; `none` = a file/directory
name conflict somewhere inside (the bulk operation fails mid-way: loose case) -/
def mergeNode : Node → Option Node → Option Node
  | .file b, none => some (.file b)
  | .file b, some (.file _) => some (.file b)
  | .file _, some (.dir _) => none
  | .dir es, none => (mergeEnts es []).map .dir
  | .dir es, some (.dir ds) => (mergeEnts es ds).map .dir
  | .dir _, some (.file _) => none
def mergeEnts : Ents → Ents → Option Ents
  | [], ds => some ds
  | (k, v) :: es, ds =>
    match mergeNode v (Ents.lookup k ds) with
    | none => none
    | some n => mergeEnts es (Ents.put k n ds)
end

/-- create every missing directory along `cs` (used by makedirs / copydir create) -/
def mkdirs : List Name → List Name → Node → Node
  | _, [], t => t
  | pre, c :: cs, t =>
    let here := pre ++ [c]
    let t' := match t.get here with
      | none => t.set here (.dir [])
      | some _ => t
    mkdirs here cs t'

/-! ### the step function -/

abbrev Out := Res Val

def fail (s : State) (e : Err) : State × Out := (s, .err e)
def done (s : State) (v : Val := .unit) : State × Out := (s, .ok v)
def upd (s : State) (t : Node) (v : Val := .unit) : State × Out := ({ s with root := t }, .ok v)

def lastName (cs : List Name) : Name := cs.getLast?.getD []

/-- `t.set cs v`, where `cs = []` replaces the root itself -/
def setAt (t : Node) (cs : List Name) (v : Node) : Node := if cs = [] then v else t.set cs v

/-- write a file at `cs` (`f` computes the new content from the old, if any) -/
def writeFile (s : State) (cs : List Name) (f : Option Bytes → Bytes) (v : Val := .unit) : State × Out :=
  let t := s.root
  if cs = [] then fail s .FileExpected
  else match t.get (parentOf cs) with
    | none => fail s .ResourceNotFound
    | some (.file _) => fail s .ResourceNotFound
    | some (.dir _) =>
      match t.get cs with
      | some (.dir _) => fail s .FileExpected
      | some (.file b) => upd s (t.set cs (.file (f (some b)))) v
      | none => upd s (t.set cs (.file (f none))) v

def step1 (s : State) (cs : List Name) : Op → State × Out
  | .exists_ _ => done s (.bool (s.root.get cs).isSome)
  | .isdir _ => done s (.bool (match s.root.get cs with | some (.dir _) => true | _ => false))
  | .isfile _ => done s (.bool (match s.root.get cs with | some (.file _) => true | _ => false))
  | .listdir _ => match s.root.get cs with
    | none => fail s .ResourceNotFound
    | some (.file _) => fail s .DirectoryExpected
    | some (.dir es) => done s (.names (Ents.names es))
  | .isempty _ => match s.root.get cs with
    | none => fail s .ResourceNotFound
    | some (.file _) => fail s .DirectoryExpected
    | some (.dir es) => done s (.bool es.isEmpty)
  | .getsize _ => match s.root.get cs with
    | none => fail s .ResourceNotFound
    | some (.file b) => done s (.nat b.length)
    | some (.dir _) => done s (.nat 0)
  | .gettype _ => match s.root.get cs with
    | none => fail s .ResourceNotFound
    | some (.file _) => done s (.nat 2)
    | some (.dir _) => done s (.nat 1)
  | .getinfo _ => match s.root.get cs with
    | none => fail s .ResourceNotFound
    | some (.file b) => done s (.info (lastName cs) false b.length)
    | some (.dir _) => done s (.info (lastName cs) true 0)
  | .readbytes _ => match s.root.get cs with
    | none => fail s .ResourceNotFound
    | some (.dir _) => fail s .FileExpected
    | some (.file b) => done s (.bytes b)
  | .makedir _ recreate =>
    if cs = [] then (if recreate then done s else fail s .DirectoryExists)
    else match s.root.get (parentOf cs) with
      | none => fail s .ResourceNotFound
      | some (.file _) => fail s .ResourceNotFound
      | some (.dir _) =>
        match s.root.get cs with
        | some (.dir _) => if recreate then done s else fail s .DirectoryExists
        | some (.file _) => if recreate then fail s .DirectoryExpected else fail s .DirectoryExists
        | none => upd s (s.root.set cs (.dir []))
  | .makedirs _ recreate =>
    if blockedByFile s.root [] cs then fail s .DirectoryExpected
    else match s.root.get cs with
      | some (.dir _) => if recreate then done s else fail s .DirectoryExists
      | some (.file _) => if recreate then fail s .DirectoryExpected else fail s .DirectoryExists
      | none => upd s (mkdirs [] cs s.root)
  | .writebytes _ data => writeFile s cs (fun _ => data)
  | .appendbytes _ data => writeFile s cs (fun o => (o.getD []) ++ data)
  | .create _ wipe =>
    if !wipe && (s.root.get cs).isSome then done s (.bool false)
    else writeFile s cs (fun _ => []) (.bool true)
  | .touch _ =>
    if (s.root.get cs).isSome then done s
    else writeFile s cs (fun _ => [])
  | .settimes _ => if (s.root.get cs).isSome then done s else fail s .ResourceNotFound
  | .openbin _ mode =>
    match parseBinMode mode with
    | none => fail s .ValueError
    | some m =>
      if cs = [] then fail s .FileExpected
      else match s.root.get (parentOf cs) with
        | none => fail s .ResourceNotFound
        | some (.file _) => fail s .ResourceNotFound
        | some (.dir _) =>
          match s.root.get cs with
          | some (.dir _) => fail s .FileExpected
          | some (.file _) =>
            if m.exclusive then fail s .FileExists
            else if m.truncate then upd s (s.root.set cs (.file []))
            else done s
          | none =>
            if m.create then upd s (s.root.set cs (.file []))
            else fail s .ResourceNotFound
  | .remove _ =>
    if cs = [] then fail s .FileExpected
    else match s.root.get cs with
      | none => fail s .ResourceNotFound
      | some (.dir _) => fail s .FileExpected
      | some (.file _) => upd s (s.root.del cs)
  | .removedir _ =>
    if cs = [] then fail s .RemoveRootError
    else match s.root.get cs with
      | none => fail s .ResourceNotFound
      | some (.file _) => fail s .DirectoryExpected
      | some (.dir es) => if es.isEmpty then upd s (s.root.del cs) else fail s .DirectoryNotEmpty
  | .removetree _ =>
    if cs = [] then upd s (.dir [])
    else match s.root.get cs with
      | none => fail s .ResourceNotFound
      | some (.file _) => fail s .DirectoryExpected
      | some (.dir _) => upd s (s.root.del cs)
  | _ => done s

/-- place file content `b` at destination `d` (shared by move and copy) -/
def putFile (s : State) (d : List Name) (b : Bytes) : Option Node :=
  if d = [] then none
  else match s.root.get (parentOf d) with
    | some (.dir _) =>
      (match s.root.get d with
       | some (.dir _) => none
       | _ => some (s.root.set d (.file b)))
    | _ => none

def step2 (st : State) (s d : List Name) : Op → State × Out
  | .move _ _ ow =>
    match st.root.get s with
    | none => fail st .ResourceNotFound
    | some (.dir _) => fail st .FileExpected
    | some (.file b) =>
      if !ow && (st.root.get d).isSome then fail st .DestinationExists
      else if s = d then done st
      else if d = [] then fail st .FileExpected
      else match st.root.get (parentOf d) with
        | none => fail st .ResourceNotFound
        | some (.file _) => fail st .ResourceNotFound
        | some (.dir _) =>
          match st.root.get d with
          | some (.dir _) => fail st .FileExpected
          | _ => upd st ((st.root.set d (.file b)).del s)
  | .copy _ _ ow =>
    if !ow && (st.root.get d).isSome then fail st .DestinationExists
    else if s = d then fail st .IllegalDestination
    else match st.root.get s with
    | none => fail st .ResourceNotFound
    | some (.dir _) => fail st .FileExpected
    | some (.file b) =>
      if d = [] then fail st .FileExpected
      else match st.root.get (parentOf d) with
        | none => fail st .ResourceNotFound
        | some (.file _) => fail st .ResourceNotFound
        | some (.dir _) =>
          match st.root.get d with
          | some (.dir _) => fail st .FileExpected
          | _ => upd st (st.root.set d (.file b))
  | .movedir _ _ create =>
    if s = d then done st
    else if isPrefix s d then fail st .IllegalDestination
    else match st.root.get s with
    | none => fail st .ResourceNotFound
    | some (.file _) => fail st .DirectoryExpected
    | some (.dir es) =>
      match st.root.get d with
      | some (.file _) => fail st .DirectoryExpected
      | some (.dir _) =>
        -- the complete source content ends up at the destination: take the source out of
        -- the tree first, then merge it into what is (then) at the destination.  This matters
        -- when `d` is an ancestor of `s` and the source holds an entry named like itself.
        let t1 := st.root.del s
        (match t1.get d with
         | some (.dir ds) =>
           (match mergeEnts es ds with
            | none => fail st .OperationFailed     -- loose: file/directory conflict inside
            | some m => upd st (setAt t1 d (.dir m)))
         | _ => fail st .OperationFailed)
      | none =>
        if !create then fail st .ResourceNotFound
        else match st.root.get (parentOf d) with
          | some (.dir _) => upd st ((st.root.set d (.dir es)).del s)
          | _ => fail st .ResourceNotFound
  | .copydir _ _ create =>
    if isPrefix s d then fail st .IllegalDestination
    else match st.root.get d with
    | some (.file _) => (match st.root.get s with
        | none => fail st .ResourceNotFound
        | some (.file _) => fail st .DirectoryExpected
        | some (.dir _) => fail st .DirectoryExpected)
    | some (.dir ds) =>
      (match st.root.get s with
       | none => fail st .ResourceNotFound
       | some (.file _) => fail st .DirectoryExpected
       | some (.dir es) =>
         match mergeEnts es ds with
         | none => fail st .OperationFailed
         | some m => upd st (setAt st.root d (.dir m)))
    | none =>
      if !create then fail st .ResourceNotFound
      else match st.root.get s with
        | none => fail st .ResourceNotFound
        | some (.file _) => fail st .DirectoryExpected
        | some (.dir es) =>
          if blockedByFile st.root [] d then fail st .DirectoryExpected
          else upd st ((mkdirs [] d st.root).set d (.dir es))
  | _ => done st

/-- is this the "loose" failure of a bulk operation (only frame conditions are specified)? -/
def isLoose : Out → Bool
  | .err .OperationFailed => true
  | _ => false

def Op.paths : Op → List Str
  | .exists_ p | .isdir p | .isfile p | .listdir p | .getsize p | .gettype p | .isempty p
  | .getinfo p | .readbytes p | .makedir p _ | .makedirs p _ | .writebytes p _
  | .appendbytes p _ | .create p _ | .touch p | .settimes p | .openbin p _ | .remove p
  | .removedir p | .removetree p => [p]
  | .move s d _ | .copy s d _ | .movedir s d _ | .copydir s d _ => [s, d]
  | .close => []

/-- the reference step: closed check, path validation, then the operation -/
def step (s : State) (op : Op) : State × Out :=
  match op with
  | .close => ({ s with closed := true }, .ok .unit)
  | _ =>
    if s.closed then fail s .FilesystemClosed
    else
      -- openbin validates its mode before the path
      match op with
      | .openbin _ m => if (parseBinMode m).isNone then fail s .ValueError else
          (match op.paths.mapM validate with
           | .err e => fail s e
           | .ok [cs] => step1 s cs op
           | .ok _ => done s)
      | _ =>
        match op.paths.mapM validate with
        | .err e => fail s e
        | .ok [cs] => step1 s cs op
        | .ok [a, b] => step2 s a b op
        | .ok _ => done s

def run (s : State) : List Op → State × List Out
  | [] => (s, [])
  | op :: ops =>
    let (s', o) := step s op
    let (s'', os) := run s' ops
    (s'', o :: os)

end Fs.Ref
