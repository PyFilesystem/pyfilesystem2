/-
  FsModel.RouteSpec — the documented routing rules of MountFS / MultiFS, stated independently of
  the transcribed code (component lists instead of string prefixes; classification of member
  calls), against which `FsProofs/C17.lean` proves `FsModel.Mount` / `FsModel.Multi`.
-/
import FsModel.PathSpec
import FsModel.Mount
import FsModel.Multi

namespace Fs.RouteSpec
open Fs Fs.Path Fs.Ref Fs.Route

/-- The documented MountFS rule on component lists: the first mount point (in mount order)
whose components are a prefix of the path's components, with the remaining components. -/
def routeSpec : List (List Str × Nat) → List Str → Option (Nat × List Str)
  | [], _ => none
  | (ms, i) :: rest, cs => if ms.isPrefixOf cs then some (i, cs.drop ms.length) else routeSpec rest cs

/-- the absolute path with the given components -/
def absOf (cs : List Str) : Str := '/' :: joinSlash cs

/-- the mount table `MountFS.mount` stores for mount points given by their components -/
def tableOf (t : List (List Str × Nat)) : Mount.Table :=
  t.map fun e => (Mount.mountKey (absOf e.1), e.2)

/-- which member `_delegate` picks for a path (none: the path cannot be normalised) -/
def routeMember (t : Mount.Table) (p : Str) : Option Nat :=
  match Mount.delegate t p with
  | .ok (i, _) => some i
  | .err _ => none

/-- the paths the inherited `FS.makedirs(p)` hands to the methods of the composite: `p` itself and
every prefix produced by `recursepath(abspath(p))` (also in `abspath` form) -/
def makedirsPaths (p : Str) : List Str :=
  p :: (match recursepath (abspath p) true with
        | .ok l => l ++ l.map abspath
        | .err _ => [])

/-- member calls that only read — `openbin` in a mode without `w`, `a`, `+`, `x` included —:
they cannot change the member (`RouteLemmas.step_query_state`) -/
def isQuery : Ref.Op → Bool
  | .exists_ _ | .isdir _ | .isfile _ | .listdir _ | .getsize _ | .gettype _ | .isempty _
  | .getinfo _ | .readbytes _ => true
  | .openbin _ m => !(m.contains 'w' || m.contains 'a' || m.contains '+' || m.contains 'x')
  | _ => false

/-- primitives that remove a resource (MultiFS sends them to the member containing the path) -/
def removes : Prim → Bool
  | .remove _ | .removedir _ => true
  | _ => false

/-- `a.key ≤ b.key` as a proposition: lexicographic on (priority, insertion index) -/
def KeyLe (a b : Multi.Entry) : Prop := a.prio < b.prio ∨ (a.prio = b.prio ∧ a.idx ≤ b.idx)

/-- member `e` of a MultiFS contains the path: its `exists(p)` answers `True` -/
def Holds (f : Fss) (p : Str) (e : Multi.Entry) : Prop :=
  (Ref.step (f e.fs) (.exists_ p)).2 = .ok (.bool true)

/-- what member `e` contributes to a union listing of `p` -/
def listingOf (f : Fss) (p : Str) (e : Multi.Entry) : List Name :=
  match (Ref.step (f e.fs) (.listdir p)).2 with
  | .ok (.names l) => l
  | _ => []

/-- what member `e` answers to `listdir(p)` -/
def listAnswer (f : Fss) (p : Str) (e : Multi.Entry) : Out := (Ref.step (f e.fs) (.listdir p)).2

/-- the first member, in the given (priority) order, that contains the path: its `listdir` does
not answer `ResourceNotFound` -/
def firstHolder (f : Fss) (p : Str) : List Multi.Entry → Option Multi.Entry
  | [] => none
  | e :: es => if listAnswer f p e = .err .ResourceNotFound then firstHolder f p es else some e

end Fs.RouteSpec
