/-
  FsModel.Info — `fs/permissions.py`, `fs/time.py` and `fs/info.py` transcribed.

  * `Permissions`: the object state `_perms` is a Python `set` of arbitrary strings; here it is a
    `List Str` whose order and multiplicity carry no meaning — everything observable goes through
    `contains` (`in`), `dump` (`sorted(self._perms)`, the canonical form: strictly increasing by
    code point) and `eq` (`__eq__` compares dumps).  `_LINUX_PERMS` is the table `linuxPerms`.
    `parse` is transcribed as written: it slices the string into three triplets and turns *every*
    character other than `-` into the name `u_<c>` / `g_<c>` / `o_<c>` — so `s S t T` become the
    names `u_s`, `g_S`, `o_t`, … and not `setuid`/`setguid`/`sticky` (see `FsProofs/InfoLaws`).
  * `fs.time`: `epoch_to_datetime` = `datetime.fromtimestamp(t, tz=utc)`, `datetime_to_epoch` =
    `calendar.timegm(d.utctimetuple())`, as civil-date arithmetic on integers.  The calendar
    (`daysFromCivil`, `civilFromDays`, `validDate`, `epochOf`) is the one of `FsModel.FtpParse`
    (proved in `FsProofs/Lemmas/FtpLemmas`), not a second copy.  A float is its exact rational
    value `num/den`; CPython rounds `frac * 1e6` half-to-even to microseconds, which on the total
    is `roundHalfEven (num * 10^6 / den)` (10^6 is even, so the integral part does not disturb
    the tie rule).  The *double* rounding of the product `frac * 1e6` is outside the model: the
    harness only sends floats for which that product is exact.
  * `Info`: raw info = namespaces → keys → JSON-like values (`JVal`); accessors follow
    `fs/info.py` line by line, including `get`'s default, `_require_namespace`
    (`MissingInfoNamespace`), `_make_datetime`'s `is not None` test, Python truthiness in
    `is_file`, and the exception classes of conversions applied to values of the wrong type.
  * `memRaw`, `archiveRaw`: the raw dictionaries the modelled `getinfo`s build.
-/
import FsModel.Basic
import FsModel.Path
import FsModel.FtpParse

namespace Fs.Info
open Fs Fs.Path Fs.FtpParse

/-- exceptions of this layer (`MissingInfoNamespace` is an `fs.errors` class the shared `Err`
    does not list; `rangeError` = `ValueError`/`OverflowError`/`OSError` of
    `datetime.fromtimestamp` outside years 1–9999; `outside` = a value shape the model does not
    cover — the harness never sends one) -/
inductive IErr where
  | missingNamespace | valueError | typeError | attributeError | rangeError | outside
  deriving DecidableEq, Repr, Inhabited

def IErr.name : IErr → String
  | .missingNamespace => "MissingInfoNamespace" | .valueError => "ValueError"
  | .typeError => "TypeError" | .attributeError => "AttributeError"
  | .rangeError => "RangeError" | .outside => "Outside"

abbrev IRes (α : Type) := Except IErr α

instance {α : Type} [DecidableEq α] : DecidableEq (IRes α) := fun a b =>
  match a, b with
  | .ok x, .ok y => if h : x = y then isTrue (by rw [h]) else isFalse (by intro h'; cases h'; exact h rfl)
  | .error x, .error y => if h : x = y then isTrue (by rw [h]) else isFalse (by intro h'; cases h'; exact h rfl)
  | .ok _, .error _ => isFalse (by intro h; cases h)
  | .error _, .ok _ => isFalse (by intro h; cases h)

/-! ## fs/permissions.py -/

/-- `Permissions._LINUX_PERMS` -/
def linuxPerms : List (Str × Nat) :=
  [ ("setuid".toList, 2048), ("setguid".toList, 1024), ("sticky".toList, 512),
    ("u_r".toList, 256), ("u_w".toList, 128), ("u_x".toList, 64),
    ("g_r".toList, 32), ("g_w".toList, 16), ("g_x".toList, 8),
    ("o_r".toList, 4), ("o_w".toList, 2), ("o_x".toList, 1) ]

/-- `Permissions._LINUX_PERMS_NAMES` -/
def linuxPermsNames : List Str := linuxPerms.map (·.1)

structure Permissions where
  /-- the set `_perms` -/
  perms : List Str
  deriving Repr

namespace Permissions

/-- `name in self` (`__contains__`) -/
def contains (p : Permissions) (n : Str) : Bool := p.perms.contains n

/-- `dump()`: `sorted(self._perms)` -/
def dump (p : Permissions) : List Str := sortedSet p.perms

/-- `__eq__` with another `Permissions` -/
def eq (p q : Permissions) : Bool := p.dump == q.dump

/-- `__eq__` with anything else (a list of names): `self.dump() == other` -/
def eqNames (p : Permissions) (names : List Str) : Bool := p.dump == names

/-- `Permissions(names=…)` / `load` -/
def ofNames (ns : List Str) : Permissions := ⟨ns⟩

/-- `{name for name, mask in _LINUX_PERMS if mode & mask}` for a non-negative mode -/
def ofMode (m : Nat) : Permissions :=
  ⟨(linuxPerms.filter fun nm => (m &&& nm.2) != 0).map (·.1)⟩

/-- the same for a Python `int` (two's complement `&` with masks below 4096) -/
def ofModeInt (m : Int) : Permissions := ofMode (m % 4096).toNat

/-- `"u_" + p for p in user or "" if p != "-"` -/
def ugo (pre : Char) (s : Str) : List Str := (s.filter (· != '-')).map fun p => [pre, '_', p]

/-- `Permissions.__init__` -/
def init (names : Option (List Str)) (mode : Option Int) (user group other : Option Str)
    (sticky setuid setguid : Bool) : Permissions :=
  let base : List Str :=
    match names with
    | some ns => ns
    | none =>
      match mode with
      | some m => (ofModeInt m).perms
      | none => ugo 'u' (user.getD []) ++ ugo 'g' (group.getD []) ++ ugo 'o' (other.getD [])
  ⟨base ++ (if sticky then ["sticky".toList] else []) ++ (if setuid then ["setuid".toList] else [])
        ++ (if setguid then ["setguid".toList] else [])⟩

/-- `Permissions(user=…, group=…, other=…)` -/
def ofUGO (user group other : Str) : Permissions :=
  init none none (some user) (some group) (some other) false false false

/-- `Permissions.parse(ls)` -/
def parse (ls : Str) : Permissions :=
  ofUGO (ls.take 3) ((ls.drop 3).take 3) ((ls.drop 6).take 3)

/-- the `mode` property -/
def mode (p : Permissions) : Nat :=
  linuxPerms.foldl (fun acc nm => if p.contains nm.1 then acc ||| nm.2 else acc) 0

/-- the `mode` setter -/
def setMode (_ : Permissions) (m : Int) : Permissions := ofModeInt m

/-- `as_str()` -/
def asStr (p : Permissions) : Str :=
  let perms := ((linuxPermsNames.drop (linuxPermsNames.length - 9)).zip "rwxrwxrwx".toList).map
    fun nc => if p.contains nc.1 then nc.2 else '-'
  let perms := if p.contains "setuid".toList then
      perms.set 2 (if p.contains "u_x".toList then 's' else 'S') else perms
  let perms := if p.contains "setguid".toList then
      perms.set 5 (if p.contains "g_x".toList then 's' else 'S') else perms
  if p.contains "sticky".toList then
    perms.set 8 (if p.contains "o_x".toList then 't' else 'T') else perms

/-- `add(*permissions)` -/
def add (p : Permissions) (ns : List Str) : Permissions := ⟨p.perms ++ ns⟩
/-- `remove(*permissions)` -/
def remove (p : Permissions) (ns : List Str) : Permissions := ⟨p.perms.filter fun n => !ns.contains n⟩
/-- `check(*permissions)` -/
def check (p : Permissions) (ns : List Str) : Bool := ns.all p.contains
/-- `copy()` -/
def copy (p : Permissions) : Permissions := ⟨p.perms⟩
/-- `_PermProperty.__set__` -/
def setFlag (p : Permissions) (n : Str) (v : Bool) : Permissions := if v then p.add [n] else p.remove [n]

/-- the argument of `create` / `get_mode` -/
inductive Init where
  | none | perm (p : Permissions) | mode (m : Int) | names (l : List Str) | other

/-- `Permissions.create(init)` -/
def create : Init → IRes Permissions
  | .none => .ok (ofModeInt 0o777)
  | .perm p => .ok p
  | .mode m => .ok (ofModeInt m)
  | .names l => .ok (ofNames l)
  | .other => .error .valueError

/-- `Permissions.get_mode(init)` / `make_mode` -/
def getMode (i : Init) : IRes Nat := (create i).map mode

end Permissions

/-! ## fs/time.py -/

/-- a `datetime` in UTC -/
structure DT where
  year : Nat
  month : Nat
  day : Nat
  hour : Nat
  minute : Nat
  second : Nat
  micro : Nat
  deriving DecidableEq, Repr

/-- `datetime(…)` is constructible -/
def DT.valid (t : DT) : Bool :=
  validDate t.year t.month t.day && t.hour < 24 && t.minute < 60 && t.second < 60 && t.micro < 1000000

/-- 0001-01-01T00:00:00Z -/
def minEpoch : Int := -62135596800
/-- 9999-12-31T23:59:59Z -/
def maxEpoch : Int := 253402300799

/-- round `num/den` to the nearest integer, ties to even (`den > 0`) -/
def roundHalfEven (num : Int) (den : Nat) : Int :=
  let q := num / (den : Int)
  let r := num % (den : Int)
  if 2 * r < den then q
  else if 2 * r > den then q + 1
  else if q % 2 = 0 then q else q + 1

/-- the civil fields of `secs` seconds and `micro` microseconds after the epoch -/
def dtOfSeconds (secs : Int) (micro : Nat) : DT :=
  let days := secs / 86400
  let sod := (secs % 86400).toNat
  let c := civilFromDays days
  ⟨c.1, c.2.1, c.2.2, sod / 3600, sod % 3600 / 60, sod % 60, micro⟩

/-- `datetime.fromtimestamp(num/den, tz=timezone.utc)` -/
def epochToDatetimeQ (num : Int) (den : Nat) : IRes DT :=
  if den = 0 then .error .rangeError
  else
    let us := roundHalfEven (num * 1000000) den
    let secs := us / 1000000
    if secs < minEpoch ∨ maxEpoch < secs then .error .rangeError
    else .ok (dtOfSeconds secs (us % 1000000).toNat)

/-- `epoch_to_datetime(t)` for an `int` (the `None` case is `Info.makeDatetime`'s) -/
def epochToDatetime (t : Int) : IRes DT := epochToDatetimeQ t 1

/-- `datetime_to_epoch(d)` = `timegm(d.utctimetuple())` for a UTC (or naive) datetime; an aware
    one is first shifted by its offset (whole seconds here) -/
def datetimeToEpoch (d : DT) (utcOffset : Int := 0) : Int :=
  epochOf d.year d.month d.day d.hour d.minute d.second - utcOffset

/-! ## raw info -/

/-- JSON-like values -/
inductive JVal where
  | null
  | bool (b : Bool)
  | int (i : Int)
  | float (num : Int) (den : Nat)      -- the exact value of the double
  | str (s : Str)
  | list (l : List JVal)
  deriving Repr, Inhabited

mutual
def JVal.beq : JVal → JVal → Bool
  | .null, .null => true
  | .bool a, .bool b => a == b
  | .int a, .int b => a == b
  | .float a b, .float c d => a == c && b == d
  | .str a, .str b => a == b
  | .list a, .list b => JVal.beqList a b
  | _, _ => false
def JVal.beqList : List JVal → List JVal → Bool
  | [], [] => true
  | a :: as, b :: bs => JVal.beq a b && JVal.beqList as bs
  | _, _ => false
end

instance : BEq JVal := ⟨JVal.beq⟩

abbrev NS := List (Str × JVal)
/-- the raw info dictionary (first binding of a key wins; Python dicts have unique keys) -/
abbrev Raw := List (Str × NS)

def dictGet? {β : Type} (k : Str) : List (Str × β) → Option β
  | [] => none
  | (k', v) :: rest => if k' = k then some v else dictGet? k rest

def kBasic : Str := "basic".toList
def kDetails : Str := "details".toList
def kAccess : Str := "access".toList
def kLink : Str := "link".toList

/-- Python truthiness -/
def JVal.truthy : JVal → Bool
  | .null => false
  | .bool b => b
  | .int i => i != 0
  | .float n _ => n != 0
  | .str s => !s.isEmpty
  | .list l => !l.isEmpty

/-- the number a value stands for where Python accepts "a real number": `bool` is an `int` -/
def JVal.num? : JVal → Option (Int × Nat)
  | .bool b => some (if b then 1 else 0, 1)
  | .int i => some (i, 1)
  | .float n d => some (n, d)
  | _ => none

/-! ## name functions (`suffix`, `suffixes`, `stem`): pure functions of the name -/

/-- `name.startswith(".")` -/
def dotStart (name : Str) : Bool := name.head? == some '.'

/-- `name.rpartition(".")` → (head, found, tail) -/
def rpartition (c : Char) (s : Str) : Str × Bool × Str :=
  match rsplit1 c s with
  | none => ([], false, s)
  | some (h, t) => (h, true, t)

/-- `Info.suffix` -/
def suffixOf (name : Str) : Str :=
  if dotStart name && name.count '.' == 1 then []
  else
    let r := rpartition '.' name
    if r.2.1 then '.' :: r.2.2 else []

/-- `Info.suffixes` -/
def suffixesOf (name : Str) : List Str :=
  if dotStart name && name.count '.' == 1 then []
  else ((splitOn '.' name).drop 1).map ('.' :: ·)

/-- `Info.stem` -/
def stemOf (name : Str) : Str :=
  if dotStart name then name else (splitOn '.' name).headD []

/-! ## fs/info.py -/

structure Info where
  raw : Raw
  deriving Repr

namespace Info

/-- `has_namespace(ns)` / `ns in self.raw` -/
def hasNamespace (i : Info) (ns : Str) : Bool := (dictGet? ns i.raw).isSome

/-- `self.namespaces` -/
def namespaces (i : Info) : List Str := sortedSet (i.raw.map (·.1))

/-- `get(namespace, key, default)` -/
def get (i : Info) (ns key : Str) (default : JVal := .null) : JVal :=
  match dictGet? ns i.raw with
  | none => default                        -- `except KeyError`
  | some d => (dictGet? key d).getD default

/-- `_require_namespace` -/
def requireNamespace (i : Info) (ns : Str) : IRes Unit :=
  if i.hasNamespace ns then .ok () else .error .missingNamespace

/-- `_make_datetime(t)` with the default `to_datetime = epoch_to_datetime` -/
def makeDatetime (t : JVal) : IRes (Option DT) :=
  match t with
  | .null => .ok none                      -- `if t is not None … else None`
  | v =>
    match v.num? with
    | some (n, d) => (epochToDatetimeQ n d).map some
    | none => .error .typeError

/-- `copy()`: a deep copy of the raw dictionary -/
def copy (i : Info) : Info := ⟨i.raw⟩

/-- `name` -/
def name (i : Info) : JVal := i.get kBasic "name".toList
/-- `is_dir` -/
def isDir (i : Info) : JVal := i.get kBasic "is_dir".toList
/-- `is_file`: `not self.get("basic", "is_dir")` -/
def isFile (i : Info) : Bool := !(i.get kBasic "is_dir".toList).truthy

def nameStr (i : Info) : IRes Str :=
  match i.name with
  | .str s => .ok s
  | .null | .bool _ | .int _ | .float _ _ => .error .attributeError    -- no `.startswith`
  | .list _ => .error .attributeError

/-- `suffix` -/
def suffix (i : Info) : IRes Str := i.nameStr.map suffixOf
/-- `suffixes` -/
def suffixes (i : Info) : IRes (List Str) := i.nameStr.map suffixesOf
/-- `stem` -/
def stem (i : Info) : IRes Str := i.nameStr.map stemOf

/-- `is_link` -/
def isLink (i : Info) : IRes Bool := do
  i.requireNamespace kLink
  pure (match i.get kLink "target".toList with | .null => false | _ => true)

/-- `target` -/
def target (i : Info) : IRes JVal := do
  i.requireNamespace kLink
  pure (i.get kLink "target".toList)

/-- `ResourceType(v)`: the member whose value equals `v` (so `True` is 1 and `2.0` is 2) -/
def resourceType (v : JVal) : IRes Nat :=
  match v.num? with
  | some (n, d) =>
    if d ≠ 0 ∧ n % (d : Int) = 0 ∧ 0 ≤ n / (d : Int) ∧ n / (d : Int) ≤ 7 then .ok (n / (d : Int)).toNat
    else .error .valueError
  | none => .error .valueError

/-- `type` -/
def type (i : Info) : IRes Nat := do
  i.requireNamespace kDetails
  resourceType (i.get kDetails "type".toList (.int 0))

/-- `size` -/
def size (i : Info) : IRes JVal := do
  i.requireNamespace kDetails
  pure (i.get kDetails "size".toList)

/-- `accessed` / `modified` / `created` / `metadata_changed` -/
def timeAcc (i : Info) (key : Str) : IRes (Option DT) := do
  i.requireNamespace kDetails
  makeDatetime (i.get kDetails key)

def accessed (i : Info) := i.timeAcc "accessed".toList
def modified (i : Info) := i.timeAcc "modified".toList
def created (i : Info) := i.timeAcc "created".toList
def metadataChanged (i : Info) := i.timeAcc "metadata_changed".toList

def strNames : List JVal → Option (List Str)
  | [] => some []
  | .str s :: rest => (strNames rest).map (s :: ·)
  | _ :: _ => none

/-- `permissions`: `Permissions(_perm_names)`; a string is iterated character by character, a
    non-iterable raises `TypeError` -/
def permissions (i : Info) : IRes (Option Permissions) := do
  i.requireNamespace kAccess
  match i.get kAccess "permissions".toList with
  | .null => pure none
  | .list l =>
    match strNames l with
    | some ns => pure (some (Permissions.ofNames ns))
    | none => .error .outside
  | .str s => pure (some (Permissions.ofNames (s.map fun c => [c])))
  | _ => .error .typeError

/-- `user` / `group` / `uid` / `gid` -/
def accessKey (i : Info) (key : Str) : IRes JVal := do
  i.requireNamespace kAccess
  pure (i.get kAccess key)

def user (i : Info) := i.accessKey "user".toList
def group (i : Info) := i.accessKey "group".toList
def uid (i : Info) := i.accessKey "uid".toList
def gid (i : Info) := i.accessKey "gid".toList

/-- `a in b` for strings -/
def isInfix : Str → Str → Bool
  | a, [] => a.isEmpty
  | a, b@(_ :: rest) => startsWith b a || isInfix a rest

/-- `is_writeable(namespace, key)`: `key in self.get(namespace, "_write", ())` -/
def isWriteable (i : Info) (ns key : Str) : IRes Bool :=
  match i.get ns "_write".toList (.list []) with
  | .list l => .ok (l.any fun v => v == .str key)
  | .str s => .ok (isInfix key s)
  | _ => .error .typeError

end Info

/-! ## the raw dictionaries built by the modelled `getinfo`s -/

def basicNS (name : Str) (isDir : Bool) : NS :=
  [("name".toList, .str name), ("is_dir".toList, .bool isDir)]

/-- `_DirEntry.to_info(namespaces)` of `MemoryFS`; the three times are whatever the entry holds
    (`time.time()` floats, or what `setinfo` stored) -/
def memRaw (r : Str × Bool × Nat) (details : Bool) (accessed modified created : JVal := .null) : Raw :=
  (kBasic, basicNS r.1 r.2.1) ::
  (if details then
    [(kDetails, [ ("_write".toList, .list [.str "accessed".toList, .str "modified".toList]),
                  ("type".toList, .int (if r.2.1 then 1 else 2)),
                  ("size".toList, .int r.2.2),
                  ("accessed".toList, accessed),
                  ("modified".toList, modified),
                  ("created".toList, created) ])]
   else [])

/-- the `basic` and `details` namespaces of `ReadZipFS.getinfo` / `ReadTarFS.getinfo`, from what
    `Archive.Details` carries (`size`/`modified` absent when the archive has no member) -/
def archiveRaw (name : Str) (isDir : Bool) (size : Option Nat) (modified : Option JVal) (details : Bool)
    (isRoot : Bool) : Raw :=
  (kBasic, basicNS name isDir) ::
  (if !details then []
   else if isRoot then [(kDetails, [("type".toList, .int 1)])]
   else match size with
     | none => []                           -- implied zip directory: namespace left out
     | some sz =>
       [(kDetails, [("size".toList, .int sz), ("type".toList, .int (if isDir then 1 else 2))] ++
          (match modified with | some t => [("modified".toList, t)] | none => []))])

/-- `basic` has `name` (a string) and `is_dir` (a bool) -/
def hasBasic (raw : Raw) : Bool :=
  match dictGet? kBasic raw with
  | some d =>
    (match dictGet? "name".toList d with | some (.str _) => true | _ => false) &&
    (match dictGet? "is_dir".toList d with | some (.bool _) => true | _ => false)
  | none => false

end Fs.Info
