/-
  InfoLaws — the Lean side of the last sentence of C10: "Raw info always contains the basic
  namespace, holds only JSON-serialisable values in the standard namespaces, and Info accessors
  (times, permissions, type) are the exact conversions of the raw values."

  Over `FsModel.Info` (transcription of fs/permissions.py, fs/time.py, fs/info.py).  The raw-info
  type of the model has JSON values only (`JVal`), so "JSON-serialisable" holds by construction for
  every raw dictionary a modelled `getinfo` builds; what is proved here is that the conversions are
  exact, where they are partial, and where a round trip does not hold.
-/
import FsModel.Info
import FsModel.Mem
import FsModel.Archive
import FsProofs.Lemmas.InfoLemmas

namespace Fs.InfoLaws
open Fs Fs.Path Fs.FtpParse Fs.Info Fs.Info.Permissions Fs.InfoLemmas

/-! ## Permissions ↔ mode -/

/-- `Permissions(mode=m).mode == m` for every 12-bit mode. -/
theorem permissions_mode_roundtrip (m : Nat) (h : m < 4096) : (ofMode m).mode = m := by
  rw [mode_ofMode, Nat.mod_eq_of_lt h]

/-- the constructor only looks at the twelve low bits — for every `m`, not just the table -/
theorem permissions_mode_mask (m : Nat) : ofMode m = ofMode (m % 4096) ∧ (ofMode m).mode = m % 4096 :=
  ⟨(ofMode_mod m).symm, mode_ofMode m⟩

/-- Python ints: negative modes are two's complement (`Permissions(mode=-1)` has every bit) -/
theorem permissions_mode_int (m : Int) : (ofModeInt m).mode = (m % 4096).toNat := by
  unfold ofModeInt
  rw [mode_ofMode]
  have h0 : 0 ≤ m % 4096 := Int.emod_nonneg m (by decide)
  have h1 : m % 4096 < 4096 := Int.emod_lt_of_pos m (by decide)
  omega

example : (ofModeInt (-1)).mode = 0o7777 ∧ (ofMode 0o104755).mode = 0o4755 := by decide +kernel

/-- the bit of a known name is set in the mode of *any* permission set iff the name is in it
    (unknown names contribute nothing) -/
theorem permissions_mode_bits (p : Permissions) (e : Str × Nat) (he : e ∈ linuxPerms) :
    ((p.mode &&& e.2) != 0) = p.contains e.1 := by
  rw [and_mask_ne_zero _ e he, mode_testBit p e he]

/-! ## Permissions ↔ names -/

/-- `Permissions(names=ns).dump()` is `sorted(set(ns))`: the same
    members (no intersection with the known names — unknown names are kept), strictly increasing
    by code point, hence duplicate-free. -/
theorem permissions_names_dump (ns : List Str) :
    (ofNames ns).dump = sortedSet ns ∧ (∀ n, n ∈ (ofNames ns).dump ↔ n ∈ ns) ∧
    (ofNames ns).dump.Pairwise (fun a b => ltStr a b = true) ∧ (ofNames ns).dump.Nodup :=
  ⟨rfl, fun n => mem_sortedSet n ns, sorted_sortedSet ns, sorted_nodup _ (sorted_sortedSet ns)⟩

example : (ofNames ["u_x".toList, "zz".toList, "u_x".toList, "setuid".toList]).dump =
    ["setuid".toList, "u_x".toList, "zz".toList] := by
  repeat rw [String.toList_ofList]
  decide +kernel

/-- `==` between permission objects is equality of the sets -/
theorem permissions_eq_iff (p q : Permissions) :
    p.eq q = true ↔ ∀ n, p.contains n = q.contains n := by
  rw [eq_iff_mem]
  constructor
  · intro h n; rw [Bool.eq_iff_iff, contains_iff, contains_iff]; exact h n
  · intro h n; rw [← contains_iff, ← contains_iff, h n]

/-- names → mode → names keeps exactly the known names -/
theorem permissions_names_mode (p : Permissions) :
    (ofMode p.mode).dump = sortedSet (p.perms.filter fun n => linuxPermsNames.contains n) := by
  apply sortedSet_ext
  intro x
  rw [mem_ofMode_mode]
  simp [List.mem_filter, and_comm]

/-- a set of known names is determined by its mode -/
theorem permissions_known_eq_ofMode (p : Permissions) (h : ∀ n ∈ p.perms, n ∈ linuxPermsNames) :
    (ofMode p.mode).eq p = true := by
  rw [eq_iff_mem]
  intro x
  rw [mem_ofMode_mode]
  exact ⟨fun hx => hx.2, fun hx => ⟨h x hx, hx⟩⟩

/-- `add`, `remove`, `check`, `copy` are the set operations -/
theorem permissions_set_ops (p : Permissions) (ns : List Str) (n : Str) :
    (p.add ns).contains n = (p.contains n || ns.contains n) ∧
    (p.remove ns).contains n = (p.contains n && !ns.contains n) ∧
    (p.check ns = true ↔ ∀ x ∈ ns, p.contains x = true) ∧
    p.copy.eq p = true := by
  refine ⟨?_, ?_, ?_, ?_⟩
  · simp [Permissions.add, Permissions.contains]
  · simp only [Permissions.remove, Permissions.contains]
    rw [Bool.eq_iff_iff]
    simp [List.mem_filter]
  · simp [Permissions.check, List.all_eq_true]
  · simp [Permissions.copy, Permissions.eq]

/-- `create` / `get_mode`: `None` is `0o777`, an int its twelve low bits, anything else `ValueError` -/
theorem permissions_create (m : Int) (ns : List Str) :
    getMode .none = .ok 0o777 ∧ getMode (.mode m) = .ok (m % 4096).toNat ∧
    getMode (.names ns) = .ok (ofNames ns).mode ∧ create .other = .error .valueError := by
  -- `None` is the int `0o777`
  have h : ∀ m : Int, getMode (.mode m) = .ok (m % 4096).toNat := fun m => by
    simp only [getMode, create, Except.map]
    rw [permissions_mode_int]
  exact ⟨h 0o777, h m, rfl, rfl⟩

/-! ## `as_str` and `parse` -/

/-- `Permissions.parse(p.as_str()) == p` holds exactly for the sets
    made of `u_r … o_x` only: no setuid / setguid / sticky, no foreign name. -/
theorem permissions_str_parse (p : Permissions) :
    (Permissions.parse p.asStr).eq p = true ↔ ∀ n ∈ p.perms, n ∈ rwxNames := by
  rw [eq_iff_mem]
  constructor
  · -- `parse` makes names of three characters only
    intro E n hn
    exact ((mem_parse_asStr p n fun s hs => length_of_mem_parse _ s ((E s).2 hs)).1 ((E n).2 hn)).1
  · intro H x
    rw [mem_parse_asStr p x fun s hs => rwxNames_length s (H s hs), contains_iff]
    exact ⟨fun h => h.2, fun h => ⟨H x h, h⟩⟩

/-- the same on modes: the round trip holds for `m < 0o1000` and for no other 12-bit mode -/
theorem permissions_str_parse_mode (m : Nat) (h : m < 4096) :
    (Permissions.parse (ofMode m).asStr).eq (ofMode m) = true ↔ m < 512 := by
  rw [permissions_str_parse]
  constructor
  · -- a set bit above bit 8 names `sticky`, `setguid` or `setuid`
    intro H
    refine Nat.lt_pow_two_of_testBit (n := 9) m fun i hi => ?_
    cases hb : m.testBit i with
    | false => rfl
    | true =>
      have hi12 : i < 12 := Decidable.byContradiction fun h12 => by
        rw [testBit_of_lt_4096 h h12] at hb; cases hb
      obtain ⟨e, he, rfl⟩ := linuxPerms_exists_bit i hi12
      have := (linuxPerms_rwx_iff_bit e he).1 (H e.1 ((mem_ofMode m e.1).2 ⟨e, he, hb, rfl⟩))
      omega
  · intro hm n hn
    obtain ⟨e, he, hb, rfl⟩ := (mem_ofMode m n).1 hn
    apply (linuxPerms_rwx_iff_bit e he).2
    apply Decidable.byContradiction
    intro h9
    have : 2 ^ 9 ≤ m := Nat.le_trans (Nat.pow_le_pow_right (n := 2) (by decide) (Nat.le_of_not_lt h9))
      (Nat.ge_two_pow_of_testBit hb)
    omega

/-- `s S t T` do not survive: `parse` turns the
    execute position into the *names* `u_s`, `g_S`, `o_t`, `o_T`; the special bit and the execute
    bit are both lost (replayed on the real code by the harness). -/
theorem permissions_str_parse_counterexample :
    (ofMode 0o4755).asStr = "rwsr-xr-x".toList ∧
    (Permissions.parse "rwsr-xr-x".toList).dump =
      ["g_r".toList, "g_x".toList, "o_r".toList, "o_x".toList, "u_r".toList, "u_s".toList, "u_w".toList] ∧
    (Permissions.parse "rwsr-xr-x".toList).mode = 0o655 ∧
    (Permissions.parse (ofMode 0o4755).asStr).eq (ofMode 0o4755) = false ∧
    (Permissions.parse (ofMode 0o2644).asStr).dump.contains "g_S".toList = true ∧
    (Permissions.parse (ofMode 0o1777).asStr).dump.contains "o_t".toList = true ∧
    (Permissions.parse (ofMode 0o1776).asStr).dump.contains "o_T".toList = true := by
  repeat rw [String.toList_ofList]
  decide +kernel

/-- what an FTP LIST permission field with special bits becomes (`decode_linux` stores
    `Permissions.parse(perms).dump()`): mode 0o654 instead of 0o5755 for `rwsr-xr-t` -/
theorem list_special_bits_counterexample :
    (Permissions.parse "rwsr-xr-t".toList).dump =
      ["g_r".toList, "g_x".toList, "o_r".toList, "o_t".toList, "u_r".toList, "u_s".toList, "u_w".toList] ∧
    (Permissions.parse "rwsr-xr-t".toList).mode = 0o654 ∧
    (Permissions.parse "rwsr-xr-t".toList).asStr = "rw-r-xr--".toList ∧
    (ofMode 0o5755).asStr = "rwsr-xr-t".toList := by
  repeat rw [String.toList_ofList]
  decide +kernel

/-! ## fs.time -/

/-- Every whole second of years 1–9999 converts to a valid UTC
    datetime with microsecond 0 which converts back to it. -/
theorem epoch_datetime_roundtrip (t : Int) (h1 : minEpoch ≤ t) (h2 : t ≤ maxEpoch) :
    ∃ d, epochToDatetime t = .ok d ∧ d.valid = true ∧ d.micro = 0 ∧ datetimeToEpoch d = t :=
  ⟨dtOfSeconds t 0, epochToDatetime_eq t h1 h2, (epoch_dt_epoch t h1 h2).1, rfl, (epoch_dt_epoch t h1 h2).2⟩

/-- … and every valid datetime with microsecond 0 is the datetime of its epoch -/
theorem datetime_epoch_roundtrip (d : DT) (hv : d.valid = true) (hm : d.micro = 0) :
    epochToDatetime (datetimeToEpoch d) = .ok d := by
  obtain ⟨h1, h2, h⟩ := dt_epoch_dt d hv
  rw [epochToDatetime_eq _ h1 h2, ← hm, h]

/-- outside years 1–9999 the conversion raises -/
theorem epoch_out_of_range (t : Int) (h : t < minEpoch ∨ maxEpoch < t) :
    epochToDatetime t = .error .rangeError := by
  rw [epochToDatetime_def, if_pos h]

/-- fractional epochs: the value is rounded to the nearest microsecond (ties to even); the
    datetime is valid and carries exactly that many microseconds -/
theorem epoch_fraction_exact (num : Int) (den : Nat) (hden : den ≠ 0)
    (h1 : minEpoch ≤ roundHalfEven (num * 1000000) den / 1000000)
    (h2 : roundHalfEven (num * 1000000) den / 1000000 ≤ maxEpoch) :
    ∃ d, epochToDatetimeQ num den = .ok d ∧ d.valid = true ∧
      datetimeToEpoch d * 1000000 + d.micro = roundHalfEven (num * 1000000) den := by
  have hus : (roundHalfEven (num * 1000000) den % 1000000).toNat < 1000000 := by omega
  obtain ⟨hv, he, hm⟩ := epoch_dt_epoch_us _ _ hus h1 h2
  refine ⟨_, ?_, hv, ?_⟩
  · unfold epochToDatetimeQ
    have : ¬ (roundHalfEven (num * 1000000) den / 1000000 < minEpoch ∨
        maxEpoch < roundHalfEven (num * 1000000) den / 1000000) := by omega
    simp only [hden, if_false, this]
  · rw [he, hm]; omega

/-- the rounding used is to nearest, ties to even -/
theorem round_half_even_nearest (n : Int) (d : Nat) (hd : 0 < d) :
    let q := roundHalfEven n d
    2 * (n - q * d) ≥ -(d : Int) ∧ 2 * (n - q * d) ≤ d ∧
      ((2 * (n - q * d) = d ∨ 2 * (n - q * d) = -(d : Int)) → q % 2 = 0) := by
  intro q
  have hdpos : (0 : Int) < d := by exact_mod_cast hd
  have h0 := Int.emod_nonneg n (Int.ne_of_gt hdpos)
  have h1 := Int.emod_lt_of_pos n hdpos
  have h2 := Int.emod_add_mul_ediv n d
  have hq : q = roundHalfEven n d := rfl
  clear_value q
  unfold roundHalfEven at hq
  simp only at hq
  generalize n / (d : Int) = e at *
  generalize n % (d : Int) = r at *
  generalize hX : (d : Int) * e = X at *
  have hmul : ∀ k : Int, (e + k) * d = X + k * d := by intro k; rw [Int.add_mul, Int.mul_comm e, hX]
  have hmul0 : e * (d : Int) = X := by rw [Int.mul_comm, hX]
  split at hq
  · subst hq; rw [hmul0]; omega
  · split at hq
    · subst hq; rw [hmul 1]; omega
    · split at hq
      · subst hq; rw [hmul0]; omega
      · subst hq; rw [hmul 1]; omega

example : epochToDatetime 0 = .ok ⟨1970, 1, 1, 0, 0, 0, 0⟩ ∧
    epochToDatetime 951782400 = .ok ⟨2000, 2, 29, 0, 0, 0, 0⟩ ∧
    epochToDatetime (-1) = .ok ⟨1969, 12, 31, 23, 59, 59, 0⟩ ∧
    epochToDatetimeQ (-3) 2 = .ok ⟨1969, 12, 31, 23, 59, 58, 500000⟩ ∧
    epochToDatetimeQ 5 2000000 = .ok ⟨1970, 1, 1, 0, 0, 0, 2⟩ ∧      -- 2.5 µs → 2 (tie to even)
    epochToDatetime minEpoch = .ok ⟨1, 1, 1, 0, 0, 0, 0⟩ ∧
    epochToDatetime maxEpoch = .ok ⟨9999, 12, 31, 23, 59, 59, 0⟩ ∧
    datetimeToEpoch ⟨2018, 2, 11, 14, 12, 0, 0⟩ = 1518358320 := by decide +kernel

/-! ## Info accessors are the exact conversions of the raw values -/

section
open Fs.Info.Info

/-- `accessed/modified/created/metadata_changed` = the conversion of the
    raw value under `details`: `None` for a raw `None` (or a missing key), the datetime of the
    number otherwise (`bool` counts as `int`), `TypeError` for anything else. -/
theorem time_accessor_exact (i : Info) (key : Str) (h : i.hasNamespace kDetails = true) :
    i.timeAcc key =
      match i.get kDetails key with
      | .null => .ok none
      | v => match v.num? with
        | some (n, d) => (epochToDatetimeQ n d).map some
        | none => .error .typeError := by
  rw [timeAcc, require_of_has h]
  cases i.get kDetails key <;> rfl

/-- the accessor is `None` **iff** the raw value is `None` — in particular not for the epoch itself
    (raw value `0`), which `if t:` instead of `if t is not None:` would turn into `None` -/
theorem time_accessor_none_iff (i : Info) (key : Str) (h : i.hasNamespace kDetails = true) :
    i.timeAcc key = .ok none ↔ i.get kDetails key = .null := by
  rw [time_accessor_exact i key h]
  cases hv : i.get kDetails key with
  | null => simp
  | bool b => simp only [JVal.num?, reduceCtorEq, iff_false]; cases epochToDatetimeQ (if b then 1 else 0) 1 <;> simp [Except.map]
  | int t => simp only [JVal.num?, reduceCtorEq, iff_false]; cases epochToDatetimeQ t 1 <;> simp [Except.map]
  | float n d => simp only [JVal.num?, reduceCtorEq, iff_false]; cases epochToDatetimeQ n d <;> simp [Except.map]
  | str s => simp [JVal.num?]
  | list l => simp [JVal.num?]

/-- a raw whole number of seconds inside years 1–9999 becomes exactly its civil date and time -/
theorem time_accessor_int (i : Info) (key : Str) (t : Int) (h : i.hasNamespace kDetails = true)
    (hv : i.get kDetails key = .int t) (h1 : minEpoch ≤ t) (h2 : t ≤ maxEpoch) :
    i.timeAcc key = .ok (some (dtOfSeconds t 0)) ∧ datetimeToEpoch (dtOfSeconds t 0) = t := by
  rw [time_accessor_exact i key h, hv]
  have := epochToDatetime_eq t h1 h2
  unfold epochToDatetime at this
  refine ⟨?_, (epoch_dt_epoch t h1 h2).2⟩
  simp only [JVal.num?, this, Except.map]

/-- the epoch itself, `None`, a fraction, and a missing key -/
theorem time_accessor_zero :
    let raw (v : JVal) : Info := ⟨[(kBasic, basicNS "f".toList false), (kDetails, [("modified".toList, v)])]⟩
    (raw (.int 0)).modified = .ok (some ⟨1970, 1, 1, 0, 0, 0, 0⟩) ∧
    (raw (.float 0 1)).modified = .ok (some ⟨1970, 1, 1, 0, 0, 0, 0⟩) ∧
    (raw .null).modified = .ok none ∧
    (raw (.float 3 2)).modified = .ok (some ⟨1970, 1, 1, 0, 0, 1, 500000⟩) ∧
    (raw (.int 0)).created = .ok none ∧
    (raw (.str "0".toList)).modified = .error .typeError := by
  repeat rw [String.toList_ofList]
  decide +kernel

/-- `type` = `ResourceType(raw value)`, `unknown` (0) when the key is
    missing; a value that is not one of 0…7 raises `ValueError`. -/
theorem type_accessor_exact (i : Info) (h : i.hasNamespace kDetails = true) :
    i.type = resourceType (i.get kDetails "type".toList (.int 0)) ∧
    (∀ t : Nat, t ≤ 7 → i.get kDetails "type".toList (.int 0) = .int t → i.type = .ok t) ∧
    (∀ t : Int, (t < 0 ∨ 7 < t) → i.get kDetails "type".toList (.int 0) = .int t → i.type = .error .valueError) := by
  have h0 : i.type = resourceType (i.get kDetails "type".toList (.int 0)) := require_of_has h _
  refine ⟨h0, ?_, ?_⟩
  · intro t ht hv
    rw [h0, hv, resourceType_int, if_pos (by omega), Int.toNat_natCast]
  · intro t ht hv
    rw [h0, hv, resourceType_int, if_neg (by omega)]

example : (⟨[(kBasic, basicNS "x".toList false), (kDetails, [("size".toList, .int 3)])]⟩ : Info).type = .ok 0 ∧
    (⟨[(kDetails, [("type".toList, .int 8)])]⟩ : Info).type = .error .valueError ∧
    (⟨[(kDetails, [("type".toList, .bool true)])]⟩ : Info).type = .ok 1 ∧
    (⟨[(kDetails, [("type".toList, .float 4 2)])]⟩ : Info).type = .ok 2 := by
  repeat rw [String.toList_ofList]
  decide +kernel

/-- `permissions` = `Permissions(names)` of the raw list: its
    `dump()` is the sorted set of the raw names, its mode the OR of the known ones; `None` stays
    `None`. -/
theorem permissions_accessor_exact (i : Info) (h : i.hasNamespace kAccess = true) :
    (i.get kAccess "permissions".toList = .null → i.permissions = .ok none) ∧
    (∀ l ns, i.get kAccess "permissions".toList = .list l → strNames l = some ns →
      ∃ p, i.permissions = .ok (some p) ∧ p.dump = sortedSet ns ∧ (∀ n, p.contains n = ns.contains n) ∧
        ∀ e ∈ linuxPerms, ((p.mode &&& e.2) != 0) = ns.contains e.1) := by
  constructor
  · intro hv
    rw [Info.permissions, require_of_has h, hv]; rfl
  · intro l ns hv hs
    refine ⟨ofNames ns, ?_, rfl, fun n => rfl, fun e he => permissions_mode_bits _ e he⟩
    rw [Info.permissions, require_of_has h, hv]; simp only [hs]; rfl

/-- Every accessor that needs a namespace raises `MissingInfoNamespace`
    when it is absent (and the `basic` accessors never raise). -/
theorem missing_namespace (i : Info) :
    (i.hasNamespace kDetails = false →
      i.type = .error .missingNamespace ∧ i.size = .error .missingNamespace ∧
      ∀ key, i.timeAcc key = .error .missingNamespace) ∧
    (i.hasNamespace kAccess = false →
      i.permissions = .error .missingNamespace ∧ ∀ key, i.accessKey key = .error .missingNamespace) ∧
    (i.hasNamespace kLink = false →
      i.target = .error .missingNamespace ∧ i.isLink = .error .missingNamespace) :=
  ⟨fun h => ⟨require_of_not_has h _, require_of_not_has h _, fun _ => require_of_not_has h _⟩,
   fun h => ⟨require_of_not_has h _, fun _ => require_of_not_has h _⟩,
   fun h => ⟨require_of_not_has h _, require_of_not_has h _⟩⟩

/-- `get` returns the default exactly when the namespace or the key is missing; `has_namespace`
    is membership; `copy` is equal to the original -/
theorem get_laws (i : Info) (ns key : Str) (dflt : JVal) :
    (i.hasNamespace ns = false → i.get ns key dflt = dflt) ∧
    (∀ d, dictGet? ns i.raw = some d → dictGet? key d = none → i.get ns key dflt = dflt) ∧
    (∀ d v, dictGet? ns i.raw = some d → dictGet? key d = some v → i.get ns key dflt = v) ∧
    i.copy.raw = i.raw := by
  refine ⟨?_, ?_, ?_, rfl⟩
  · intro h
    simp only [hasNamespace] at h
    cases hd : dictGet? ns i.raw with
    | none => simp [Info.get, hd]
    | some d => rw [hd] at h; cases h
  · intro d h1 h2; simp [Info.get, h1, h2]
  · intro d v h1 h2; simp [Info.get, h1, h2]

end

/-! ## raw infos built by the modelled `getinfo`s carry `basic` -/

/-- what `MemoryFS.getinfo` puts into the raw info: the name is the last component of the
    validated path, a directory has size 0, a file the length of its bytes -/
theorem mem_getinfo_shape (s : Ref.State) (p : Str) (r : Str × Bool × Nat) (h : Mem.getinfo s p = .ok r) :
    ∃ cs, Mem.vpath s p = .ok cs ∧ r.1 = Ref.lastName cs ∧
      ((∃ es, s.root.get cs = some (.dir es) ∧ r.2.1 = true ∧ r.2.2 = 0) ∨
       (∃ b, s.root.get cs = some (.file b) ∧ r.2.1 = false ∧ r.2.2 = b.length)) := by
  unfold Mem.getinfo at h
  cases hv : Mem.vpath s p with
  | err e => rw [hv] at h; cases h
  | ok cs =>
    rw [hv] at h
    simp only at h
    refine ⟨cs, rfl, ?_⟩
    cases hg : Node.get cs s.root with
    | none => rw [hg] at h; cases h
    | some n =>
      rw [hg] at h
      cases n with
      | file b => simp only [Res.ok.injEq] at h; subst h; exact ⟨rfl, Or.inr ⟨b, rfl, rfl, rfl⟩⟩
      | dir es => simp only [Res.ok.injEq] at h; subst h; exact ⟨rfl, Or.inl ⟨es, rfl, rfl, rfl⟩⟩

open Fs.Info.Info in
/-- For every triple `r` of name, is-directory and size — in particular whatever `Mem.getinfo`
    returns; the hypothesis says no more and the proof does not use it — the raw info
    `to_info` builds from it has `basic` with the string `name` and the bool `is_dir`, the
    accessors return exactly those, `is_file` is the negation; with `details`: `size`, `type`
    (1 for a directory, 2 for a file — agreeing with `is_dir`), the three times as stored, and
    only `accessed`/`modified` writable. -/
theorem basic_always_present_mem (s : Ref.State) (p : Str) (r : Str × Bool × Nat) (details : Bool)
    (a m c : JVal) (_h : Mem.getinfo s p = .ok r) :
    let i : Info := ⟨memRaw r details a m c⟩
    hasBasic i.raw = true ∧ i.name = .str r.1 ∧ i.isDir = .bool r.2.1 ∧ i.isFile = !r.2.1 ∧
    i.hasNamespace kDetails = details ∧
    (details = true →
      i.size = .ok (.int r.2.2) ∧ i.type = .ok (if r.2.1 then 1 else 2) ∧
      i.get kDetails "modified".toList = m ∧ i.get kDetails "accessed".toList = a ∧
      i.get kDetails "created".toList = c ∧
      i.isWriteable kDetails "modified".toList = .ok true ∧
      i.isWriteable kDetails "created".toList = .ok false) := by
  obtain ⟨name, isDir, size⟩ := r
  cases details <;> cases isDir <;> refine ⟨rfl, rfl, rfl, rfl, rfl, ?_⟩ <;> intro h <;>
    first | exact ⟨rfl, rfl, rfl, rfl, rfl, rfl, rfl⟩ | cases h

open Fs.Info.Info in
/-- the same for every `n d sz`, in particular the value of the reference `getinfo` (the hypothesis is
    not used) -/
theorem basic_always_present_ref (s : Ref.State) (p : Str) (n : Str) (d : Bool) (sz : Nat)
    (_h : (Ref.step s (.getinfo p)).2 = .ok (.info n d sz)) (details : Bool) :
    let i : Info := ⟨memRaw (n, d, sz) details⟩
    hasBasic i.raw = true ∧ i.name = .str n ∧ i.isDir = .bool d ∧ i.isFile = !d :=
  ⟨rfl, rfl, rfl, rfl⟩

open Fs.Info.Info in
/-- ReadZipFS / ReadTarFS: for every `Details` the archive models
    return — explicit member, implied directory, root — the raw info has `basic`; `details`, when
    present, has a `type` agreeing with `is_dir`. -/
theorem basic_always_present_archive (name : Str) (isDir : Bool) (size : Option Nat)
    (modified : Option JVal) (details isRoot : Bool) :
    let i : Info := ⟨archiveRaw name isDir size modified details isRoot⟩
    hasBasic i.raw = true ∧ i.name = .str name ∧ i.isDir = .bool isDir ∧
    i.type = (if i.hasNamespace kDetails then .ok (if isRoot || isDir then 1 else 2)
              else .error .missingNamespace) ∧
    i.hasNamespace kDetails = (details && (isRoot || size.isSome)) := by
  refine ⟨rfl, rfl, rfl, ?_⟩
  cases details
  · exact ⟨rfl, rfl⟩
  · cases isRoot
    · cases size
      · exact ⟨rfl, rfl⟩
      · cases isDir <;> exact ⟨rfl, rfl⟩
    · exact ⟨rfl, rfl⟩

/-- an instance: the fields of any two `Archive.Details`, with `isRoot` read off them as "empty name,
    directory, no size" (what both `details` return for the root).  The hypotheses about `details` are
    not used: the model has no function from a `Details` to a raw info, the pairing is made here. -/
theorem basic_always_present_zip_tar (z : Archive.ZipFS) (t : Archive.TarFS) (p : Str) (dz dt : Archive.Details)
    (_hz : z.details p = .ok dz) (_ht : t.details p = .ok dt) (details : Bool) :
    hasBasic (archiveRaw dz.name dz.isDir dz.size (dz.modified.map .int) details (dz.name == [] && dz.isDir && dz.size.isNone)) = true ∧
    hasBasic (archiveRaw dt.name dt.isDir dt.size (dt.modified.map .int) details (dt.name == [] && dt.isDir && dt.size.isNone)) = true :=
  ⟨(basic_always_present_archive _ _ _ _ _ _).1, (basic_always_present_archive _ _ _ _ _ _).1⟩

/-! ## suffix / suffixes / stem -/

/-- What the code guarantees for every name:
    * `suffix` is the last element of `suffixes` (or both are empty);
    * `stem + "".join(suffixes) == name` **iff** the name is not a dot-file with a second dot
      (for `.a.b` the stem is the whole name *and* the suffixes are `['.a', '.b']`);
    * when there is exactly one suffix, `stem + suffix == name`. -/
theorem suffix_stem_laws (name : Str) :
    suffixOf name = ((suffixesOf name).getLast?).getD [] ∧
    (stemOf name ++ (suffixesOf name).flatten = name ↔ ¬ (dotStart name = true ∧ 2 ≤ name.count '.')) ∧
    (∀ s, suffixesOf name = [s] → stemOf name ++ suffixOf name = name) := by
  refine ⟨suffix_last name, stem_suffixes_iff name, ?_⟩
  intro s hs
  have h1 := suffix_last name
  rw [hs] at h1
  simp only [List.getLast?_singleton, Option.getD_some] at h1
  by_cases hb : dotStart name = true ∧ 2 ≤ name.count '.'
  · -- a dot-file with two dots has at least two suffixes
    exfalso
    obtain ⟨hd, hc⟩ := hb
    have hne : ¬ (dotStart name && List.count '.' name == 1) = true := by
      simp only [hd, Bool.true_and, beq_iff_eq]; omega
    have hlen := congrArg List.length hs
    simp only [suffixesOf, hne, if_false, Bool.false_eq_true, List.length_map, List.length_drop, List.length_singleton] at hlen
    rw [PathLemmas.length_splitOn] at hlen
    omega
  · have h2 := (stem_suffixes_iff name).2 hb
    rw [hs] at h2
    simpa [h1] using h2

/-- `stem + suffix` is *not* the name when there are several suffixes, and the dot-file case -/
theorem suffix_stem_counterexample :
    stemOf "foo.tar.gz".toList ++ suffixOf "foo.tar.gz".toList = "foo.gz".toList ∧
    suffixesOf "foo.tar.gz".toList = [".tar".toList, ".gz".toList] ∧
    stemOf ".a.b".toList = ".a.b".toList ∧ suffixesOf ".a.b".toList = [".a".toList, ".b".toList] ∧
    stemOf ".a.b".toList ++ (suffixesOf ".a.b".toList).flatten ≠ ".a.b".toList ∧
    suffixOf ".bashrc".toList = [] ∧ suffixesOf ".bashrc".toList = [] ∧ stemOf ".bashrc".toList = ".bashrc".toList ∧
    suffixOf "a.".toList = ".".toList := by
  repeat rw [String.toList_ofList]
  decide +kernel

end Fs.InfoLaws
