/-
  ToolsGenEq — `copy_file_data` regenerated from `$VERIF_REPO/fs/tools.py` on every run
  (`FsModel/Generated/ToolsGen.lean`, written by `harness/extract/puregen.py`) against the hand model
  `File.copyFileData` (FsModel/File.lean) that C02's `copy_file_data_exact` is stated over.
  The source file is the abstract `File.Reader` (remaining data + short-read oracle), the destination the bytes
  written so far; the generated function returns both.  `for chunk in iter(lambda: read(n) or None, None)` is a
  `pyWhile` whose fuel hint (`len(remaining data) + 1`) is shown to suffice.
-/
import FsModel.Generated.ToolsGen
import FsProofs.Lemmas.ToolsGenLemmas

namespace Fs.ToolsGenEq
open Fs Fs.PyStr Fs.File Fs.CopyLemmas Fs.ToolsGenLemmas

theorem coverage : ToolsGen.translated = ["copy_file_data"] := by decide +kernel

theorem nothing_refused : ToolsGen.refused = [] := by decide +kernel

/-- the generated `copy_file_data` terminates within its fuel hint, never raises, and appends exactly the
reader's remaining data to what the writer holds — for every chunk size (None / 0 = 1 MiB) and every
short-read oracle -/
theorem copy_file_data_eq (r : Reader) (out : Bytes) (chunk : Option Int) :
    ∃ r', ToolsGen.copy_file_data r out chunk = .ok (r', out ++ r.data) := by
  simp only [ToolsGen.copy_file_data, pyOrOptInt_eq]
  generalize hW : pyWhile _ _ _ = w
  have key : ∃ r', w = .done (r', out ++ r.data) := by
    rw [← hW]
    refine pyWhile_cstep (effChunk chunk) (CopyLemmas.effChunk_ne_zero chunk) _ ?_ _ r out (by omega)
    intro s
    simp only [cstep]
    cases ((s.1.read (effChunk chunk)).1).isEmpty <;> rfl
  obtain ⟨r', rfl⟩ := key
  exact ⟨r', rfl⟩

/-- against the hand model: what ends up in the destination is `File.copyFileData` -/
theorem copy_file_data_eq_hand (chunk : Option Int) (data : Bytes) (shortReads : List Nat) :
    ∃ r', ToolsGen.copy_file_data ⟨data, shortReads⟩ [] chunk = .ok (r', File.copyFileData chunk data shortReads) := by
  obtain ⟨r', h⟩ := copy_file_data_eq ⟨data, shortReads⟩ [] chunk
  refine ⟨r', ?_⟩
  rw [h, copyFileData, copyLoop_exact (effChunk chunk) (CopyLemmas.effChunk_ne_zero chunk) _ _ _ (by simp)]

end Fs.ToolsGenEq
