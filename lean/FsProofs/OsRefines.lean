/-
  OSFS, as coded (FsModel.Os = transcription of fs/osfs.py + the fs/base.py defaults it inherits,
  over the POSIX model FsModel.Posix, with every errno translated through the GENERATED table
  FsModel/Generated/ErrnoTable.lean extracted from fs/error_tools.py), implements the reference
  semantics (FsModel.Ref) and reports truthful error classes (FsModel.RefAdm) — part of C01 and C06.

  What "for every errno the POSIX model can return" covers is the scope of FsModel/Posix.lean: one
  device, no symbolic links, every permission granted (ENOENT, ENOTDIR, EEXIST, EISDIR, ENOTEMPTY,
  EINVAL); EACCES/EPERM/ENOSPC/EXDEV/… are outside.
-/
import FsProofs.Lemmas.OsLemmas
import FsProofs.MemRefines

namespace Fs.OsRefines
open Fs Fs.Ref Fs.Posix Fs.MemLemmas Fs.OsLemmas

/-! ### the excluded class -/

/-- the calls in which OSFS is known to deviate from the contract: `movedir` into a proper ancestor
of the source — base-class `move_dir`, shared with MemoryFS: exactly `MemRefines.knownDeviation`.
(`openbin` is not among them because `Mode.validate_bin` accepts no mode string that `io.open`
rejects: `os_openbin_multimode_repaired`.) -/
def knownDeviation (op : Op) : Prop := MemRefines.knownDeviation op

theorem os_one (s : State) (op : Op) (p : Str) (cs : List Name) (hc : s.closed = false)
    (hd : s.root.isDir = true) (hwf : s.root.wf = true) (hp : op.paths = [p])
    (hr : QueryLemmas.refusal validate op = none) (hv : validate p = .ok cs) :
    Agree (adm1 s.root cs op) s (Os.step s op) (step1 s cs op) := by
  cases op with
  | move | copy | movedir | copydir | close => cases hp
  | makedirs _ r =>
    cases hp
    rw [show Os.step s (.makedirs p r) = Mem.step s (.makedirs p r) from
      os_makedirs_eq_mem s p cs hc hv hd r]
    exact mem_makedirs s p cs hc hv hd r
  | listdir | isempty | removedir | removetree | makedir => exact os_dirWrapped s p cs hc hv hd _ trivial hp
  | remove => cases hp; exact Or.inl (os_remove s p cs hc hv hd)
  | _ =>
    rw [step_eq_mem s _ ?_]
    · exact MemRefines.mem_one s _ p cs hc hd hwf hp hr hv
    · trivial

/-- two-path operations, valid paths -/
theorem os_two (s : State) (op : Op) (p q : Str) (a b : List Name) (hc : s.closed = false)
    (hd : s.root.isDir = true) (hwf : s.root.wf = true) (hp : op.paths = [p, q])
    (hk : ¬ knownDeviation op) (hva : validate p = .ok a) (hvb : validate q = .ok b) :
    Agree (adm2 s.root a b op) s (Os.step s op) (step2 s a b op) := by
  cases op with
  | move _ _ o => cases hp; exact os_move s p q a b hc hva hvb hd hwf o
  | copy _ _ o => cases hp; exact os_copy s p q a b hc hva hvb hd o
  | movedir _ _ c =>
    cases hp
    exact os_movedir s p q a b hc hva hvb hd hwf c fun h => hk ⟨a, b, hva, hvb, h.1, h.2⟩
  | copydir _ _ c =>
    cases hp
    rw [show Os.step s (.copydir p q c) = Mem.step s (.copydir p q c) from
      os_copydir_eq_mem s p q a b hc hva hvb hd c]
    exact Or.inl (mem_copydir s p q a b hc hva hvb hd hwf c)
  | _ => cases hp

/-! ### the refinement -/

/-- Refinement, one call: on an open filesystem, for every operation outside the known
deviations whose reference outcome is not the loose mid-way failure, OSFS (over the POSIX model,
through the generated errno table) gives the same verdict; on success the same value and the
same tree — exactly, in the model's insertion order, hence a fortiori up to the order of entries,
which is all the correspondence compares since the kernel's listing order is its own; on failure
an error class in `adm` (truthful) and an unchanged state. -/
theorem os_refines_ref (s : State) (op : Op) (hc : s.closed = false)
    (hd : s.root.isDir = true) (hwf : s.root.wf = true) (hk : ¬ knownDeviation op)
    (hl : (Ref.step s op).2 ≠ .err .OperationFailed) :
    ((Os.step s op).2.isOk = (Ref.step s op).2.isOk) ∧
    ((Ref.step s op).2.isOk = true → Os.step s op = Ref.step s op) ∧
    (∀ e, (Os.step s op).2 = .err e → e ∈ adm s op ∧ (Os.step s op).1 = s) :=
  MemRefines.refines_op s op _ hc hd hl (fun h => h ▸ rfl) (fun e h => os_step_refused s op e (vpath_open_fun hc ▸ h))
    (fun p cs hp hr hv => os_one s op p cs hc hd hwf hp hr hv)
    (fun p q a b hp hva hvb => os_two s op p q a b hc hd hwf hp hk hva hvb)

/-- a call that succeeds in the reference and is outside the known deviations has the same outcome
on OSFS -/
theorem os_refines_ref_ok_steps (s : State) (op : Op) (hc : s.closed = false)
    (hd : s.root.isDir = true) (hwf : s.root.wf = true) (v : Val)
    (hk : ¬ knownDeviation op) (hok : (Ref.step s op).2 = .ok v) :
    Os.step s op = Ref.step s op :=
  (os_refines_ref s op hc hd hwf hk (by rw [hok]; exact fun h => by cases h)).2.1
    (by rw [hok]; rfl)

/-- C06 for OSFS: a failing call reports a class whose documented condition holds, and changes
nothing (third conjunct of the refinement, on its own) -/
theorem os_failure_truthful_and_harmless (s : State) (op : Op) (e : Err) (hc : s.closed = false)
    (hd : s.root.isDir = true) (hwf : s.root.wf = true) (hk : ¬ knownDeviation op)
    (hl : (Ref.step s op).2 ≠ .err .OperationFailed) (he : (Os.step s op).2 = .err e) :
    e ∈ adm s op ∧ (Os.step s op).1 = s :=
  (os_refines_ref s op hc hd hwf hk hl).2.2 e he

/-- a closed OSFS never changes; every call but `close` fails (a mode error comes first in
`openbin`, as in the code) -/
theorem os_closed_is_final (s : State) (op : Op) (hc : s.closed = true) (hop : op ≠ .close) :
    (Os.step s op).1 = s ∧ ∃ e, (Os.step s op).2 = .err e := by
  obtain ⟨e, h⟩ := QueryLemmas.refusal_of_all_err (vp := Mem.vpath s)
    (fun p => ⟨_, by unfold Mem.vpath; rw [hc]; rfl⟩) hop
  rw [os_step_refused s op e h]
  exact ⟨rfl, e, rfl⟩

/-! ### the errno → fs.errors table is truthful, call site by call site -/

/-- a call site: an OSFS method (with the arguments that matter) and the OS primitive in it
whose `OSError` reaches the caller through `convert_os_errors` -/
inductive Site where
  | getinfo | gettype | listdir | scandir
  | makedir (recreate : Bool)
  | openbin (mode : Str)
  | remove | removedir | removetree | setinfo

/-- the API call that reaches the call site -/
def Site.op (p : Str) : Site → Op
  | .getinfo => .getinfo p | .gettype => .gettype p | .listdir => .listdir p | .scandir => .isempty p
  | .makedir r => .makedir p r | .openbin m => .openbin p m | .remove => .remove p
  | .removedir => .removedir p | .removetree => .removetree p | .setinfo => .settimes p

/-- the errno (if any) that the POSIX model returns at the call site for this tree and path *and*
that the method lets travel into the wrapper (`makedir` handles `ENOENT`, and `EEXIST` under
`recreate`, by hand; `openbin`/`removedir` refuse the root before calling the primitive) -/
def Site.errno (t : Node) (cs : List Name) : Site → Option Errno
  | .getinfo | .gettype => (match Posix.stat t cs with | .error e => some e | .ok _ => none)
  | .listdir => (match Posix.listdir t cs with | .error e => some e | .ok _ => none)
  | .scandir => (match Posix.scandir t cs with | .error e => some e | .ok _ => none)
  | .makedir r => (match Posix.mkdir t cs with
      | .error e => if e = .ENOENT then none else if e = .EEXIST && r then none else some e
      | .ok _ => none)
  | .openbin m =>
    if cs = [] then none
    else (match parseBinMode m, ioOpenFlags (platformBin m) with
      | some _, some fl => (match Posix.open_ t cs fl with | .error e => some e | .ok _ => none)
      | _, _ => none)
  | .remove => (match Posix.unlink t cs with | .error e => some e | .ok _ => none)
  | .removedir => if cs = [] then none else (match Posix.rmdir t cs with | .error e => some e | .ok _ => none)
  | .removetree => (match Posix.stat t cs with
      | .error e => some e
      | .ok n => (match Posix.removeContents n with | .error e => some e | .ok _ => none))
  | .setinfo => if Posix.pathExists t cs then (match Posix.utime t cs with | .error e => some e | .ok _ => none) else none

/-- the class the caller sees: through the wrapper the extractor found around that primitive
(`Generated.osfsSites`) and the generated table (`Generated.fileErrors`/`dirErrors`/`defaultClass`) -/
def Site.cls : Site → Errno → Err
  | .getinfo, e => Os.conv "getinfo" "os.stat" e
  | .gettype, e => Os.conv "gettype" "os.stat" e
  | .listdir, e => Os.conv "listdir" "os.listdir" e
  | .scandir, e => Os.conv "_scandir" "scandir" e
  | .makedir _, e => Os.conv "makedir" "os.mkdir" e
  | .openbin _, e => Os.conv "openbin" "io.open" e
  | .remove, e => Os.conv "remove" "os.remove" e
  | .removedir, e => Os.conv "removedir" "os.rmdir" e
  | .removetree, e => Os.conv "removetree" "self._remove_contents" e
  | .setinfo, e => Os.conv "setinfo" "os.utime" e

/-- at a call site that fails in the POSIX model the method fails with the translated class and
leaves the state alone -/
theorem site_step (s : State) (site : Site) (p : Str) (cs : List Name) (hc : s.closed = false)
    (hv : validate p = .ok cs) (e : Errno) (h : site.errno s.root cs = some e) :
    Os.step s (site.op p) = (s, .err (site.cls e)) := by
  cases site with
  | getinfo | gettype =>
    cases hst : Posix.stat s.root cs <;> simp only [Site.errno, hst, Option.some.injEq, reduceCtorEq] at h
    subst h
    simp [Site.op, Site.cls, Os.step, Os.getinfo, Os.getinfoC, Os.gettype, Os.gettypeC, Os.vpath,
      vpath_open _ _ hc, hv, hst, Mem.liftRes, fail]
  | listdir =>
    cases hst : Posix.listdir s.root cs <;> simp only [Site.errno, hst, Option.some.injEq, reduceCtorEq] at h
    subst h
    simp [Site.op, Site.cls, Os.step, Os.listdir, Os.vpath, vpath_open _ _ hc, hv, hst, Mem.liftRes, fail]
  | scandir =>
    cases hst : Posix.scandir s.root cs <;> simp only [Site.errno, hst, Option.some.injEq, reduceCtorEq] at h
    subst h
    simp [Site.op, Site.cls, Os.step, Os.isempty, Os.scandir, Os.vpath, vpath_open _ _ hc, hv, hst, Mem.liftRes, fail]
  | remove =>
    cases hst : Posix.unlink s.root cs <;> simp only [Site.errno, hst, Option.some.injEq, reduceCtorEq] at h
    subst h
    simp [Site.op, Site.cls, Os.step, Os.remove, Os.removeC, Os.vpath, vpath_open _ _ hc, hv, hst, fail]
  | makedir r =>
    cases hst : Posix.mkdir s.root cs <;> simp only [Site.errno, hst, reduceCtorEq] at h
    rename_i e'
    by_cases h1 : e' = .ENOENT
    · simp [h1] at h
    · by_cases h2 : (e' = .EEXIST && r) = true
      · simp [h1, h2] at h
      · simp [h1, h2] at h
        subst h
        simp [Site.op, Site.cls, Os.step, Os.makedir, Os.makedirC, Os.vpath, vpath_open _ _ hc, hv, hst, h1, h2, fail]
  | openbin m =>
    have hne : cs ≠ [] := by rintro rfl; simp [Site.errno] at h
    simp only [Site.errno, hne, if_false] at h
    cases hm : parseBinMode m with
    | none => simp [hm] at h
    | some md =>
      cases hf : ioOpenFlags (platformBin m) with
      | none => simp [hm, hf] at h
      | some fl =>
        cases hst : Posix.open_ s.root cs fl <;> simp only [hm, hf, hst, Option.some.injEq, reduceCtorEq] at h
        subst h
        simp [Site.op, Site.cls, Os.step, Os.openbin, Os.openC, Os.vpath, vpath_open _ _ hc, hv, hm, hf, hst, hne, fail]
  | removedir =>
    have hne : cs ≠ [] := by rintro rfl; simp [Site.errno] at h
    cases hst : Posix.rmdir s.root cs <;>
      simp only [Site.errno, hne, if_false, hst, Option.some.injEq, reduceCtorEq] at h
    subst h
    simp [Site.op, Site.cls, Os.step, Os.removedir, Os.vpath, vpath_open _ _ hc, hv, hst, hne, fail]
  | removetree =>
    simp only [Site.errno] at h
    cases hst : Posix.stat s.root cs with
    | error e' =>
      simp only [hst, Option.some.injEq] at h; subst h
      simp [Site.op, Site.cls, Os.step, Os.removetree, Os.vpath, vpath_open _ _ hc, hv, hst, Posix.pathIslink, fail]
    | ok n =>
      cases hrc : Posix.removeContents n <;> simp only [hst, hrc, Option.some.injEq, reduceCtorEq] at h
      subst h
      simp [Site.op, Site.cls, Os.step, Os.removetree, Os.vpath, vpath_open _ _ hc, hv, hst, hrc, Posix.pathIslink, fail]
  | setinfo =>
    -- `utime` only fails where `os.path.exists` has already said no
    simp only [Site.errno, Posix.pathExists, Posix.utime] at h
    cases hst : Posix.stat s.root cs <;> simp [hst] at h

theorem table_truthful_of_agree (s : State) (site : Site) (p : Str) (cs : List Name) (e : Errno)
    (hc : s.closed = false) (hd : s.root.isDir = true)
    (hv : validate p = .ok cs) (h : site.errno s.root cs = some e)
    (hadm : adm s (site.op p) = adm1 s.root cs (site.op p))
    (hag : Agree (adm1 s.root cs (site.op p)) s (Os.step s (site.op p)) (step1 s cs (site.op p))) :
    site.cls e ∈ adm s (site.op p) := by
  have hstep := site_step s site p cs hc hv e h
  rw [hadm]
  rcases hag with heq | ⟨x, x', hm, hr, hx⟩
  · rw [hstep] at heq
    exact QueryLemmas.step1_truthful s cs _ _ hd (by rw [← heq])
  · rw [hstep] at hm
    simp only [Prod.mk.injEq, Res.err.injEq, true_and] at hm
    rw [hm]; exact hx

theorem table_truthful_one (s : State) (site : Site) (p : Str) (cs : List Name) (e : Errno)
    (hc : s.closed = false) (hd : s.root.isDir = true) (hwf : s.root.wf = true)
    (hv : validate p = .ok cs) (h : site.errno s.root cs = some e)
    (hr : QueryLemmas.refusal validate (site.op p) = none) :
    site.cls e ∈ adm s (site.op p) := by
  have hop : (site.op p).paths = [p] := by cases site <;> rfl
  exact table_truthful_of_agree s site p cs e hc hd hv h (QueryLemmas.adm_admitted hc hop hv)
    (os_one s _ p cs hc hd hwf hop hr hv)

/-- The errno table is truthful: for each of the ten call sites of `Site` and every errno the POSIX model can
return there (for every tree and every valid path), the class chosen through the generated table is
one whose documented condition holds in the pre-state (`Ref.adm`).  The table and the site list are
GENERATED from /repo: swapping or dropping an entry the model can exercise, changing the `directory=` flag
or removing the wrapper of a site whose `Site.range` is not empty makes this theorem (or `OsLemmas.tbl` under
it) fail.  Not covered, because no errno of the POSIX model reaches them: `os.utime` in `setinfo` (a site with
empty range) and, inside `removetree`, `os.remove` (no symbolic links) and `os.rmdir` (of the directory just
emptied), which are no sites. -/
theorem errno_table_truthful (s : State) (site : Site) (p : Str) (cs : List Name) (e : Errno)
    (hc : s.closed = false) (hd : s.root.isDir = true) (hwf : s.root.wf = true)
    (hv : validate p = .ok cs) (h : site.errno s.root cs = some e) :
    site.cls e ∈ adm s (site.op p) := by
  refine table_truthful_one s site p cs e hc hd hwf hv h ?_
  cases site with
  | openbin m =>
    have hne : cs ≠ [] := by rintro rfl; simp [Site.errno] at h
    cases hm : parseBinMode m with
    | none => simp [Site.errno, hne, hm] at h
    | some md => rw [Site.op, QueryLemmas.refusal_openbin, hm, hv]
  | _ => rw [QueryLemmas.refusal_one (p := p) rfl (by intro q m; simp [Site.op]), hv]

/-- the errnos the POSIX model can hand to the wrapper at each call site (`site_errno_range`) -/
def Site.range : Site → List Errno
  | .getinfo | .gettype | .listdir | .scandir | .removetree => [.ENOENT, .ENOTDIR]
  | .makedir _ => [.ENOTDIR, .EEXIST]
  | .openbin _ => [.ENOENT, .ENOTDIR, .EEXIST, .EISDIR]
  | .remove => [.ENOENT, .ENOTDIR, .EISDIR]
  | .removedir => [.ENOENT, .ENOTDIR, .ENOTEMPTY]
  | .setinfo => []

theorem stat_error_range (t : Node) (cs : List Name) (e : Errno) (h : Posix.stat t cs = .error e) :
    e ∈ [Errno.ENOENT, .ENOTDIR] := by
  rw [stat_eq] at h
  cases hg : t.get cs with
  | some n => rw [hg] at h; cases h
  | none =>
    rw [hg] at h
    cases h
    cases blockedByFile t [] cs <;> decide

/-- no other errno reaches a wrapper: `Site.range` is exhaustive for the POSIX model -/
theorem site_errno_range (site : Site) (t : Node) (cs : List Name) (e : Errno)
    (h : site.errno t cs = some e) : e ∈ site.range := by
  -- the two errnos of path resolution head every range they occur in
  have hstat : ∀ {cs e} (l : List Errno), Posix.stat t cs = .error e → e ∈ [Errno.ENOENT, .ENOTDIR] ++ l :=
    fun l hst => List.mem_append_left l (stat_error_range t _ _ hst)
  cases site with
  | getinfo | gettype =>
    cases hst : Posix.stat t cs <;> simp only [Site.errno, hst, Option.some.injEq, reduceCtorEq] at h
    exact h ▸ hstat [] hst
  | listdir | scandir | remove =>
    simp only [Site.errno, Posix.listdir, Posix.scandir, Posix.unlink] at h
    cases hst : Posix.stat t cs with
    | error e' => simp only [hst, Option.some.injEq] at h; exact h ▸ hstat _ hst
    | ok n => cases n <;> simp only [hst, Option.some.injEq, reduceCtorEq] at h; exact h ▸ by decide
  | removetree =>
    simp only [Site.errno] at h
    cases hst : Posix.stat t cs with
    | error e' => simp only [hst, Option.some.injEq] at h; exact h ▸ hstat [] hst
    | ok n =>
      cases n with
      | file b => simp only [hst, Posix.removeContents, Option.some.injEq] at h; exact h ▸ by decide
      | dir es => simp [hst, removeContents_ok (.dir es) rfl] at h
  | removedir =>
    have hne : cs ≠ [] := by rintro rfl; simp [Site.errno] at h
    simp only [Site.errno, Posix.rmdir, hne, if_false] at h
    cases hst : Posix.stat t cs with
    | error e' => simp only [hst, Option.some.injEq] at h; exact h ▸ hstat _ hst
    | ok n =>
      cases n with
      | file b => simp only [hst, Option.some.injEq] at h; exact h ▸ by decide
      | dir es => cases hes : es.isEmpty <;> simp [hst, hes] at h; exact h ▸ by decide
  | makedir r =>
    simp only [Site.errno, Posix.mkdir] at h
    by_cases hne : cs = []
    · cases r <;> simp [hne] at h; exact h ▸ by simp [Site.range]
    · simp only [hne, if_false] at h
      cases hst : Posix.stat t cs.dropLast with
      | error e' =>
        rw [hst] at h
        have := stat_error_range t _ _ hst
        simp only [List.mem_cons, List.not_mem_nil, or_false] at this
        rcases this with rfl | rfl <;> simp at h
        exact h ▸ by simp [Site.range]
      | ok n =>
        cases n with
        | file b => simp [hst] at h; exact h ▸ by simp [Site.range]
        | dir es =>
          cases hl : Ents.lookup (cs.getLast?.getD []) es with
          | none => simp [hst, hl] at h
          | some x => cases r <;> simp [hst, hl] at h; exact h ▸ by simp [Site.range]
  | openbin m =>
    have hne : cs ≠ [] := by rintro rfl; simp [Site.errno] at h
    simp only [Site.errno, hne, if_false] at h
    cases hm : parseBinMode m with
    | none => simp [hm] at h
    | some md =>
      cases hf : ioOpenFlags (platformBin m) with
      | none => simp [hm, hf] at h
      | some fl =>
        simp only [hm, hf, Posix.open_, hne, if_false] at h
        cases hst : Posix.stat t cs.dropLast with
        | error e' => simp only [hst, Option.some.injEq] at h; exact h ▸ hstat _ hst
        | ok n =>
          cases n with
          | file b => simp [hst] at h; exact h ▸ by simp [Site.range]
          | dir es =>
            cases hl : Ents.lookup (cs.getLast?.getD []) es with
            | none => cases hcr : fl.creat <;> simp [hst, hl, hcr] at h; exact h ▸ by simp [Site.range]
            | some x =>
              cases hce : (fl.creat && fl.excl) <;> cases x <;> cases htr : fl.trunc <;>
                simp [hst, hl, hce, htr] at h <;> exact h ▸ by simp [Site.range]
  | setinfo =>
    simp only [Site.errno, Posix.utime, Posix.pathExists] at h
    cases hst : Posix.stat t cs <;> simp [hst] at h

/-- The table rows in use: for every call site and every errno of its range, the class the generated
table yields, from the kernel-evaluated facts of `OsLemmas` about the regenerated table and site list;
any change to a row listed here (in `fs/error_tools.py`), to a `directory=` flag, or to a wrapper (in
`fs/osfs.py`) breaks it. -/
theorem errno_table_rows :
    (Site.cls .getinfo .ENOENT, Site.cls .getinfo .ENOTDIR) = (.ResourceNotFound, .ResourceNotFound) ∧
    (Site.cls .gettype .ENOENT, Site.cls .gettype .ENOTDIR) = (.ResourceNotFound, .ResourceNotFound) ∧
    (Site.cls .listdir .ENOENT, Site.cls .listdir .ENOTDIR) = (.ResourceNotFound, .DirectoryExpected) ∧
    (Site.cls .scandir .ENOENT, Site.cls .scandir .ENOTDIR) = (.ResourceNotFound, .DirectoryExpected) ∧
    (Site.cls .removetree .ENOENT, Site.cls .removetree .ENOTDIR) = (.ResourceNotFound, .DirectoryExpected) ∧
    (∀ r, (Site.cls (.makedir r) .ENOTDIR, Site.cls (.makedir r) .EEXIST) = (.DirectoryExpected, .DirectoryExists)) ∧
    (∀ m, (Site.cls (.openbin m) .ENOENT, Site.cls (.openbin m) .ENOTDIR, Site.cls (.openbin m) .EEXIST,
        Site.cls (.openbin m) .EISDIR) = (.ResourceNotFound, .ResourceNotFound, .FileExists, .FileExpected)) ∧
    (Site.cls .remove .ENOENT, Site.cls .remove .ENOTDIR, Site.cls .remove .EISDIR) =
      (.ResourceNotFound, .ResourceNotFound, .FileExpected) ∧
    (Site.cls .removedir .ENOENT, Site.cls .removedir .ENOTDIR, Site.cls .removedir .ENOTEMPTY) =
      (.ResourceNotFound, .DirectoryExpected, .DirectoryNotEmpty) := by
  simp only [Site.cls, conv_of_site tbl.site_getinfo, conv_of_site tbl.site_gettype, conv_of_site tbl.site_listdir,
    conv_of_site tbl.site_scandir, conv_of_site tbl.site_removetree, conv_of_site tbl.site_makedir,
    conv_of_site tbl.site_openbin, conv_of_site tbl.site_remove, conv_of_site tbl.site_removedir,
    tbl.file_ENOENT, tbl.file_ENOTDIR, tbl.file_EEXIST, tbl.file_EISDIR, tbl.dir_ENOENT, tbl.dir_ENOTDIR, tbl.dir_EEXIST, tbl.dir_ENOTEMPTY,
    implies_true, and_self]

/-- the one primitive outside every wrapper (`shutil.copy2` in `OSFS.copy`): an `OSError` there
would reach the caller raw (`os_copy_never_leaks`: it cannot happen after `_check_copy`) -/
theorem copy2_is_unwrapped : ∀ e, Os.conv "copy" "shutil.copy2" e = .Leak :=
  conv_unwrapped tbl.site_copy2

/-! ### satisfiability of the hypotheses, and the rows at work -/

example : ∃ s op, s.closed = false ∧ s.root.isDir = true ∧ s.root.wf = true ∧ ¬ knownDeviation op ∧
    (Ref.step s op).2 ≠ .err .OperationFailed :=
  ⟨State.empty, .makedir "a".toList false, rfl, rfl, rfl, fun h => h, by decide⟩

/-- `listdir("f/g")` below the file `f`: `ENOTDIR`, directory flavour → DirectoryExpected -/
example : Site.errno (.dir [("f".toList, .file [])]) ["f".toList, "g".toList] .listdir = some .ENOTDIR ∧
    Site.cls .listdir .ENOTDIR = .DirectoryExpected :=
  ⟨by decide +kernel, by simp only [Site.cls, conv_of_site tbl.site_listdir, tbl.dir_ENOTDIR]⟩
/-- `getinfo("f/g")` below the file `f`: `ENOTDIR`, file flavour → ResourceNotFound -/
example : Site.errno (.dir [("f".toList, .file [])]) ["f".toList, "g".toList] .getinfo = some .ENOTDIR ∧
    Site.cls .getinfo .ENOTDIR = .ResourceNotFound :=
  ⟨by decide +kernel, by simp only [Site.cls, conv_of_site tbl.site_getinfo, tbl.file_ENOTDIR]⟩
/-- `makedir("d")` on an existing directory: `EEXIST`, directory flavour → DirectoryExists -/
example : Site.errno (.dir [("d".toList, .dir [])]) ["d".toList] (.makedir false) = some .EEXIST ∧
    Site.cls (.makedir false) .EEXIST = .DirectoryExists :=
  ⟨by decide +kernel, by simp only [Site.cls, conv_of_site tbl.site_makedir, tbl.dir_EEXIST]⟩
/-- … swallowed under `recreate=True` -/
example : Site.errno (.dir [("d".toList, .dir [])]) ["d".toList] (.makedir true) = none := by decide +kernel
/-- `openbin("f", "x")` on an existing file: `EEXIST`, file flavour → FileExists -/
example : Site.errno (.dir [("f".toList, .file [])]) ["f".toList] (.openbin "x".toList) = some .EEXIST ∧
    Site.cls (.openbin "x".toList) .EEXIST = .FileExists :=
  ⟨by decide +kernel, by simp only [Site.cls, conv_of_site tbl.site_openbin, tbl.file_EEXIST]⟩
/-- `remove("d")` on a directory: `EISDIR` → FileExpected -/
example : Site.errno (.dir [("d".toList, .dir [])]) ["d".toList] .remove = some .EISDIR ∧
    Site.cls .remove .EISDIR = .FileExpected :=
  ⟨by decide +kernel, by simp only [Site.cls, conv_of_site tbl.site_remove, tbl.file_EISDIR]⟩
/-- `removedir("d")` on a non-empty directory: `ENOTEMPTY` → DirectoryNotEmpty -/
example : Site.errno (.dir [("d".toList, .dir [("f".toList, .file [])])]) ["d".toList] .removedir = some .ENOTEMPTY ∧
    Site.cls .removedir .ENOTEMPTY = .DirectoryNotEmpty :=
  ⟨by decide +kernel, by simp only [Site.cls, conv_of_site tbl.site_removedir, tbl.dir_ENOTEMPTY]⟩

/-! ### deviations: witnesses on the model of the code -/

/-- bytes of the file at a path, if there is one -/
def fileAt (t : Node) (q : List Name) : Option Bytes :=
  match t.get q with
  | some (.file b) => some b
  | _ => none

/-- the `movedir`-into-an-ancestor deviation of the base class is OSFS's too (the same witness as
`MemRefines.mem_movedir_ancestor_counterexample`; replayed on the real OSFS by the correspondence) -/
theorem os_movedir_ancestor_counterexample :
    let t : Node := .dir [("a".toList, .dir [("a".toList, .dir [("x".toList, .file [1])])])]
    let s : State := { root := t, closed := false }
    fileAt (Os.step s (.movedir "a".toList "/".toList false)).1.root ["a".toList, "x".toList] = none ∧
    fileAt (Ref.step s (.movedir "a".toList "/".toList false)).1.root ["a".toList, "x".toList] = some [1] := by
  decide +kernel

/-- Guards /repo's `fix: Mode.validate rejects the mode strings io.open rejects` (without it
`openbin("f", "rw")` raised `io.open`'s `ValueError` on OSFS where the contract truncates the file):
every mode string `Mode.validate_bin` accepts is one `io.open` accepts, and on the witness `"rw"` both
report the documented `ValueError`, which is in `adm`, and leave the file alone. -/
theorem os_openbin_multimode_repaired :
    (∀ (m : Str) (md : Mode), parseBinMode m = some md → (ioOpenFlags (platformBin m)).isSome = true) ∧
    (let t : Node := .dir [("f".toList, .file [1])]
     let s : State := { root := t, closed := false }
     (Os.step s (.openbin "f".toList "rw".toList)).2 = .err .ValueError ∧
     (Ref.step s (.openbin "f".toList "rw".toList)).2 = .err .ValueError ∧
     fileAt (Os.step s (.openbin "f".toList "rw".toList)).1.root ["f".toList] = some [1] ∧
     Err.ValueError ∈ adm s (.openbin "f".toList "rw".toList)) := by
  refine ⟨io_ok_of_parse, by decide +kernel, by decide +kernel, by decide +kernel, by decide +kernel⟩

/-! ### theorems guarding repairs of fs/osfs.py -/

/-- `OSFS.copy` onto an existing directory is rejected with a truthful class and changes nothing
(without `_check_copy`, `shutil.copy2` copies the file *into* the directory) -/
theorem os_copy_onto_directory_rejected (s : State) (sp dp : Str) (o : Bool) (ds : Ents)
    (hc : s.closed = false) (hd : s.root.isDir = true) (hwf : s.root.wf = true)
    (hdst : ∃ b, validate dp = .ok b ∧ s.root.get b = some (.dir ds)) :
    ∃ e, Os.step s (.copy sp dp o) = (s, .err e) ∧ e ∈ adm s (.copy sp dp o) := by
  obtain ⟨b, hvb, hgb⟩ := hdst
  have hfail : (Ref.step s (.copy sp dp o)).2.isOk = false := by
    rw [QueryLemmas.step_two s _ sp dp hc rfl]
    cases hva : validate sp with
    | err e => rfl
    | ok a =>
      simp only [hvb, step2, hgb]
      -- `hgb` has turned the one leaf of `step2` that writes into `fail … FileExpected`: every leaf below is a `fail`
      split
      · rfl
      split
      · rfl
      split
      · rfl
      · rfl
      · split
        · rfl
        · split <;> rfl
  obtain ⟨h1, _, h3⟩ := os_refines_ref s (.copy sp dp o) hc hd hwf (fun h => h) (MultiFsLemmas.not_loose s _ rfl)
  rw [hfail] at h1
  cases hos : Os.step s (.copy sp dp o) with
  | mk s' r =>
    cases r with
    | ok v => rw [hos] at h1; cases h1
    | err e =>
      obtain ⟨he, hs⟩ := h3 e (by rw [hos])
      rw [hos] at hs
      exact ⟨e, by rw [← hs], he⟩

-- `hwf` is not needed here
set_option linter.unusedVariables false in
/-- `shutil.copy2` is the one primitive OSFS calls outside any `convert_os_errors` wrapper; after
`_check_copy` it cannot fail in the POSIX model, so no raw `OSError` (`Leak`) — in particular no
`SameFileError`/`IsADirectoryError` — ever reaches the caller -/
theorem os_copy_never_leaks (s : State) (sp dp : Str) (o : Bool)
    (hc : s.closed = false) (hd : s.root.isDir = true) (hwf : s.root.wf = true) :
    (Os.step s (.copy sp dp o)).2 ≠ .err .Leak := by
  intro hleak
  cases hva : validate sp with
  | err e =>
    rw [os_step_refused s _ e (by rw [QueryLemmas.refusal_two rfl, vpath_open_fun hc, hva])] at hleak
    rcases QueryLemmas.validate_err_cases sp e hva with rfl | rfl <;> simp [fail] at hleak
  | ok a =>
    cases hvb : validate dp with
    | err e =>
      rw [os_step_refused s _ e (by rw [QueryLemmas.refusal_two rfl, vpath_open_fun hc, hva, hvb])] at hleak
      rcases QueryLemmas.validate_err_cases dp e hvb with rfl | rfl <;> simp [fail] at hleak
    | ok b =>
      have hnl : Err.Leak ∉ adm2 s.root a b (.copy sp dp o) := by
        simp only [adm2, admFileArg, admFileTarget, List.mem_append, List.mem_ite_nil_right,
          List.mem_singleton, reduceCtorEq, and_false, or_false, false_or]
        split <;> simp
      rcases os_copy s sp dp a b hc hva hvb hd o with heq | ⟨e, e', hm, _, he⟩
      · rw [heq] at hleak
        rcases QueryLemmas.step2_truthful s a b _ _ hleak with h' | h'
        · exact hnl h'
        · cases h'
      · rw [hm] at hleak
        simp only [Res.err.injEq] at hleak
        subst hleak
        exact hnl he

/-- `OSFS.removetree` never stops half-way in the POSIX model: `_remove_contents` of a directory
always succeeds (so the failures of `removetree` are exactly the argument checks, which change
nothing) -/
theorem posix_remove_contents_total (n : Node) (h : n.isDir = true) :
    Posix.removeContents n = .ok () :=
  removeContents_ok n h

/-- after a successful `mkdir` the `opendir` that ends `OSFS.makedir` finds the new directory
(the simplification made in `Os.makedirC`) -/
theorem posix_stat_after_mkdir (t t' : Node) (cs : List Name) (h : Posix.mkdir t cs = .ok t') :
    Posix.stat t' cs = .ok (.dir []) := by
  unfold Posix.mkdir at h
  split at h
  · cases h
  · rename_i hne
    rw [stat_eq] at h
    cases hp : t.get cs.dropLast with
    | none => rw [hp] at h; simp at h
    | some n =>
      rw [hp] at h
      cases n with
      | file b => simp at h
      | dir es =>
        simp only at h
        split at h
        · cases h
        · simp only [Except.ok.injEq] at h
          subst h
          exact stat_some (TreeLemmas.get_set_same cs t _ es hne hp)

/-- `FS.move` on OSFS is all or nothing: a failing call leaves the tree as it was (where `os.rename`
fails in the POSIX model the copy fall-back fails too, before writing anything) -/
theorem os_move_all_or_nothing (s : State) (sp dp : Str) (o : Bool) (e : Err)
    (hc : s.closed = false) (hd : s.root.isDir = true) (hwf : s.root.wf = true)
    (he : (Os.step s (.move sp dp o)).2 = .err e) : (Os.step s (.move sp dp o)).1 = s :=
  ((os_refines_ref s (.move sp dp o) hc hd hwf (fun h => h) (MultiFsLemmas.not_loose s _ rfl)).2.2 e he).2

end Fs.OsRefines
