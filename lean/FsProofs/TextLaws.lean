/-
  TextLaws — the TEXT half of C02 and the layer selection of `fs.iotools` (extra proof module of C02).

  "text written with a given encoding, errors and newline setting is stored and read back exactly
  as Python's io text layer would with those settings (unchanged under the defaults)"

  Model: FsModel/Text.lean.
  * codecs are external: they enter as the abstract `Codec` with the named hypotheses
    `Codec.Roundtrip` (`dec (enc s) = some s` on encodable strings) and, for `write_append_read_text`
    alone, `Codec.Additive` (pieces encode independently); UTF-8, UTF-16-LE, UTF-32-LE, latin-1 and
    ascii are given concretely and PROVED to satisfy both, so no theorem is vacuous;
  * the byte level under the text layer is C02's matrix over `IoRef` (`store_exact`, `fetch_exact`):
    every statement holds for any byte-level write path (= any buffering / chunking of the encoded
    bytes) and any valid byte-level read path;
  * `make_stream` / `FS.open` / `io.open` are layer-selection functions; the stacks are proved *as
    they are* — where `make_stream` differs from `io.open` is stated as a theorem (buffering is
    not observable in the data once the handle is closed: `buffering_transparent_at_close`).
-/
import FsProofs.Lemmas.TextLemmas
import FsProofs.Lemmas.FileLemmas
import FsProofs.C02

namespace Fs.TextLaws
open Fs Fs.File Fs.Text Fs.TextLemmas

/-! ## the codec hypothesis is satisfiable: concrete codecs -/

/-- strict UTF-8 decoding inverts UTF-8 encoding on every sequence of scalar values -/
theorem utf8_roundtrip : utf8.Roundtrip ∧ ∀ s : Str, utf8Dec (utf8Enc s) = some s :=
  have h := dec_enc_of_char (e := utf8EncChar) rfl (fun _ _ => rfl) rfl utf8_char
  ⟨total_roundtrip h, h⟩

/-- **strict decoding**: the decoder accepts a byte string exactly when it is the (unique, shortest
form) encoding of the string it returns — overlong forms, surrogates, values above U+10FFFF, stray
or missing continuation bytes are all rejected; encoder and decoder are inverse bijections between
strings and well-formed UTF-8 -/
theorem utf8_strict (b : Bytes) (s : Str) : utf8Dec b = some s ↔ b = utf8Enc s :=
  ⟨fun h => (utf8Enc_dec b s h).symm, fun h => h ▸ utf8_roundtrip.2 s⟩

/-- UTF-8 is stateless: pieces encode independently (what lets the text layer encode write by write) -/
theorem utf8_additive : utf8.Additive :=
  total_additive (enc_append_of_char (e := utf8EncChar) rfl fun _ _ => rfl)

theorem utf16le_roundtrip : utf16le.Roundtrip ∧ utf16le.Additive :=
  ⟨total_roundtrip (dec_enc_of_char (e := utf16EncChar) rfl (fun _ _ => rfl) rfl utf16_char),
   total_additive (enc_append_of_char (e := utf16EncChar) rfl fun _ _ => rfl)⟩

theorem utf32le_roundtrip : utf32le.Roundtrip ∧ utf32le.Additive :=
  ⟨total_roundtrip (dec_enc_of_char (e := utf32EncChar) rfl (fun _ _ => rfl) rfl utf32_char),
   total_additive (enc_append_of_char (e := utf32EncChar) rfl fun _ _ => rfl)⟩

/-- the partial codecs: `enc` fails on characters outside the range, and the hypothesis only speaks
about encodable strings -/
theorem latin1_ascii_roundtrip :
    (latin1 .strict).Roundtrip ∧ (ascii .strict).Roundtrip ∧
    (∀ em, (latin1 em).Additive) ∧ (∀ em, (ascii em).Additive) :=
  ⟨fun s b h => byteDec_enc 256 (by omega) s b h, fun s b h => byteDec_enc 128 (by omega) s b h,
   fun em s t a b hs ht => byteEnc_append 256 em s t a b hs ht,
   fun em s t a b hs ht => byteEnc_append 128 em s t a b hs ht⟩

example : utf8Enc ['a', 'é', '日', '😀'] = [0x61, 0xC3, 0xA9, 0xE6, 0x97, 0xA5, 0xF0, 0x9F, 0x98, 0x80] := by decide +kernel
example : utf8Dec [0xC0, 0x80] = none ∧ utf8Dec [0xED, 0xA0, 0x80] = none ∧ utf8Dec [0xF4, 0x90, 0x80, 0x80] = none ∧
    utf8Dec [0xE2, 0x82] = none ∧ utf8Dec [0x80] = none := by decide +kernel
example : (ascii .strict).enc ['é'] = none ∧ (ascii .replace).enc ['a', 'é'] = some [0x61, 0x3F] ∧
    (ascii .ignore).enc ['a', 'é'] = some [0x61] := by decide +kernel

/-- the `errors` handlers are *not* round trips (the hypothesis is about the strict codec) -/
theorem errors_replace_counterexample :
    ¬ (ascii .replace).Roundtrip ∧ ¬ (ascii .ignore).Roundtrip := by
  constructor
  · intro h
    have := h ['é'] [0x3F] (by decide)
    revert this; decide
  · intro h
    have := h ['é'] [] (by decide)
    revert this; decide

/-! ## what is stored, what is read -/

/-- **stored exactly as the io text layer would**: whatever byte-level write path carries the
encoded bytes (one `write`, any chunking by a buffered layer, `writelines`, an upload-style copy),
whatever the file held before, the file holds `enc (translate_write newline s)` — or the write
fails exactly when the codec rejects the text -/
theorem text_store_model (c : Codec) (nl : Newline) (w : WritePath) (existing : Option Bytes) (s : Str) :
    storeText c nl w existing s = c.enc (translateWrite nl s) := by
  unfold storeText
  cases h : c.enc (translateWrite nl s) with
  | none => rfl
  | some b => simp [C02.store_exact]

/-- **read back exactly as the io text layer would**: through any valid byte-level read path
(`read()`, a buffered layer's `read(n)` loop, `readinto` loop, …) `read()` returns
`translate_read newline (dec file)` and iteration its lines -/
theorem text_fetch_model (c : Codec) (nl : Newline) (r : ReadPath) (hr : r.valid = true) (file : Bytes) :
    fetchText c nl r file = (c.dec file).map (translateRead nl) ∧
    fetchLines c nl r file = (c.dec file).map (readLines nl) := by
  unfold fetchText fetchLines
  rw [C02.fetch_exact r hr]
  exact ⟨rfl, rfl⟩

/-- **every (write newline, read newline) pair** — the general formula for all 25: writing `s` with
newline setting `wnl` and reading the file with `rnl` returns
`translate_read rnl (translate_write wnl s)`, for every codec satisfying the hypothesis, every
encodable text, every write path × read path and any previous content -/
theorem newline_write_read_model (c : Codec) (hc : c.Roundtrip) (wnl rnl : Newline)
    (w : WritePath) (r : ReadPath) (hr : r.valid = true) (existing : Option Bytes) (s : Str)
    (henc : (c.enc (translateWrite wnl s)).isSome = true) :
    (storeText c wnl w existing s).bind (fetchText c rnl r) =
      some (translateRead rnl (translateWrite wnl s)) := by
  rw [text_store_model]
  cases h : c.enc (translateWrite wnl s) with
  | none => rw [h] at henc; cases henc
  | some b =>
    rw [Option.bind_some, (text_fetch_model c rnl r hr b).1, hc _ _ h]
    rfl

/-- which of the 25 pairs give the text back unchanged *for every text* -/
def identityPair (wnl rnl : Newline) : Bool :=
  (wnl == .none || wnl == .empty || wnl == .lf) && rnl != .none

/-- the table of the 25 pairs: the composition is the identity on every string exactly for
write ∈ {None, "", "\n"} × read ∈ {"", "\n", "\r", "\r\n"} (12 pairs); the other 13 change some text
(`"\r"` under read `None`, `"\n"` under write `"\r"`/`"\r\n"`) -/
theorem newline_pair_table (wnl rnl : Newline) :
    (∀ s : Str, translateRead rnl (translateWrite wnl s) = s) ↔ identityPair wnl rnl = true := by
  constructor
  · intro h
    have h1 := h ['\r']
    have h2 := h ['\n']
    revert h1 h2
    cases wnl <;> cases rnl <;> decide
  · intro h s
    cases wnl <;> cases rnl <;> first | rfl | exact absurd h (by decide)

/-- the explicit translations, pair by pair (the write side depends only on `wnl`, the read side
only on whether `rnl` is `None`) -/
theorem newline_translation_table (s : Str) :
    translateWrite .none s = s ∧ translateWrite .empty s = s ∧ translateWrite .lf s = s ∧
    translateWrite .cr s = replaceLf ['\r'] s ∧ translateWrite .crlf s = replaceLf ['\r', '\n'] s ∧
    translateRead .none s = univ s ∧ translateRead .empty s = s ∧ translateRead .lf s = s ∧
    translateRead .cr s = s ∧ translateRead .crlf s = s :=
  ⟨rfl, rfl, rfl, rfl, rfl, rfl, rfl, rfl, rfl, rfl⟩

/-- universal-newline reading undoes every write translation on text that contains no `"\r"`
(the portable case: any of the 5 write settings, read with `newline=None`) -/
theorem newline_universal_roundtrip (wnl : Newline) (s : Str) (h : '\r' ∉ s) :
    translateRead .none (translateWrite wnl s) = s := by
  cases wnl <;> simp only [translateRead, translateWrite, writeNl]
  · exact univ_noCR s h
  · exact univ_noCR s h
  · exact univ_noCR s h
  · exact univ_replace _ (.inl rfl) s h
  · exact univ_replace _ (.inr rfl) s h

example : translateRead .none (translateWrite .crlf ['a', '\n', 'b']) = ['a', '\n', 'b'] := by decide +kernel
example : translateWrite .crlf ['a', '\n', 'b'] = ['a', '\r', '\n', 'b'] := by decide +kernel
example : translateRead .none ['a', '\r', '\n', '\r', 'b'] = ['a', '\n', '\n', 'b'] := by decide +kernel

/-- **unchanged under the defaults**: with the library default `newline=""` (`FS.open`,
`readtext`, `writetext`, `appendtext`), write-then-read is the identity on every encodable string —
any codec satisfying the hypothesis, any write path × read path, any previous content -/
theorem text_roundtrip_default (c : Codec) (hc : c.Roundtrip) (w : WritePath) (r : ReadPath)
    (hr : r.valid = true) (existing : Option Bytes) (s : Str) (henc : (c.enc s).isSome = true) :
    (storeText c .empty w existing s).bind (fetchText c .empty r) = some s :=
  newline_write_read_model c hc .empty .empty w r hr existing s henc

/-- the same for UTF-8 (the library default encoding), with no hypothesis left: every string -/
theorem text_roundtrip_default_utf8 (w : WritePath) (r : ReadPath) (hr : r.valid = true)
    (existing : Option Bytes) (s : Str) :
    (storeText utf8 .empty w existing s).bind (fetchText utf8 .empty r) = some s :=
  text_roundtrip_default utf8 utf8_roundtrip.1 w r hr existing s rfl

/-- a `newline=None` default would *not* be the identity (why the library default is `""`):
a lone `"\r"` comes back as `"\n"` -/
theorem text_roundtrip_newline_none_counterexample :
    (storeText utf8 .none .writebytes none ['a', '\r', 'b']).bind (fetchText utf8 .none .readbytes) =
      some ['a', '\n', 'b'] := by decide +kernel

example : (storeText utf8 .empty (.pieces [1, 2]) (some [9]) ['é', '\r', '\n', '日']).bind
    (fetchText utf8 .empty (.readLoop 2)) = some ['é', '\r', '\n', '日'] := by decide +kernel

/-! ## lines -/

/-- iteration / `readlines()` / the `readline()` loop: the lines concatenate to what `read()`
returns, none is empty, and every line but the last ends with a terminator recognised under the
setting -/
theorem lines_join (nl : Newline) (s : Str) :
    (readLines nl s).flatten = translateRead nl s ∧
    (∀ l ∈ readLines nl s, l ≠ []) ∧
    (∀ l ∈ (readLines nl s).dropLast, EndsWith nl l) := by
  unfold readLines
  induction translateRead nl s using linesOf_induct (termLen nl) with
  | nil => exact ⟨rfl, nofun, nofun⟩
  | cons s ls hs ih =>
    obtain ⟨hflat, hne, hend⟩ := ih
    refine ⟨by rw [List.flatten_cons, hflat, firstLine_append], ?_, ?_⟩
    · intro l hl
      rcases List.mem_cons.mp hl with rfl | hl
      · exact firstLine_ne_nil _ s hs
      · exact hne l hl
    · cases ls with
      | nil => nofun
      | cons l2 ls =>
        intro l hl
        rw [List.dropLast_cons_cons] at hl
        rcases List.mem_cons.mp hl with rfl | hl
        · -- a line follows, so the rest is not empty
          refine firstLine_endsWith nl s fun he => hne l2 List.mem_cons_self ?_
          rw [he] at hflat
          exact (List.append_eq_nil_iff.mp (List.flatten_cons ▸ hflat)).1
        · exact hend l hl

/-- `readline()` ends its line with the terminator recognised at the *first* offset where one is
recognised: none is recognised at any earlier offset; without any terminator it returns everything -/
theorem readline_minimal (nl : Newline) (s : Str) :
    let d := translateRead nl s
    (∃ p, p < d.length ∧ termLen nl (d.drop p) ≠ 0 ∧ (∀ k, k < p → termLen nl (d.drop k) = 0) ∧
      (readline nl s).1 = d.take p ++ (d.drop p).take (termLen nl (d.drop p)) ∧
      (readline nl s).2 = (d.drop p).drop (termLen nl (d.drop p))) ∨
    ((∀ k, k < d.length → termLen nl (d.drop k) = 0) ∧ (readline nl s).1 = d ∧ (readline nl s).2 = []) :=
  firstLine_spec (termLen nl) (translateRead nl s)

example : readLines .empty ['a', '\r', '\n', 'b', '\r', 'c', '\n', '\n'] =
    [['a', '\r', '\n'], ['b', '\r'], ['c', '\n'], ['\n']] := by decide +kernel
example : readLines .none ['a', '\r', '\n', 'b', '\r', 'c'] = [['a', '\n'], ['b', '\n'], ['c']] := by decide +kernel
example : readLines .crlf ['\r', '\r', '\n', '\n', 'a'] = [['\r', '\r', '\n'], ['\n', 'a']] := by decide +kernel
example : readLines .cr ['a', '\r', '\n', 'b'] = [['a', '\r'], ['\n', 'b']] := by decide +kernel

/-! ## append and byte-order marks -/

/-- the mark goes out with the first piece a handle encodes, and only when the underlying position
was 0 when the handle was made -/
theorem bom_only_at_start (c : BomCodec) (s : Str) (ss : List Str) (bs : List Bytes)
    (h : (s :: ss).mapM c.body.enc = some bs) :
    c.encSession true (s :: ss) = some (c.bom ++ bs.flatten) ∧
    c.encSession false (s :: ss) = some bs.flatten ∧
    c.encSession true [] = some [] := by
  simp [BomCodec.encSession, h]

/-- **append mode**: the stored bytes are `old ++ enc (translate_write newline new)`; a byte-order
mark is written only if the file was empty (or missing) -/
theorem append_concat_text (c : BomCodec) (nl : Newline) (old : Bytes) (s : Str) :
    appendText c nl (some old) s =
      (c.body.enc (translateWrite nl s)).map (fun b => old ++ (if old = [] then c.bom else []) ++ b) ∧
    appendText c nl none s = (c.body.enc (translateWrite nl s)).map (fun b => c.bom ++ b) := by
  have hnone : ∀ ops, IoRef.run modeA none ops = IoRef.run modeA (some []) ops := fun ops => by
    rw [C02.run_modeA, C02.run_modeA]; rfl
  unfold appendText
  simp only [encSession_one, hnone]
  cases c.body.enc (translateWrite nl s) with
  | none => exact ⟨rfl, rfl⟩
  | some b =>
    simp only [Option.map_some, Option.bind_some, Option.getD_some, Option.getD_none,
      (C02.append_concat _ _ 0 0).1]
    cases old <;> simp

/-- `writetext` then `appendtext` then `readtext` with a mark-writing encoding: exactly one mark is
stored, and the text read back is the concatenation — for any body codec satisfying the codec
hypotheses (round trip, stateless) -/
theorem write_append_read_text (c : BomCodec) (hc : c.body.Roundtrip) (ha : c.body.Additive)
    (existing : Option Bytes) (s1 s2 : Str) (b1 b2 : Bytes)
    (h1 : c.body.enc s1 = some b1) (h2 : c.body.enc s2 = some b2) :
    writeTextBom c .empty existing s1 = some (c.bom ++ b1) ∧
    appendText c .empty (some (c.bom ++ b1)) s2 = some (c.bom ++ b1 ++ b2) ∧
    fetchTextBom c .empty (c.bom ++ b1 ++ b2) = some (s1 ++ s2) := by
  refine ⟨?_, ?_, ?_⟩
  · -- `writetext` is `storeText` through the codec "mark, then body"
    refine (text_store_model ⟨fun s => c.encSession true [s], c.dec⟩ .empty .writebytes existing s1).trans ?_
    simp [translateWrite, writeNl, encSession_one, h1]
  · rw [(append_concat_text c .empty (c.bom ++ b1) s2).1]
    simp only [translateWrite, writeNl, h2, Option.map_some]
    by_cases hb : c.bom ++ b1 = []
    · have hbom : c.bom = [] := (List.append_eq_nil_iff.mp hb).1
      simp [hbom]
    · simp [hb]
  · refine (text_fetch_model ⟨fun s => c.encSession true [s], c.dec⟩ .empty .readbytes rfl _).1.trans ?_
    show (c.dec _).map _ = _
    rw [List.append_assoc, dec_bom, hc _ _ (ha s1 s2 b1 b2 h1 h2)]
    rfl

/-- instantiated for `utf-8-sig` without hypotheses (every pair of strings) -/
theorem write_append_read_utf8sig (existing : Option Bytes) (s1 s2 : Str) :
    ((writeTextBom utf8sig .empty existing s1).bind fun f => appendText utf8sig .empty (some f) s2).bind
      (fetchTextBom utf8sig .empty) = some (s1 ++ s2) := by
  have h := write_append_read_text utf8sig utf8_roundtrip.1 utf8_additive existing s1 s2
    (utf8Enc s1) (utf8Enc s2) rfl rfl
  rw [h.1, Option.bind_some, h.2.1, Option.bind_some, h.2.2]

example : appendText utf16 .crlf (some []) ['a', '\n'] = some [0xFF, 0xFE, 0x61, 0, 0x0D, 0, 0x0A, 0] := by decide +kernel
example : appendText utf16 .crlf (some [1, 2]) ['a', '\n'] = some [1, 2, 0x61, 0, 0x0D, 0, 0x0A, 0] := by decide +kernel
example : writeTextBom utf16 .empty none [] = some [0xFF, 0xFE] := by decide +kernel

/-! ## `RawWrapper` -/

/-- **every `RawWrapper` method is the wrapped file's method**: each call of the wrapper returns what
the same call on the wrapped io file returns and leaves it in the same state — including
`read(-1)` (→ `readall` → `f.read()`), `readline(None)` (→ `f.readline(-1)`), `readinto` with or
without a `readinto` on the wrapped object, `truncate(size)`, iteration, use after close -/
theorem rawwrapper_transparent (hasReadinto : Bool) (fl : Flags) (s : IoState) (op : Op) :
    RawWrapper.step hasReadinto fl s op = IoRef.step fl s op := by
  unfold RawWrapper.step
  -- `limit none` and `limit (some (-1))` both keep everything
  cases op with
  | read n =>
    simp only [RawWrapper.forward]
    split
    · rename_i h; subst h
      rfl
    · rfl
  | readinto k => cases hasReadinto <;> rfl
  | readline n => cases n <;> rfl
  | _ => rfl

/-- whole sessions: the observations through the wrapper are the reference's -/
theorem rawwrapper_run_transparent (hasReadinto : Bool) (mode : Str) (existing : Option Bytes) (ops : List Op) :
    RawWrapper.run hasReadinto mode existing ops = IoRef.run mode existing ops := by
  have key : ∀ (fl : Flags) (s : IoState), RawWrapper.runFrom hasReadinto fl s ops = IoRef.runFrom fl s ops := by
    intro fl
    induction ops with
    | nil => intro s; rfl
    | cons op ops ih =>
      intro s
      simp only [RawWrapper.runFrom, IoRef.runFrom, rawwrapper_transparent, ih]
  unfold RawWrapper.run IoRef.run
  cases Mode.validateBin mode with
  | err e => rfl
  | ok _ =>
    simp only
    cases IoRef.openFile (Mode.flags mode) existing with
    | err e => rfl
    | ok s => simp only [key]

/-- the documented differences are in *which* call reaches the wrapped file, not in the result -/
theorem rawwrapper_forwarding_table :
    RawWrapper.forward true (.read (some (-1))) = .read none ∧
    RawWrapper.forward true (.read none) = .read none ∧
    RawWrapper.forward true (.read (some 3)) = .read (some 3) ∧
    RawWrapper.forward true .readall = .read none ∧
    RawWrapper.forward true (.readinto 4) = .readinto 4 ∧
    RawWrapper.forward false (.readinto 4) = .read (some 4) ∧
    RawWrapper.forward true (.readline none) = .readline (some (-1)) ∧
    RawWrapper.forward true (.truncate none) = .truncate none ∧
    RawWrapper.forward true .iter = .iter := by decide +kernel

/-! ## layer selection -/

/-- which `Buffered*` class `make_stream` picks from the mode string (`none`: no buffered layer) -/
def expectedKind (m : Str) : Option BufKind :=
  if m.contains '+' then some .random
  else if m.contains 'r' then some .reader
  else if m.contains 'x' then none
  else some .writer

/-- **`FS.open`'s stack as it is**, for every mode string `Mode.validate` accepts and every
`buffering`: `RawWrapper`; then — only when `buffering >= 0` and the mode is not a bare `x` —
`BufferedRandom` (`+`) / `BufferedReader` (`r`) / `BufferedWriter` (`w`, `a`) of size
`buffering or 8192`; then — unless `b` — `TextIOWrapper(line_buffering=False)`.  The constructor
checks of the buffered classes never fail (the binary file was opened with the same mode). -/
theorem make_stream_layers (m : Str) (hv : Mode.validate m = .ok ()) (buffering : Int) :
    fsOpen m buffering = .ok (
      Layer.rawWrapper ::
      ((if buffering < 0 then []
        else match expectedKind m with
          | none => []
          | some k => [Layer.buffered k (if buffering = 0 then 8192 else buffering.toNat)]) ++
       (if m.contains 'b' then [] else [Layer.textIO false]))) := by
  obtain ⟨hone, _, _⟩ := FileLemmas.validate_facts m hv
  unfold fsOpen
  rw [hv]
  simp (disch := decide) only [makeStream, capsOfMode, Mode.reading, Mode.writing, Mode.has, expectedKind,
    bufferedOk, defaultBufferSize, FileLemmas.filter_t_contains]
  generalize m.contains '+' = bp
  generalize m.contains 'b' = bb
  by_cases hneg : buffering < 0
  · simp only [hneg, if_true]
    cases bb <;> rfl
  · simp only [hneg, if_false]
    rcases FileLemmas.one_of_four _ _ _ _ hone with ⟨hx, hr, hw, ha⟩ | ⟨hx, hr, hw, ha⟩ | ⟨hx, hr, hw, ha⟩ |
        ⟨hx, hr, hw, ha⟩ <;>
      rw [hx, hr, hw, ha] <;> cases bp <;> cases bb <;> rfl

/-- `make_stream` itself checks nothing: with a binary file that lacks a capability the mode asks
for, the `Buffered*` constructor raises `io.UnsupportedOperation` (only when `buffering >= 0`) -/
theorem make_stream_capability_check (lb : Bool) :
    makeStream ['r', '+'] 0 lb ⟨true, false, true⟩ = .err .UnsupportedOperation ∧
    makeStream ['r', '+'] (-1) lb ⟨true, false, true⟩ = .ok [.rawWrapper, .textIO lb] ∧
    makeStream ['w', 'b'] 4 lb ⟨true, false, true⟩ = .err .UnsupportedOperation ∧
    makeStream ['r', 'b'] 4 lb ⟨false, true, true⟩ = .err .UnsupportedOperation ∧
    makeStream ['r', 'b', '+'] 4 lb ⟨true, true, false⟩ = .err .UnsupportedOperation := by
  cases lb <;> decide

/-- forget which raw class sits at the bottom (`RawWrapper` ↔ `FileIO`) -/
def normLayer : Layer → Layer
  | .fileIO => .rawWrapper
  | l => l

def sameStack (a b : Res (List Layer)) : Prop :=
  match a, b with
  | .ok x, .ok y => x.map normLayer = y.map normLayer
  | _, _ => False

/-- a mode that creates exclusively without `+` -/
def bareX (m : Str) : Bool := m.contains 'x' && !m.contains '+'

/-- **where `make_stream` differs from `io.open`** (same mode, same `buffering`, `st_blksize ≥ 2`).
The stacks coincide — up to the raw class — exactly when `buffering >= 2` and the mode is not a bare
`x`, or `buffering = 0` for a binary bare `x`.  Everywhere else they differ:
`buffering = -1`: `io.open` inserts a buffered layer of `st_blksize`, `make_stream` none;
`buffering = 0`: `io.open` returns the raw file (binary) or raises `ValueError` (text), `make_stream`
inserts a buffered layer of 8192 bytes; `buffering = 1`: `io.open` line-buffers with a buffer of
`st_blksize`, `make_stream` makes a 1-byte buffer; bare `x` modes are never buffered by
`make_stream`. -/
theorem make_stream_layers_vs_io_open (m : Str) (hv : Mode.validate m = .ok ()) (buffering : Int)
    (blk : Nat) (hblk : 2 ≤ blk) :
    sameStack (fsOpen m buffering) (ioOpen m buffering blk) ↔
      ((2 ≤ buffering ∧ bareX m = false) ∨ (buffering = 0 ∧ bareX m = true ∧ m.contains 'b' = true)) := by
  obtain ⟨hone, _, hio⟩ := FileLemmas.validate_facts m hv
  rw [make_stream_layers m hv buffering]
  unfold ioOpen
  rw [hio]
  -- `io.open` buffers every mode, with the class `make_stream` picks whenever it buffers at all
  have hk : (if m.contains '+' then BufKind.random
        else if m.contains 'x' || m.contains 'w' || m.contains 'a' then .writer else .reader) =
        (expectedKind m).getD .writer ∧ (expectedKind m).isNone = bareX m := by
    simp only [expectedKind, bareX]
    rcases FileLemmas.one_of_four _ _ _ _ hone with ⟨hx, hr, hw, ha⟩ | ⟨hx, hr, hw, ha⟩ | ⟨hx, hr, hw, ha⟩ |
        ⟨hx, hr, hw, ha⟩ <;>
      rw [hx, hr, hw, ha] <;> cases m.contains '+' <;> exact ⟨rfl, rfl⟩
  simp only [hk.1, ← hk.2, sameStack]
  generalize expectedKind m = ek
  generalize m.contains 'b' = bb
  have hcases : buffering < 0 ∨ buffering = 0 ∨ buffering = 1 ∨ 2 ≤ buffering := by omega
  rcases hcases with hb | hb | hb | hb
  · obtain ⟨h1, h0, h2, hz⟩ : ¬ buffering = 1 ∧ ¬ buffering = 0 ∧ ¬ 2 ≤ buffering ∧ ¬ blk = 0 := by omega
    cases bb <;> simp [hb, h0, h1, h2, hz, normLayer]
  · subst hb
    cases ek <;> cases bb <;> simp [normLayer]
  · subst hb
    obtain ⟨hz, hz1⟩ : ¬ blk = 0 ∧ ¬ 1 = blk := by omega
    cases ek <;> cases bb <;> simp [normLayer, hz, hz1]
  · obtain ⟨h1, h0, hn, hz⟩ :
        ¬ buffering = 1 ∧ ¬ buffering = 0 ∧ ¬ buffering < 0 ∧ ¬ buffering.toNat = 0 := by omega
    cases ek <;> cases bb <;> simp [normLayer, h0, h1, hn, hz, hb]

/-- four places where `make_stream` and `io.open` differ, for concrete modes -/
theorem make_stream_quirks :
    -- buffering=-1 inserts no Buffered layer (io.open: one of st_blksize)
    fsOpen ['r', 'b'] (-1) = .ok [.rawWrapper] ∧
    ioOpen ['r', 'b'] (-1) 4096 = .ok [.fileIO, .buffered .reader 4096] ∧
    fsOpen ['w'] (-1) = .ok [.rawWrapper, .textIO false] ∧
    -- buffering=0 inserts one of 8192 bytes (io.open: the raw file / ValueError for text)
    fsOpen ['r', 'b'] 0 = .ok [.rawWrapper, .buffered .reader 8192] ∧
    ioOpen ['r', 'b'] 0 4096 = .ok [.fileIO] ∧
    fsOpen ['r'] 0 = .ok [.rawWrapper, .buffered .reader 8192, .textIO false] ∧
    ioOpen ['r'] 0 4096 = .err .ValueError ∧
    -- buffering=1: a 1-byte buffer, no line buffering (io.open: st_blksize, line buffering)
    fsOpen ['w'] 1 = .ok [.rawWrapper, .buffered .writer 1, .textIO false] ∧
    ioOpen ['w'] 1 4096 = .ok [.fileIO, .buffered .writer 4096, .textIO true] ∧
    -- x modes are never buffered (io.open: BufferedWriter)
    fsOpen ['x', 'b'] 8192 = .ok [.rawWrapper] ∧
    ioOpen ['x', 'b'] 8192 4096 = .ok [.fileIO, .buffered .writer 8192] ∧
    fsOpen ['x', '+'] 8192 = .ok [.rawWrapper, .buffered .random 8192, .textIO false] := by decide +kernel

/-! ## buffering is not observable in the data -/

/-- **buffering is transparent at close** — for every call sequence (reads, writes, seeks,
truncates, iteration, use after close, …) and every flush policy of the buffered layer: each call
returns what it returns on the unbuffered file, and once the handle is closed (which flushes) the
file holds the same bytes.  (Positions reported *between* a write and its flush are not claimed:
Python's buffered `tell()` in append mode is known to differ from the raw one there.) -/
theorem buffering_transparent_at_close (fl : Flags) (s : IoState) (ops : List (Op × Bool)) :
    Buffered.runFrom fl ⟨s, []⟩ ops =
      (((IoRef.runFrom fl s (ops.map Prod.fst)).1.map Prod.fst), (IoRef.runFrom fl s (ops.map Prod.fst)).2) := by
  have key : ∀ (b : BufState), Buffered.runFrom fl b ops =
      (((IoRef.runFrom fl (Buffered.flush fl b) (ops.map Prod.fst)).1.map Prod.fst),
       (IoRef.runFrom fl (Buffered.flush fl b) (ops.map Prod.fst)).2) := by
    induction ops with
    | nil => intro b; rfl
    | cons of ops ih =>
      intro b
      obtain ⟨op, f⟩ := of
      have hstep : (Buffered.step fl f b op).2 = (IoRef.step fl (Buffered.flush fl b) op).2 ∧
          Buffered.flush fl (Buffered.step fl f b op).1 = (IoRef.step fl (Buffered.flush fl b) op).1 := by
        cases op with
        | write d =>
          have hc : (Buffered.flush fl b).closed = b.raw.closed := FileLemmas.foldl_write1_closed fl _ _
          simp only [Buffered.step, FileLemmas.step_write, hc]
          by_cases h1 : b.raw.closed = true
          · simp [h1]
          · by_cases h2 : fl.writing = true
            · cases f <;> simp [h1, h2, Buffered.flush, List.foldl_append]
            · simp [h1, h2]
        | _ => simp [Buffered.step, Buffered.flush]
      simp only [Buffered.runFrom, List.map_cons, IoRef.runFrom, ih, hstep.1, hstep.2]
  exact key ⟨s, []⟩

/-- the text layer is one more such buffer: however the encoded bytes are cut into raw writes,
the same file results -/
theorem text_buffering_invisible (c : Codec) (nl : Newline) (w1 w2 : WritePath) (existing : Option Bytes) (s : Str) :
    storeText c nl w1 existing s = storeText c nl w2 existing s := by
  rw [text_store_model, text_store_model]

example : Buffered.runFrom (Mode.flags ['w', '+', 'b']) ⟨⟨[], 0, false⟩, []⟩
    [(.write [1, 2], false), (.write [3], false), (.seek 0 0, false), (.read none, false)] =
    ([.nat 2, .nat 1, .nat 0, .bytes [1, 2, 3]], [1, 2, 3]) := by decide +kernel

end Fs.TextLaws
