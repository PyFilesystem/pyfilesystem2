/-
  C11 — equivalent spellings of a path are interchangeable everywhere (reference semantics).
-/
import FsModel.Ref
import FsProofs.Lemmas.QueryLemmas
import FsProofs.Lemmas.PathLemmas

namespace Fs.C11
open Fs Fs.Ref Fs.Path Fs.QueryLemmas

/-- two spellings are equivalent when they normalise to the same absolute path -/
def Equiv (p p' : Str) : Prop :=
  ∃ q q', normpath p = .ok q ∧ normpath p' = .ok q' ∧ abspath q = abspath q'

/-- replace every path argument of an operation -/
def mapPaths (f : Str → Str) : Op → Op
  | .exists_ p => .exists_ (f p) | .isdir p => .isdir (f p) | .isfile p => .isfile (f p)
  | .listdir p => .listdir (f p) | .getsize p => .getsize (f p) | .gettype p => .gettype (f p)
  | .isempty p => .isempty (f p) | .getinfo p => .getinfo (f p) | .readbytes p => .readbytes (f p)
  | .makedir p r => .makedir (f p) r | .makedirs p r => .makedirs (f p) r
  | .writebytes p d => .writebytes (f p) d | .appendbytes p d => .appendbytes (f p) d
  | .create p w => .create (f p) w | .touch p => .touch (f p) | .settimes p => .settimes (f p)
  | .openbin p m => .openbin (f p) m
  | .remove p => .remove (f p) | .removedir p => .removedir (f p) | .removetree p => .removetree (f p)
  | .move s d o => .move (f s) (f d) o | .copy s d o => .copy (f s) (f d) o
  | .movedir s d c => .movedir (f s) (f d) c | .copydir s d c => .copydir (f s) (f d) c
  | .close => .close

/- Equivalent spellings need not validate alike: `validatepath` rejects a NUL character anywhere in the
*raw* string, before normalisation, but a component holding the NUL can be cancelled by a following
`..`.  For `p = "\x00/.."`, `p' = ""` both normalise to `""` (absolute path `/`), yet
`validate p = InvalidCharsInPath` and `validate p' = ok []`.  The hypothesis `h0` of `equiv_validate`
excludes exactly this class (one spelling contains NUL, the other does not). -/
theorem equiv_validate_counterexample :
    ∃ p p' : Str, Equiv p p' ∧ validate p ≠ validate p' :=
  ⟨['\x00', '/', '.', '.'], [], ⟨[], [], by decide +kernel, by decide +kernel, by decide +kernel⟩, by decide +kernel⟩

/-- equivalent spellings validate to the same component path -/
theorem equiv_validate (p p' : Str) (h : Equiv p p') (h0 : '\x00' ∈ p ↔ '\x00' ∈ p') :
    validate p = validate p' := by
  obtain ⟨q, q', hq, hq', ha⟩ := h
  obtain ⟨cs, _, hr, hr'⟩ := resolve_of_norm_abs p p' q q' hq hq' ha
  unfold validate
  rw [ConfineLemmas.iteratepath_of_resolve p cs hr, ConfineLemmas.iteratepath_of_resolve p' cs hr']
  by_cases hp : '\x00' ∈ p
  · have hp' := h0.1 hp
    simp [hp, hp']
  · have hp' : '\x00' ∉ p' := fun h => hp (h0.2 h)
    simp [hp, hp']

/- The same for whole operations: on `State.empty`, `exists "\x00/.."` raises `InvalidCharsInPath`
while `exists ""` returns `true`; `spelling_invariant` carries the side condition `h0` as well. -/
theorem spelling_invariant_counterexample :
    ∃ (s : State) (op : Op) (f : Str → Str), (∀ p ∈ op.paths, Equiv p (f p)) ∧
      (step s (mapPaths f op)).2 ≠ (step s op).2 :=
  ⟨State.empty, .exists_ ['\x00', '/', '.', '.'], fun _ => [],
    by
      intro p hp
      simp only [Op.paths, List.mem_cons, List.not_mem_nil, or_false] at hp
      subst hp
      exact ⟨[], [], by decide +kernel, by decide +kernel, by decide +kernel⟩,
    by decide +kernel⟩

/-- Re-spelling every path argument by an equivalent spelling changes
neither the result (value or error class) nor the resulting tree, for every operation. -/
theorem spelling_invariant (s : State) (op : Op) (f : Str → Str)
    (hf : ∀ p ∈ op.paths, Equiv p (f p))
    (h0 : ∀ p ∈ op.paths, ('\x00' ∈ p ↔ '\x00' ∈ f p)) : step s (mapPaths f op) = step s op := by
  have hv : ∀ p ∈ op.paths, validate (f p) = validate p :=
    fun p hp => (equiv_validate p (f p) (hf p hp) (h0 p hp)).symm
  cases op
  case close => rfl
  case move a b _ | copy a b _ | movedir a b _ | copydir a b _ =>
    dsimp only [mapPaths, step, Op.paths]
    rw [mapM_two, mapM_two, hv a (.head _), hv b (.tail _ (.head _))]
    rfl
  all_goals
    dsimp only [mapPaths, step, Op.paths]
    rw [mapM_one, mapM_one, hv _ (.head _)]
    rfl

/-! ### the rewrite steps of the spelling generator preserve the normalised absolute path

(`hne`, `hrel` say where the generator of `harness/props/c11.py` applies a step, to a non-empty or a relative path;
the equivalences hold without them and no proof uses them) -/

theorem equiv_leading_slash (p q : Str) (h : normpath p = .ok q) : Equiv p ('/' :: p) := by
  refine norm_abs_of_resolve_eq h ?_
  simp only [splitSlash]
  rw [PathLemmas.splitOn_cons_sep, resolve_cons_skip (.inl rfl)]

set_option linter.unusedVariables false in
theorem equiv_trailing_slash (p q : Str) (h : normpath p = .ok q) (hne : p ≠ []) :
    Equiv p (p ++ ['/']) := by
  refine norm_abs_of_resolve_eq h ?_
  simp only [splitSlash]
  rw [PathLemmas.splitOn_append_cons_sep]
  exact resolve_snoc_nil _

set_option linter.unusedVariables false in
theorem equiv_dot_prefix (p q : Str) (h : normpath p = .ok q) (hrel : startsWithSlash p = false) :
    Equiv p ('.' :: '/' :: p) := by
  refine norm_abs_of_resolve_eq h ?_
  simp only [splitSlash]
  rw [show ('.' :: '/' :: p) = ['.'] ++ '/' :: p from rfl,
    PathLemmas.splitOn_append_sep '/' ['.'] p (by decide), resolve_cons_skip (x := ['.']) (.inr rfl)]

set_option linter.unusedVariables false in
theorem equiv_detour_prefix (x p q : Str) (h : normpath p = .ok q) (hrel : startsWithSlash p = false)
    (hx : PathSpec.CleanComp x) : Equiv p (x ++ '/' :: '.' :: '.' :: '/' :: p) := by
  refine norm_abs_of_resolve_eq h ?_
  simp only [splitSlash]
  rw [PathLemmas.splitOn_append_sep '/' x _ hx.2.2.2,
    show ('.' :: '.' :: '/' :: p) = ['.', '.'] ++ '/' :: p from rfl,
    PathLemmas.splitOn_append_sep '/' ['.', '.'] p (by decide), resolve_detour x _ hx]

/-! ### the same rewrite steps neither add nor remove a NUL character

(the side condition `h0` of `equiv_validate` / `spelling_invariant`); the detour component must itself
be NUL-free -/

theorem nul_leading_slash (p : Str) : '\x00' ∈ p ↔ '\x00' ∈ '/' :: p := by
  simp [List.mem_cons]

theorem nul_trailing_slash (p : Str) : '\x00' ∈ p ↔ '\x00' ∈ p ++ ['/'] := by
  simp [List.mem_append]

theorem nul_dot_prefix (p : Str) : '\x00' ∈ p ↔ '\x00' ∈ '.' :: '/' :: p := by
  simp [List.mem_cons]

theorem nul_detour_prefix (x p : Str) (hx : '\x00' ∉ x) :
    '\x00' ∈ p ↔ '\x00' ∈ x ++ '/' :: '.' :: '.' :: '/' :: p := by
  simp [List.mem_append, List.mem_cons, hx]

example : Equiv "a/b".toList "/a//./x/../b/".toList :=
  ⟨"a/b".toList, "/a/b".toList, by decide +kernel, by decide +kernel, by decide +kernel⟩

end Fs.C11
