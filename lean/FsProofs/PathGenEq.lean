/-
  PathGenEq — the definitions regenerated from `$VERIF_REPO/fs/path.py` on every run
  (`FsModel/Generated/PathGen.lean`, written by `harness/extract/pathgen.py`) are equal to the
  hand-written transcription `FsModel/Path.lean` that the C12 theorems are stated over.

  One theorem `f_eq` per function of fs/path.py.  Where the Python code uses a partial operation
  (`l[i]`, `l.pop()`, `a, b = l`) or a `while` loop the generated function returns `Res`; when the
  hand model is total the theorem reads `PathGen.f x = .ok (Path.f x)`, i.e. it also proves that
  the partial operation never fails and that the loop's fuel hint suffices.

  These theorems are re-proved on every run against the freshly generated file: a semantic change
  of fs/path.py changes the generated term and breaks the corresponding `f_eq` (C12's failing-input
  search then decides the verdict); renaming locals does not change the term.  `coverage` pins the
  set of translated functions, `nothing_refused` the absence of translator refusals.
-/
import FsModel.Generated.PathGen
import FsProofs.Lemmas.PathGenLemmas

namespace Fs.PathGenEq
open Fs Fs.PyStr Fs.PyStrLemmas Fs.PathLemmas Fs.PathGenLemmas

/-! ## the translator covered the module -/

/-- exactly the functions the hand model transcribes were found and translated (a new top-level
function of fs/path.py, or a vanished one, breaks this) -/
theorem coverage : PathGen.translated =
    ["abspath", "basename", "combine", "dirname", "forcedir", "frombase", "isabs", "isbase", "isdotfile",
     "isparent", "issamedir", "iswildcard", "iteratepath", "join", "normpath", "parts", "recursepath",
     "relativefrom", "relpath", "split", "splitext"] := by decide +kernel

/-- every name exported by `__all__` was translated -/
theorem all_exported_translated :
    ∀ n ∈ PathGen.allNames, PathGen.translated.contains n = true := by decide +kernel

/-- the translator refused nothing -/
theorem nothing_refused : PathGen.refused = [] := by decide +kernel

/-! ## one equality per function -/

theorem relpath_eq (p : Str) : PathGen.relpath p = Path.relpath p := by
  simp [PathGen.relpath, Path.relpath, pyLstrip_slash]

theorem isabs_eq (p : Str) : PathGen.isabs p = Path.isabs p := by
  simp [PathGen.isabs, Path.isabs, startsWith_slash]

theorem abspath_eq (p : Str) : PathGen.abspath p = Path.abspath p := by
  simp only [PathGen.abspath, Path.abspath, startsWith_slash]
  cases Path.startsWithSlash p <;> simp

theorem forcedir_eq (p : Str) : PathGen.forcedir p = Path.forcedir p := by
  simp only [PathGen.forcedir, Path.forcedir, pyEndsWith_slash]
  cases Path.endsWithSlash p <;> simp

theorem combine_eq (a b : Str) : PathGen.combine a b = Path.combine a b := by
  simp only [PathGen.combine, Path.combine, pyLstrip_slash, pyRstrip_slash]
  cases a <;> simp

theorem isbase_eq (a b : Str) : PathGen.isbase a b = Path.isbase a b := by
  simp [PathGen.isbase, Path.isbase, forcedir_eq, abspath_eq]

theorem iswildcard_eq (p : Str) : PathGen.iswildcard p = Path.iswildcard p := by
  have hw : PathGen._WILD_CHARS = Path.wildChars := by decide
  simp [PathGen.iswildcard, Path.iswildcard, pyIsDisjoint, hw]

theorem split_eq (p : Str) : PathGen.split p = .ok (Path.split p) := by
  simp only [PathGen.split, Path.split, pyIn_char, pyRsplit1]
  rcases rsplit1_cases '/' p with ⟨hn, hr⟩ | ⟨a, b, hab, hb, hr⟩
  · simp [hn, hr]
  · have hm : '/' ∈ p := by rw [hab]; simp
    simp only [hr, pyIdx_two_0, pyIdx_two_1]
    cases a <;> simp [pyOr, hm]

theorem dirname_eq (p : Str) : PathGen.dirname p = .ok (Path.dirname p) := by
  simp [PathGen.dirname, Path.dirname, split_eq]

theorem basename_eq (p : Str) : PathGen.basename p = .ok (Path.basename p) := by
  simp [PathGen.basename, Path.basename, split_eq]

theorem isdotfile_eq (p : Str) : PathGen.isdotfile p = .ok (Path.isdotfile p) := by
  simp [PathGen.isdotfile, Path.isdotfile, basename_eq, startsWith_single]

theorem normpath_eq (p : Str) : PathGen.normpath p = Path.normpath p := by
  simp only [PathGen.normpath, Path.normpath, pyIn_slash, startsWith_slash, pyRstrip_slash]
  by_cases h0 : (p == [] || p == ['/']) = true
  · simp only [h0, if_true]
  · simp only [h0]
    by_cases h1 : Path.requiresNormalization p = true
    · simp only [h1]
      rw [pyFor_normStep]
      · simp only [List.reverse_nil]
        cases Path.normLoop (Path.splitSlash p) [] <;> simp
      · intro c s
        simp only [normStep, pyIn_dotdot, pyPop]
        cases Path.inDotDot c <;> cases (c == ['.', '.']) <;> cases s.getLast? <;> rfl
    · simp [h1]

theorem iteratepath_eq (p : Str) : PathGen.iteratepath p = Path.iteratepath p := by
  simp only [PathGen.iteratepath, Path.iteratepath, normpath_eq, relpath_eq]
  cases Path.normpath p with
  | err e => rfl
  | ok n =>
    simp only [bind_ok, pure_eq]
    cases Path.relpath n <;> rfl

theorem parts_eq (p : Str) : PathGen.parts p = Path.parts p := by
  simp only [PathGen.parts, Path.parts, normpath_eq, pyStrip_slash, startsWith_slash]
  cases Path.normpath p with
  | err e => rfl
  | ok n =>
    simp only [bind_ok, pure_eq]
    cases Path.stripSlash n <;> simp

theorem issamedir_eq (a b : Str) : PathGen.issamedir a b = Path.issamedir a b := by
  simp only [PathGen.issamedir, Path.issamedir, normpath_eq, dirname_eq]
  cases Path.normpath a with
  | err e => rfl
  | ok x =>
    cases Path.normpath b with
    | err e => rfl
    | ok y => rfl

theorem join_eq (ps : List Str) : PathGen.join ps = Path.join ps := by
  simp only [PathGen.join, Path.join, normpath_eq, abspath_eq]
  rw [pyFor_joinStep]
  · simp only [List.reverse_nil]
    exact join_tail _ _
  · intro p s
    cases p with
    | nil => rfl
    | cons c r =>
      simp only [joinStep, List.isEmpty_cons, Bool.not_false, if_true, pyStrIdx_cons_zero]
      by_cases hc : c = '/'
      · subst hc; simp
      · simp [hc]

theorem splitext_eq (p : Str) : PathGen.splitext p = Path.splitext p := by
  simp only [PathGen.splitext, Path.splitext, split_eq, join_eq, startsWith_single, pyCount, pyIn_char,
    pyRsplit1]
  cases Path.split p with
  | mk parent name =>
    simp only []
    by_cases h1 : (name.head? == some '.' && List.count '.' name == 1) = true
    · simp only [h1, if_true]
    · simp only [h1]
      rcases rsplit1_cases '.' name with ⟨hn, hr⟩ | ⟨a, b, hab, hb, hr⟩
      · simp [hn, hr]
      · have hm : '.' ∈ name := by rw [hab]; simp
        simp only [hr, pyUnpack2]
        cases Path.join [parent, a] with
        | err e => simp [hm, bind_err]
        | ok n => simp [hm, bind_ok, pure_eq]

theorem isparent_eq (a b : Str) : PathGen.isparent a b = .ok (Path.isparent a b) := by
  simp only [PathGen.isparent, Path.isparent]
  rw [pyWhile_stripStep _ _ _ _ (by omega)]
  · simp only []
    by_cases hl : (Path.dropTrailingEmpty (Path.splitSlash a)).length > (Path.splitSlash b).length
    · simp [hl]
    · simp only [hl, decide_false, if_false]
      rw [pyFor_zipStep]
      · cases Path.zipAllEq (Path.dropTrailingEmpty (Path.splitSlash a)) (Path.splitSlash b) <;> simp
      · intro x s; by_cases h : x.1 = x.2 <;> simp [h]
  · intro s
    rcases list_nil_or_snoc s with rfl | ⟨i, x, rfl⟩
    · rfl
    · simp only [stripStep, pyIdx_neg_one_snoc, pyPop_snoc]
      simp

theorem frombase_eq (a b : Str) : PathGen.frombase a b = Path.frombase a b := by
  simp only [PathGen.frombase, Path.frombase, isparent_eq, pyRstrip_slash, pyStartsWith]

theorem relativefrom_eq (a b : Str) : PathGen.relativefrom a b = Path.relativefrom a b := by
  simp only [PathGen.relativefrom, Path.relativefrom, iteratepath_eq]
  cases Path.iteratepath a with
  | err e => rfl
  | ok bp =>
    cases Path.iteratepath b with
    | err e => rfl
    | ok pp =>
      simp only [bind_ok, pure_eq]
      rw [pyFor_commonStep]
      · simp only [Nat.zero_add, pyRepeat_single]
      · intro x s; by_cases h : x.1 = x.2 <;> simp [h]

theorem recursepath_eq (p : Str) (r : Bool) : PathGen.recursepath p r = Path.recursepath p r := by
  simp only [PathGen.recursepath, Path.recursepath, pyIn_slash, normpath_eq, abspath_eq]
  by_cases h0 : (p == [] || p == ['/']) = true
  · simp only [h0, if_true]
  · simp only [h0]
    cases Path.normpath p with
    | err e => rfl
    | ok n =>
      simp only [bind_ok, pure_eq]
      generalize hW : pyWhile _ _ _ = w
      have key : ∃ pos', w = .done (pos', Path.recurseLoop (Path.abspath n ++ ['/'])
          ((Path.abspath n ++ ['/']).length + 1) 1 [['/']]) := by
        subst hW
        refine pyWhile_recStep (Path.abspath n) _ ?_ _ 1 [['/']] ?_ ?_
        · intro s; simp [recStep]
        · omega
        · omega
      obtain ⟨pos', rfl⟩ := key
      cases r <;> rfl

end Fs.PathGenEq
