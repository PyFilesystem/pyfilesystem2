/-
  C02 — stored data is returned bit-identical by every read path (byte level).

  * `fs.tools.copy_file_data` (the loop behind upload / download / writefile / copy / move) over an
    abstract reader that may return any non-empty prefix of up to `chunk` bytes per call;
  * the write paths × read paths of fs/base.py as sessions over the io reference `IoRef`
    (which C16 ties to `_MemoryFile` and, by correspondence, to every backend's file objects).
  Every statement is for all byte strings (any length, any byte values), all chunk sizes,
  all short-read patterns, all piece boundaries, any previous content of the file.
  The text layer (encodings, newline translation, make_stream layering) is FsProofs/TextLaws.lean.
  `chunk_size=0` means the 1 MiB default (the tree at /repo b5a3d6c and after).
-/
import FsProofs.Lemmas.CopyLemmas

namespace Fs.C02
open Fs Fs.File Fs.FileLemmas Fs.CopyLemmas

/-! ## the chunked copy loop -/

/-- `chunk_size or 1024 * 1024` is never 0 -/
theorem effChunk_ne_zero (chunk : Option Int) : effChunk chunk ≠ 0 :=
  CopyLemmas.effChunk_ne_zero chunk

/-- `copy_file_data` writes exactly the source bytes: every length, every byte value, every
`chunk_size` (`None`, 0 = default 1 MiB, positive, negative = "read everything"), every pattern of
short reads. -/
theorem copy_file_data_exact (chunk : Option Int) (data : Bytes) (shortReads : List Nat) :
    copyFileData chunk data shortReads = data := by
  unfold copyFileData
  rw [copyLoop_exact _ (effChunk_ne_zero chunk) _ _ _ (by simp)]
  simp

/-- guards against `chunk_size=0` copying nothing (fixed in /repo b5a3d6c): it behaves exactly like
`chunk_size=None` and copies everything -/
theorem copy_file_data_chunk_zero_repaired (data : Bytes) (shortReads : List Nat) :
    copyFileData (some 0) data shortReads = copyFileData none data shortReads ∧
    copyFileData (some 0) [1, 2, 3] [] = [1, 2, 3] :=
  ⟨rfl, copy_file_data_exact _ _ _⟩

/-- the loop itself needs a non-zero size — `read(0)` returns `b""` and ends it at once;
that is why the code (and `effChunk`) maps 0 to the default -/
theorem copy_loop_zero_counterexample : copyLoop 0 4 ⟨[1, 2, 3], []⟩ [] = [] := by decide +kernel

/-- the writes are the reader's chunks, in order; none is empty; none exceeds the (effective)
chunk size -/
theorem copy_chunks_faithful (chunk : Option Int) (data : Bytes) (shortReads : List Nat) :
    (copyChunks (effChunk chunk) (data.length + 1) ⟨data, shortReads⟩).flatten = data ∧
    ∀ c ∈ copyChunks (effChunk chunk) (data.length + 1) ⟨data, shortReads⟩,
      c ≠ [] ∧ (0 < effChunk chunk → c.length ≤ (effChunk chunk).toNat) :=
  ⟨copyChunks_flatten _ (effChunk_ne_zero chunk) _ _ (by simp), copyChunks_bounded _ _ _⟩

example : copyFileData (some 3) [1, 2, 3, 4, 5, 6, 7] [1, 9, 2] = [1, 2, 3, 4, 5, 6, 7] := by decide +kernel
example : copyChunks 3 8 ⟨[1, 2, 3, 4, 5, 6, 7], [1, 9, 2]⟩ = [[1], [2, 3, 4], [5, 6], [7]] := by decide +kernel

/-! ## sessions over the io reference -/

theorem flagsW : Mode.flags modeW = ⟨false, true, false, true, false, true⟩ := by decide +kernel
theorem flagsA : Mode.flags modeA = ⟨false, true, true, false, false, true⟩ := by decide +kernel
theorem flagsR : Mode.flags modeR = ⟨true, false, false, false, false, false⟩ := by decide +kernel

/-- opening "wb" gives an empty file whatever was there -/
theorem run_modeW (ex : Option Bytes) (ops : List Op) :
    IoRef.run modeW ex ops = .ok (IoRef.runFrom (Mode.flags modeW) ⟨[], 0, false⟩ ops) := by
  have hv : Mode.validateBin modeW = .ok () := by decide +kernel
  cases ex <;> simp [IoRef.run, hv, flagsW, IoRef.openFile]

theorem run_modeA (ex : Option Bytes) (ops : List Op) :
    IoRef.run modeA ex ops =
      .ok (IoRef.runFrom (Mode.flags modeA) ⟨ex.getD [], (ex.getD []).length, false⟩ ops) := by
  have hv : Mode.validateBin modeA = .ok () := by decide +kernel
  cases ex <;> simp [IoRef.run, hv, flagsA, IoRef.openFile]

/-- a sequence of `write` calls then `close`: the file holds what the writes built -/
theorem runFrom_writes (fl : Flags) (hw : fl.writing = true) (ws : List Bytes) (s : IoState)
    (ho : s.closed = false) :
    (IoRef.runFrom fl s (ws.map .write ++ [.close])).2 = (ws.foldl (IoRef.write1 fl) s).bytes := by
  induction ws generalizing s with
  | nil => simp [IoRef.runFrom, step_open fl s .close ho rfl, IoRef.stepOpen]
  | cons d ds ih =>
    simp only [List.map_cons, List.cons_append, IoRef.runFrom, List.foldl_cons, step_write, ho, hw]
    exact ih _ ((write1_closed fl s d).trans ho)

/-- piecewise writes into a fresh "wb" handle store the concatenation of the pieces -/
theorem piecewise_writes_concat (ex : Option Bytes) (ws : List Bytes) :
    finalOf (IoRef.run modeW ex (ws.map .write ++ [.close])) = some ws.flatten := by
  rw [run_modeW]
  simp only [finalOf]
  rw [runFrom_writes _ (by rw [flagsW]) ws _ rfl]
  rw [show (0 : Nat) = ([] : Bytes).length from rfl, foldl_write_at_end, List.nil_append]

theorem writelines_concat (ex : Option Bytes) (ls : List Bytes) :
    finalOf (IoRef.run modeW ex [.writelines ls, .close]) = some ls.flatten := by
  rw [run_modeW]
  have hf := foldl_write_at_end (Mode.flags modeW) ls [] false
  simp only [List.length_nil, List.nil_append] at hf
  have hs := step_writelines (Mode.flags modeW) ⟨[], 0, false⟩ rfl (by rw [flagsW]) ls
  simp only [finalOf, IoRef.runFrom, hs, hf]
  rfl

/-- `appendbytes`: whatever the file holds, a write through an "ab" handle — even after seeking
anywhere — leaves `old ++ new` -/
theorem append_concat (a b : Bytes) (off : Int) (whence : Nat) :
    finalOf (IoRef.run modeA (some a) [.write b, .close]) = some (a ++ b) ∧
    finalOf (IoRef.run modeA (some a) [.seek off whence, .write b, .close]) = some (a ++ b) := by
  have key : ∀ s : IoState, s.closed = false → s.bytes = a →
      (IoRef.runFrom (Mode.flags modeA) s [.write b, .close]).2 = a ++ b := by
    intro s ho hb
    rw [← hb]
    exact (runFrom_writes _ (by rw [flagsA]) [b] s ho).trans (write1_append_bytes _ (by rw [flagsA]) s b)
  have hfin : ∀ p : List (Out × Option Nat) × Bytes, finalOf (.ok p) = some p.2 := fun ⟨_, _⟩ => rfl
  constructor
  · rw [run_modeA, hfin]
    exact congrArg some (key ⟨a, a.length, false⟩ rfl rfl)
  · rw [run_modeA, hfin]
    have hs := step_seek_keeps (Mode.flags modeA) ⟨a, a.length, false⟩ off whence
    exact congrArg some (key _ hs.2 hs.1)

/-! ### every write path stores the data, every read path returns the file -/

theorem chop_flatten (cuts : List Nat) (d : Bytes) : (chop cuts d).flatten = d := by
  induction cuts generalizing d with
  | nil => simp [chop]
  | cons k ks ih => simp [chop, ih]

theorem store_exact (w : WritePath) (ex : Option Bytes) (data : Bytes) :
    w.store ex data = some data := by
  cases w with
  | writebytes =>
    have := piecewise_writes_concat ex [data]
    simpa [WritePath.store] using this
  | pieces cuts =>
    simp only [WritePath.store]
    rw [piecewise_writes_concat, chop_flatten]
  | writelines cuts =>
    simp only [WritePath.store]
    rw [writelines_concat, chop_flatten]
  | append k =>
    have h1 := piecewise_writes_concat ex [data.take k]
    simp only [List.map_cons, List.map_nil, List.nil_append, List.cons_append, List.flatten_cons,
      List.flatten_nil, List.append_nil] at h1
    simp only [WritePath.store, h1]
    rw [(append_concat (data.take k) (data.drop k) 0 0).1]
    simp
  | upload chunk sr =>
    simp only [WritePath.store]
    rw [piecewise_writes_concat, copyChunks_flatten _ (effChunk_ne_zero chunk) _ _ (by simp)]

theorem fetch_exact (r : ReadPath) (hr : r.valid = true) (file : Bytes) :
    r.fetch file = some file := by
  have hopen : IoRef.openFile (Mode.flags modeR) (some file) = .ok ⟨file, 0, false⟩ := by
    simp [IoRef.openFile, flagsR]
  have hrd : (Mode.flags modeR).reading = true := by rw [flagsR]
  unfold ReadPath.fetch
  simp only [hopen]
  cases r with
  | readbytes => rw [step_read _ _ rfl hrd]; rfl
  | readall => rw [step_readall _ _ rfl hrd]; rfl
  | readlines => rw [step_readlines _ _ rfl hrd]; exact congrArg some (linesOf_flatten file)
  | readLoop n =>
    have hn : n ≠ 0 := by simpa [ReadPath.valid] using hr
    exact congrArg some (drain_readN _ _ n hn (fun s ho => step_read _ s ho hrd _) file)
  | download chunk =>
    exact congrArg some (drain_readN _ _ _ (effChunk_ne_zero chunk) (fun s ho => step_read _ s ho hrd _) file)
  | readintoLoop k =>
    have hk0 : k ≠ 0 := by simpa [ReadPath.valid] using hr
    have hk : Int.ofNat k ≠ 0 := fun h => hk0 (Int.ofNat.inj h)
    exact congrArg some (drain_readN _ _ _ hk (fun s ho => step_readinto _ s ho hrd k) file)
  | readlineLoop =>
    have := drainWith_exact (Mode.flags modeR) (.readline none) lineOf
      lineOf_prefix (fun l hl => lineOf_ne_nil l hl)
      (fun s ho _ => step_readline _ s ho hrd none nofun)
      (fun s ho hrest => .inl (by rw [step_readline _ s ho hrd none nofun, IoRef.readLine, hrest]; rfl))
      (file.length + 1) ⟨file, 0, false⟩ rfl (by simp)
    simpa using this
  | nextLoop =>
    have := drainWith_exact (Mode.flags modeR) .next lineOf
      lineOf_prefix (fun l hl => lineOf_ne_nil l hl)
      (fun s ho hne => by
        rw [step_next _ s ho hrd, if_neg (by rwa [List.isEmpty_iff])]; rfl)
      (fun s ho hrest => .inr (by rw [step_next _ s ho hrd, IoRef.readLine, hrest]; rfl))
      (file.length + 1) ⟨file, 0, false⟩ rfl (by simp)
    simpa using this

/-- the matrix: bytes stored through any write path are returned bit-identical by any read
path (writebytes / piecewise write / writelines / writebytes+appendbytes / upload-style chunked
copy with any chunk size and short reads  ×  read() / readall() / read(n) loop / download with
any chunk size / readinto loop / readline loop / iteration / readlines).  The only side condition
left is on *user* loops `read(0)` / `readinto(bytearray(0))`, which never make progress. -/
theorem write_read_matrix (w : WritePath) (r : ReadPath) (hr : r.valid = true)
    (existing : Option Bytes) (data : Bytes) :
    (w.store existing data).bind r.fetch = some data := by
  rw [store_exact w, Option.bind_some, fetch_exact r hr]

example : (ReadPath.readLoop 2).valid = true ∧ (ReadPath.download (some 0)).valid = true := by decide +kernel
example : ((WritePath.upload (some 3) [1, 2]).store (some [9, 9]) [1, 10, 2, 3, 10]).bind ReadPath.nextLoop.fetch =
    some [1, 10, 2, 3, 10] := by decide +kernel

/-- a user loop `while f.read(0)` returns nothing: `valid` is needed for that row only
(`upload`/`download` with `chunk_size=0` copy everything: `copy_file_data_chunk_zero_repaired`) -/
theorem matrix_zero_loop_size_counterexample :
    (ReadPath.readLoop 0).fetch [1, 2] = some [] ∧ (ReadPath.readLoop 0).valid = false := by
  decide +kernel

/-- the size a filesystem reports (seek to the end / length of the store) equals the number of
bytes any read path returns -/
theorem size_eq_length (r : ReadPath) (hr : r.valid = true) (fl : Flags) (file : Bytes) :
    (IoRef.step fl ⟨file, 0, false⟩ (.seek 0 2)).2 = .nat file.length ∧
    (r.fetch file).map List.length = some file.length := by
  constructor
  · have : ¬ ((file.length : Int) < 0) := by omega
    simp [IoRef.step, IoRef.stepOpen, IoRef.isReadline0, this]
  · rw [fetch_exact r hr]; rfl

end Fs.C02
