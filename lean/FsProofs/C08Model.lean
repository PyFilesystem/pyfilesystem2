/-
  C08 (model part) — theorems about the concurrency model alone (`FsModel/Conc.lean`): they do
  not depend on the generated lock table, so a changed table does not rebuild them.  The table theorems and
  the property statement for MemoryFS are in `FsProofs/C08.lean`.
-/
import FsModel.Conc
import FsProofs.Lemmas.ConcLemmas
import FsProofs.Lemmas.StepLemmas

namespace Fs.C08
open Fs Fs.Ref Fs.Conc

/-! ## one locked segment per call ⇒ linearizable (any number of threads and calls) -/

/-- If every call is a single locked block whose body is the whole reference operation, then
every executable complete schedule produces per-call results and a final tree that a sequential
order of the same calls produces.  No bound on the number of threads. -/
theorem single_locked_segment_linearizable (impl : Impl) (calls : List Op) (s : State)
    (h : ∀ c ∈ calls, segments impl c = lockedProg 0 [whole c]) : Linearizable impl calls s := by
  intro sched c' hexec hdone
  unfold initCfg at hexec
  rw [progs_of_single_locked impl calls h] at hexec
  obtain ⟨order, hperm, hst⟩ :=
    locked_blocks_serialize (calls.map fun c => [whole c]) s (calls.map fun _ => ({} : Loc)) (by simp)
      sched c' hexec hdone
  refine ⟨order, by simpa using hperm, ?_⟩
  have hnd : order.Nodup := hperm.nodup_iff.mpr List.nodup_range
  have key := seqExec_whole calls order (s, calls.map fun _ => ({} : Loc)) (s, calls.map fun _ => none)
    hnd rfl (by simp) (by
      intro i _ l hl
      obtain ⟨_, _, rfl⟩ := List.mem_map.1 (List.mem_of_getElem? hl)
      rfl) (by simp)
  unfold obs seqObs
  have h1 : c'.sh = (seqExec (calls.map fun c => [whole c]) order (s, calls.map fun _ => ({} : Loc))).1 :=
    congrArg Prod.fst hst
  have h2 : c'.locs = (seqExec (calls.map fun c => [whole c]) order (s, calls.map fun _ => ({} : Loc))).2 :=
    congrArg Prod.snd hst
  rw [h1, h2, key.1, key.2]

/-- the hypothesis is met as soon as the implementation runs the call atomically -/
theorem segments_of_atomic (impl : Impl) (c : Op) (h : isAtomic impl c = true) :
    segments impl c = lockedProg 0 [whole c] := by
  cases c <;> simp_all [segments, isAtomic]

/-- no executable schedule of single-locked calls ever deadlocks -/
theorem single_lock_never_deadlocks (impl : Impl) (calls : List Op) (s : State)
    (h : ∀ c ∈ calls, isAtomic impl c = true) (sched : List Nat) (c' : Cfg State Loc)
    (hexec : (initCfg impl s calls).exec sched = some c') : c'.deadlocked = false := by
  unfold initCfg at hexec
  rw [progs_of_single_locked impl calls fun c hc => segments_of_atomic impl c (h c hc)] at hexec
  exact inv_not_deadlocked (by simp) (inv_exec (by simp) sched (inv_init _ s _) hexec)

/-! ## two locks -/

/-- Documented limit, not a finding (the property is about calls on ONE filesystem object):
`copy_dir(A, B) ‖ copy_dir(B, A)` — each takes `src.lock()` then `dst.lock()`; after both first
acquisitions neither can proceed. -/
theorem copy_dir_ab_ba_deadlock_counterexample :
    ((Cfg.init () [(), ()] [twoLockProg (σ := Unit) (τ := Unit) 0 1 [], twoLockProg 1 0 []]).exec [0, 1]).any
      (fun c => c.deadlocked) = true := by decide +kernel

/-- with one global order (both take lock 0 then lock 1) every maximal run finishes -/
theorem same_order_no_deadlock :
    ((Cfg.init () [(), ()] [twoLockProg (σ := Unit) (τ := Unit) 0 1 [], twoLockProg 0 1 []]).allRuns).all
      (fun r => r.2.done) = true := by decide +kernel

/-! ## counterexamples

The first three run variants of the model that lack one lock of the library (`splitRemovedir`,
`baseMove`, `torn`): they show that the lock the table theorems of `C08.lean` insist on is necessary.
/repo 0e32556 / 652becf / feefeca added these locks, and the races were observed on the code before
them.  The harness explores the same call sets on the code, where they must be linearizable
(`…_repaired` in `C08.lean`). -/

/-- `MemoryFS.removedir` with isempty and removetree as two locked blocks (the code before /repo 0e32556) -/
def splitRemovedir : Impl :=
  { removedirAtomic := false, moveAtomic := true, writebytesAtomic := true, readbytesAtomic := true }

def raceTree : State := { root := .dir [("d".toList, .dir [])], closed := false }
def raceCalls : List Op := [.removedir "d".toList, .writebytes "d/x".toList [1]]

/-- the schedule: removedir's `isempty` block, the whole writebytes, removedir's `removetree` block.
Both calls succeed and the file just written is gone; sequentially either writebytes fails
(ResourceNotFound) or removedir fails (DirectoryNotEmpty). -/
theorem memfs_removedir_race_without_lock_counterexample :
    scheduleShows splitRemovedir raceTree raceCalls [0, 0, 0, 1, 1, 1, 0, 0, 0]
      ([some (.ok .unit), some (.ok .unit)], []) false = true := by decide +kernel

/-- `Ref.step` is the sequential meaning of the whole call also for the split implementation: the
two locked blocks of `removedir` (validate / root check / `isempty`, then `removetree`) run without
interference give exactly `Ref.step s (.removedir p)` — result and tree, for every open state (`hc`) and
every path.
(The bodies are those of `segments splitRemovedir (.removedir p)`.) -/
theorem removedir_split_sequential_meaning (s : State) (p : Str) (hc : s.closed = false) :
    runBody [fun s l =>
          match validate p with
          | .err e => (s, { out := some (.err e) })
          | .ok [] => (s, { out := some (.err .RemoveRootError) })
          | .ok _ => sub (.isempty p) (fun v => if v = .bool true then none else some (.err .DirectoryNotEmpty)) s l,
        whole (.removetree p)] (s, ({} : Loc))
      = ((step s (.removedir p)).1, { out := some (step s (.removedir p)).2 }) := by
  cases hv : validate p with
  | err e =>
    simp [runBody, step, hc, Op.paths, QueryLemmas.mapM_one, hv, whole, fail]
  | ok cs =>
    cases cs with
    | nil => simp [runBody, step, hc, Op.paths, QueryLemmas.mapM_one, hv, whole, fail, step1]
    | cons c cs =>
      simp only [runBody, sub, whole, step, hc, Op.paths, QueryLemmas.mapM_one, hv, step1]
      cases hg : s.root.get (c :: cs) with
      | none => simp [fail]
      | some n =>
        cases n with
        | file b => simp [fail]
        | dir es =>
          cases es with
          | nil => simp [done, upd, hc, hg]
          | cons e es => simp [done, fail]

example : segments splitRemovedir (.removedir "d".toList) =
    lockedProg 0 [fun s l =>
          match validate "d".toList with
          | .err e => (s, { out := some (.err e) })
          | .ok [] => (s, { out := some (.err .RemoveRootError) })
          | .ok _ => sub (.isempty "d".toList) (fun v => if v = .bool true then none else some (.err .DirectoryNotEmpty)) s l]
      ++ lockedProg 0 [whole (.removetree "d".toList)] := rfl

/-- hence the split implementation is not linearizable -/
theorem memfs_removedir_split_not_linearizable :
    ¬ Linearizable splitRemovedir raceCalls raceTree :=
  not_linearizable_of_schedule memfs_removedir_race_without_lock_counterexample

/-- `FS.move` with `exists(dst)` checked outside the lock (the code before /repo 652becf) -/
def baseMove : Impl :=
  { removedirAtomic := true, moveAtomic := false, writebytesAtomic := true, readbytesAtomic := true }

def moveTree : State := { root := .dir [("a".toList, .file [7])], closed := false }
def moveCalls : List Op := [.move "a".toList "b".toList false, .writebytes "b".toList [1, 2]]

/-- `move(a, b, overwrite=False)` sees "b does not exist"; `writebytes(b)` creates it; the locked
copy+remove then overwrites b.  Both succeed and the written data is lost; sequentially either
the move fails with DestinationExists or b ends with the written bytes. -/
theorem fs_move_check_then_act_without_lock_counterexample :
    scheduleShows baseMove moveTree moveCalls [0, 0, 0, 1, 1, 1, 0, 0, 0, 0, 0, 0]
      ([some (.ok .unit), some (.ok .unit)], [(["b".toList], some [7])]) false = true := by decide +kernel

/-- `FS.writebytes` as open (create+truncate, locked) then write (entry lock only): the code before /repo feefeca -/
def torn : Impl :=
  { removedirAtomic := true, moveAtomic := true, writebytesAtomic := false, readbytesAtomic := false }

def tornTree : State := { root := .dir [], closed := false }
def tornCalls : List Op := [.writebytes "f".toList [1], .writebytes "f".toList [2, 3]]

/-- both writers open (truncate) first, then `[2,3]` is written, then `[1]` lands at offset 0:
the file holds `[1,3]`, which neither order of the two calls produces. -/
theorem memfs_writebytes_race_without_lock_counterexample :
    scheduleShows torn tornTree tornCalls [0, 0, 0, 1, 1, 1, 1, 0]
      ([some (.ok .unit), some (.ok .unit)], [(["f".toList], some [1, 3])]) false = true := by decide +kernel

/-- the model enumerates every maximal schedule: for the removedir race exactly one of the three
segment-level interleavings is the bad one -/
theorem memfs_removedir_race_runs :
    ((initCfg splitRemovedir raceTree raceCalls).allRuns).map
      (fun r => (r.1, r.2.done, linOk raceCalls raceTree r.2)) =
    [([0, 0, 0, 0, 0, 0, 1, 1, 1], true, true),
     ([0, 0, 0, 1, 1, 1, 0, 0, 0], true, false),
     ([1, 1, 1, 0, 0, 0, 0, 0, 0], true, true)] := by decide +kernel

/-! ## LRUCache (process-wide pattern caches of fs.glob / fs.wildcard) -/

open Fs.Conc.Lru in
/-- two `cache[k]` on the same key: after both fetched the value and the first
deleted the key, the second's `__delitem__` raises KeyError (schedule 0 1 0 1 0 1) -/
theorem lru_getitem_race_counterexample :
    ((Cfg.init [(5, 50)] [({} : LLoc), {}] [getitem 5, getitem 5]).exec [0, 1, 0, 1, 0, 1]).any
      (fun c => c.locs.map (·.raised) == [false, true] && c.sh == [(5, 50)]) = true := by decide +kernel

open Fs.Conc.Lru in
/-- …but the callers (`wildcard.match/imatch`, `glob.match/imatch`, `Globber._make_iter`) wrap the
lookup in `try … except KeyError: compile`: under EVERY schedule of two lookups of the same key no
KeyError escapes and both calls end up with the right compiled pattern -/
theorem lru_lookup_correct :
    ([[(5, 50)], [(1, 10), (5, 50)], [(5, 50), (1, 10)], [], [(1, 10)]].all fun c0 =>
      let c := Cfg.init c0 [({} : LLoc), {}] [lookupCall 5 50, lookupCall 5 50]
      c.forallRuns (fun r => r.done && r.locs.all (fun l => !l.raised && l.val == some 50)) c.size) = true := by
  decide +kernel

open Fs.Conc.Lru in
/-- the complete caller pattern (`try: cache[k]` / `except KeyError: compile; cache[k] = pat`) on a
FULL cache (capacity 2) not holding the key — both threads miss, both decide to evict, both
store: under every schedule no KeyError escapes, both use the right pattern, the cache stays within
capacity and ends up holding the key with the right value -/
theorem lru_match_correct_full_cache :
    (let c := Cfg.init [(1, 10), (2, 20)] [({} : LLoc), {}] [matchCall 2 5 50, matchCall 2 5 50]
     c.forallRuns (fun r =>
        r.done && r.locs.all (fun l => !l.raised && l.val == some 50) &&
        decide (r.sh.length ≤ 2) && (lookup 5 r.sh == some 50)) c.size) = true :=
  forallRuns_lockfree [stepsOf (matchCall 2 5 50), stepsOf (matchCall 2 5 50)] _ _ _ _ (by decide +kernel)

open Fs.Conc.Lru in
/-- limit of the cache itself: with capacity 1 two concurrent stores can both decide to evict and
the second `popitem` finds the dict empty — KeyError escapes `__setitem__`.  Not reachable with
the library's capacity 1000 by fewer than 1000 threads (documented, not a finding). -/
theorem lru_setitem_capacity_one_counterexample :
    ((Cfg.init [(1, 10)] [({} : LLoc), {}] [setitem 1 5 50, setitem 1 6 60]).exec [0, 1, 0, 1, 0, 1]).any
      (fun c => c.locs.map (·.raised) == [false, true]) = true := by decide +kernel

end Fs.C08
