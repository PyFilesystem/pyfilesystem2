/-
  C12 — fs.path functions obey their algebraic laws for every string.

  Property theorems only (helper lemmas live in FsProofs/Lemmas/PathLemmas.lean).
  All statements quantify over every `Str = List Char`, no length bound.
-/
import FsModel.Path
import FsModel.PathSpec
import FsProofs.Lemmas.PathLemmas

namespace Fs.C12
open Fs Fs.Path Fs.PathSpec Fs.PathLemmas

/-- a path built from clean components, absolute or relative -/
def mk (absolute : Bool) (cs : List Str) : Str :=
  (if absolute then ['/'] else []) ++ joinSlash cs

theorem mk_eq_mkp (a : Bool) (cs : List Str) : mk a cs = mkp a cs := rfl

/-! ## normpath -/

/-- normpath equals the component-wise resolution of its input (fast path included). -/
theorem normpath_eq_spec (p : Str) : normpath p = specNorm p :=
  normpath_eq_specNorm p

/-- it raises IllegalBackReference exactly when that resolution climbs above the start -/
theorem normpath_err_iff_climbs (p : Str) :
    normpath p = .err .IllegalBackReference ↔ climbs (splitSlash p) := by
  rw [normpath_eq_resolve, climbs]
  cases resolve (splitSlash p) <;> simp

theorem normpath_err_only_backref (p : Str) (e : Err) (h : normpath p = .err e) :
    e = .IllegalBackReference :=
  (normpath_err p e h).1

/-- the result has no `.`, `..` or empty component -/
theorem normpath_clean (p q : Str) (h : normpath p = .ok q) :
    ∃ cs, Clean cs ∧ q = mk (startsWithSlash p) cs :=
  let ⟨cs, _, hc, hq⟩ := normpath_ok_resolve p q h
  ⟨cs, hc, hq⟩

theorem normpath_idem (p q : Str) (h : normpath p = .ok q) : normpath q = .ok q := by
  obtain ⟨cs, -, hc, rfl⟩ := normpath_ok_resolve p q h
  exact normpath_mkp hc

/-- normalised paths are exactly the (absolute or relative) joins of clean components -/
theorem norm_iff_clean (q : Str) : Norm q ↔ ∃ a cs, Clean cs ∧ q = mk a cs := by
  constructor
  · intro h
    obtain ⟨cs, -, hc, hq⟩ := normpath_ok_resolve q q h
    exact ⟨_, cs, hc, hq⟩
  · rintro ⟨a, cs, hc, rfl⟩
    exact normpath_mkp hc

/-! ## inverses on normalised paths -/

theorem iteratepath_mk (a : Bool) (cs : List Str) (h : Clean cs) :
    iteratepath (mk a cs) = .ok cs :=
  ConfineLemmas.iteratepath_mkp a h

theorem split_mk_snoc (a : Bool) (cs : List Str) (c : Str) (h : Clean (cs ++ [c])) :
    split (mk a (cs ++ [c])) = (if cs = [] then (if a then ['/'] else []) else mk a cs, c) := by
  rw [mk_eq_mkp, split_mkp_snoc a cs c h]
  cases cs <;> cases a <;> rfl

theorem combine_dirname_basename (q : Str) (h : Norm q) :
    combine (dirname q) (basename q) = q := by
  obtain ⟨cs, -, hc, hq⟩ := normpath_ok_resolve q q h
  rw [hq, dirname_mkp _ hc, basename_mkp _ hc]
  rcases list_nil_or_snoc cs with rfl | ⟨i, c, rfl⟩
  · cases startsWithSlash q <;> decide
  · rw [List.dropLast_concat, List.getLast?_concat]
    rw [clean_append, clean_cons] at hc
    exact combine_mkp hc.1 (startsWithSlash_of_not_mem _ hc.2.1.2.2.2)

theorem join_dirname_basename (q : Str) (h : Norm q) :
    join [dirname q, basename q] = .ok q := by
  obtain ⟨cs, -, hc, hq⟩ := normpath_ok_resolve q q h
  rw [hq, dirname_mkp _ hc, basename_mkp _ hc]
  rcases list_nil_or_snoc cs with rfl | ⟨i, c, rfl⟩
  · cases startsWithSlash q <;> decide
  · rw [List.dropLast_concat, List.getLast?_concat]
    rw [clean_append] at hc
    exact join_mkp (bs := [c]) hc.1 hc.2

theorem recursepath_eq_prefixes (a : Bool) (cs : List Str) (h : Clean cs) :
    recursepath (mk a cs) false = .ok ((List.range (cs.length + 1)).map fun i => mk true (cs.take i)) :=
  recursepath_mkp a cs h

theorem recursepath_reverse (p : Str) (l : List Str) (h : recursepath p false = .ok l) :
    recursepath p true = .ok l.reverse := by
  unfold recursepath at h ⊢
  split at h
  · next hp => simp only [hp, if_true]; cases h; rfl
  · next hp =>
    simp only [hp]
    cases hn : normpath p with
    | err e => rw [hn] at h; cases h
    | ok n =>
      rw [hn] at h
      simp only [bind_ok, pure_eq, Bool.false_eq_true, if_false, Res.ok.injEq] at h ⊢
      simp only [if_true, h]

theorem parts_eq (a : Bool) (cs : List Str) (h : Clean cs) :
    parts (mk a cs) = .ok ((if a then ['/'] else ['.', '/']) :: cs) :=
  parts_mkp a h

/-- abspath / relpath only add or strip the leading slash -/
theorem abspath_relpath (a : Bool) (cs : List Str) (h : Clean cs) :
    abspath (mk a cs) = mk true cs ∧ relpath (mk a cs) = mk false cs :=
  ⟨abspath_mkp h, relpath_mkp h⟩

/-! ## whole-component comparisons -/

theorem isbase_iff_component_prefix (a b : Bool) (as bs : List Str) (ha : Clean as) (hb : Clean bs) :
    isbase (mk a as) (mk b bs) = true ↔ as <+: bs :=
  isbase_mkp_iff a b as bs ha hb

theorem not_isbase_sibling_prefix : isbase ['/', 'a'] ['/', 'a', 'b'] = false := by decide +kernel

theorem isparent_iff_component_prefix (a : Bool) (as bs : List Str) (ha : Clean as) (hb : Clean bs) :
    isparent (mk a as) (mk a bs) = true ↔ as <+: bs :=
  isparent_mkp_same a as bs ha hb

theorem not_isparent_sibling_prefix : isparent ['/', 'a'] ['/', 'a', 'b'] = false := by decide +kernel

theorem frombase_append (a : Bool) (as bs : List Str) (ha : Clean as) (hb : Clean bs)
    (hp : as <+: bs) : ∃ r, frombase (mk a as) (mk a bs) = .ok r ∧ mk a as ++ r = mk a bs := by
  obtain ⟨rest, rfl⟩ := hp
  exact ⟨_, frombase_mkp a ha (clean_append.1 hb).2, (mkp_append a as rest).symm⟩

theorem frombase_rejects (a : Bool) (as bs : List Str) (ha : Clean as) (hb : Clean bs)
    (hp : ¬ as <+: bs) : frombase (mk a as) (mk a bs) = .err .ValueError := by
  have hpar : isparent (mkp a as) (mkp a bs) = false := by
    rw [Bool.eq_false_iff]; intro h; exact hp ((isparent_mkp_same a as bs ha hb).1 h)
  simp [mk_eq_mkp, frombase, hpar]

/-- `frombase` never cuts inside a name (`frombase("/", "foo")` is `"foo"`, not `"oo"`):
for any two normalised paths, absolute or relative in any combination, whatever it returns
consists of exactly the components of `path2` that follow those of `path1`; otherwise it raises. -/
theorem frombase_whole_components (a b : Bool) (as bs : List Str) (ha : Clean as) (hb : Clean bs)
    (r : Str) (h : frombase (mk a as) (mk b bs) = .ok r) :
    as <+: bs ∧ comps r = bs.drop as.length := by
  simp only [mk_eq_mkp] at h
  have hpar : isparent (mkp a as) (mkp b bs) = true := by
    cases hp : isparent (mkp a as) (mkp b bs) with
    | true => rfl
    | false => simp [frombase, hp] at h
  by_cases hab : a = b
  · subst hab
    have hp := (isparent_mkp_same a as bs ha hb).1 hpar
    refine ⟨hp, ?_⟩
    obtain ⟨rest, rfl⟩ := hp
    have hrest : Clean rest := (clean_append.1 hb).2
    rw [frombase_mkp a ha hrest] at h
    cases h
    rw [List.drop_left]
    exact ConfineLemmas.comps_mkp hrest
  · have hnil := (isparent_mkp_mixed a b as bs ha hb hab).1 hpar
    subst hnil
    refine ⟨List.nil_prefix, ?_⟩
    simp only [List.length_nil, List.drop_zero]
    cases a <;> cases b
    · exact absurd rfl hab
    · -- path1 = "", path2 absolute
      have hs : startsWith (mkp true bs) (mkp false []) = true := startsWith_nil _
      have : frombase (mkp false []) (mkp true bs) = .ok (mkp true bs) := by
        simp only [frombase, hpar, hs, Bool.not_true, Bool.false_eq_true, if_false]
        rfl
      rw [this] at h; cases h
      exact ConfineLemmas.comps_mkp hb
    · -- path1 = "/", path2 relative
      have hs : startsWith (mkp false bs) (mkp true []) = false :=
        (startsWith_slash _).trans (startsWithSlash_mkp hb)
      have : frombase (mkp true []) (mkp false bs) = .ok (mkp false bs) := by
        simp only [frombase, hpar, hs, Bool.not_true, Bool.not_false, Bool.false_eq_true, if_false, if_true]
        have : rstripSlash (mkp true []) = [] := by decide
        rw [this]; rfl
      rw [this] at h; cases h
      exact ConfineLemmas.comps_mkp hb
    · exact absurd rfl hab

example : frombase "/".toList "foo".toList = .ok "foo".toList := by decide +kernel
example : frombase "foo".toList "/foo/bar".toList = .err .ValueError := by decide +kernel

theorem relativefrom_resolves (a b : Bool) (as bs : List Str) (ha : Clean as) (hb : Clean bs) :
    ∃ r, relativefrom (mk a as) (mk b bs) = .ok r ∧ resolve (as ++ splitSlash r) = some bs := by
  refine ⟨_, ?_, relativefrom_core as bs ha hb⟩
  unfold relativefrom
  rw [iteratepath_mk a as ha, iteratepath_mk b bs hb]
  rfl

theorem issamedir_iff_init_eq (a : Bool) (as bs : List Str) (ha : Clean as) (hb : Clean bs)
    (hna : as ≠ []) (hnb : bs ≠ []) :
    issamedir (mk a as) (mk a bs) = .ok (decide (as.dropLast = bs.dropLast)) :=
  issamedir_mkp a ha hb

/-! ## splitext (outside the statement of property C12: what the code does)

`splitext` on a normalised path: no dot in the last component or a dot file → the path itself and no
extension; otherwise, when what precedes the last dot is itself a clean component, root ++ ext is the
path (`splitext_concat_partial`).  The hypothesis is needed: a last component whose stem consists of
dots only (`..a`, `...a`) is resolved away by the `join` inside `splitext`
(`splitext_dots_stem_witness`, which the correspondence also runs on fs.path.splitext) — `os.path.splitext`
returns the path unchanged there (DESIGN §6 C12). -/

theorem splitext_no_dot (a : Bool) (cs : List Str) (c : Str) (h : Clean (cs ++ [c])) (hd : '.' ∉ c) :
    splitext (mk a (cs ++ [c])) = .ok (mk a (cs ++ [c]), []) := by
  simp only [mk_eq_mkp]
  unfold splitext
  rw [split_mkp_snoc a cs c h]
  simp only [rsplit1_none '.' c hd]
  split <;> rfl

theorem splitext_dotfile (a : Bool) (cs : List Str) (r : Str) (h : Clean (cs ++ [('.' :: r)])) (hd : '.' ∉ r) :
    splitext (mk a (cs ++ [('.' :: r)])) = .ok (mk a (cs ++ [('.' :: r)]), []) := by
  simp only [mk_eq_mkp]
  unfold splitext
  rw [split_mkp_snoc a cs _ h]
  have : List.count '.' r = 0 := List.count_eq_zero.2 hd
  simp [this]

theorem splitext_concat_partial (a : Bool) (cs : List Str) (stem ext : Str)
    (h : Clean (cs ++ [stem ++ '.' :: ext])) (hs : CleanComp stem) (hext : '.' ∉ ext) :
    splitext (mk a (cs ++ [stem ++ '.' :: ext])) = .ok (mk a (cs ++ [stem]), '.' :: ext) := by
  have hcs : Clean cs := (clean_append.1 h).1
  have hst : Clean [stem] := clean_cons.2 ⟨hs, clean_nil⟩
  simp only [mk_eq_mkp]
  unfold splitext
  rw [split_mkp_snoc a cs _ h]
  have hcond : ((stem ++ '.' :: ext).head? == some '.' && (stem ++ '.' :: ext).count '.' == 1) = false := by
    obtain ⟨hne, -⟩ := hs
    cases stem with
    | nil => exact absurd rfl hne
    | cons x xs =>
      by_cases hx : x = '.'
      · subst hx
        simp [List.count_append]
      · simp [hx]
  simp only [hcond, rsplit1_some '.' stem ext hext]
  have hj : join [mkp a cs, stem] = .ok (mkp a (cs ++ [stem])) := join_mkp (bs := [stem]) hcs hst
  simp only [Bool.false_eq_true, if_false]
  rw [hj]; rfl

theorem splitext_dots_stem_witness :
    splitext "foo/..a".toList = .ok ("foo".toList, ".a".toList) ∧
    splitext "foo/...a".toList = .ok ([], ".a".toList) := by decide +kernel

example : splitext "/foo/bar.tar.gz".toList = .ok ("/foo/bar.tar".toList, ".gz".toList) := by decide +kernel
example : CleanComp "bar.tar".toList := by simp [CleanComp, dot, dotdot]

/-! ## non-vacuity -/

example : Clean [['f', 'o', 'o'], ['a', '.', 'b'], ['*', '{', 'x', '}']] := by
  intro c hc; simp at hc; rcases hc with rfl | rfl | rfl <;> simp [CleanComp, dot, dotdot]

example : normpath "/foo//bar/../a.b/".toList = .ok "/foo/a.b".toList := by decide +kernel
example : normpath "foo/../../bar".toList = .err .IllegalBackReference := by decide +kernel

end Fs.C12
