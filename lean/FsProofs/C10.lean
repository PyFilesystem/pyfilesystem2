/-
  C10 — all query methods agree with each other in every state (reference semantics).
-/
import FsModel.Ref
import FsProofs.Lemmas.QueryLemmas
import FsProofs.Lemmas.Queries

namespace Fs.C10
open Fs Fs.Ref Fs.QueryLemmas

/-- queries never change the state -/
theorem queries_pure (s : State) (p : Str) :
    (step s (.exists_ p)).1 = s ∧ (step s (.isdir p)).1 = s ∧ (step s (.isfile p)).1 = s ∧
    (step s (.listdir p)).1 = s ∧ (step s (.getsize p)).1 = s ∧ (step s (.gettype p)).1 = s ∧
    (step s (.isempty p)).1 = s ∧ (step s (.getinfo p)).1 = s ∧ (step s (.readbytes p)).1 = s := by
  have h := fun op hq => RouteLemmas.step_query_state s op hq
  exact ⟨h _ rfl, h _ rfl, h _ rfl, h _ rfl, h _ rfl, h _ rfl, h _ rfl, h _ rfl, h _ rfl⟩

theorem exists_eq_isdir_or_isfile (s : State) (p : Str) (e d f : Bool)
    (he : (step s (.exists_ p)).2 = .ok (.bool e)) (hd : (step s (.isdir p)).2 = .ok (.bool d))
    (hf : (step s (.isfile p)).2 = .ok (.bool f)) : e = (d || f) ∧ (d && f) = false := by
  obtain ⟨cs, hc, hv⟩ := step_q_ok s _ p _ rfl (by simp) he
  rw [step_one s _ p hc rfl (by simp), hv] at he hd hf
  dsimp only [step1] at he hd hf
  simp only [done, Res.ok.injEq, Val.bool.injEq] at he hd hf
  subst he hd hf
  rcases Node.get cs s.root with _ | ⟨_ | _⟩ <;> simp

theorem isempty_iff_listdir_nil (s : State) (p : Str) (l : List Name)
    (h : (step s (.listdir p)).2 = .ok (.names l)) :
    (step s (.isempty p)).2 = .ok (.bool l.isEmpty) := by
  obtain ⟨cs, hc, hv⟩ := step_q_ok s _ p _ rfl (by simp) h
  rw [step_one s _ p hc rfl (by simp), hv] at h ⊢
  dsimp only [step1] at h ⊢
  generalize Node.get cs s.root = g at h ⊢
  rcases g with _ | ⟨_ | es⟩ <;> simp [fail, done] at h ⊢
  subst h
  cases es <;> simp [Ents.names]

theorem listdir_ok_iff_isdir (s : State) (p : Str) (hc : s.closed = false) :
    (∃ l, (step s (.listdir p)).2 = .ok (.names l)) ↔ (step s (.isdir p)).2 = .ok (.bool true) := by
  rw [step_one s _ p hc rfl (by simp), step_one s _ p hc rfl (by simp)]
  cases validate p with
  | err e => simp [fail]
  | ok cs =>
    dsimp only [step1]
    rcases Node.get cs s.root with _ | ⟨_ | es⟩ <;> simp [fail, done]

theorem listdir_nodup (s : State) (p : Str) (l : List Name) (hwf : s.root.wf = true)
    (h : (step s (.listdir p)).2 = .ok (.names l)) : l.Nodup := by
  obtain ⟨cs, hc, hv⟩ := step_q_ok s _ p _ rfl (by simp) h
  rw [MultiFsLemmas.ref_listdir s hc p cs hv] at h
  split at h
  · cases h
  · cases h
  · next es hg =>
    cases h
    exact TreeLemmas.names_nodup (by simpa [Node.wf] using TreeLemmas.get_wf cs s.root _ hwf hg)

theorem getsize_eq_len_readbytes (s : State) (p : Str) (b : Bytes)
    (h : (step s (.readbytes p)).2 = .ok (.bytes b)) :
    (step s (.getsize p)).2 = .ok (.nat b.length) ∧
    ∃ n, (step s (.getinfo p)).2 = .ok (.info n false b.length) := by
  obtain ⟨cs, hc, hv⟩ := step_q_ok s _ p _ rfl (by simp) h
  rw [step_one s _ p hc rfl (by simp), hv] at h ⊢
  rw [step_one s (.getinfo p) p hc rfl (by simp), hv]
  dsimp only [step1] at h ⊢
  generalize Node.get cs s.root = g at h ⊢
  rcases g with _ | ⟨_ | es⟩ <;> simp [fail, done] at h ⊢
  subst h; rfl

theorem gettype_isdir_isfile_agree (s : State) (p : Str) (t : Nat)
    (h : (step s (.gettype p)).2 = .ok (.nat t)) :
    (t = 1 ∧ (step s (.isdir p)).2 = .ok (.bool true) ∧ (step s (.isfile p)).2 = .ok (.bool false)) ∨
    (t = 2 ∧ (step s (.isdir p)).2 = .ok (.bool false) ∧ (step s (.isfile p)).2 = .ok (.bool true)) := by
  obtain ⟨cs, hc, hv⟩ := step_q_ok s _ p _ rfl (by simp) h
  rw [step_one s _ p hc rfl (by simp), hv] at h
  rw [step_one s (.isdir p) p hc rfl (by simp), hv, step_one s (.isfile p) p hc rfl (by simp), hv]
  dsimp only [step1] at h ⊢
  generalize Node.get cs s.root = g at h ⊢
  rcases g with _ | ⟨_ | es⟩ <;> simp [fail, done] at h ⊢ <;> omega

theorem getinfo_isdir_agree (s : State) (p : Str) (n : Name) (d : Bool) (sz : Nat)
    (h : (step s (.getinfo p)).2 = .ok (.info n d sz)) :
    (step s (.isdir p)).2 = .ok (.bool d) ∧ (step s (.exists_ p)).2 = .ok (.bool true) := by
  obtain ⟨cs, hc, hv⟩ := step_q_ok s _ p _ rfl (by simp) h
  rw [step_one s _ p hc rfl (by simp), hv] at h
  rw [step_one s (.isdir p) p hc rfl (by simp), hv, step_one s (.exists_ p) p hc rfl (by simp), hv]
  dsimp only [step1] at h ⊢
  generalize Node.get cs s.root = g at h ⊢
  rcases g with _ | ⟨_ | es⟩ <;> simp [fail, done] at h ⊢ <;> simp [h]

/-- every listed name is an existing child, and every existing child is listed (on the tree) -/
theorem listed_iff_child (t : Node) (cs : List Name) (es : Ents) (n : Name)
    (h : t.get cs = some (.dir es)) : n ∈ Ents.names es ↔ (t.get (cs ++ [n])).isSome = true := by
  rw [TreeLemmas.get_snoc_dir h, TreeLemmas.mem_names_iff, Option.isSome_iff_ne_none]

example : (step State.empty (.isempty "/".toList)).2 = .ok (.bool true) := by decide +kernel

end Fs.C10
