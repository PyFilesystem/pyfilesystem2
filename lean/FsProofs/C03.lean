/-
  C03 — no path argument escapes a filesystem's root (sandboxing).

  Everything quantifies over every `Str = List Char` (all Unicode strings, no length bound),
  every list of sub-directories / mount points / archive member names.

  `Clean cs` (FsModel.PathSpec): no component is `""`, `"."`, `".."` or contains `/`.
  `absOf cs` is the string `"/" ++ "/".join(cs)`.
-/
import FsModel.Confine
import FsModel.PathFlow
import FsModel.Generated.PathFlowTable
import FsProofs.Lemmas.ConfineLemmas

namespace Fs.C03
open Fs Fs.Path Fs.PathSpec Fs.PathLemmas Fs.Confine Fs.ConfineLemmas Fs.PathFlow

/-- the absolute path string with the given components -/
def absOf (cs : List Str) : Str := '/' :: joinSlash cs

theorem absOf_eq_mkp (cs : List Str) : absOf cs = mkp true cs := rfl

/-! ## FS.validatepath -/

/-- Whatever string goes in, what `validatepath` returns is `/` followed by clean components —
and they are exactly the component-wise resolution of the input. -/
theorem validatepath_clean (cfg : Cfg) (p q : Str) (h : validatepath cfg p = .ok q) :
    ∃ cs, q = '/' :: joinSlash cs ∧ Clean cs ∧ resolve (splitSlash p) = some cs := by
  rw [validatepath_eq] at h
  split at h
  · cases h
  split at h
  · cases h
  split at h
  · cases h
  · next cs hr =>
    split at h
    · cases h
    · cases h; exact ⟨cs, rfl, resolve_result_clean p cs hr, hr⟩

theorem validatepath_err_iff (cfg : Cfg) (p : Str) (e : VErr) :
    validatepath cfg p = .error e ↔
      (e = .FilesystemClosed ∧ cfg.closed = true) ∨
      (e = .InvalidCharsInPath ∧ cfg.closed = false ∧ ∃ c ∈ p, c ∈ cfg.invalid) ∨
      (e = .IllegalBackReference ∧ cfg.closed = false ∧ (∀ c ∈ p, c ∉ cfg.invalid) ∧
        climbs (splitSlash p)) ∨
      (e = .InvalidPath ∧ cfg.closed = false ∧ (∀ c ∈ p, c ∉ cfg.invalid) ∧
        ∃ cs m, resolve (splitSlash p) = some cs ∧ cfg.maxSys = some m ∧
          (osJoin cfg.root (joinSlash cs)).length > m) := by
  rw [validatepath_eq]
  have hall : (∀ c ∈ p, c ∉ cfg.invalid) ↔ ¬ p.any (fun c => cfg.invalid.contains c) = true := by
    rw [any_invalid_iff]; simp
  rw [← any_invalid_iff, hall]
  cases cfg.closed
  case true => simpa using eq_comm
  cases p.any (fun c => cfg.invalid.contains c)
  case true => simpa using eq_comm
  cases hr : resolve (splitSlash p) with
  | none => simpa [climbs, hr] using eq_comm
  | some cs =>
    have hc := resolve_result_clean p cs hr
    simp only [tooLong, relpath, lstripSlash_mkp hc, climbs, hr]
    cases cfg.maxSys with
    | none => simp
    | some m =>
      by_cases hl : (osJoin cfg.root (joinWith '/' cs)).length > m
      · simpa [hl, joinSlash] using eq_comm
      · simp [hl, joinSlash]
/-- With the default configuration (open filesystem, `"\0"` invalid, no length limit):
`IllegalBackReference` exactly for the paths that climb above the root. -/
theorem validatepath_backref_iff_climbs (p : Str) (h0 : '\x00' ∉ p) :
    validatepath {} p = .error .IllegalBackReference ↔ climbs (splitSlash p) := by
  rw [validatepath_err_iff]
  simp only [reduceCtorEq, false_and, false_or, or_false, true_and, and_false]
  constructor
  · rintro ⟨-, h⟩; exact h
  · intro h
    refine ⟨?_, h⟩
    intro c hc hi
    simp only [List.mem_cons, List.not_mem_nil, or_false] at hi
    subst hi
    exact h0 hc

/-! ## OSFS: what reaches the operating system -/

/-- The system path of any validated path is the root's components followed by clean
components: no `..`, no `.`, no empty component and no `/` inside a component can reach the
OS (symbolic links stored inside the root aside).  Stated both for the component list and
for the string `os.path.join(root, q.lstrip("/"))` that `_to_sys_path` really builds. -/
theorem os_syspath_under_root (cfg : Cfg) (rc : List Str) (p q : Str) (hroot : Clean rc)
    (h : validatepath cfg p = .ok q) :
    ∃ cs, Clean cs ∧ resolve (splitSlash p) = some cs ∧
      sysPath rc q = rc ++ cs ∧
      osComps (sysPathStr (absOf rc) q) = rc ++ cs ∧
      Clean (rc ++ cs) := by
  obtain ⟨cs, rfl, hc, hr⟩ := validatepath_clean cfg p q h
  refine ⟨cs, hc, hr, ?_, ?_, clean_append.2 ⟨hroot, hc⟩⟩
  · show rc ++ comps (mkp true cs) = rc ++ cs
    rw [comps_mkp hc]
  · show comps (osJoin (mkp true rc) (lstripSlash (mkp true cs))) = rc ++ cs
    rw [lstripSlash_mkp hc]
    exact osJoin_root_clean hroot hc

/-- `OSFS.getsyspath` (public, called with raw paths by `fs.move`, `fs.copy`, `WrapFS`):
it either raises `IllegalBackReference` or stays under the root. -/
theorem getsyspath_under_root (rc : List Str) (p s : Str) (hroot : Clean rc)
    (h : getsyspath (absOf rc) p = .ok s) :
    ∃ cs, Clean cs ∧ resolve (splitSlash p) = some cs ∧ osComps s = rc ++ cs := by
  rw [getsyspath_eq] at h
  obtain ⟨cs, hr, hc, rfl⟩ := resolve_match_ok h
  exact ⟨cs, hc, hr, osJoin_root_clean hroot hc⟩

theorem getsyspath_err_iff_climbs (root p : Str) :
    getsyspath root p = .err .IllegalBackReference ↔ climbs (splitSlash p) := by
  rw [getsyspath_eq, climbs]
  cases resolve (splitSlash p) <;> simp

/-! ## SubFS -/

/-- the stored `_sub_dir` is always an absolute clean path, whatever `opendir` was given -/
theorem subInit_clean (path s : Str) (h : subInit path = .ok s) :
    ∃ scs, Clean scs ∧ s = absOf scs := by
  unfold subInit at h
  obtain ⟨cs, -, hc, h⟩ := normpath_bind_ok h
  simp only [pure_eq, Res.ok.injEq] at h
  exact ⟨cs, hc, by rw [← h, abspath_mkp hc]; rfl⟩

/-- The path a `SubFS` hands to its parent is its sub-directory followed by the resolved
components of the user's path: it lies under the sub-directory and is clean. -/
theorem sub_delegate_eq (scs : List Str) (p q : Str) (hs : Clean scs)
    (h : subDelegate (absOf scs) p = .ok q) :
    ∃ cs, Clean cs ∧ resolve (splitSlash p) = some cs ∧ q = absOf (scs ++ cs) := by
  rw [absOf_eq_mkp, subDelegate_eq hs] at h
  obtain ⟨cs, hr, hc, rfl⟩ := resolve_match_ok h
  exact ⟨cs, hc, hr, rfl⟩

/-- "inside the sub-directory" as property C03 words it: the sub-directory's components are a prefix of the
delegated path's components, which are clean -/
theorem sub_delegate_under (scs : List Str) (p q : Str) (hs : Clean scs)
    (h : subDelegate (absOf scs) p = .ok q) :
    comps (absOf scs) <+: comps q ∧ Clean (comps q) := by
  obtain ⟨cs, hc, -, rfl⟩ := sub_delegate_eq scs p q hs h
  have hcl : Clean (scs ++ cs) := clean_append.2 ⟨hs, hc⟩
  simp only [absOf_eq_mkp, comps_mkp hs, comps_mkp hcl]
  exact ⟨List.prefix_append _ _, hcl⟩

theorem sub_delegate_err_iff (scs : List Str) (p : Str) (e : Err) (hs : Clean scs) :
    subDelegate (absOf scs) p = .err e ↔ e = .IllegalBackReference ∧ climbs (splitSlash p) := by
  rw [absOf_eq_mkp, subDelegate_eq hs, climbs]
  cases resolve (splitSlash p) <;> simp [eq_comm]

/-- Any depth of nesting (`fs.opendir(s₁).opendir(s₂)…`; the list is outermost-first, i.e.
`[sₙ, …, s₁]`): the path reaching the innermost parent is the concatenation `s₁ ++ … ++ sₙ`
of all sub-directories followed by the resolved user path. -/
theorem nested_sub_eq (s : List Str) (rest : List (List Str)) (p q : Str)
    (hs : ∀ x ∈ s :: rest, Clean x)
    (h : nestedDelegate ((s :: rest).map absOf) p = .ok q) :
    ∃ cs, Clean cs ∧ resolve (splitSlash p) = some cs ∧
      q = absOf ((s :: rest).reverse.flatten ++ cs) := by
  have h : nestedDelegate ((s :: rest).map (mkp true)) p = .ok q := h
  rw [nestedDelegate_eq hs] at h
  obtain ⟨cs, hr, hc, rfl⟩ := resolve_match_ok h
  exact ⟨cs, hc, hr, rfl⟩

theorem nested_sub_under (s : List Str) (rest : List (List Str)) (p q : Str)
    (hs : ∀ x ∈ s :: rest, Clean x)
    (h : nestedDelegate ((s :: rest).map absOf) p = .ok q) :
    (s :: rest).reverse.flatten <+: comps q ∧ Clean (comps q) := by
  obtain ⟨cs, hc, -, rfl⟩ := nested_sub_eq s rest p q hs h
  have hfl : Clean (s :: rest).reverse.flatten := by
    intro c hc'
    simp only [List.mem_flatten, List.mem_reverse] at hc'
    obtain ⟨l, hl, hcl⟩ := hc'
    exact hs l hl c hcl
  have hcl : Clean ((s :: rest).reverse.flatten ++ cs) := clean_append.2 ⟨hfl, hc⟩
  rw [absOf_eq_mkp, comps_mkp hcl]
  exact ⟨List.prefix_append _ _, hcl⟩

/-- a climbing path is refused at the outermost level, whatever the nesting -/
theorem nested_sub_err_of_climbs (s : List Str) (rest : List (List Str)) (p : Str)
    (hs : Clean s) (hcl : climbs (splitSlash p)) :
    nestedDelegate ((s :: rest).map absOf) p = .err .IllegalBackReference := by
  rw [climbs] at hcl
  rw [List.map_cons, nestedDelegate, absOf_eq_mkp, subDelegate_eq hs, hcl]; rfl

/-! ### `SubFS.delegate_path` as coded (invalid characters refused first) -/

/-- whatever the coded chain hands to the parent, the unchecked chain hands over too: every
confinement theorem above therefore holds for the code as written -/
theorem nestedChk_ok_imp (inv : List Char) (subs : List Str) (p q : Str)
    (h : nestedDelegateChk inv subs p = .ok q) : nestedDelegate subs p = .ok q := by
  induction subs generalizing p with
  | nil => simpa only [nestedDelegateChk, nestedDelegate] using h
  | cons s rest ih =>
    simp only [nestedDelegateChk, subDelegateChk] at h
    simp only [nestedDelegate]
    by_cases hb : p.any (fun c => inv.contains c) = true
    · rw [if_pos hb, bind_err] at h; cases h
    · rw [if_neg hb] at h
      cases h1 : subDelegate s p with
      | err e => rw [h1, bind_err] at h; cases h
      | ok r => rw [h1, bind_ok] at h; rw [bind_ok]; exact ih r h

/-- the coded chain stays beneath the sub-directories at every nesting depth -/
theorem nested_sub_chk_under (inv : List Char) (s : List Str) (rest : List (List Str)) (p q : Str)
    (hs : ∀ x ∈ s :: rest, Clean x)
    (h : nestedDelegateChk inv ((s :: rest).map absOf) p = .ok q) :
    (s :: rest).reverse.flatten <+: comps q ∧ Clean (comps q) :=
  nested_sub_under s rest p q hs (nestedChk_ok_imp inv _ p q h)

/-- a path carrying one of the parent's invalid characters never reaches the parent, even when
`normpath` would have removed the character (`"x\0/.."`) -/
theorem nested_sub_chk_invalid (inv : List Char) (s : Str) (rest : List Str) (p : Str) (c : Char)
    (hc : c ∈ p) (hi : c ∈ inv) :
    nestedDelegateChk inv (s :: rest) p = .err .InvalidCharsInPath := by
  have : p.any (fun c => inv.contains c) = true := (any_invalid_iff inv p).2 ⟨c, hc, hi⟩
  simp only [nestedDelegateChk, subDelegateChk]
  rw [if_pos this, bind_err]

example : nestedDelegateChk ['\x00'] ["/sub".toList] "x\x00/..".toList = .err .InvalidCharsInPath := by decide +kernel
example : nestedDelegateChk ['\x00'] ["/c".toList, "/a/b".toList] "./f".toList = .ok "/a/b/c/f".toList := by decide +kernel

/-! ## MountFS -/

/-- a stored mount path: `forcedir(abspath(normpath(path)))` -/
def mountStr (m : List Str) : Str := forcedir (absOf m)

theorem mountPoint_clean (path s : Str) (h : mountPoint path = .ok s) :
    ∃ m, Clean m ∧ s = mountStr m := by
  unfold mountPoint at h
  obtain ⟨cs, -, hc, h⟩ := normpath_bind_ok h
  simp only [pure_eq, Res.ok.injEq] at h
  exact ⟨cs, hc, by rw [← h, abspath_mkp hc]; rfl⟩

theorem mountStr_eq {m : List Str} (h : Clean m) : mountStr m = '/' :: dirs m := by
  rw [mountStr, absOf_eq_mkp, forcedir_mkp_true h]

/-- What `MountFS._delegate` hands to the i-th mounted filesystem is the user's resolved path
with exactly the mount point's components removed: relative, clean, and the mount chosen is
the first one (in mount order) whose components are a prefix of the path's. -/
theorem mount_delegate_inside (ms : List (List Str)) (hm : ∀ m ∈ ms, Clean m) (p : Str) (i : Nat)
    (r : Str) (h : mountDelegate (ms.map mountStr) p = .ok (some i, r)) :
    ∃ m cs, ms[i]? = some m ∧ Clean cs ∧ resolve (splitSlash p) = some (m ++ cs) ∧
      r = joinSlash cs ∧ ∀ j, j < i → ∀ m', ms[j]? = some m' → ¬ m' <+: m ++ cs := by
  rw [mountDelegate_eq] at h
  obtain ⟨pcs, hr, hc, h⟩ := resolve_match_ok h
  split at h
  · next i' mstr hf =>
    simp only [Prod.mk.injEq, Option.some.injEq] at h
    obtain ⟨rfl, rfl⟩ := h
    obtain ⟨-, hget, hsw, hfirst⟩ := findMount_some hf
    simp only [Nat.sub_zero, List.getElem?_map, Option.map_eq_some_iff] at hget
    obtain ⟨m, hmi, rfl⟩ := hget
    have hmc : Clean m := hm m (List.mem_of_getElem? hmi)
    rw [mountStr_eq hmc, startsWith_slash_dirs_iff hmc hc] at hsw
    obtain ⟨cs, rfl⟩ := hsw
    have hcs : Clean cs := (clean_append.1 hc).2
    refine ⟨m, cs, hmi, hcs, hr, ?_, ?_⟩
    · rw [mountStr_eq hmc]
      simp only [List.length_cons, List.drop_succ_cons]
      rw [dirs_append, List.drop_left, rstripSlash_dirs hcs]
    · intro j hj m' hm' hpre'
      have hm'c : Clean m' := hm m' (List.mem_of_getElem? hm')
      have := hfirst j (by simpa using hj) (mountStr m') (by simp [hm'])
      rw [mountStr_eq hm'c] at this
      rw [(startsWith_slash_dirs_iff hm'c hc).2 hpre'] at this; cases this
  · cases (Prod.mk.inj h).1

/-- No mount matches: the *raw* path goes to the default `MemoryFS` (as the code does);
it is a path that resolves without climbing, and no mount point is a prefix of it. -/
theorem mount_default_raw (ms : List (List Str)) (hm : ∀ m ∈ ms, Clean m) (p r : Str)
    (h : mountDelegate (ms.map mountStr) p = .ok (none, r)) :
    r = p ∧ ∃ pcs, resolve (splitSlash p) = some pcs ∧ Clean pcs ∧ ∀ m ∈ ms, ¬ m <+: pcs := by
  rw [mountDelegate_eq] at h
  obtain ⟨pcs, hr, hc, h⟩ := resolve_match_ok h
  split at h
  · cases (Prod.mk.inj h).1
  · next hf =>
    refine ⟨(Prod.mk.inj h).2, pcs, hr, hc, ?_⟩
    intro m hmm hpre
    have hmc : Clean m := hm m hmm
    have := findMount_none hf (mountStr m) (List.mem_map.2 ⟨m, hmm, rfl⟩)
    rw [mountStr_eq hmc] at this
    rw [(startsWith_slash_dirs_iff hmc hc).2 hpre] at this; cases this

theorem mount_delegate_err_iff (mounts : List Str) (p : Str) (e : Err) :
    mountDelegate mounts p = .err e ↔ e = .IllegalBackReference ∧ climbs (splitSlash p) := by
  rw [mountDelegate_eq, climbs]
  cases resolve (splitSlash p) <;> simp [eq_comm]

/-! ### `MountFS._delegate` as coded: invalid characters are refused before the mount is looked up -/

/-- whatever the coded `_delegate` answers, the unchecked one answers too: `mount_delegate_inside` and
`mount_default_raw` therefore hold for the code as written -/
theorem mountChk_ok_imp (inv : List Char) (mounts : List Str) (p : Str) (r : Option Nat × Str)
    (h : mountDelegateChk inv mounts p = .ok r) : mountDelegate mounts p = .ok r := by
  simp only [mountDelegateChk] at h
  by_cases hb : p.any (fun c => inv.contains c) = true
  · rw [if_pos hb] at h; cases h
  · rw [if_neg hb] at h; exact h

/-- a path carrying one of the MountFS's invalid characters reaches NO filesystem — mounted or default —, even
when `normpath` would have removed the character (`"foo/x\0/../a"`) -/
theorem mount_delegate_chk_invalid (inv : List Char) (mounts : List Str) (p : Str) (c : Char)
    (hc : c ∈ p) (hi : c ∈ inv) : mountDelegateChk inv mounts p = .err .InvalidCharsInPath := by
  have : p.any (fun c => inv.contains c) = true := (any_invalid_iff inv p).2 ⟨c, hc, hi⟩
  simp only [mountDelegateChk]
  rw [if_pos this]

/-- the coded `_delegate` hands a mounted filesystem the resolved path minus the mount point's components —
relative, clean, first matching mount — and no character of `inv` occurs in the path it was given -/
theorem mount_delegate_chk_inside (inv : List Char) (ms : List (List Str)) (hm : ∀ m ∈ ms, Clean m) (p : Str)
    (i : Nat) (r : Str) (h : mountDelegateChk inv (ms.map mountStr) p = .ok (some i, r)) :
    (∀ c ∈ p, c ∉ inv) ∧
    ∃ m cs, ms[i]? = some m ∧ Clean cs ∧ resolve (splitSlash p) = some (m ++ cs) ∧
      r = joinSlash cs ∧ ∀ j, j < i → ∀ m', ms[j]? = some m' → ¬ m' <+: m ++ cs := by
  refine ⟨?_, mount_delegate_inside ms hm p i r (mountChk_ok_imp inv _ p _ h)⟩
  intro c hc hi
  rw [mount_delegate_chk_invalid inv _ p c hc hi] at h; cases h

example : mountDelegateChk ['\x00'] ["/foo/".toList] "foo/x\x00/../a".toList = .err .InvalidCharsInPath := by decide +kernel
example : mountDelegateChk ['\x00'] ["/foo/".toList] "foo/x/../a".toList = .ok (some 0, "a".toList) := by decide +kernel

/-! ## read-only archives: hostile member names -/

theorem tarKey_clean (name k : Str) (h : tarKey name = some k) :
    ∃ cs, cs ≠ [] ∧ Clean cs ∧ k = joinSlash cs := by
  unfold tarKey at h
  split at h
  · cases h
  · next n hn =>
    obtain ⟨cs, -, hc, rfl⟩ := normpath_ok_resolve _ n hn
    rw [startsWithSlash_strip] at h
    split at h
    · cases h
    · next hne =>
      simp only [Option.some.injEq] at h
      subst h
      refine ⟨cs, ?_, hc, by simp [mkp, joinSlash]⟩
      intro e; subst e
      exact hne (by decide)

/-- every key of `ReadTarFS._directory_entries` is a relative path of ≥ 1 clean components,
whatever the member names of the archive are (absolute, `..`, duplicates, `a//b`, `./a` …) -/
theorem tarKeys_clean (names : List Str) :
    ∀ k ∈ tarKeys names, ∃ cs, cs ≠ [] ∧ Clean cs ∧ k = joinSlash cs := by
  unfold tarKeys
  refine List.foldlRecOn (motive := fun acc => ∀ k ∈ acc, ∃ cs, cs ≠ [] ∧ Clean cs ∧ k = joinSlash cs) names _
    (by simp) ?_
  intro acc hacc nm _ k hk
  split at hk
  · exact hacc k hk
  · next key hkey =>
    rcases mem_odInsert hk with hk | rfl
    · exact hacc k hk
    · exact tarKey_clean nm _ hkey

/-- names that climb are dropped, not exposed -/
theorem tarKey_drops_climbing (name : Str) (h : climbs (splitSlash (stripSlash name))) :
    tarKey name = none := by
  unfold tarKey
  rw [normpath_err_of_resolve _ h]

theorem tarVisible_clean (names : List Str) : ∀ v ∈ tarVisible names, v ≠ [] ∧ Clean v := by
  intro v hv
  unfold tarVisible at hv
  have hv' := mem_dedup hv
  simp only [List.mem_flatMap] at hv'
  obtain ⟨k, hk, hvk⟩ := hv'
  obtain ⟨cs, -, hc, rfl⟩ := tarKeys_clean names k hk
  rw [show osComps (joinSlash cs) = comps (joinWith '/' cs) from rfl, comps_join_clean hc] at hvk
  obtain ⟨i, hi, rfl⟩ := mem_prefixesOf hvk
  exact ⟨take_succ_ne_nil hi, clean_take hc _⟩

/-- every entry of `ReadZipFS._directory` (also of the partial directory left behind when a
member name made the constructor loop raise) is a non-empty list of clean components -/
theorem zipDirectory_clean (names : List Str) :
    ∀ e ∈ (zipDirectory names []).1, e.1 ≠ [] ∧ Clean e.1 :=
  zipDirectory_zclean names [] zclean_nil

/-- the name handed to `zipfile` is relative and clean (a directory gets a trailing slash) -/
theorem zipName_clean (d : ZDir) (p z : Str) (h : zipName d p = .ok z) :
    ∃ cs, Clean cs ∧ resolve (splitSlash p) = some cs ∧
      (z = joinSlash cs ∨ z = forcedir (joinSlash cs)) := by
  unfold zipName at h
  split at h
  · cases h
  · next n hn =>
    obtain ⟨cs, hr, hc, rfl⟩ := normpath_ok_resolve p n hn
    simp only [relpath, lstripSlash_mkp hc] at h
    split at h
    · simp only [Res.ok.injEq] at h
      refine ⟨cs, hc, hr, ?_⟩
      split at h
      · exact Or.inr h.symm
      · exact Or.inl h.symm
    · cases h

/-- For every list of member names, every path visible through the
read models (tar: keys and their implicit parent directories; zip: every entry of the directory
filesystem) consists of clean components only: nothing above or beside the archive root can
be named through a `ReadTarFS` / `ReadZipFS`. -/
theorem archive_names_clean (names : List Str) :
    (∀ v ∈ tarVisible names, v ≠ [] ∧ Clean v) ∧
    (∀ e ∈ (zipDirectory names []).1, e.1 ≠ [] ∧ Clean e.1) :=
  ⟨tarVisible_clean names, zipDirectory_clean names⟩

/-! ## the generated PathFlowTable -/

/-- every sink that is live on the platform receives validated path data only -/
def Method.allValidated (m : Method) : Bool :=
  m.sinks.all fun s => !s.live || s.source == .validated

/-- In every method of `OSFS`, every call that hands a path to
`os.*`, `io.open`, `shutil.*`, `scandir`, `_to_sys_path`, `getsyspath` and is reachable on the
harness platform gets its path data from `validatepath`/`normpath` only. -/
theorem pathflow_all_validated :
    ∀ m ∈ osfsMethods, ∀ s ∈ m.sinks, s.live = true → s.source = .validated := by
  decide +kernel

/-- the table is not vacuous: the class was found and the methods that matter have sinks -/
theorem pathflow_table_nonempty :
    osfsMethodsFound = true ∧ ftpfsMethodsFound = true ∧
    (∀ n ∈ ["getinfo", "listdir", "makedir", "openbin", "remove", "removedir", "removetree",
            "copy", "_scandir", "getsyspath", "geturl", "gettype", "islink", "open", "setinfo",
            "_to_sys_path"],
      ∃ m ∈ osfsMethods, m.name = n ∧ m.live = true ∧ m.sinks ≠ []) := by
  decide +kernel

/-- no syntax the extractor could not follow, in either class -/
theorem pathflow_no_unknown :
    ∀ m ∈ osfsMethods ++ ftpfsMethods, ∀ s ∈ m.sinks, s.source ≠ .unknown := by
  decide +kernel

/-- The same for `FTPFS`: every command sent through `ftplib` (`self.ftp.*`, `_encode`, `FTPFile`)
carries validated path data only (`setinfo` included, whose path parameter goes into the `MFMT` command). -/
theorem pathflow_ftpfs_all_validated :
    ∀ m ∈ ftpfsMethods, ∀ s ∈ m.sinks, s.live = true → s.source = .validated := by
  decide +kernel

/-- the FTPFS half of the table is not vacuous either -/
theorem pathflow_ftpfs_nonempty :
    ∀ n ∈ ["getinfo", "makedir", "openbin", "remove", "removedir", "_scandir", "_read_dir", "create",
           "upload", "readbytes", "getmodified", "setinfo"],
      ∃ m ∈ ftpfsMethods, m.name = n ∧ m.live = true ∧ m.sinks ≠ [] := by
  decide +kernel

/-- what is still raw anywhere in either class sits in statically dead (Windows-only) code -/
theorem pathflow_raw_only_dead :
    ∀ m ∈ osfsMethods ++ ftpfsMethods, ∀ s ∈ m.sinks, s.source = .raw → s.live = false := by
  decide +kernel

/-! ## non-vacuity -/

example : validatepath {} "/foo//bar/../a.b/".toList = .ok "/foo/a.b".toList := by decide +kernel
example : validatepath {} "foo/../../etc/passwd".toList = .error .IllegalBackReference := by decide +kernel
example : validatepath {} "a\x00b".toList = .error .InvalidCharsInPath := by decide +kernel
example : validatepath { maxSys := some 8, root := "/r".toList } "abcdefgh".toList = .error .InvalidPath := by
  decide +kernel
example : sysPathStr "/tmp/root".toList "/a/b".toList = "/tmp/root/a/b".toList := by decide +kernel
example : subDelegate "/sub".toList "x/../y//z".toList = .ok "/sub/y/z".toList := by decide +kernel
example : subDelegate "/sub".toList "x/../../sub2".toList = .err .IllegalBackReference := by decide +kernel
example : nestedDelegate ["/c".toList, "/a/b".toList] "./f".toList = .ok "/a/b/c/f".toList := by decide +kernel
example : mountDelegate ["/foo/".toList, "/foo2/".toList] "foo2/../foo2/x".toList
    = .ok (some 1, "x".toList) := by decide +kernel
example : mountDelegate ["/foo/".toList] "foo2/x".toList = .ok (none, "foo2/x".toList) := by decide +kernel
example : tarKeys ["../x".toList, "/abs".toList, "a/../../b".toList, "a//b".toList, "./a".toList,
    "a".toList] = ["abs".toList, "a/b".toList, "a".toList] := by decide +kernel
example : (zipDirectory ["/abs".toList, "a//b".toList, "./a".toList, "../x".toList, "later".toList] []).2
    = some .IllegalBackReference := by decide +kernel

end Fs.C03
