/-
  C07 — an I/O failure at any point of a move loses no source data.

  Model: `FsModel/Fault.lean` (primitive-step programs of every move path, run with one fault).
  `NoLoss τ root droot s s'` : every file of the source subtree `root` of `s` has its original
  bytes readable at its source path in `s'` OR complete at the corresponding destination path
  (`τ` = side of the destination filesystem; `NoLossFile`/`MovedFile` are the one-file forms).
  `runFault prog k kind s` : step `k` raises `OperationFailed` (`fserr`) / `OSError` (`oserr`)
  instead of executing, the exception propagates through the transcribed `try/except/finally`
  structure; `crash` stops the process before step `k` (no handler runs).
  `(runFault …).hit` : the failing step was reached.

  The theorems quantify over every state (every tree, every file content, ill-formed stores
  included), every step index `k` and every kind; over every configuration too, unless a hypothesis
  on `cfg` says which path of the code is meant (`move_file_fault_reported`,
  `move_file_late_failure_safe_without_cleanup`, `move_fs_fault_safe`, `source_removed_last_file`).
-/
import FsProofs.Lemmas.FaultMoveLemmas

namespace Fs.C07
open Fs Fs.Fault

/-! ## move_file -/

/-- `fs.move.move_file`, every configuration (same / different filesystem, MemoryFS / OSFS /
    base-class backend on each side, both-syspaths shortcut, `preserve_time`,
    `cleanup_dst_on_error`): whatever step fails, or wherever the process stops, the source file
    is not lost; and unless the process stopped, the call raises or the file is complete at its
    destination (the `os.rename` attempt of `FS.move` falls back to copy + remove).  The premise
    `hit = true` of the second part is not used: "raises or complete" holds of every run that did
    not crash.  That a failure is never hidden is `move_file_fault_reported`. -/
theorem move_file_fault_safe (cfg : Cfg) (s : State) (p q : Path) (k : Nat) (kind : Kind) :
    NoLossFile cfg.dstSide p q s (runFault (moveFile cfg s p q) k kind s).state ∧
    (kind ≠ .crash → (runFault (moveFile cfg s p q) k kind s).hit = true →
      (runFault (moveFile cfg s p q) k kind s).out.isErr = true ∨
      MovedFile cfg.dstSide p q s (runFault (moveFile cfg s p q) k kind s).state) := by
  have h := noLossFile_of_good fun b hb => moveFile_good _ (runFault_atomic k kind) cfg s p q b hb 0
  exact ⟨h.1, fun hk _ => h.2 (runFault_no_crash _ k hk s)⟩

/-- the full-strength "the failure is reported" holds whenever `move_file` does not go through
    the `os.rename` attempt … -/
theorem move_file_fault_reported (cfg : Cfg) (hr : cfg.usesRename = false) (s : State) (p q : Path)
    (k : Nat) (kind : Kind) (hk : kind ≠ .crash)
    (hit : (runFault (moveFile cfg s p q) k kind s).hit = true) :
    (runFault (moveFile cfg s p q) k kind s).out.isErr = true :=
  runFault_reported hk (moveFile_transparent kind cfg s p q hr) hit

def exState : State :=
  { a := { files := [([['d'], ['x']], [1, 2, 3])], dirs := [[['d']]] }, b := { files := [], dirs := [] } }

/-- … and is false when it does: on an OSFS the failure of `os.rename` (step 2) is swallowed by
    `except OSError: pass`, the copy path completes the move and the call returns normally. -/
theorem move_file_rename_failure_reported_counterexample :
    ∃ (cfg : Cfg) (s : State) (p q : Path) (k : Nat),
      (runFault (moveFile cfg s p q) k .oserr s).hit = true ∧
      (runFault (moveFile cfg s p q) k .oserr s).out = .ok := by
  refine ⟨{ same := true, srcB := .os, chunk := 3 }, exState, [['d'], ['x']], [['z']], 2, ?_, ?_⟩ <;> decide +kernel

/-- a normal return always means the file is complete at its destination, with or without fault -/
theorem move_file_ok_means_moved (cfg : Cfg) (s : State) (p q : Path) (f : Option Fault)
    (hl : ∀ flt, f = some flt → flt.late = false)
    (ho : (exec f (moveFile cfg s p q) 0 s).out = .ok) :
    MovedFile cfg.dstSide p q s (exec f (moveFile cfg s p q) 0 s).state :=
  fun b hb => (moveFile_good f hl cfg s p q b hb 0).2 ho

/-- crash variant (`os.rename` atomic): wherever the process stops, the file is not lost -/
theorem move_file_crash_safe (cfg : Cfg) (s : State) (p q : Path) (k : Nat) :
    NoLossFile cfg.dstSide p q s (prefixRun (moveFile cfg s p q) k s) :=
  (move_file_fault_safe cfg s p q k .crash).1

/-! ### steps that fail after taking effect: `cleanup_dst_on_error` needs "a failed step has no effect" -/

/-- If `src_fs.remove(src_path)` can raise an `FSError` *after* it removed the file (a lost reply
    of a remote filesystem), `cleanup_dst_on_error=True` deletes the only remaining copy. -/
theorem move_file_late_failure_cleanup_counterexample :
    ∃ (cfg : Cfg) (s : State) (p q : Path) (k : Nat),
      cfg.cleanup = true ∧
      ¬ NoLossFile cfg.dstSide p q s (runFaultLate (moveFile cfg s p q) k .fserr s).state := by
  refine ⟨{ chunk := 3 }, exState, [['d'], ['x']], [['z']], 9, rfl, ?_⟩
  intro h
  have := h [1, 2, 3] (by decide +kernel)
  revert this
  decide +kernel

/-- With `cleanup_dst_on_error=False` the standard copy-and-delete path (two filesystems, not both
    with a system path) is safe even when steps fail after taking effect.  The other paths of
    `move_file` are not covered. -/
theorem move_file_late_failure_safe_without_cleanup (cfg : Cfg) (hs : cfg.same = false)
    (hc : cfg.cleanup = false) (hnb : ¬ (cfg.srcB = .os ∧ cfg.dstB = .os))
    (s : State) (p q : Path) (k : Nat) (kind : Kind) :
    NoLossFile .b p q s (runFaultLate (moveFile cfg s p q) k kind s).state := by
  intro b hb
  unfold runFaultLate moveFile
  simp only [hs, Bool.false_eq_true, if_false, hnb, hc]
  -- `try: remove(src) except FSError: pass; raise`: no step of it touches the destination
  exact (copyFile_good _ cfg hs s p q b hb _ (fun s2 _ h2 => good_of_frame _ (fun pr hpr => by
    cases List.mem_singleton.1 hpr; rfl) h2) 0).1

/-! ## FS.move and MemoryFS.move -/

/-- `FS.move` (fs/base.py): pre-checks, `os.rename` when `supports_rename`, else
    open-source → upload → `copy_modified_time` → `remove(source)`; any `overwrite` /
    `preserve_time`; `(τ, q)` is the destination on the same filesystem object.  The second part as
    for `move_file_fault_safe`; that a failure is never hidden is `fs_move_fault_reported`. -/
theorem fs_move_fault_safe (cfg : Cfg) (s : State) (rename : Bool) (τ : Side) (p q : Path)
    (k : Nat) (kind : Kind) :
    NoLossFile τ p q s (runFault (fsMove cfg s rename .a p τ q) k kind s).state ∧
    (kind ≠ .crash → (runFault (fsMove cfg s rename .a p τ q) k kind s).hit = true →
      (runFault (fsMove cfg s rename .a p τ q) k kind s).out.isErr = true ∨
      MovedFile τ p q s (runFault (fsMove cfg s rename .a p τ q) k kind s).state) := by
  have h := noLossFile_of_good fun b hb => fsMove_good _ (runFault_atomic k kind) cfg s rename τ p q b hb 0
  exact ⟨h.1, fun hk _ => h.2 (runFault_no_crash _ k hk s)⟩

/-- without the rename attempt every failure of `FS.move` reaches the caller -/
theorem fs_move_fault_reported (cfg : Cfg) (s : State) (τ : Side) (p q : Path)
    (k : Nat) (kind : Kind) (hk : kind ≠ .crash)
    (hit : (runFault (fsMove cfg s false .a p τ q) k kind s).hit = true) :
    (runFault (fsMove cfg s false .a p τ q) k kind s).out.isErr = true :=
  runFault_reported hk (fsMove_norename_transparent _ cfg s .a p τ q) hit

theorem fs_move_crash_safe (cfg : Cfg) (s : State) (rename : Bool) (τ : Side) (p q : Path) (k : Nat) :
    NoLossFile τ p q s (prefixRun (fsMove cfg s rename .a p τ q) k s) :=
  (fs_move_fault_safe cfg s rename τ p q k .crash).1

/-- `MemoryFS.move` is atomic: the only step with an effect is the re-link done under the lock
    (no I/O between unlink and link), so under every fault and at every crash point the
    filesystem is either exactly as before or exactly as after the complete move. -/
theorem mem_move_atomic (cfg : Cfg) (s : State) (p q : Path) (k : Nat) (kind : Kind) :
    (memMove cfg p q).prims.filter (fun pr => !pr.isPure) = [.relinkFile .a p q cfg.overwrite] ∧
    ((runFault (memMove cfg p q) k kind s).state = s ∨
     (Prim.relinkFile .a p q cfg.overwrite).step s = .ok (runFault (memMove cfg p q) k kind s).state) := by
  have hpure := preservePart_pure cfg.preserveAtomic .a p .a q
  constructor
  · exact congrArg (Prim.relinkFile .a p q cfg.overwrite :: ·)
      (List.filter_eq_nil_iff.2 fun pr hpr => by simp [hpure pr hpr])
  · unfold runFault memMove
    refine Safe.pure_seq (P := fun st _ => st = s ∨ (Prim.relinkFile .a p q cfg.overwrite).step s = .ok st) rfl
      (fun _ _ => Or.inl rfl)
      (Safe.prim_seq (execPrim_atomic _ (runFault_atomic k kind) _ · s) (fun _ _ => Or.inl rfl)
        fun s' hs' m => Or.inr ?_) 0
    rw [exec_allpure_state _ _ _ _ hpure]; exact hs'

theorem mem_move_fault_safe (cfg : Cfg) (s : State) (p q : Path) (k : Nat) (kind : Kind) :
    NoLossFile .a p q s (runFault (memMove cfg p q) k kind s).state := by
  intro b hb
  exact (memMove_good _ (runFault_atomic k kind) cfg s p q b hb 0).1

/-! ## move_dir / move_fs / movedir -/

/-- `fs.move.move_dir` with the sequential copier (`workers = 0`), for every tree, every backend
    pair, every `preserve_time`: whatever step fails or wherever the process stops, every file of
    the source tree is intact at its source path or complete at its destination path; a failure
    always reaches the caller; a normal return means the whole tree arrived.
    `hclash` is asked only of a move *inside one filesystem* whose destination is not inside the
    source (a destination inside the source raises `IllegalDestination` before anything is copied):
    see `NoClash`, `noClash_of_not_ancestor` and `move_dir_same_fs_clash_counterexample`. -/
theorem move_dir_fault_safe (cfg : Cfg) (s : State) (root droot : Path)
    (hclash : cfg.same = true → isPre root droot = false → NoClash s root droot) (k : Nat) (kind : Kind) :
    NoLoss cfg.dstSide root droot s (runFault (moveDir cfg s root droot) k kind s).state ∧
    (kind ≠ .crash → (runFault (moveDir cfg s root droot) k kind s).hit = true →
      (runFault (moveDir cfg s root droot) k kind s).out.isErr = true) ∧
    ((runFault (moveDir cfg s root droot) k kind s).out = .ok →
      Moved cfg.dstSide root droot s (runFault (moveDir cfg s root droot) k kind s).state) := by
  have h := moveDir_good (some ⟨k, kind, false⟩) cfg s root droot hclash 0
  exact ⟨h.1, fun hk hit => runFault_reported hk (moveDir_transparent kind cfg s root droot) hit, h.2⟩

/-- crash variant: wherever the process stops inside `move_dir`, no file of the tree is lost -/
theorem move_dir_crash_safe (cfg : Cfg) (s : State) (root droot : Path)
    (hclash : cfg.same = true → isPre root droot = false → NoClash s root droot) (k : Nat) :
    NoLoss cfg.dstSide root droot s (prefixRun (moveDir cfg s root droot) k s) :=
  (move_dir_fault_safe cfg s root droot hclash k .crash).1

/-- the same for steps that fail *after* taking effect: `move_dir` has no cleanup handler, so it
    does not depend on failures being atomic -/
theorem move_dir_late_fault_safe (cfg : Cfg) (s : State) (root droot : Path)
    (hclash : cfg.same = true → isPre root droot = false → NoClash s root droot) (k : Nat) (kind : Kind) :
    NoLoss cfg.dstSide root droot s (runFaultLate (moveDir cfg s root droot) k kind s).state :=
  (moveDir_good (some ⟨k, kind, true⟩) cfg s root droot hclash 0).1

/-- `fs.move.move_fs` between two filesystems -/
theorem move_fs_fault_safe (cfg : Cfg) (hs : cfg.same = false) (s : State) (k : Nat) (kind : Kind) :
    NoLoss .b [] [] s (runFault (moveFs cfg s) k kind s).state ∧
    (kind ≠ .crash → (runFault (moveFs cfg s) k kind s).hit = true →
      (runFault (moveFs cfg s) k kind s).out.isErr = true) := by
  have h := move_dir_fault_safe cfg s [] [] (fun h => by rw [hs] at h; cases h) k kind
  rw [Cfg.dstSide_b hs] at h
  exact ⟨h.1, h.2.1⟩

/-- `FS.movedir` (base class; also what `MemoryFS.movedir` falls back to for an existing
    destination) -/
theorem fs_movedir_fault_safe (cfg : Cfg) (s : State) (p q : Path)
    (hclash : isPre p q = false → NoClash s p q) (k : Nat) (kind : Kind) :
    NoLoss .a p q s (runFault (fsMovedir cfg s p q) k kind s).state ∧
    ((runFault (fsMovedir cfg s p q) k kind s).out = .ok →
      Moved .a p q s (runFault (fsMovedir cfg s p q) k kind s).state) :=
  fsMovedir_good _ cfg s p q hclash 0

/-- `MemoryFS.movedir`: re-link (one atomic step under the lock) when the destination does not
    exist, else the base class -/
theorem mem_movedir_fault_safe (cfg : Cfg) (s : State) (p q : Path)
    (hclash : isPre p q = false → NoClash s p q) (k : Nat) (kind : Kind) :
    NoLoss .a p q s (runFault (memMovedir cfg s p q) k kind s).state ∧
    ((runFault (memMovedir cfg s p q) k kind s).out = .ok →
      Moved .a p q s (runFault (memMovedir cfg s p q) k kind s).state) :=
  memMovedir_good _ (runFault_atomic k kind) cfg s p q hclash 0

/-- `NoClash` holds when neither path is a prefix of the other: the destination is not the source,
    not an ancestor of it ("move a directory up") and not inside it.  With the destination inside or
    equal to the source it fails as soon as the subtree holds a file: `move_dir_fault_safe` and its
    relatives ask for `NoClash` only when `isPre root droot = false`; `source_removed_last` and
    `move_dir_fault_safe_workers` ask for it outright and so say nothing of that case. -/
theorem noClash_of_not_ancestor (s : State) (root droot : Path) (h : isPre droot root = false)
    (h' : isPre root droot = false) : NoClash s root droot := by
  intro x _ _
  cases hc : isPre root (rebase root droot x) with
  | false => rfl
  | true =>
    -- `root` and `droot` are both prefixes of the rebased path, so one is a prefix of the other
    have h1 := (isPre_iff _ _).1 hc
    have h2 := (isPre_iff _ _).1 (isPre_rebase root droot x)
    rcases List.prefix_or_prefix_of_prefix h1 h2 with h3 | h3
    · rw [← isPre_iff] at h3; rw [h3] at h'; cases h'
    · rw [← isPre_iff] at h3; rw [h3] at h; cases h

def clashState : State :=
  { a := { files := [([['a'], ['a'], ['x']], [7])], dirs := [[['a']], [['a'], ['a']]] },
    b := { files := [], dirs := [] } }

/-- … and it cannot be dropped: `movedir("a", "/")` with `a/a/x` present copies `a/a/x` to `a/x`
    — inside the source — and `removetree("a")` then deletes both.  No fault is needed (the open
    known finding `movedir-dst-ancestor-of-src-name-clash`, C01/C05/C06). -/
theorem move_dir_same_fs_clash_counterexample :
    ∃ (cfg : Cfg) (s : State) (root droot : Path),
      cfg.same = true ∧ (run (moveDir cfg s root droot) s).out = .ok ∧
      ¬ NoLoss cfg.dstSide root droot s (run (moveDir cfg s root droot) s).state := by
  refine ⟨{ same := true, chunk := 3 }, clashState, [['a']], [], rfl, by decide +kernel, ?_⟩
  intro h
  have := h [['a'], ['a'], ['x']] [7] (by decide) (by decide +kernel)
  revert this
  decide +kernel

/-! ## the source is removed last -/

/-- `move_dir` is "copy phase ; removal phase": (1) the program text splits that way;
    (2) no step of the copy phase can change a file of the source tree; (3) every step of the
    removal phase changes only entries of the source tree, and nothing follows it;
    (4) the removal phase is entered only if every step of the copy phase returned — under
    every fault. -/
theorem source_removed_last (cfg : Cfg) (s : State) (root droot : Path)
    (hclash : cfg.same = true → NoClash s root droot) :
    moveDir cfg s root droot = (moveDirCopyPhase cfg s root droot ;; removeTree cfg s root) ∧
    (∀ pr ∈ (moveDirCopyPhase cfg s root droot).prims, ∀ x, isPre root x = true → pr.mutates .a x = false) ∧
    (∀ pr ∈ (removeTree cfg s root).prims, ∀ ρ y, pr.mutates ρ y = true → ρ = .a ∧ isPre root y = true) ∧
    (∀ (f : Option Fault) (n : Nat),
      (exec f (moveDir cfg s root droot) n s).state ≠ (exec f (moveDirCopyPhase cfg s root droot) n s).state →
      (exec f (moveDirCopyPhase cfg s root droot) n s).out = .ok) := by
  refine ⟨rfl, ?_, removeTree_within cfg s root, ?_⟩
  · intro pr hpr x hx
    cases hm : pr.mutates .a x with
    | false => rfl
    | true =>
      obtain ⟨h1, x', hx', he⟩ := moveDirCopyPhase_within cfg s root droot pr hpr .a x hm
      obtain ⟨hp', hf'⟩ := mem_treeFiles.1 hx'
      exact absurd ⟨h1.symm, he.symm⟩ (dst_ne_src cfg s root droot hclash x' x hp' hf' hx)
  · intro f n hne
    unfold moveDir at hne
    simp only [exec] at hne
    cases ho : (exec f (moveDirCopyPhase cfg s root droot) n s).out with
    | ok => rfl
    | raised x => simp [ho] at hne
    | crashed => simp [ho] at hne

/-- the same for the standard path of `move_file`: `remove(src)` is the last statement, guarded
    by the only handler, and the copy before it writes to the destination entry only -/
theorem source_removed_last_file (cfg : Cfg) (hs : cfg.same = false) (hnb : ¬ (cfg.srcB = .os ∧ cfg.dstB = .os))
    (s : State) (p q : Path) :
    moveFile cfg s p q =
      ((.prim (.call "copy_file" .a p) ;; copyFileInternal cfg s p q) ;;
       .tryCatch (.remove .a p false) .fsError (if cfg.cleanup then .prim (.remove .b q false) else .skip) true) ∧
    (∀ pr ∈ (Prog.prim (.call "copy_file" .a p) ;; copyFileInternal cfg s p q).prims,
      ∀ ρ y, pr.mutates ρ y = true → ρ = .b ∧ y = q) := by
  constructor
  · unfold moveFile; simp [hs, hnb]
  · intro pr hpr ρ y hm
    obtain ⟨h1, h2⟩ := copyFile_only cfg hs s p q pr hpr ρ y hm
    exact ⟨h1.symm, h2.symm⟩

/-! ## worker threads -/

/-- What C07 needs of `copy_dir` run by the `Copier` with `workers > 0`, as explicit hypotheses:
    `copyDir s s' o` = "copy_dir started in `s` can end in `s'` with outcome `o`", for some
    schedule of producer and workers and some placement of the fault.  The first field is what C09
    proves of the bulk-copy transition system; the second is a modelling convention of
    `FsModel.Bulk` (it has no source store), not a theorem. -/
structure BulkCopier (τ : Side) (root droot : Path) (copyDir : State → State → Out → Prop) : Prop where
  /-- C09 `bulk_error_never_hidden` (+ `bulk_equals_sequential`): if any transfer failed,
      `copy_dir` raises; so a normal return means every file was transferred completely -/
  bulk_error_never_hidden : ∀ s s', copyDir s s' .ok → Moved τ root droot s s'
  /-- the copier opens source files for reading only -/
  bulk_reads_source_only : ∀ s s' o, copyDir s s' o → SrcIntact root s s'

/-- `move_dir` around an abstract parallel `copy_dir`: source check and `makedir(dst)`, then
    `copy_dir`, then `removetree(src)` only if `copy_dir` returned.  The `isDir` test of the source
    and the `IllegalDestination` test of a move inside one filesystem are left out: both end the real
    `move_dir` before a file is copied or removed, which `copyFailed` lets `copy_dir` do. -/
inductive MoveDirW (cfg : Cfg) (copyDir : State → State → Out → Prop) (f : Option Fault)
    (s : State) (root droot : Path) : State → Out → Prop where
  | preFailed (h : (exec f (.prim (.getinfo .a root) ;; .prim (.makedir cfg.dstSide droot true)) 0 s).out ≠ .ok) :
      MoveDirW cfg copyDir f s root droot
        (exec f (.prim (.getinfo .a root) ;; .prim (.makedir cfg.dstSide droot true)) 0 s).state
        (exec f (.prim (.getinfo .a root) ;; .prim (.makedir cfg.dstSide droot true)) 0 s).out
  | copyFailed (s2 : State) (o : Out)
      (h : (exec f (.prim (.getinfo .a root) ;; .prim (.makedir cfg.dstSide droot true)) 0 s).out = .ok)
      (hc : copyDir (exec f (.prim (.getinfo .a root) ;; .prim (.makedir cfg.dstSide droot true)) 0 s).state s2 o)
      (ho : o ≠ .ok) : MoveDirW cfg copyDir f s root droot s2 o
  | copied (s2 : State) (n : Nat)
      (h : (exec f (.prim (.getinfo .a root) ;; .prim (.makedir cfg.dstSide droot true)) 0 s).out = .ok)
      (hc : copyDir (exec f (.prim (.getinfo .a root) ;; .prim (.makedir cfg.dstSide droot true)) 0 s).state s2 .ok) :
      MoveDirW cfg copyDir f s root droot (exec f (removeTree cfg s root) n s2).state
        (exec f (removeTree cfg s root) n s2).out

/-- `move_dir` / `move_fs` with any number of workers and any schedule: nothing is lost, and a
    normal return means the tree arrived — because `removetree(src)` runs only after `copy_dir`
    returned, and (C09) `copy_dir` returns only if every transfer succeeded. -/
theorem move_dir_fault_safe_workers (cfg : Cfg) (copyDir : State → State → Out → Prop)
    (s : State) (root droot : Path) (hC : BulkCopier cfg.dstSide root droot copyDir)
    (hclash : cfg.same = true → NoClash s root droot)
    (f : Option Fault) (s' : State) (o : Out) (hrun : MoveDirW cfg copyDir f s root droot s' o) :
    NoLoss cfg.dstSide root droot s s' ∧ (o = .ok → Moved cfg.dstSide root droot s s') := by
  have hpre : ∀ ρ y, (exec f (.prim (.getinfo .a root) ;; .prim (.makedir cfg.dstSide droot true)) 0 s).state.file ρ y
      = s.file ρ y := fun ρ y => Safe.frame (F := fun _ _ => False)
    (MutWithin.seq (MutWithin.inert fun _ _ => rfl) (MutWithin.inert fun _ _ => rfl)) 0 ρ y id
  cases hrun with
  | preFailed h => exact goodDir_stop (fun x b _ hb => by rw [hpre]; exact hb) _ h
  | copyFailed s2 o h hc ho =>
    exact goodDir_stop (fun x b hx hb => hC.bulk_reads_source_only _ _ _ hc x b hx (by rw [hpre]; exact hb)) o ho
  | copied s2 n h hc =>
    exact removeTree_good cfg s root droot hclash
      (fun x b hx hb => hC.bulk_error_never_hidden _ _ hc x b hx (by rw [hpre]; exact hb)) n

/-! ## the hypotheses are satisfiable; the model computes what it should on a concrete tree -/

def exTree : State :=
  { a := { files := [([['d'], ['x']], [1, 2, 3, 4, 5]), ([['d'], ['e'], ['y']], []), ([['t']], [9])],
           dirs := [[['d']], [['d'], ['e']]] },
    b := { files := [], dirs := [] } }

example : NoClash exTree [['d']] [['q']] := noClash_of_not_ancestor _ _ _ (by decide) (by decide)

/-- un-faulted `move_dir` MemoryFS → OSFS with a 2-byte chunk: returns, tree moved, source gone,
    the unrelated file `t` untouched -/
example :
    (run (moveDir { dstB := .os, chunk := 1, preserve := true } exTree [['d']] [['q']]) exTree).out = .ok ∧
    (run (moveDir { dstB := .os, chunk := 1, preserve := true } exTree [['d']] [['q']]) exTree).state.file .b
      [['q'], ['x']] = some [1, 2, 3, 4, 5] ∧
    (run (moveDir { dstB := .os, chunk := 1, preserve := true } exTree [['d']] [['q']]) exTree).state.file .a
      [['d'], ['x']] = none ∧
    (run (moveDir { dstB := .os, chunk := 1, preserve := true } exTree [['d']] [['q']]) exTree).state.file .a
      [['t']] = some [9] := by decide +kernel

/-- the first `write` to `q/x` (step 15) fails: raised, source intact, the destination file created
    and still empty -/
example :
    (runFault (moveDir { chunk := 1 } exTree [['d']] [['q']]) 15 .fserr exTree).out = .raised (.fs .OperationFailed) ∧
    (runFault (moveDir { chunk := 1 } exTree [['d']] [['q']]) 15 .fserr exTree).hit = true ∧
    srcIntactB exTree (runFault (moveDir { chunk := 1 } exTree [['d']] [['q']]) 15 .fserr exTree).state [['d']] = true ∧
    dstCompleteB .b exTree (runFault (moveDir { chunk := 1 } exTree [['d']] [['q']]) 15 .fserr exTree).state
      [['d']] [['q']] = false := by decide +kernel

/-- a trivial copier satisfying `BulkCopier` exists (it never returns normally) -/
example : BulkCopier .b [['d']] [['q']] (fun s s' o => s' = s ∧ o = .raised (.fs .BulkCopyFailed)) :=
  ⟨fun _ _ h => (by cases h.2), fun _ _ _ h => (by rw [h.1]; exact srcIntact_refl _ _)⟩

end Fs.C07
