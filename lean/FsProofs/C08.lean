/-
  C08 — individual FS methods are linearizable under concurrent use.

  Model: `FsModel/Conc.lean` (threads = instruction lists `acq | rel | step`, a schedule = the
  list of thread ids in step order, lock = mutual exclusion: trusted).  Which methods are one
  locked block is NOT written here: it is read from the GENERATED `LockTable`
  (harness/extract/locktable.py, regenerated from the source before every build) and re-proved
  by `decide` on every run.

  FULL statement of the property on the model, proved below for MemoryFS:

      memoryfs_linearizable : ∀ calls s, Linearizable tableImpl calls s

  (every operation of `Ref.Op`, mutators and queries, any number of threads, any tree, any
  schedule).  `tableImpl` is read off the generated table (`table_impl`: `removedir`, `move`,
  `writebytes`, `readbytes` of MemoryFS are one locked block each).  The locks the table shows — around
  `MemoryFS.removedir` (/repo 0e32556 added it), `FS.readbytes`/`FS.writebytes` (feefeca), `FS.move`
  (652becf), `FS.readtext`/`FS.writetext` (a9b2b2a), `MemoryFS.getinfo` (0b00a5c) — are each a table
  theorem here.  `FsProofs/C08Model.lean` has the variants of the model without the first three and the
  races they allow (`…_without_lock_counterexample`); the `…_repaired` theorems here are
  `memoryfs_linearizable` on the same calls and trees and on a `getinfo` and a `readbytes` race, the
  `…_repaired_runs` theorems enumerate their schedules.
-/
import FsModel.Conc
import FsModel.Generated.LockTable
import FsProofs.Lemmas.ConcLemmas
import FsProofs.C08Model
import FsModel.ConcDriver

namespace Fs.C08
open Fs Fs.Ref Fs.Conc Fs.Lock Fs.Generated

/-! ## table theorems over the GENERATED LockTable (re-proved on every run) -/

/-- the MemoryFS methods that touch the tree: each must be ONE locked block (derived from the
code: every method of `MemoryFS` containing a `_DirEntry` mutator or a tree lookup) -/
def memMutators : List String :=
  ["makedir", "move", "movedir", "openbin", "remove", "removedir", "removetree", "setinfo",
   "listdir", "scandir", "_get_dir_entry"]

/-- the compound defaults of `fs/base.py` that MemoryFS inherits are one locked block each -/
def baseCompound : List String :=
  ["appendbytes", "appendtext", "copy", "copydir", "create", "download", "makedirs", "touch",
   "upload", "writefile", "readbytes", "writebytes", "readtext", "writetext"]

/-- exactly one shared access, a call that ends in the locked `_get_dir_entry` / `scandir` /
`setinfo` / `openbin` (`getsize → getdetails → getinfo → _get_dir_entry`): the queries, and `settimes`
and `open` -/
def memSingleCall : List String :=
  ["exists", "isdir", "isfile", "islink", "getsize", "gettype", "getdetails", "getbasic",
   "isempty", "settimes", "open"]

/-- does class `c` run method `m` as a block locked with the lock of the object itself? -/
def ownLocked (c m : String) : Bool :=
  match resolve lockTable lockBases 8 c m with
  | some e => e.body.lockSeq.contains "self"
  | none => false

/-- the method names of the constructors of `Ref.Op` other than `close`, written out (the same list as
`Guard.refMethods` without `"close"`; nothing in this file ties it to `Op`) -/
def opMethods : List String :=
  ["exists", "isdir", "isfile", "listdir", "getsize", "gettype", "isempty", "getinfo", "readbytes",
   "makedir", "makedirs", "writebytes", "appendbytes", "create", "touch", "settimes", "openbin",
   "remove", "removedir", "removetree", "move", "copy", "movedir", "copydir"]

def rowsOf (t : List Entry) (c : String) : List Entry := t.filter (·.cls == c)

/-- `resolve` on the rows of each class: a method is looked for among the entries of the class only, and the rows of
a class are the same term for every method, so the kernel selects them once per class and not once per look-up -/
def resolveR (t : List Entry) (bases : List (String × String)) : Nat → String → String → Option Entry
  | 0, _, _ => none
  | fuel + 1, c, m =>
    match (rowsOf t c).find? (·.method == m) with
    | some e => some e
    | none => match bases.lookup c with
      | some b => resolveR t bases fuel b m
      | none => none

theorem resolve_eq : @resolve = @resolveR := by
  funext t bases fuel
  induction fuel with
  | zero => rfl
  | succ n ih =>
    funext c m
    simp only [resolve, resolveR, Lock.find?, rowsOf, List.find?_filter, ih, Bool.decide_and, Bool.decide_eq_true]
    rfl

/-- What the generated table must show: the table theorems of this file, as the fields of one structure that is
decided in one evaluation.  An evaluation pays for every string literal of the table it compares, and the kernel keeps
what it has computed (the rows of a class, `shape` and `lockSeq` of an entry) within one proof only. -/
structure LockTableLaws : Prop where
  mem_mutators_single_segment : ∀ m ∈ memMutators, shapeOf lockTable lockBases "MemoryFS" m = .singleLocked
  base_compound_single_segment : ∀ m ∈ baseCompound, shapeOf lockTable lockBases "MemoryFS" m = .singleLocked
  mem_queries_single_call : ∀ m ∈ memSingleCall, shapeOf lockTable lockBases "MemoryFS" m = .singleCall
  base_bytes_io_single_locked : ∀ c ∈ ["MemoryFS", "OSFS"], ∀ m ∈ ["readbytes", "writebytes"],
    shapeOf lockTable lockBases c m = .singleLocked
  base_move_single_locked : shapeOf lockTable lockBases "OSFS" "move" = .singleLocked ∧
    shapeOf lockTable lockBases "MountFS" "move" = .singleLocked ∧
    shapeOf lockTable lockBases "MultiFS" "move" = .singleLocked
  base_text_io_single_locked : ∀ c ∈ ["MemoryFS", "OSFS"], ∀ m ∈ ["readtext", "writetext"],
    shapeOf lockTable lockBases c m = .singleLocked
  mem_getinfo_single_locked : shapeOf lockTable lockBases "MemoryFS" "getinfo" = .singleLocked
  view_never_uses_its_own_lock : ∀ c ∈ ["WrapFS", "SubFS", "ClosingSubFS"],
    ((lockTable.filter fun e => e.cls == "FS").all fun e =>
      ["lock", "close", "__exit__", "__del__"].contains e.method || !ownLocked c e.method) = true
  every_op_method_atomic : ∀ m ∈ opMethods, atomicIn lockTable lockBases 6 "MemoryFS" m = true
  table_impl : tableImpl =
    { removedirAtomic := true, moveAtomic := true, writebytesAtomic := true, readbytesAtomic := true }
  mem_tree_mutations_listed :
    (lockTable.all fun e => !(e.cls == "MemoryFS" && e.body.hasDirMut) || memMutators.contains e.method) = true
  mem_no_unlocked_tree_access :
    (lockTable.all fun e => !(e.cls == "MemoryFS" && !["__init__", "close"].contains e.method) ||
      !e.body.unlockedTreeAccess) = true
  base_file_io_methods_locked :
    (lockTable.all fun e =>
      !(e.cls == "FS" && (match e.body with
          | .segs l => l.any fun sg => sg.acc.any fun a => match a with | .fileIO _ => true | _ => false
          | .unknown _ => false)) ||
      e.shape == .singleLocked || ["hash"].contains e.method) = true
  mem_no_unlocked_entry_use :
    (lockTable.all fun e => !(e.cls == "MemoryFS" && !["__init__", "close"].contains e.method) ||
      !e.body.unlockedEntryUse) = true
  no_deadlock :
    (lockTable.all fun e => [[], ["self"], ["fs"], ["src_fs", "dst_fs"]].contains e.body.lockSeq) = true
  methods_take_only_their_own_lock :
    (lockTable.all fun e =>
      !["FS", "MemoryFS", "MountFS", "MultiFS", "WrapFS", "SubFS", "ClosingSubFS", "OSFS"].contains e.cls ||
      [[], ["self"]].contains e.body.lockSeq ||
      (e.cls == "WrapFS" && ["copy", "copydir"].contains e.method && e.body.lockSeq == ["src_fs", "dst_fs"])) = true
  unknown_bodies_listed :
    (lockTable.all fun e => !(e.shape == .unknown) || [("FS", "filterdir")].contains (e.cls, e.method)) = true

theorem lock_table_laws : LockTableLaws := by
  -- the structure is the conjunction of its fields; that is decided, with every `resolve` read as `resolveR`
  refine (fun ⟨h1, h2, h3, h4, h5, h6, h7, h8, h9, h10, h11, h12, h13, h14, h15, h16, h17⟩ =>
      ⟨h1, h2, h3, h4, h5, h6, h7, h8, h9, h10, h11, h12, h13, h14, h15, h16, h17⟩ :
    _ ∧ _ ∧ _ ∧ _ ∧ _ ∧ _ ∧ _ ∧ _ ∧ _ ∧ _ ∧ _ ∧ _ ∧ _ ∧ _ ∧ _ ∧ _ ∧ _ → LockTableLaws) ?_
  simp only [shapeOf, ownLocked, atomicIn, tableImpl, resolve_eq]
  decide +kernel

/-- TABLE THEOREM.  Removing a `with self._lock` from any of these methods (or splitting one into
two locked blocks: `removedir` without /repo 0e32556, `C08Model.splitRemovedir`) changes the generated
table and breaks this proof. -/
theorem mem_mutators_single_segment :
    ∀ m ∈ memMutators, shapeOf lockTable lockBases "MemoryFS" m = .singleLocked :=
  lock_table_laws.mem_mutators_single_segment

/-- every MemoryFS method that calls a `_DirEntry` mutator is in the list above (a new mutating
method cannot escape the table theorem) -/
theorem mem_tree_mutations_listed :
    (lockTable.all fun e => !(e.cls == "MemoryFS" && e.body.hasDirMut) || memMutators.contains e.method) = true :=
  lock_table_laws.mem_tree_mutations_listed

/-- outside `__init__`/`close`, MemoryFS never touches `self.root` or a mutator without the lock -/
theorem mem_no_unlocked_tree_access :
    (lockTable.all fun e => !(e.cls == "MemoryFS" && !["__init__", "close"].contains e.method) ||
      !e.body.unlockedTreeAccess) = true :=
  lock_table_laws.mem_no_unlocked_tree_access

theorem base_compound_single_segment :
    ∀ m ∈ baseCompound, shapeOf lockTable lockBases "MemoryFS" m = .singleLocked :=
  lock_table_laws.base_compound_single_segment

theorem mem_queries_single_call :
    ∀ m ∈ memSingleCall, shapeOf lockTable lockBases "MemoryFS" m = .singleCall :=
  lock_table_laws.mem_queries_single_call

/-- REGRESSION (fix feefeca): `FS.readbytes` / `FS.writebytes` hold `self._lock` around
open + read/write + close on every backend that inherits them -/
theorem base_bytes_io_single_locked :
    ∀ c ∈ ["MemoryFS", "OSFS"], ∀ m ∈ ["readbytes", "writebytes"],
      shapeOf lockTable lockBases c m = .singleLocked := lock_table_laws.base_bytes_io_single_locked

/-- REGRESSION (fix 652becf): the `exists(dst)` / `getinfo(src)` checks, the rename attempt and the
copy+remove of `FS.move` are ONE locked block on every backend that inherits it (only path validation precedes the lock) -/
theorem base_move_single_locked :
    shapeOf lockTable lockBases "OSFS" "move" = .singleLocked ∧
    shapeOf lockTable lockBases "MountFS" "move" = .singleLocked ∧
    shapeOf lockTable lockBases "MultiFS" "move" = .singleLocked := lock_table_laws.base_move_single_locked

/-- REGRESSION (fix a9b2b2a): `FS.readtext` / `FS.writetext` hold `self._lock` around open +
read/write + close, like the bytes variants.
(Text I/O is not an operation of the model's language `Ref.Op`; it is covered by this table
theorem, by `base_compound_single_segment` and by the line-level exploration of the harness.) -/
theorem base_text_io_single_locked :
    ∀ c ∈ ["MemoryFS", "OSFS"], ∀ m ∈ ["readtext", "writetext"],
      shapeOf lockTable lockBases c m = .singleLocked := lock_table_laws.base_text_io_single_locked

/-- no public read/write convenience method of `fs/base.py` is left as open + I/O + close without
the lock: every entry of `FS` that opens a file and does file I/O on it is one locked block
(`hash` reads in a loop under `openbin` and is a pure query of one file: listed explicitly) -/
theorem base_file_io_methods_locked :
    (lockTable.all fun e =>
      !(e.cls == "FS" && (match e.body with
          | .segs l => l.any fun sg => sg.acc.any fun a => match a with | .fileIO _ => true | _ => false
          | .unknown _ => false)) ||
      e.shape == .singleLocked || ["hash"].contains e.method) = true :=
  lock_table_laws.base_file_io_methods_locked

/-- TABLE THEOREM: a `SubFS` / `WrapFS` view hands EVERY public method of `fs/base.py` to the wrapped
filesystem (whose lock then covers it, or — `copy`, `copydir` since c0d11e1 — takes the wrapped
filesystems' locks itself); none takes the private lock of the view, which no sibling view and not the
parent ever take (`writetext` does without the delegating override of `WrapFS`; /repo 3400efe added it).
Deleting an override of `WrapFS` (so that a compound default such as `FS.create` runs under the view's
own lock) breaks this proof. -/
theorem view_never_uses_its_own_lock :
    ∀ c ∈ ["WrapFS", "SubFS", "ClosingSubFS"],
      ((lockTable.filter fun e => e.cls == "FS").all fun e =>
        ["lock", "close", "__exit__", "__del__"].contains e.method || !ownLocked c e.method) = true :=
  lock_table_laws.view_never_uses_its_own_lock

/-- non-vacuity: the base class itself does take its own lock in these methods -/
example : ownLocked "MemoryFS" "writetext" = true ∧ ownLocked "MemoryFS" "create" = true := by decide +kernel

/-- TABLE THEOREM: on MemoryFS every method of the `Ref.Op` language is one atomic piece — one
locked block, or a single call that ends (through the table) in one locked block (`exists → getinfo`,
`getsize → getdetails → getinfo`, `isempty → scandir`, `settimes → setinfo`).  `getinfo` is among them:
its lookup and `to_info` are under the lock (/repo 0b00a5c). -/
theorem every_op_method_atomic :
    ∀ m ∈ opMethods, atomicIn lockTable lockBases 6 "MemoryFS" m = true := lock_table_laws.every_op_method_atomic

/-- REGRESSION (fix 0b00a5c): `MemoryFS.getinfo` is one locked block -/
theorem mem_getinfo_single_locked :
    shapeOf lockTable lockBases "MemoryFS" "getinfo" = .singleLocked := lock_table_laws.mem_getinfo_single_locked

/-- TABLE THEOREM: outside `__init__`/`close`, NO MemoryFS method touches an entry variable (a
local holding a looked-up `_DirEntry`) at all — not even a plain field read — without the lock; no
generator body, no lookup result is used after the `with self._lock:` block (this is what catches
a `scandir` whose `get_entry`/`to_info` loop is moved out of the lock, and a `getinfo` whose `to_info`
runs after the block; /repo 0b00a5c moved it inside) -/
theorem mem_no_unlocked_entry_use :
    (lockTable.all fun e => !(e.cls == "MemoryFS" && !["__init__", "close"].contains e.method) ||
      !e.body.unlockedEntryUse) = true :=
  lock_table_laws.mem_no_unlocked_entry_use

/-- TABLE THEOREM: the implementation description the model runs with — everything atomic -/
theorem table_impl :
    tableImpl = { removedirAtomic := true, moveAtomic := true, writebytesAtomic := true,
                  readbytesAtomic := true } := lock_table_laws.table_impl

theorem table_impl_all_atomic (c : Op) : isAtomic tableImpl c = true := by
  rw [table_impl]; cases c <;> rfl

/-- **FULL**: any number of concurrent calls of ANY operations of the FS API (`Ref.Op`: every
mutator and every query, incl. `getinfo`/`exists`/`isdir`/`isfile`/`getsize`/`gettype`) on one
MemoryFS, from any tree, under every schedule, are linearizable: per-call results and final tree
are those of some sequential order.  That every operation really is one atomic piece of the real
code is what `every_op_method_atomic`, `mem_mutators_single_segment`, `base_compound_single_segment`
and `mem_no_unlocked_entry_use` re-prove from the generated table on every run.
(`Op.close` is modelled as an atomic flag write; for the real code `close()` concurrent with
calls is outside the claim.) -/
theorem memoryfs_linearizable (calls : List Op) (s : State) : Linearizable tableImpl calls s :=
  single_locked_segment_linearizable tableImpl calls s
    (fun c _ => segments_of_atomic tableImpl c (table_impl_all_atomic c))

/-- and no schedule ever deadlocks -/
theorem memoryfs_no_deadlock (calls : List Op) (s : State)
    (sched : List Nat) (c' : Cfg State Loc) (hexec : (initCfg tableImpl s calls).exec sched = some c') :
    c'.deadlocked = false :=
  single_lock_never_deadlocks tableImpl calls s (fun c _ => table_impl_all_atomic c) sched c' hexec

example : Linearizable tableImpl
    [.removedir "d".toList, .writebytes "d/x".toList [1], .move "f".toList "d/f".toList false, .readbytes "f".toList]
    { root := .dir [("d".toList, .dir []), ("f".toList, .file [1])], closed := false } :=
  memoryfs_linearizable _ _

/-! ### the racing calls, under `tableImpl`

Each `…_repaired` theorem is an instance of `memoryfs_linearizable` (it can fail only with `table_impl`). -/

/-- fix 0e32556: `removedir(d) ‖ writebytes(d/x)` -/
theorem memfs_removedir_race_repaired : Linearizable tableImpl raceCalls raceTree :=
  memoryfs_linearizable _ _

/-- …and, concretely, every maximal schedule of the model the table yields is linearizable
(two runs are left: one per order) -/
theorem memfs_removedir_race_repaired_runs :
    ((initCfg tableImpl raceTree raceCalls).allRuns).map
      (fun r => (r.1, r.2.done, linOk raceCalls raceTree r.2)) =
    [([0, 0, 0, 1, 1, 1], true, true), ([1, 1, 1, 0, 0, 0], true, true)] := by decide +kernel

/-- fix 652becf: `move(a, b, overwrite=False) ‖ writebytes(b)` -/
theorem fs_move_check_then_act_repaired : Linearizable tableImpl moveCalls moveTree :=
  memoryfs_linearizable _ _

/-- fix feefeca: `writebytes(f, [1]) ‖ writebytes(f, [2,3])` -/
theorem memfs_writebytes_race_repaired : Linearizable tableImpl tornCalls tornTree :=
  memoryfs_linearizable _ _

theorem memfs_writebytes_race_repaired_runs :
    ((initCfg tableImpl tornTree tornCalls).allRuns).all (fun r => r.2.done && linOk tornCalls tornTree r.2) = true := by
  decide +kernel

/-- fix 0b00a5c: `getinfo(f) ‖ move(f, g)` never describes the renamed entry -/
theorem memfs_getinfo_race_repaired :
    Linearizable tableImpl [.getinfo "f".toList, .move "f".toList "g".toList false]
      { root := .dir [("f".toList, .file [1, 2])], closed := false } :=
  memoryfs_linearizable _ _

theorem memfs_getinfo_race_repaired_runs :
    ((initCfg tableImpl { root := .dir [("f".toList, .file [1, 2])], closed := false }
        [.getinfo "f".toList, .move "f".toList "g".toList false]).allRuns).map
      (fun r => (r.1, r.2.locs.map (·.out))) =
    [([0, 0, 0, 1, 1, 1], [some (.ok (.info "f".toList false 2)), some (.ok .unit)]),
     ([1, 1, 1, 0, 0, 0], [some (.err .ResourceNotFound), some (.ok .unit)])] := by decide +kernel

/-- fix feefeca: `readbytes(f) ‖ writebytes(f, new)` never returns the truncated file -/
theorem memfs_readbytes_race_repaired :
    Linearizable tableImpl [.readbytes "f".toList, .writebytes "f".toList [9]]
      { root := .dir [("f".toList, .file [1, 2])], closed := false } :=
  memoryfs_linearizable _ _

/-! ## lock order / deadlock -/

/-- TABLE THEOREM: every method acquires at most the one (re-entrant) lock of its own
object; the library functions working on two filesystems take `src_fs` then `dst_fs`, always in
that order (argument order — see `copy_dir_ab_ba_deadlock_counterexample` for what that permits). -/
theorem no_deadlock :
    (lockTable.all fun e => [[], ["self"], ["fs"], ["src_fs", "dst_fs"]].contains e.body.lockSeq) = true :=
  lock_table_laws.no_deadlock

/-- no method of a filesystem class takes a second filesystem's lock itself — except the wrapper's
`copy` / `copydir`, which hold no lock of their own and take the wrapped filesystems' locks in the
library-wide order `src_fs`, `dst_fs` (the order `no_deadlock` allows) around their check-then-copy -/
theorem methods_take_only_their_own_lock :
    (lockTable.all fun e =>
      !["FS", "MemoryFS", "MountFS", "MultiFS", "WrapFS", "SubFS", "ClosingSubFS", "OSFS"].contains e.cls ||
      [[], ["self"]].contains e.body.lockSeq ||
      (e.cls == "WrapFS" && ["copy", "copydir"].contains e.method && e.body.lockSeq == ["src_fs", "dst_fs"])) = true :=
  lock_table_laws.methods_take_only_their_own_lock

/-- the extractor understood the lock structure of every body but one: the callback-taking
`FS.filterdir` (no lock inside) -/
theorem unknown_bodies_listed :
    (lockTable.all fun e => !(e.shape == .unknown) || [("FS", "filterdir")].contains (e.cls, e.method)) = true :=
  lock_table_laws.unknown_bodies_listed

/-- with the lock around the check-then-act the calls of the removedir race are linearizable -/
example : Linearizable tableImpl [.removedir "d".toList, .makedir "d/x".toList false] raceTree :=
  memoryfs_linearizable _ _

end Fs.C08
