/-
  PermGenEq — the `Permissions` methods regenerated from `$VERIF_REPO/fs/permissions.py` on every run
  (`FsModel/Generated/PermGen.lean`, written by `harness/extract/permgen.py`) are the hand-written
  `Fs.Info.Permissions.*` (FsModel/Info.lean) that the C10 theorems (`FsProofs/InfoLaws.lean`) are stated over.
  An object is its set of names, `p.perms`.  Where Python uses a loop or a partial operation the generated
  function returns `Res` and the theorem says `.ok …` (`mode`: the fold over `_LINUX_PERMS`; `as_str`: the three
  item assignments `perms[2|5|8] = …` never raise IndexError).
  `pyBitAnd_mask`: Python's two's-complement `mode & mask` for a mask below 4096 is the hand model's
  `(mode % 4096).toNat &&& mask` — for every int, negative ones included — so `Permissions(mode=m)` and the
  `mode` setter are `ofModeInt m` for all `m`.
-/
import FsModel.Generated.PermGen
import FsModel.Info
import FsProofs.Lemmas.PyStrLemmas
import FsProofs.Lemmas.PyLoop
import FsProofs.Lemmas.InfoLemmas

namespace Fs.PermGenEq
open Fs Fs.PyStr Fs.PyLoop Fs.PySet Fs.PyStrLemmas Fs.PathGenLemmas Fs.Info

theorem coverage : PermGen.translated =
    ["__contains__", "__init__", "add", "as_str", "check", "dump", "load", "mode", "mode.setter", "parse",
     "remove"] := by decide +kernel

theorem nothing_refused : PermGen.refused = [] := by decide +kernel

/-! ### Python's `mode & mask` for a mask below 4096 is the hand model's `(mode % 4096).toNat &&& mask` -/

theorem xor_and_eq (a k : Nat) (hk : k < 4096) :
    k ^^^ (k &&& a) = (4095 - a % 4096) &&& k := by
  apply Nat.eq_of_testBit_eq
  intro i
  have hx : a % 4096 < 2 ^ 12 := Nat.mod_lt _ (by decide)
  have e : 4095 - a % 4096 = 2 ^ 12 - (a % 4096 + 1) := by omega
  rw [Nat.testBit_xor, Nat.testBit_and, Nat.testBit_and, e, Nat.testBit_two_pow_sub_succ hx,
    show (4096 : Nat) = 2 ^ 12 from rfl, Nat.testBit_mod_two_pow]
  by_cases hi : i < 12
  · rw [decide_eq_true hi]; cases k.testBit i <;> cases a.testBit i <;> rfl
  · rw [InfoLemmas.testBit_of_lt_4096 hk hi, Bool.and_false, Bool.false_and, Bool.false_xor]

theorem ofNat_bne_zero (n : Nat) : ((Int.ofNat n) != 0) = (n != 0) :=
  Bool.eq_iff_iff.2 (by rw [bne_iff_ne, bne_iff_ne]; exact not_congr Int.ofNat_eq_zero)

theorem pyBitAnd_mask (m : Int) (k : Nat) (hk : k < 4096) :
    (pyBitAnd m (Int.ofNat k) != 0) = (((m % 4096).toNat &&& k) != 0) := by
  cases m with
  | ofNat a =>
    have e : (Int.ofNat a % 4096).toNat = a % 4096 := by
      have : (Int.ofNat a % 4096) = Int.ofNat (a % 4096) := by simp
      rw [this]; rfl
    simp only [pyBitAnd, e, InfoLemmas.and_mod_4096 a k hk]
    exact ofNat_bne_zero _
  | negSucc a =>
    have e : (Int.negSucc a % 4096).toNat = 4095 - a % 4096 := by
      have : Int.negSucc a % 4096 = Int.ofNat (4095 - a % 4096) := by
        rw [Int.negSucc_emod _ (by decide)]
        have : a % 4096 < 4096 := Nat.mod_lt _ (by decide)
        simp; omega
      rw [this]; rfl
    simp only [pyBitAnd, e, xor_and_eq a k hk]
    exact ofNat_bne_zero _


/-! ### the class constants -/

theorem linux_perms_eq : PermGen._LINUX_PERMS = linuxPerms := by
  simp [PermGen._LINUX_PERMS, linuxPerms]

theorem linux_perms_names_eq : PermGen._LINUX_PERMS_NAMES = linuxPermsNames := by
  simp only [PermGen._LINUX_PERMS_NAMES, linuxPermsNames, linux_perms_eq]

/-! ### one equality per method (an object is its set of names: `p.perms`) -/

theorem contains_eq (p : Permissions) (n : Str) : PermGen.contains p.perms n = p.contains n := rfl

theorem check_eq (p : Permissions) (ns : List Str) : PermGen.check p.perms ns = p.check ns := by
  simp only [PermGen.check, Permissions.check]
  congr 1

theorem add_eq (p : Permissions) (ns : List Str) : PermGen.add p.perms ns = (p.add ns).perms := rfl

theorem remove_eq (p : Permissions) (ns : List Str) : PermGen.remove p.perms ns = (p.remove ns).perms := rfl

theorem dump_eq (p : Permissions) : PermGen.dump p.perms = p.dump := rfl

/-- the `mode` setter and `Permissions(mode=…)`: Python's `mode & mask` on any int, negative ones included -/
theorem mode_filter_eq (m : Int) :
    (List.map (fun it' : Str × Nat => it'.1)
      (List.filter (fun it' : Str × Nat => (pyBitAnd m (Int.ofNat it'.2) != 0)) PermGen._LINUX_PERMS)) =
      (Permissions.ofModeInt m).perms := by
  rw [linux_perms_eq]
  simp only [Permissions.ofModeInt, Permissions.ofMode]
  congr 1
  exact List.filter_congr fun x hx => pyBitAnd_mask m x.2 (InfoLemmas.linuxPerms_mask_lt x hx)

theorem set_mode_eq (s : List Str) (m : Int) : PermGen.set_mode s m = (Permissions.ofModeInt m).perms := by
  simp only [PermGen.set_mode]
  exact mode_filter_eq m

theorem mode_eq (p : Permissions) : PermGen.mode p.perms = .ok (Int.ofNat p.mode) := by
  simp only [PermGen.mode, Permissions.mode, linux_perms_eq]
  rw [pyFor_fold (fun acc (nm : Str × Nat) => if p.contains nm.1 then acc ||| nm.2 else acc)]
  intro x s
  by_cases h : p.contains x.1 = true
  · have h' : List.contains p.perms x.1 = true := h
    simp only [h, h', if_true]
  · have h' : ¬ List.contains p.perms x.1 = true := h
    simp only [h, h', if_false, Bool.false_eq_true]

theorem pyOrOpt_nil (x : Option Str) : pyOrOpt x [] = x.getD [] := by
  cases x with
  | none => rfl
  | some s => cases s <;> rfl

theorem ugo_eq (pre : Char) (s : Str) :
    List.map (fun it' : Str => [pre, '_'] ++ it') (List.filter (fun it' : Str => (it' != ['-'])) (pyChars s)) =
      Permissions.ugo pre s := by
  induction s with
  | nil => rfl
  | cons c r ih =>
    simp only [pyChars, List.map_cons, Permissions.ugo, List.filter_cons] at ih ⊢
    by_cases hc : c = '-'
    · subst hc; simpa using ih
    · have h1 : (([c] : Str) != ['-']) = true := by simp [hc]
      have h2 : (c != '-') = true := by simp [hc]
      simp only [h1, h2, if_true, List.map_cons, List.cons.injEq]
      exact ⟨rfl, ih⟩

/-- the other two branches of `__init__` run this code on their own initial set -/
theorem init_names_eq (ns : List Str) (mode : Option Int) (user group other : Option Str)
    (sticky setuid setguid : Option Bool) :
    PermGen.init (some ns) mode user group other sticky setuid setguid =
      (Permissions.init (some ns) mode user group other (sticky == some true) (setuid == some true)
        (setguid == some true)).perms := by
  simp only [PermGen.init, Permissions.init]
  dsimp only [String.reduceToList]
  cases (sticky == some true) <;> cases (setuid == some true) <;> cases (setguid == some true) <;>
    simp only [Bool.false_eq_true, if_true, if_false, List.append_nil]

theorem init_eq (names : Option (List Str)) (mode : Option Int) (user group other : Option Str)
    (sticky setuid setguid : Option Bool) :
    PermGen.init names mode user group other sticky setuid setguid =
      (Permissions.init names mode user group other (sticky == some true) (setuid == some true)
        (setguid == some true)).perms := by
  cases names with
  | some ns => exact init_names_eq ..
  | none =>
    cases mode with
    | some m =>
      show _ = (Permissions.init (some (Permissions.ofModeInt m).perms) none user group other _ _ _).perms
      rw [← mode_filter_eq m, ← init_names_eq]
      rfl
    | none =>
      show _ = (Permissions.init (some (Permissions.ugo 'u' (user.getD []) ++ Permissions.ugo 'g' (group.getD []) ++
        Permissions.ugo 'o' (other.getD []))) none user group other _ _ _).perms
      rw [← init_names_eq]
      simp only [← ugo_eq, ← pyOrOpt_nil]
      rfl

theorem load_eq (ns : List Str) : PermGen.load ns = (Permissions.ofNames ns).perms := by
  simp [PermGen.load, init_eq, Permissions.init, Permissions.ofNames]

theorem parse_eq (ls : Str) : PermGen.parse ls = (Permissions.parse ls).perms := by
  simp only [PermGen.parse, init_eq, Permissions.parse, Permissions.ofUGO]
  have e1 : List.drop 3 (List.take 6 ls) = List.take 3 (List.drop 3 ls) := by rw [List.drop_take]
  have e2 : List.drop 6 (List.take 9 ls) = List.take 3 (List.drop 6 ls) := by rw [List.drop_take]
  rw [e1, e2]
  rfl


/-! ### `as_str`: the generated list of one-character strings is the hand model's list of characters -/

theorem pySetItem_ofNat {α} (l : List α) (j : Nat) (v : α) (h : j < l.length) :
    pySetItem l (Int.ofNat j) v = .ok (l.set j v) := by
  have h0 : ¬ (Int.ofNat j < 0) := by simp
  have h1 : (Int.ofNat j).toNat < l.length := h
  simp only [pySetItem, h0, if_false, h1, if_true]
  rfl

theorem pySetItem_pyChars (s : Str) (j : Nat) (c : Char) (h : j < s.length) :
    pySetItem (pyChars s) (Int.ofNat j) [c] = .ok (pyChars (s.set j c)) := by
  rw [pySetItem_ofNat _ _ _ (by rw [pyChars, List.length_map]; exact h)]
  exact congrArg Res.ok (List.map_set ..).symm

theorem ite_single (c : Bool) (a b : Char) : (if c = true then [a] else [b]) = [if c = true then a else b] := by
  cases c <;> rfl

theorem as_str_eq (p : Permissions) : PermGen.as_str p.perms = .ok p.asStr := by
  have e : pySliceFrom PermGen._LINUX_PERMS_NAMES (-9 : Int) = linuxPermsNames.drop (linuxPermsNames.length - 9) := by
    rw [linux_perms_names_eq]; rfl
  -- an `if` carries the decidability instance of its condition: rewrite the conditions there too
  dsimp (instances := true) only [Permissions.asStr, Permissions.contains, String.reduceToList]
  simp only [PermGen.as_str, e, map_zip_pyChars, ite_single]
  generalize hl : (((linuxPermsNames.drop (linuxPermsNames.length - 9)).zip
      ['r', 'w', 'x', 'r', 'w', 'x', 'r', 'w', 'x']).map fun nc => if p.perms.contains nc.1 then nc.2 else '-') = l
  have hlen : l.length = 9 := by rw [← hl]; rfl
  have s2 : ∀ (l : Str) c, l.length = 9 → pySetItem (pyChars l) 2 [c] = .ok (pyChars (l.set 2 c)) :=
    fun l c h => pySetItem_pyChars l 2 c (by omega)
  have s5 : ∀ (l : Str) c, l.length = 9 → pySetItem (pyChars l) 5 [c] = .ok (pyChars (l.set 5 c)) :=
    fun l c h => pySetItem_pyChars l 5 c (by omega)
  have s8 : ∀ (l : Str) c, l.length = 9 → pySetItem (pyChars l) 8 [c] = .ok (pyChars (l.set 8 c)) :=
    fun l c h => pySetItem_pyChars l 8 c (by omega)
  simp only [s2, s5, s8, hlen, List.length_set, pyJoinS_pyChars]
  generalize p.perms.contains ['s', 'e', 't', 'u', 'i', 'd'] = setuid
  generalize p.perms.contains ['s', 'e', 't', 'g', 'u', 'i', 'd'] = setguid
  generalize p.perms.contains ['s', 't', 'i', 'c', 'k', 'y'] = sticky
  cases setuid <;> cases setguid <;> cases sticky <;> rfl

/-! non-vacuity -/
example : PermGen.as_str (PermGen.parse "rwxr-x--x".toList) = .ok "rwxr-x--x".toList := by decide +kernel
example : PermGen.mode (PermGen.init (mode := some (-1))) = .ok 4095 := by decide +kernel

end Fs.PermGenEq
