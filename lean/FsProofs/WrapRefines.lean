/-
  C01 — "every nesting of wrappers/compositions": WrapFS and SubFS **as coded**
  (FsModel.Wrap = transcription of fs/wrapfs.py, fs/subfs.py, `unwrap_errors`) preserve refinement
  of the reference semantics, so every nesting depth of SubFS over MemoryFS-as-coded refines
  `Ref.step` (through `MemRefines.mem_refines_ref`).

  Vocabulary (FsProofs/Lemmas/WrapLemmas.lean, WrapSimLemmas.lean):
  * `absOf cs`            the path string `"/" ++ "/".join(cs)`;
  * `setAt t sub x`       `t` with the node at `sub` replaced by `x` (`Node.set`; the root when `sub = []`);
  * `graft s sub (s', o)` `({ s with root := setAt s.root sub s'.root }, o)`: the outcome of a step on the
                          sub-tree put back into the parent — NOTHING outside `sub` changes;
  * `V es`                the open reference filesystem whose root directory has the entries `es`;
  * `nulRootTest op`      `removedir`/`removetree` of a path that contains NUL and climbs (or, for `removedir`,
                          normalises to the root): `WrapFS` runs `normpath` on it before `delegate_path`;
  * `mapPaths f op`       the same call with every path argument `p` replaced by `f p`.
  Helper lemmas live in FsProofs/Lemmas/Wrap*.lean; this file holds the property theorems.
-/
import FsModel.Wrap
import FsModel.Mem
import FsProofs.Lemmas.WrapSimOps
import FsProofs.Lemmas.WrapExact

namespace Fs.WrapRefines
open Fs Fs.Ref Fs.Wrap Fs.WrapLemmas Fs.MemRefines

/-! ## `unwrap_errors` -/

/-- `unwrap_errors` rewrites the `path` attribute of the exception it re-raises and nothing else:
the class (all the model's `Err` records) is preserved, for either form of `path_replace` -/
theorem unwrap_errors_preserves_class (r : PathReplace) (e : PathErr) : (unwrapErrors r e).cls = e.cls := by
  unfold unwrapErrors
  cases e.path with
  | none => rfl
  | some p => cases r <;> rfl

/-! ## closed wrappers -/

/-- every method of a closed wrapper but `close` raises FilesystemClosed — `self.check()` comes first in each —
and neither the wrapper nor the wrapped filesystem changes -/
theorem wrapper_closed_is_final {σ : Type} (closing : Bool) (dp : Delegate) (F : FS σ) (w : WState σ) (op : Op)
    (hc : w.closed = true) (hop : op ≠ .close) :
    Wrap.step closing dp F w op = (w, .err .FilesystemClosed) := by
  cases op with
  | close => exact absurd rfl hop
  | _ => exact if_pos hc

/-- `FS.close` of a WrapFS / SubFS sets the wrapper's own flag only: the wrapped filesystem is
not touched (and stays usable) -/
theorem wrapper_close_keeps_inner {σ : Type} (dp : Delegate) (F : FS σ) (w : WState σ) :
    Wrap.step false dp F w .close = ({ w with closed := true }, .ok .unit) := rfl

/-- `ClosingSubFS.close` closes the parent first, then itself: afterwards the parent answers every
call with FilesystemClosed -/
theorem closing_subfs_closes_parent (subDir : Str) (w : WState State) :
    let r := Wrap.Sub.step true subDir Ref.step w .close
    r.2 = .ok .unit ∧ r.1.closed = true ∧ r.1.inner.closed = true ∧ r.1.inner.root = w.inner.root ∧
    ∀ op, op ≠ .close → Ref.step r.1.inner op = (r.1.inner, .err .FilesystemClosed) := by
  refine ⟨rfl, rfl, rfl, rfl, ?_⟩
  intro op hop
  exact QueryLemmas.step_closed _ op hop rfl

/-- on an open wrapper a call is the body after `self.check()`; the wrapper's flag is kept -/
theorem open_wrapper_step {σ : Type} (closing : Bool) (dp : Delegate) (F : FS σ) (w : WState σ) (op : Op)
    (hc : w.closed = false) (hop : op ≠ .close) :
    Wrap.step closing dp F w op = ({ w with inner := (stepOpen dp F w.inner op).1 }, (stepOpen dp F w.inner op).2) := by
  cases op with
  | close => exact absurd rfl hop
  | _ => exact if_neg (hc ▸ Bool.false_ne_true)

/-! ## WrapFS is transparent -/

/-- the methods `WrapFS` implements as one delegated call and nothing else -/
def plain : Op → Bool
  | .getinfo _ | .isempty _ | .removedir _ | .removetree _ | .copy _ _ _ | .copydir _ _ _ | .close => false
  | _ => true

/-- `WrapFS` is transparent (full statement: `Wrap.step false idDelegate F w op` gives the output of
`F w.inner op` and leaves `F`'s resulting state as the inner state, for EVERY operation).
Proved for every inner filesystem `F`, every path string and the 18 methods that are a single
delegated call (`plain`); the six methods in which `WrapFS` does something of its own (`getinfo`
root name, `isempty` through `scandir`, `removedir`/`removetree` root tests, `copy`/`copydir` guards +
module-level helpers) are transparent only over an inner filesystem that itself satisfies the
contract: `wrapfs_transparent_over_ref` and the counterexample below. -/
theorem wrapfs_transparent_partial {σ : Type} (F : FS σ) (w : WState σ) (op : Op)
    (hc : w.closed = false) (hp : plain op = true) :
    Wrap.step false idDelegate F w op = ({ w with inner := (F w.inner op).1 }, (F w.inner op).2) := by
  have hop : op ≠ .close := by intro h; subst h; simp [plain] at hp
  rw [open_wrapper_step false idDelegate F w op hc hop]
  cases op <;> first
    | rfl
    | cases hp

/-- the full statement is false for an arbitrary inner filesystem: a (contract-violating) inner
filesystem whose `exists` lies makes `WrapFS.copy(overwrite=False)` differ from the inner `copy` -/
theorem wrapfs_transparent_counterexample :
    ∃ (F : FS State) (w : WState State) (op : Op), w.closed = false ∧
      (Wrap.step false idDelegate F w op).2 ≠ (F w.inner op).2 := by
  refine ⟨fun s op => match op with
      | .exists_ _ => (s, .ok (.bool true))
      | _ => Ref.step s op,
    ⟨false, ⟨.dir [("a".toList, .file [1])], false⟩⟩, .copy "a".toList "b".toList false, rfl, ?_⟩
  decide

/-- … and over the reference itself **every** method of an open `WrapFS` is transparent — same output,
same state — on valid path arguments, `removetree("/")` (the scan-and-remove loop) and `getinfo("/")`
included; the one exception is the `copydir` class order (`excCopydir`: both fail) -/
theorem wrapfs_transparent_over_ref (es : Ents) (hwf : entsWf es = true) (op : Op) (hop : op ≠ .close)
    (hval : ∀ p ∈ op.paths, ∃ cs, validate p = .ok cs) (hx : ¬ excCopydir es op) :
    Wrap.step false idDelegate Ref.step ⟨false, V es⟩ op =
      (⟨false, (Ref.step (V es) op).1⟩, (Ref.step (V es) op).2) := by
  rw [open_wrapper_step false _ Ref.step _ op rfl hop]
  have h := wrap_id_exact es hwf op hop hval hx
  simp only at h ⊢
  rw [h]

/-! ## climbing paths (C03 at the level of whole calls) -/

/-- what `SubFS.delegate_path` hands to the parent lies under the sub-directory and is clean (the statement of
`C03.sub_delegate_eq`, for `delegate_path` with its NUL test): it is the absolute path of the sub-directory's
components followed by the resolved components of the user's path -/
theorem sub_delegate_under (sub : List Name) (hs : ∀ c ∈ sub, cleanName c = true) (p q : Str)
    (h : Wrap.Sub.delegate (absOf sub) p = .ok q) :
    ∃ cs, PathSpec.resolve (Path.splitSlash p) = some cs ∧ PathSpec.Clean cs ∧ q = absOf (sub ++ cs) := by
  rcases delegate_cases sub (TreeLemmas.clean_of_cleanName hs) p with ⟨cs, _, hr, hd, _⟩ | ⟨_, _, hd⟩
  · rw [hd] at h; cases h
    exact ⟨cs, hr, PathLemmas.resolve_result_clean p cs hr, rfl⟩
  · rw [hd] at h; cases h

/-- `delegate_path` (the NUL test first): it fails exactly when the reference's `validate` fails, with the
same class (NUL first, then climbing), and otherwise prefixes the validated components -/
theorem sub_delegate_is_validate (sub : List Name) (hs : ∀ c ∈ sub, cleanName c = true) (p : Str) :
    Wrap.Sub.delegate (absOf sub) p =
      (match validate p with
       | .ok cs => .ok (absOf (sub ++ cs))
       | .err e => .err e) :=
  delegate_eq_validate (TreeLemmas.clean_of_cleanName hs) p

/-- **a path argument that does not validate — it climbs, or contains NUL — in any argument position
of any method is rejected before the wrapped filesystem is touched**: the call fails and the wrapper's state,
inner filesystem included, is what it was, whatever the inner filesystem is; outside `nulRootTest` the class is
the one `validate` gives for one of the path arguments -/
theorem sub_invalid_path_rejected {σ : Type} (F : FS σ) (sub : List Name) (hs : ∀ c ∈ sub, cleanName c = true)
    (w : WState σ) (op : Op) (hc : w.closed = false)
    (hinv : ∃ p ∈ op.paths, ∃ e, validate p = .err e) :
    ∃ e, Wrap.Sub.step false (absOf sub) F w op = (w, .err e) ∧
      (¬ nulRootTest op → ∃ p ∈ op.paths, validate p = .err e) := by
  have hop : op ≠ .close := by
    intro h; subst h; obtain ⟨p, hp, _⟩ := hinv; simp [Op.paths] at hp
  obtain ⟨e0, h0⟩ := (QueryLemmas.firstErr_cases validate op.paths).resolve_left fun hval => by
    obtain ⟨p, hp, e, he⟩ := hinv
    obtain ⟨cs, hcs⟩ := hval p hp
    cases he.symm.trans hcs
  obtain ⟨e, hW, he⟩ := stepOpen_invalid F sub (TreeLemmas.clean_of_cleanName hs) w.inner op h0
  refine ⟨e, ?_, fun hx => he hx ▸ QueryLemmas.firstErr_mem h0⟩
  rw [Wrap.Sub.step, open_wrapper_step false _ F w op hc hop]
  rw [Wrap.Sub.stepOpen] at hW
  rw [hW]

/-- in particular a call with a climbing path (`C03`) fails and leaves the wrapper's state, inner filesystem
included, as it was -/
theorem sub_climbing_rejected {σ : Type} (F : FS σ) (sub : List Name) (hs : ∀ c ∈ sub, cleanName c = true)
    (w : WState σ) (op : Op) (hc : w.closed = false)
    (hcl : ∃ p ∈ op.paths, PathSpec.climbs (Path.splitSlash p)) :
    ∃ e, Wrap.Sub.step false (absOf sub) F w op = (w, .err e) := by
  obtain ⟨p, hp, hr⟩ := hcl
  have hinv : ∃ p ∈ op.paths, ∃ e, validate p = .err e := by
    refine ⟨p, hp, ?_⟩
    cases hv : validate p with
    | err e => exact ⟨e, rfl⟩
    | ok cs => have := validate_ok_resolve hv; rw [hr] at this; cases this
  obtain ⟨e, h, _⟩ := sub_invalid_path_rejected F sub hs w op hc hinv
  exact ⟨e, h⟩

/-! ## wrapping preserves refinement -/

theorem mem_refines : RefinesRef Mem.step := mem_refines_ref

/-- **wrap_preserves_refinement.**  Let `F` be ANY filesystem that refines the reference in the
sense of `mem_refines_ref` (same verdict; on success the same value and tree; on failure an
admissible class and an unchanged state).  Then an open `SubFS` at `sub` over `F`, on a parent state
`s` whose `sub` is a directory (entries `es`), behaves like the reference on the SUB-TREE taken as a
root, for every operation but `close` and every path argument (climbing and NUL ones included; `nulRootTest` aside):
* same verdict as `Ref.step (V es) op`;
* on success the same value, and the parent tree is `s.root` with the sub-tree replaced by the
  reference's resulting tree — nothing else changes (`graft`);
* on failure the parent state is unchanged and the class is admissible for the view.
Excluded, as in `mem_refines_ref`: the known `movedir`-into-ancestor deviation class and the loose
mid-way failure of a bulk merge. -/
theorem wrap_preserves_refinement (F : FS State) (hF : RefinesRef F) (sub : List Name) (s : State) (es : Ents)
    (op : Op) (hc : s.closed = false) (hwf : s.root.wf = true) (hdir : s.root.get sub = some (.dir es))
    (hop : op ≠ .close) (hnn : ¬ nulRootTest op) (hk : ¬ knownDeviation op)
    (hl : (Ref.step (V es) op).2 ≠ .err .OperationFailed) :
    ((Wrap.Sub.stepOpen (absOf sub) F s op).2.isOk = (Ref.step (V es) op).2.isOk) ∧
    ((Ref.step (V es) op).2.isOk = true →
      Wrap.Sub.stepOpen (absOf sub) F s op = graft s sub (Ref.step (V es) op)) ∧
    (∀ e, (Wrap.Sub.stepOpen (absOf sub) F s op).2 = .err e →
      (Wrap.Sub.stepOpen (absOf sub) F s op).1 = s ∧ e ∈ adm (V es) op) := by
  have hsub := TreeLemmas.cleanName_of_get hwf hdir
  exact sim_sub (pth := []) (sim_of_refines F hF) s es op ⟨hc, hwf, hdir, hsub⟩ hop hnn hk hl

/-- instantiated: **SubFS over MemoryFS as coded refines the reference** on the sub-tree -/
theorem sub_mem_refines_ref (sub : List Name) (s : State) (es : Ents) (op : Op) (hc : s.closed = false)
    (hwf : s.root.wf = true) (hdir : s.root.get sub = some (.dir es))
    (hop : op ≠ .close) (hnn : ¬ nulRootTest op) (hk : ¬ knownDeviation op)
    (hl : (Ref.step (V es) op).2 ≠ .err .OperationFailed) :
    ((Wrap.Sub.stepOpen (absOf sub) Mem.step s op).2.isOk = (Ref.step (V es) op).2.isOk) ∧
    ((Ref.step (V es) op).2.isOk = true →
      Wrap.Sub.stepOpen (absOf sub) Mem.step s op = graft s sub (Ref.step (V es) op)) ∧
    (∀ e, (Wrap.Sub.stepOpen (absOf sub) Mem.step s op).2 = .err e →
      (Wrap.Sub.stepOpen (absOf sub) Mem.step s op).1 = s ∧ e ∈ adm (V es) op) :=
  wrap_preserves_refinement Mem.step mem_refines sub s es op hc hwf hdir hop hnn hk hl

/-! ## any nesting depth -/

/-- the directory of the base filesystem a chain of nested SubFS objects shows; the chain is
outermost-first (`fs.opendir(s₁).opendir(s₂)…` is `[sₙ, …, s₁]`, as in `C03.nested_sub_eq`) -/
def nestPath (subs : List (List Name)) : List Name := subs.reverse.flatten

theorem sim_nest (F : FS State) (hF : Sim F []) : ∀ subs : List (List Name),
    Sim (Wrap.Sub.nest F (subs.map absOf)) (nestPath subs) := by
  intro subs
  induction subs with
  | nil => simpa [Wrap.Sub.nest, nestPath] using hF
  | cons sub rest ih =>
    have := sim_sub (sub := sub) ih
    simpa [Wrap.Sub.nest, nestPath, List.reverse_cons, List.flatten_append] using this

/-- **nested_sub_simulates** — by induction on the chain: for ANY depth of nesting of SubFS objects
over a filesystem that refines the reference, the outermost view behaves like the reference on the
sub-tree at `s₁ ++ … ++ sₙ` of the base tree (statement as in `wrap_preserves_refinement`) -/
theorem nested_sub_simulates (F : FS State) (hF : RefinesRef F) (subs : List (List Name)) (s : State) (es : Ents)
    (op : Op) (hc : s.closed = false) (hwf : s.root.wf = true)
    (hdir : s.root.get (nestPath subs) = some (.dir es))
    (hop : op ≠ .close) (hnn : ¬ nulRootTest op) (hk : ¬ knownDeviation op)
    (hl : (Ref.step (V es) op).2 ≠ .err .OperationFailed) :
    let W := Wrap.Sub.nest F (subs.map absOf)
    ((W s op).2.isOk = (Ref.step (V es) op).2.isOk) ∧
    ((Ref.step (V es) op).2.isOk = true → W s op = graft s (nestPath subs) (Ref.step (V es) op)) ∧
    (∀ e, (W s op).2 = .err e → (W s op).1 = s ∧ e ∈ adm (V es) op) := by
  exact sim_nest F (sim_of_refines F hF) subs s es op ⟨hc, hwf, hdir, TreeLemmas.cleanName_of_get hwf hdir⟩ hop hnn hk hl

/-- every nesting depth of SubFS over the reference itself … -/
theorem nested_sub_over_ref (subs : List (List Name)) (s : State) (es : Ents) (op : Op) (hc : s.closed = false)
    (hwf : s.root.wf = true) (hdir : s.root.get (nestPath subs) = some (.dir es))
    (hop : op ≠ .close) (hnn : ¬ nulRootTest op)
    (hk : ¬ knownDeviation op) (hl : (Ref.step (V es) op).2 ≠ .err .OperationFailed) :
    let W := Wrap.Sub.nest Ref.step (subs.map absOf)
    ((W s op).2.isOk = (Ref.step (V es) op).2.isOk) ∧
    ((Ref.step (V es) op).2.isOk = true → W s op = graft s (nestPath subs) (Ref.step (V es) op)) ∧
    (∀ e, (W s op).2 = .err e → (W s op).1 = s ∧ e ∈ adm (V es) op) :=
  nested_sub_simulates Ref.step ref_refines_ref subs s es op hc hwf hdir hop hnn hk hl

/-- … and **over MemoryFS as coded** (`MemRefines.mem_refines_ref` + induction on the depth) -/
theorem nested_sub_over_mem (subs : List (List Name)) (s : State) (es : Ents) (op : Op) (hc : s.closed = false)
    (hwf : s.root.wf = true) (hdir : s.root.get (nestPath subs) = some (.dir es))
    (hop : op ≠ .close) (hnn : ¬ nulRootTest op)
    (hk : ¬ knownDeviation op) (hl : (Ref.step (V es) op).2 ≠ .err .OperationFailed) :
    let W := Wrap.Sub.nest Mem.step (subs.map absOf)
    ((W s op).2.isOk = (Ref.step (V es) op).2.isOk) ∧
    ((Ref.step (V es) op).2.isOk = true → W s op = graft s (nestPath subs) (Ref.step (V es) op)) ∧
    (∀ e, (W s op).2 = .err e → (W s op).1 = s ∧ e ∈ adm (V es) op) :=
  nested_sub_simulates Mem.step mem_refines subs s es op hc hwf hdir hop hnn hk hl

/-! ## a SubFS over the reference IS the reference on its sub-tree -/

/-- the filesystem a SubFS object at a directory with entries `es` shows: the sub-tree as a root,
closed when the wrapper is -/
def viewW (w : WState State) (es : Ents) : State := ⟨.dir es, w.closed⟩

/-- **sub_simulates.**  `sub` a path that is a directory (entries `es`) in the open, well-formed parent
`w.inner` (so its components are legal names).  For EVERY operation (close included, open or closed wrapper) and every
path argument (climbing and NUL ones included: `SubFS.delegate_path` tests for NUL first)
outside three exception classes,
one call on the `SubFS` object is one call of the reference on the sub-tree taken as a root:
* the same outcome — verdict, value AND error class;
* the wrapper's closed flag is the view's;
* the parent tree afterwards is the parent tree before with the sub-tree replaced by the reference's
  resulting tree (`setAt` = `Node.set`) — nothing else changes; in particular `removetree "/"` leaves
  `sub` in place as an empty directory and `getinfo "/"` reports the name `""`.
The excluded classes: `excOpenbin` (invalid mode AND invalid path: the path's class instead of
ValueError), `excCopydir` (copy into itself when an earlier guard of `WrapFS.copydir` also fires: that
guard's class instead of IllegalDestination) and `nulRootTest` (`removedir`/`removetree` of a path that
contains NUL and climbs, or `removedir` of a NUL path normalising to the root: `normpath` runs before
`delegate_path`).  All three are predicates of the call (and the state); each has a `decide`d counterexample
below, in which both calls fail and only the error class differs; the frame (`sub_frame`) holds for them too. -/
theorem sub_simulates (sub : List Name) (w : WState State) (es : Ents) (op : Op)
    (hc : w.inner.closed = false) (hwf : w.inner.root.wf = true)
    (hdir : w.inner.root.get sub = some (.dir es))
    (hnn : ¬ nulRootTest op) (hx1 : ¬ excOpenbin op) (hx2 : ¬ excCopydir es op) :
    Wrap.Sub.step false (absOf sub) Ref.step w op =
      (⟨(Ref.step (viewW w es) op).1.closed,
        { w.inner with root := setAt w.inner.root sub (Ref.step (viewW w es) op).1.root }⟩,
       (Ref.step (viewW w es) op).2) := by
  have hsub := TreeLemmas.cleanName_of_get hwf hdir
  have hself : ({ w.inner with root := setAt w.inner.root sub (.dir es) } : State) = w.inner := by
    rw [setAt_self _ _ _ hdir]
  by_cases hop : op = .close
  · subst hop
    simp only [Wrap.Sub.step, Wrap.step, QueryLemmas.step_close, viewW, Bool.false_eq_true, if_false]
    rw [hself]
  cases hwc : w.closed with
  | true =>
    rw [Wrap.Sub.step, wrapper_closed_is_final false _ Ref.step w op hwc hop,
      QueryLemmas.step_closed (viewW w es) op hop (by simpa [viewW] using hwc)]
    simp only [fail, viewW, hself]
  | false =>
    rw [Wrap.Sub.step, open_wrapper_step false _ Ref.step w op hwc hop]
    have hV : viewW w es = V es := by simp [viewW, V, hwc]
    have := sub_exact hc hdir hsub hwf op hop hnn hx1 hx2
    rw [Wrap.Sub.stepOpen] at this
    rw [this, hV]
    have hcl : (Ref.step ⟨.dir es, false⟩ op).1.closed = false := QueryLemmas.step_closed_same (V es) op hop
    simp only [graft]
    obtain ⟨c, i⟩ := w
    simp only at hwc
    subst hwc
    simp [hcl, V]

/-- **frame, universally** — for every operation and EVERY path argument (climbing, NUL, the
exception classes: no hypothesis on the call at all): after a call on the SubFS the parent is what
it was with the node at `sub` replaced by a directory.  Hence every path that is neither at/below
`sub` nor an ancestor of it reads exactly as before, and the parent is not closed. -/
theorem sub_frame (sub : List Name) (w : WState State) (es : Ents) (op : Op)
    (hc : w.inner.closed = false) (hwf : w.inner.root.wf = true)
    (hdir : w.inner.root.get sub = some (.dir es)) :
    let r := Wrap.Sub.step false (absOf sub) Ref.step w op
    (∃ x, r.1.inner = { w.inner with root := setAt w.inner.root sub (.dir x) }) ∧
    (∀ q, ¬ sub <+: q → ¬ q <+: sub → r.1.inner.root.get q = w.inner.root.get q) := by
  have hsub := TreeLemmas.cleanName_of_get hwf hdir
  have key : ∃ x, (Wrap.Sub.step false (absOf sub) Ref.step w op).1.inner =
      { w.inner with root := setAt w.inner.root sub (.dir x) } := by
    by_cases hop : op = .close
    · subst hop
      exact ⟨es, by simp [Wrap.Sub.step, Wrap.step, setAt_self _ _ _ hdir]⟩
    cases hwc : w.closed with
    | true =>
      rw [Wrap.Sub.step, wrapper_closed_is_final false _ Ref.step w op hwc hop]
      exact ⟨es, by simp [setAt_self _ _ _ hdir]⟩
    | false =>
      rw [Wrap.Sub.step, open_wrapper_step false _ Ref.step w op hwc hop]
      exact stepOpen_framed hsub hdir hc hwf op
  refine ⟨key, ?_⟩
  intro q h1 h2
  obtain ⟨x, hx⟩ := key
  rw [hx]
  exact get_setAt_diverge sub q _ _ h1 h2

/-- the view cannot tell a NUL-free path from its normalised spelling (any inner filesystem, any
operation) -/
theorem sub_sees_normalised_paths {σ : Type} (F : FS σ) (sub : List Name) (hsub : ∀ c ∈ sub, cleanName c = true)
    (s : σ) (op : Op) (hnn : noNul op) (hall : ∀ p ∈ op.paths, ¬ PathSpec.climbs (Path.splitSlash p)) :
    Wrap.Sub.stepOpen (absOf sub) F s op = Wrap.Sub.stepOpen (absOf sub) F s (mapPaths normPath op) := by
  refine stepOpen_norm F sub (TreeLemmas.clean_of_cleanName hsub) s op hnn ?_
  intro p hp
  cases hr : PathSpec.resolve (Path.splitSlash p) with
  | none => exact absurd hr (hall p hp)
  | some cs => exact ⟨cs, rfl⟩

/-! ### witnesses on the model: a NUL that normalisation would remove is refused as by the reference; the
exception classes are real (all replayed on the real code by `harness/props/_wrapexact.py`) -/

/-- a NUL that normalisation would remove does not reach the parent: the SubFS refuses the path exactly as the
reference does — `delegate_path` (/repo 6fe32c8) looks at the raw path's characters first -/
theorem sub_nul_path_repaired :
    let t : Node := .dir [("x".toList, .dir [("b".toList, .file [1])])]
    let s : State := ⟨t, false⟩
    let p : Str := "z\x00/../b".toList
    (Wrap.Sub.stepOpen "/x".toList Ref.step s (.exists_ p)).2 = .err .InvalidCharsInPath ∧
    (Ref.step ⟨.dir [("b".toList, .file [1])], false⟩ (.exists_ p)).2 = .err .InvalidCharsInPath := by
  decide

/-- the NUL difference (`nulRootTest`, class only, both fail): `WrapFS.removedir` and `removetree`
evaluate `abspath(normpath(path))` before `delegate_path` -/
theorem sub_nul_root_test_counterexample :
    let s : State := ⟨.dir [("x".toList, .dir [])], false⟩
    (Wrap.Sub.stepOpen "/x".toList Ref.step s (.removedir "z\x00/..".toList)).2 = .err .RemoveRootError ∧
    (Wrap.Sub.stepOpen "/x".toList Ref.step s (.removetree "z\x00/../..".toList)).2 = .err .IllegalBackReference ∧
    (Ref.step ⟨.dir [], false⟩ (.removedir "z\x00/..".toList)).2 = .err .InvalidCharsInPath ∧
    (Ref.step ⟨.dir [], false⟩ (.removetree "z\x00/../..".toList)).2 = .err .InvalidCharsInPath := by
  decide

/-- `openbin` with an invalid mode and a climbing path: the class differs (both fail) -/
theorem sub_openbin_order_counterexample :
    let s : State := ⟨.dir [("x".toList, .dir [])], false⟩
    (Wrap.Sub.stepOpen "/x".toList Ref.step s (.openbin "../q".toList "zz".toList)).2 = .err .IllegalBackReference ∧
    (Ref.step ⟨.dir [], false⟩ (.openbin "../q".toList "zz".toList)).2 = .err .ValueError := by
  decide

/-- `copydir` into itself with a missing destination and `create=False`: the class differs -/
theorem sub_copydir_order_counterexample :
    let s : State := ⟨.dir [("x".toList, .dir [("a".toList, .dir [])])], false⟩
    (Wrap.Sub.stepOpen "/x".toList Ref.step s (.copydir "a".toList "a/zz".toList false)).2 = .err .ResourceNotFound ∧
    (Ref.step ⟨.dir [("a".toList, .dir [])], false⟩ (.copydir "a".toList "a/zz".toList false)).2
      = .err .IllegalDestination := by
  decide

/-! ### non-vacuity (observed through the reference's own queries on the resulting parent) -/

/-- `removetree("/")` through a SubFS at `x/y` of MemoryFS-as-coded: contents gone, `x/y` kept, the
canary outside untouched -/
example :
    let r := Wrap.Sub.step false "/x/y".toList Mem.step
      ⟨false, ⟨.dir [("x".toList, .dir [("y".toList, .dir [("f".toList, .file [7]), ("d".toList, .dir [])])]),
        ("o".toList, .file [1])], false⟩⟩ (.removetree "/".toList)
    r.2 = .ok .unit ∧ (Ref.step r.1.inner (.listdir "x/y".toList)).2 = .ok (.names []) ∧
    (Ref.step r.1.inner (.listdir "/".toList)).2 = .ok (.names ["x".toList, "o".toList]) ∧
    (Ref.step r.1.inner (.readbytes "o".toList)).2 = .ok (.bytes [1]) := by
  decide

/-- two nested SubFS objects (`fs.opendir("a/b").opendir("c")`) write into `a/b/c` of the base -/
example :
    let r := Wrap.Sub.nest Ref.step ["/c".toList, "/a/b".toList]
      ⟨.dir [("a".toList, .dir [("b".toList, .dir [("c".toList, .dir [])])])], false⟩ (.writebytes "./f".toList [1])
    r.2 = .ok .unit ∧ (Ref.step r.1 (.readbytes "a/b/c/f".toList)).2 = .ok (.bytes [1]) := by
  decide

example : (Wrap.Sub.step false "/x".toList Ref.step ⟨false, ⟨.dir [("x".toList, .dir [])], false⟩⟩
    (.getinfo "/".toList)).2 = .ok (.info [] true 0) := by
  decide

/-- the hypotheses of `sub_simulates` are satisfiable -/
example : (Node.dir [("x".toList, .dir [("y".toList, .dir [])])]).get ["x".toList, "y".toList] = some (.dir []) ∧
    (∀ c ∈ ["x".toList, "y".toList], cleanName c = true) ∧
    (Node.dir [("x".toList, .dir [("y".toList, .dir [])])]).wf = true := by
  refine ⟨rfl, by decide, by decide⟩

end Fs.WrapRefines
