/-
  RegexRoundTrip — parsing the regex SOURCE TEXT the translators emit yields exactly the AST the hand
  matchers use.  It is the last link of the translator tie of `fs/wildcard.py` / `fs/glob.py` (the column
  `<parse-eq>` of the C14 correspondence, which also validates it on every run):

      fs/wildcard.py  --translator-->  WildGen._translate  =  Wild.translateText      (WildGenEq.translate_eq)
                                       Regex.parse of that text  =  Wild.compile (AST)  (wildcard_text_parses, here)
                                       Wild.compile / Wild.wmatch  --->  the matcher theorems of C14

  and the same for `glob._translate_glob` (`glob_text_parses`).  Both hold for EVERY pattern and both case modes,
  error cases included (a reversed range is `re.error` on both routes; a glob pattern that `iteratepath` refuses is
  `IllegalBackReference` before either route starts; nothing else fails).  What remains
  external is only that `Regex.parse` / `Regex.matches` state Python's `re` for the generated subset (validated by
  C14 (ii) on every run).  Nothing here mentions generated code, so these theorems do not break when the
  source changes.

  Route (helpers in `Lemmas/RegexParseLemmas.lean`, `RegexParseItems.lean`): a
  printer-directed induction.  `parseSetLoop` on the text of a bracket body reads back `Wild.rawItems` (ranges, the
  literal `]` in first position, the doubled backslash, the escaped leading `^`, a trailing `-`); one lemma per
  emitted piece (`pw_*`, `pg_*`), each self-delimiting as long as the next character is not a quantifier (`NoQ`); the
  fuel of `parseItems` is accounted for exactly (one unit per item, and an item's text is at least one character, so
  `text.length + 1` suffices).  A `Piece` is a text that the parser reads as given items whatever follows it, and
  pieces compose (`Piece.append`): the text of one token (over the tables of `Lemmas/PatTokens.lean`), of the tokens
  of a pattern, of the components (the walk over `_translate_glob` is GlobLemmas' `comps_rel`, shared with the
  printer); the whole text is such a piece followed by `\Z`.
-/
import FsProofs.Lemmas.RegexParseItems

namespace Fs.RegexRoundTrip
open Fs Fs.Regex Fs.RegexParseLemmas

/-- **wildcard**: `re.compile("(?ms)" + _translate(pattern) + "\\Z", flags)`, as the model of Python's parser
reads it, is the compiled pattern of the hand model — for every pattern, both case modes, errors included. -/
theorem wildcard_text_parses (pat : Str) (cs : Bool) :
    Regex.parse (Wild.regexText pat cs) (!cs) = Wild.compile pat cs := by
  simp only [Regex.parse, Wild.regexText, Wild.compile, Wild.translate, Wild.translateText, List.append_assoc,
    parseInline_ms]
  generalize (if cs = true then pat else Wild.lowerStr pat) = s
  obtain ⟨T, hT, h⟩ := piece_endZ (wild_piece s 0) []
  cases hT
  rw [h _ (by simp)]
  cases Wild.go s 0 <;> simp [TR.map]

/-- **glob**: parsing the text of `_translate_glob(pattern)` gives the hand model's compiled pattern (same
`levels`, `recursive`, AST) or the same exception — for every pattern and both case modes. -/
theorem glob_text_parses (pat : Str) (cs : Bool) :
    Glob.translateGlobViaText pat cs = Glob.translateGlob pat cs := by
  unfold Glob.translateGlobViaText Glob.translateGlobText Glob.translateGlob
  cases hi : Glob.liftRes (Path.iteratepath pat) with
  | err e => rfl
  | ok comps =>
    simp only
    -- after `(?s)^`, the text is one piece (the components, then `/` or `/?`) followed by `\Z`
    have htail : Piece (.ok (if Path.endsWithSlash pat = true then ['/'] else "/?".toList))
        (.ok [if Path.endsWithSlash pat = true then Item.one Glob.slash else Glob.optSlash]) := by
      split
      · exact piece_slash
      · exact piece_optSlash
    obtain ⟨T, hT, h⟩ := piece_endZ ((piece_comps comps).append htail) [.bol]
    obtain ⟨t1, _, h1, h2, rfl⟩ := PatTokens.seqRes_ok hT
    cases h2
    cases hm : Glob.mapM' Glob.compText comps with
    | err e => rw [hm] at h1; cases h1
    | ok pieces =>
      rw [hm] at h1; cases h1
      have htext : "(?s)^".toList ++ pieces.flatten ++
            (if Path.endsWithSlash pat = true then "/\\Z".toList else "/?\\Z".toList) =
          "(?s)".toList ++ '^' :: (pieces.flatten ++
            (if Path.endsWithSlash pat = true then ['/'] else "/?".toList) ++ "\\Z".toList) := by
        split <;> simp
      simp only [Regex.parse, htext, parseInline_s, List.length_cons, pi_bol]
      rw [h _ (by simp; omega)]
      cases Glob.mapM' Glob.compItems comps with
      | err e => rfl
      | ok ps => by_cases he : Path.endsWithSlash pat = true <;> simp [he, TR.map, seqRes]

/-- the text of a single bracket expression (every string a `scanClass` can return): the parser gives back the hand
model's atom (the core of the round trip) -/
theorem class_atom_parses (stuff rest : Str) (h : StuffOk stuff) :
    Regex.parseAtom (Wild.classText ['^'] stuff ++ rest) = (Wild.classAtom stuff).map (·, rest) := by
  rw [classText_eq, List.cons_append, parseAtom_set, classParse_text stuff rest h]
  cases Wild.classAtom stuff <;> rfl

/-- the same after the `[`, where `parseAtom` and `parseItems` go on as `classParse` -/
theorem class_text_parses (stuff rest : Str) (h : StuffOk stuff) :
    classParse ((Wild.classText ['^'] stuff).tail ++ rest) =
      (match Wild.classAtom stuff with
       | .ok a => .ok (a, rest)
       | .err e => .err e) := by
  rw [classText_eq, List.tail_cons, ← parseAtom_set, ← List.cons_append, ← classText_eq,
    class_atom_parses stuff rest h]
  cases Wild.classAtom stuff <;> rfl

/-! non-vacuity: the two routes on concrete patterns (including an error) -/
example : Regex.parse (Wild.regexText "a[!b-d]*.p?".toList true) false = Wild.compile "a[!b-d]*.p?".toList true := by decide +kernel
example : Regex.parse (Wild.regexText "[b-a]".toList true) false = .err .reError ∧
    Wild.compile "[b-a]".toList true = .err .reError := by decide +kernel

end Fs.RegexRoundTrip
