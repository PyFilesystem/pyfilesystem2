/-
  CopyGenEq — `fs.copy._copy_is_necessary` and `fs.mirror._compare`, regenerated from `$VERIF_REPO/fs/copy.py` /
  `fs/mirror.py` on every run (`FsModel/Generated/CopyGen.lean`, `MirrorGen.lean`, written by
  `harness/extract/puregen.py`), against the hand functions `Copy.copyIsNecessary` / `Copy.compare`
  (FsModel/Copy.lean) that every C19 theorem about conditional copies and mirrors is stated over.
  A filesystem argument is what `getmodified(path)` / `exists(path)` can tell about the ONE path the function asks
  it about (`Option (Option Int)`: not found / found with an optional modification time); an `Info` is the pair
  `(size, modified)` the function reads.
-/
import FsModel.Copy
import FsModel.Generated.CopyGen
import FsModel.Generated.MirrorGen

namespace Fs.CopyGenEq
open Fs Fs.PyStr Fs.Copy

theorem coverage : CopyGen.translated = ["_copy_is_necessary"] := by decide +kernel

theorem nothing_refused : CopyGen.refused = [] := by decide +kernel

theorem mirror_coverage : MirrorGen.translated = ["_compare"] := by decide +kernel

theorem mirror_nothing_refused : MirrorGen.refused = [] := by decide +kernel

/-- `x is None or y is None or x > y` with its narrowing = the hand `newerThan` -/
theorem newer_eq (s d : Option Int) :
    (match s with | none => true | some a => (match d with | none => true | some b => decide (a > b)))
      = newerThan s d := by
  cases s <;> cases d <;> rfl

theorem older_eq (s d : Option Int) :
    (match s with | none => true | some a => (match d with | none => true | some b => decide (a < b)))
      = olderThan s d := by
  cases s <;> cases d <;> rfl

/-- the generated condition table is the hand one, for every condition string (the five names and every
unknown one), every state of the two paths (missing, no time, a time), whatever the two path strings are -/
theorem copy_is_necessary_eq (s d : Option (Option Int)) (sp dp cond : Str) :
    CopyGen._copy_is_necessary s sp d dp cond = copyIsNecessary cond s d := by
  unfold CopyGen._copy_is_necessary copyIsNecessary
  simp only [beq_iff_eq]
  -- both sides are the same chain of tests on `cond`; only the state of each path (missing, no time, a time) is split
  rcases s with _ | _ | s <;> rcases d with _ | _ | d <;> rfl

/-- the path arguments play no role: the function reads each filesystem only at its own path -/
theorem copy_is_necessary_paths (s d : Option (Option Int)) (sp dp sp' dp' cond : Str) :
    CopyGen._copy_is_necessary s sp d dp cond = CopyGen._copy_is_necessary s sp' d dp' cond := by
  rw [copy_is_necessary_eq, copy_is_necessary_eq]

/-- an unknown condition raises ValueError and nothing else does -/
theorem copy_is_necessary_err (s d : Option (Option Int)) (sp dp cond : Str) (e : Err) :
    CopyGen._copy_is_necessary s sp d dp cond = .err e →
      e = .ValueError ∧ cond ≠ cAlways ∧ cond ≠ cNewer ∧ cond ≠ cOlder ∧ cond ≠ cExists ∧ cond ≠ cNotExists := by
  rw [copy_is_necessary_eq]
  intro h
  unfold copyIsNecessary at h
  by_cases h1 : cond = cAlways
  · rw [if_pos h1] at h; cases h
  rw [if_neg h1] at h
  by_cases h2 : cond = cNewer
  · rw [if_pos h2] at h; rcases s with _ | s <;> rcases d with _ | d <;> cases h
  rw [if_neg h2] at h
  by_cases h3 : cond = cOlder
  · rw [if_pos h3] at h; rcases s with _ | s <;> rcases d with _ | d <;> cases h
  rw [if_neg h3] at h
  by_cases h4 : cond = cExists
  · rw [if_pos h4] at h; cases h
  rw [if_neg h4] at h
  by_cases h5 : cond = cNotExists
  · rw [if_pos h5] at h; cases h
  rw [if_neg h5] at h
  cases h
  exact ⟨rfl, h1, h2, h3, h4, h5⟩

/-- `mirror._compare(info1, info2)` on the `(size, modified)` pairs of two files = the hand `Copy.compare` on
their contents and times -/
theorem compare_eq (b1 b2 : Bytes) (m1 m2 : Option Int) :
    MirrorGen._compare (b1.length, m1) (b2.length, m2) = Copy.compare b1 m1 b2 m2 := by
  unfold MirrorGen._compare Copy.compare
  simp only []
  cases h : (b1.length != b2.length)
  · simp only [Bool.false_eq_true, if_false, Bool.false_or]
    exact newer_eq m1 m2
  · simp

/-- the two condition functions agree: `_compare` on equal sizes is the `newer` condition on existing files -/
theorem compare_is_newer (n : Nat) (m1 m2 : Option Int) (sp dp : Str) :
    CopyGen._copy_is_necessary (some m1) sp (some m2) dp cNewer = .ok (MirrorGen._compare (n, m1) (n, m2)) := by
  rw [copy_is_necessary_eq]
  unfold MirrorGen._compare
  simp only [bne_self_eq_false, Bool.false_eq_true, if_false]
  exact congrArg Res.ok (newer_eq m1 m2).symm

end Fs.CopyGenEq
