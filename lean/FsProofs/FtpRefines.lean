/-
  FTPFS, as coded (FsModel.Ftp = fs/ftpfs.py + the fs/base.py defaults it inherits, as programs over
  FTP commands), run against ANY conforming server (FsModel.FtpServer: the command clauses of `exec`, a
  profile satisfying `Conforming`), implements the reference semantics (FsModel.Ref) — part of C01 and C06.

  "For the names the listing formats carry faithfully": the refinement is conditional on
    * `FtpServer.TreeOk cfg s.root` — every name in the server's tree is one the variant's listing format (and the
      transport) carries: no CR / LF (more than C20's `NoEol`; `WFName` follows from `Node.wf`), on the LIST variant also
      C20's `WFLinuxName` (no leading white space); every file size can be stated as a number `int()` accepts;
    * `FtpStepLemmas.ArgOk cfg p` for every path argument — no CR / LF (they cannot travel in a command line; FTPFS
      declares them invalid, the reference does not) and components of the same kind.
  What happens otherwise is stated by the `…_counterexample` theorems at the end: the format limit
  C20 records and the protocol limit.  `ftp_mlst_linebreak_repaired` guards against a defect of the LIBRARY
  (`getinfo` cutting the MLST reply with `str.splitlines()`: fixed in /repo 79535c4), which would put a clause about
  line-break characters into `NameOk`.
-/
import FsProofs.Lemmas.FtpStepLemmas
import FsProofs.MemRefines

namespace Fs.FtpRefines
open Fs Fs.Path Fs.Ref Fs.FtpParse Fs.FtpServer Fs.Ftp Fs.MemLemmas
open Fs.FtpServerLemmas Fs.FtpModelLemmas Fs.FtpStepLemmas

/-! ### the excluded classes -/

/-- the calls in which FTPFS is known to deviate from the contract: base-class `movedir` into a proper
    ancestor of the source (`MemRefines.knownDeviation`, shared with MemoryFS and OSFS), and nothing else
    (`ftp_removetree_nul_backref_repaired`) -/
def knownDeviation (op : Op) : Prop := MemRefines.knownDeviation op

/-! ### the refinement -/

/-- For every conforming server profile (MLSD and LIST variant alike), every open
    state whose tree is well-formed and carried faithfully by that variant's listing format, and every
    operation on faithfully carried path arguments outside the known deviations whose reference outcome is
    not the loose mid-way failure: FTPFS — as programs over FTP commands, the server's listings rendered
    and parsed back on the way — gives the same verdict; on success the same value and the same resulting
    server tree (exactly, hence a fortiori up to entry order); on failure an error class in `Ref.adm` and
    an unchanged server tree. -/
theorem ftp_refines_ref (cfg : Profile) (hcf : Conforming cfg) (s : State) (op : Op) (hc : s.closed = false)
    (hd : s.root.isDir = true) (hwf : s.root.wf = true) (hok : TreeOk cfg s.root)
    (hargs : ∀ p ∈ op.paths, ArgOk cfg p) (hk : ¬ knownDeviation op)
    (hl : (Ref.step s op).2 ≠ .err .OperationFailed) :
    ((Ftp.step (exec cfg) cfg.cy s op).2.isOk = (Ref.step s op).2.isOk) ∧
    ((Ref.step s op).2.isOk = true → Ftp.step (exec cfg) cfg.cy s op = Ref.step s op) ∧
    (∀ e, (Ftp.step (exec cfg) cfg.cy s op).2 = .err e → e ∈ adm s op ∧ (Ftp.step (exec cfg) cfg.cy s op).1 = s) := by
  obtain ⟨t, c⟩ := s
  simp only at hc hd hwf hok
  subst hc
  have h : Hyp cfg t := ⟨hcf, hd, hwf, hok⟩
  refine MemRefines.refines_op ⟨t, false⟩ op _ rfl hd hl (fun e => e ▸ rfl)
    (fun e hr => ftp_step_refused hcf t op e (fun p hp => (hargs p hp).1) hr) ?_ ?_
  · intro p cs hp hr hv
    have hap : ArgOk cfg p := hargs p (by rw [hp]; simp)
    by_cases hm : ∃ q r, op = .makedirs q r
    · -- `makedirs` is MemoryFS's (the same base-class code), which agrees with the reference
      obtain ⟨q, r, rfl⟩ := hm
      cases hp
      rw [ftp_makedirs_eq_mem t _ cs h hv hap]
      exact mem_makedirs ⟨t, false⟩ _ cs rfl hv hd _
    by_cases ho : ∃ q m, op = .openbin q m
    · obtain ⟨q, m, rfl⟩ := ho
      cases hp
      obtain ⟨md, hm⟩ := QueryLemmas.parse_of_admitted hr
      exact Or.inl (ftp_openbin t _ cs h hv hap m md hm)
    · exact Or.inl (ftp_step1 t p cs h hv hap op hp (fun q m e => ho ⟨q, m, e⟩) fun q r e => hm ⟨q, r, e⟩)
  · intro p q a b hp hva hvb
    have hap : ArgOk cfg p := hargs p (by rw [hp]; simp)
    have haq : ArgOk cfg q := hargs q (by rw [hp]; simp)
    cases op <;> simp only [Op.paths, List.cons.injEq, and_true, reduceCtorEq, and_false] at hp
    all_goals obtain ⟨rfl, rfl⟩ := hp
    · exact ftp_move t _ _ a b h hva hvb hap haq _
    · exact Or.inl (ftp_copy t _ _ a b h hva hvb hap haq _)
    · exact ftp_movedir t _ _ a b h hva hvb hap haq _ fun hh => hk ⟨a, b, hva, hvb, hh.1, hh.2⟩
    · exact Or.inl (ftp_copydir t _ _ a b h hva hvb hap haq _)

/-- hence on every step that succeeds in the reference FTPFS returns exactly the reference's value and
    leaves exactly the reference's tree on the server -/
theorem ftp_refines_ref_ok_steps (cfg : Profile) (hcf : Conforming cfg) (s : State) (op : Op) (hc : s.closed = false)
    (hd : s.root.isDir = true) (hwf : s.root.wf = true) (hok : TreeOk cfg s.root)
    (hargs : ∀ p ∈ op.paths, ArgOk cfg p) (hk : ¬ knownDeviation op) (v : Val) (hv : (Ref.step s op).2 = .ok v) :
    Ftp.step (exec cfg) cfg.cy s op = Ref.step s op :=
  (ftp_refines_ref cfg hcf s op hc hd hwf hok hargs hk (by rw [hv]; exact fun h => by cases h)).2.1
    (by rw [hv]; rfl)

/-- C06 for FTPFS: a failing call reports a class whose documented condition holds — whatever the reply
    codes `ftp_errors` and the `550` analyses of `makedir`, `removedir`, `upload`, `readbytes`, `setinfo` had
    to work with — and changes nothing on the server -/
theorem ftp_failure_truthful_and_harmless (cfg : Profile) (hcf : Conforming cfg) (s : State) (op : Op) (e : Err)
    (hc : s.closed = false) (hd : s.root.isDir = true) (hwf : s.root.wf = true) (hok : TreeOk cfg s.root)
    (hargs : ∀ p ∈ op.paths, ArgOk cfg p) (hk : ¬ knownDeviation op)
    (hl : (Ref.step s op).2 ≠ .err .OperationFailed) (he : (Ftp.step (exec cfg) cfg.cy s op).2 = .err e) :
    e ∈ adm s op ∧ (Ftp.step (exec cfg) cfg.cy s op).1 = s :=
  (ftp_refines_ref cfg hcf s op hc hd hwf hok hargs hk hl).2.2 e he

/-- a closed FTPFS never sends a command, never changes anything, and every call but `close` fails (a mode
    error comes first in `openbin`, as in the code) — against ANY
    server -/
theorem ftp_closed_is_final (X : Server) (cy : Nat) (s : State) (op : Op) (hc : s.closed = true) (hop : op ≠ .close) :
    (Ftp.step X cy s op).1 = s ∧ (∃ e, (Ftp.step X cy s op).2 = .err e) ∧ Ftp.stepTrace X cy s op = [] := by
  rw [step_not_close X cy s hop, hc]
  refine ⟨rfl, ⟨_, rfl⟩, ?_⟩
  unfold Ftp.stepTrace
  split
  · rfl
  · rw [hc]; rfl

/-! ### the listing round trip: server renders → library parses → the same entries -/

/-- MLSD: whatever facts the profile adds, the lines a conforming server sends for a directory are parsed
    back (`_parse_mlsx`) into exactly its entries — name, type, size — in order (`FtpServer.mlsxLine` is
    `FtpParse.renderMlsd` over `type`, `size` and the profile's facts) -/
theorem ftp_listing_roundtrip (cfg : Profile) (hcf : Conforming cfg) (es : Ents)
    (h : ∀ kv ∈ es, WFName kv.1 ∧ NoEol kv.1 ∧ (decimal (FtpServer.sizeOf cfg kv.2)).length ≤ maxStrDigits) :
    ∃ infos, parseMlsx (es.map fun kv => mlsxLine cfg kv.1 kv.2) = .ok infos ∧
      infos.map (fun i => (i.name, i.isDir, i.size)) = es.map fun kv => (kv.1, kv.2.isDir, FtpServer.sizeOf cfg kv.2) :=
  mlsd_listing cfg hcf es h

/-- LIST: the same for `ftp_parse.parse` over `FtpParse.renderLinux` (`FtpLemmas.linux_line_roundtrip_core`), for
    the names `WFLinuxName` admits -/
theorem ftp_listing_roundtrip_list (cfg : Profile) (hcf : Conforming cfg) (es : Ents)
    (h : ∀ kv ∈ es, Stops isSpace kv.1 ∧ '\n' ∉ kv.1 ∧ (decimal (FtpServer.sizeOf cfg kv.2)).length ≤ maxStrDigits) :
    ∃ infos, parse cfg.cy (es.map fun kv => listLine cfg kv.1 kv.2) = .ok infos ∧
      infos.map Ftp.listEnt = es.map fun kv => (kv.1, kv.2.isDir, FtpServer.sizeOf cfg kv.2) :=
  list_listing cfg hcf es h

/-- MLST: the control reply, cut with `response.split("\n")[1:-1]` as the library does (/repo 79535c4), yields the
    one entry named like the last component of the path — for EVERY path whose components contain no CR / LF,
    whatever else they contain (VT, FF, FS, GS, RS, NEL, LS, PS included: `ftp_mlst_linebreak_repaired`) -/
theorem ftp_mlst_roundtrip (cfg : Profile) (hcf : Conforming cfg) (p : List Name) (n : Node) (hne : p ≠ [])
    (hcl : ∀ c ∈ p, cleanName c = true) (hp : ∀ c ∈ p, NoCrLf c)
    (hsz : (decimal (FtpServer.sizeOf cfg n)).length ≤ maxStrDigits) :
    ∃ i, parseMlsx (((splitOn '\n' (mlstText cfg p n)).drop 1).dropLast) = .ok [i] ∧
      (i.name, i.isDir, i.size) = (p.getLast?.getD [], n.isDir, FtpServer.sizeOf cfg n) :=
  mlst_reply cfg hcf p n hne hcl hp hsz

/-- FEAT: the library learns exactly the feature lines the server sent, so `supports_mlst` is the variant -/
theorem ftp_feat_roundtrip (cfg : Profile) (hcf : Conforming cfg) (t : Node) :
    Ftp.run (exec cfg) features t = (t, allFeats cfg) ∧
    (dictGet kMLST (allFeats cfg)).isSome = cfg.mlsd ∧ (dictGet kMFMT (allFeats cfg)).isSome = cfg.mfmt :=
  ⟨run_features cfg hcf t, supports_mlst cfg hcf, supports_mfmt cfg hcf⟩

/-- what `getinfo` / `scandir` find is what is there: the two queries every other method is built on
    (MLST path and LIST path of `getinfo`, with its climb through the parents; MLSD path of `scandir` with its
    fall-through to LIST and its `501` analysis) -/
theorem ftp_queries_exact (cfg : Profile) (hcf : Conforming cfg) (t : Node) (hd : t.isDir = true) (hwf : t.wf = true)
    (hok : TreeOk cfg t) (cs : List Name) (hcl : ∀ c ∈ cs, cleanName c = true) (hn : ∀ c ∈ cs, NameOk cfg c) :
    Ftp.run (exec cfg) (getinfoP cfg.cy cfg.mlsd cs) t = (t, infoSpec cfg t cs) ∧
    Ftp.run (exec cfg) (scandirC cfg.cy cfg.mlsd cs) t = (t, scandirSpec cfg t cs) :=
  ⟨run_getinfoP ⟨hcf, hd, hwf, hok⟩ cs ⟨hcl, hn⟩, run_scandirC ⟨hcf, hd, hwf, hok⟩ cs ⟨hcl, hn⟩⟩

/-! ### the hypotheses are satisfiable: pyftpdlib's profile conforms -/

/-- the profile the driver and the harness use (`FtpServer.pyftpdlib`: what pyftpdlib 1.5.10 says, with fixed
    time stamps) satisfies every named assumption, in both variants and whatever the year -/
theorem pyftpdlib_conforming (mlsd : Bool) (cy : Nat) : Conforming (pyftpdlib mlsd cy) where
  feat_extra := by simp only [pyftpdlib_eq]; decide +kernel
  feat_keys := by simp only [pyftpdlib_eq, allFeats]; cases mlsd <;> decide +kernel
  feat_text := by simp only [pyftpdlib_eq, allFeats, NoBreak]; cases mlsd <;> decide +kernel
  feat_nodup := by simp only [pyftpdlib_eq, allFeats]; cases mlsd <;> decide +kernel
  facts_wf := by
    intro name n
    simp only [pyftpdlib_eq]
    cases n.isDir <;> decide +kernel
  facts_nodup := by
    intro name n
    simp only [entryFacts, pyftpdlib_eq, List.map_cons, List.map_nil]
    decide +kernel
  facts_line := by
    intro name n
    simp only [pyftpdlib_eq]
    cases n.isDir <;> decide +kernel
  dir_size := by simp only [pyftpdlib]; decide +kernel
  list_perms := by intro n; simp only [pyftpdlib_eq]; cases n.isDir <;> decide +kernel
  list_links := by intro n; simp only [pyftpdlib]; decide +kernel
  list_uid := by
    simp only [pyftpdlib_eq]
    exact ⟨⟨'r', ['o', 'o', 't'], [], rfl, by decide +kernel, by decide +kernel, Or.inl rfl⟩⟩
  list_gid := by
    simp only [pyftpdlib_eq]
    exact ⟨⟨'r', ['o', 'o', 't'], [], rfl, by decide +kernel, by decide +kernel, Or.inl rfl⟩⟩
  list_time := by simp only [pyftpdlib, wfLTime]; decide +kernel

theorem argOk_a (cfg : Profile) : ArgOk cfg "a".toList :=
  argOk_name (nameOk_of (by decide) (by decide)) (by decide)

/-- … so `ftp_refines_ref` applies to it: e.g. on the empty server, for `makedir("a")`, both variants -/
example (mlsd : Bool) : ∃ cfg s op, Conforming cfg ∧ cfg.mlsd = mlsd ∧ s.closed = false ∧ s.root.isDir = true ∧
    s.root.wf = true ∧ TreeOk cfg s.root ∧ (∀ p ∈ op.paths, ArgOk cfg p) ∧ ¬ knownDeviation op ∧
    (Ref.step s op).2 ≠ .err .OperationFailed := by
  refine ⟨pyftpdlib mlsd 2026, State.empty, .makedir "a".toList false, pyftpdlib_conforming mlsd 2026, rfl, rfl, rfl, rfl,
    treeOk_emptyDir _, ?_, ?_, by decide⟩
  · intro p hp
    simp only [Op.paths, List.mem_singleton] at hp
    subst hp
    exact argOk_a _
  · exact fun h => h

/-! ### outside the hypotheses: what the limits of the protocol and of the listing formats look like
(and the theorems that guard the two repairs of the LIBRARY) -/

/-- bytes of the file at a path, if there is one -/
def fileAt (t : Node) (q : List Name) : Option Bytes :=
  match t.get q with
  | some (.file b) => some b
  | _ => none

/-- Protocol limit (`ArgOk`: no CR / LF).  A command line cannot carry CR or LF, so FTPFS declares them
    invalid path characters (/repo 79da638) and refuses the path before anything is sent; the reference, like
    every other backend, has no such rule -/
theorem ftp_crlf_path_counterexample :
    (Ftp.step (exec (pyftpdlib true 2026)) 2026 State.empty (.exists_ "a\rb".toList)).2 = .err .InvalidCharsInPath ∧
    (Ftp.step (exec (pyftpdlib false 2026)) 2026 State.empty (.makedir "a\nb".toList false)).2 =
      .err .InvalidCharsInPath ∧
    (Ref.step State.empty (.exists_ "a\rb".toList)).2 = .ok (.bool false) ∧
    (Ref.step State.empty (.makedir "a\nb".toList false)).2 = .ok .unit := by
  decide

/-- Format limit (`NameOk`, LIST variant = `WFLinuxName.start`).  A LIST line cannot tell a leading
    blank of a name from the column separator: the file ` f` is listed as `f`, so it does not exist for
    `getinfo`; and `makedir(" d")` creates the directory, then fails in its final `opendir` — a failing call
    that changed the server -/
theorem ftp_list_leading_blank_counterexample :
    let t : Node := .dir [(" f".toList, .file [1])]
    (Ftp.step (exec (pyftpdlib false 2026)) 2026 ⟨t, false⟩ (.exists_ " f".toList)).2 = .ok (.bool false) ∧
    (Ref.step ⟨t, false⟩ (.exists_ " f".toList)).2 = .ok (.bool true) ∧
    (Ftp.step (exec (pyftpdlib false 2026)) 2026 State.empty (.makedir " d".toList false)).2 = .err .ResourceNotFound ∧
    kindAt (Ftp.step (exec (pyftpdlib false 2026)) 2026 State.empty (.makedir " d".toList false)).1.root [" d".toList] =
      some true ∧
    (Ref.step State.empty (.makedir " d".toList false)).2 = .ok .unit ∧
    -- the MLSD variant carries the name (ec30a14)
    (Ftp.step (exec (pyftpdlib true 2026)) 2026 ⟨t, false⟩ (.exists_ " f".toList)).2 = .ok (.bool true) := by
  intro t
  have hcf := pyftpdlib_conforming false 2026
  -- on the LIST variant the calls are evaluated, after the FEAT exchange (`step_open`); the two facts about
  -- `makedir(" d")` in one evaluation
  rw [step_open hcf ⟨t, false⟩ rfl (by nofun), step_open hcf State.empty rfl (by nofun), pyftpdlib_eq false]
  refine ⟨by decide +kernel, by decide +kernel, And.left ?mk, And.right ?mk, by decide +kernel, ?_⟩
  case mk => decide +kernel
  · -- on the MLSD variant the name is carried, so the refinement applies
    have ha : ∀ p ∈ (Op.exists_ " f".toList).paths, ArgOk (pyftpdlib true 2026) p := by
      intro p hp
      cases List.mem_singleton.1 hp
      exact argOk_name ⟨by decide, nofun⟩ (by decide +kernel)
    exact (congrArg Prod.snd (ftp_refines_ref_ok_steps _ (pyftpdlib_conforming true 2026) ⟨t, false⟩ _ rfl rfl rfl
      (treeOk_dir_of_ents (entsOk_cons ⟨by decide, nofun⟩ (treeOk_file _ _ (by decide)) (entsOk_nil _))) ha
      (fun h => h) (.bool true) (by decide +kernel))).trans (by decide +kernel)

/-- Guards against `FTPFS.getinfo` cutting the MLST reply with `str.splitlines()` (finding
    `C01-ftpfs-mlst-reply-splitlines`, fixed in /repo 79535c4), which also breaks at VT, FF, FS, GS, RS, NEL, LS and PS:
    the directory `a<FF>b` would be reported as a FILE named `b":` of size 0, `isdir` false.  Cut at `\n` only, names
    with such characters get the reference's answers on the MLSD variant, `isdir` also on the LIST variant
    (`ftp_mlst_roundtrip` and `ftp_refines_ref` assume nothing about line-break characters) -/
theorem ftp_mlst_linebreak_repaired :
    let t : Node := .dir [("a\x0cb".toList, .dir []), ("a\u2028b".toList, .file [1, 2, 3])]
    (Ftp.step (exec (pyftpdlib true 2026)) 2026 ⟨t, false⟩ (.isdir "a\x0cb".toList)).2 = .ok (.bool true) ∧
    (Ftp.step (exec (pyftpdlib true 2026)) 2026 ⟨t, false⟩ (.getinfo "a\x0cb".toList)).2 =
      .ok (.info "a\x0cb".toList true 0) ∧
    (Ftp.step (exec (pyftpdlib true 2026)) 2026 ⟨t, false⟩ (.getsize "a\u2028b".toList)).2 = .ok (.nat 3) ∧
    (Ftp.step (exec (pyftpdlib true 2026)) 2026 ⟨t, false⟩ (.listdir "/".toList)).2 =
      .ok (.names ["a\x0cb".toList, "a\u2028b".toList]) ∧
    (Ref.step ⟨t, false⟩ (.isdir "a\x0cb".toList)).2 = .ok (.bool true) ∧
    (Ref.step ⟨t, false⟩ (.getinfo "a\x0cb".toList)).2 = .ok (.info "a\x0cb".toList true 0) ∧
    (Ref.step ⟨t, false⟩ (.getsize "a\u2028b".toList)).2 = .ok (.nat 3) ∧
    (Ftp.step (exec (pyftpdlib false 2026)) 2026 ⟨t, false⟩ (.isdir "a\x0cb".toList)).2 = .ok (.bool true) := by
  intro t
  -- both names are carried by both variants, so every call is covered by the refinement: FTPFS answers what the
  -- reference answers, and that is evaluated
  have hn1 : ∀ cfg, NameOk cfg "a\x0cb".toList := fun _ => nameOk_of (by decide +kernel) (by decide +kernel)
  have hn2 : ∀ cfg, NameOk cfg "a\u2028b".toList := fun _ => nameOk_of (by decide +kernel) (by decide +kernel)
  have ht : ∀ cfg, TreeOk cfg t := fun cfg => treeOk_dir_of_ents
    (entsOk_cons (hn1 cfg) (treeOk_emptyDir _) (entsOk_cons (hn2 cfg) (treeOk_file _ _ (by decide +kernel)) (entsOk_nil _)))
  have ha1 : ∀ cfg, ArgOk cfg "a\x0cb".toList := fun cfg => argOk_name (hn1 cfg) (by decide +kernel)
  have ha2 : ∀ cfg, ArgOk cfg "a\u2028b".toList := fun cfg => argOk_name (hn2 cfg) (by decide +kernel)
  have ha3 : ∀ cfg, ArgOk cfg "/".toList := fun cfg =>
    argOk_of_validate (by decide +kernel) (cs := []) (by decide +kernel) fun c hc => nomatch hc
  have key : ∀ mlsd op p v, op.paths = [p] → ArgOk (pyftpdlib mlsd 2026) p → ¬ knownDeviation op →
      (Ref.step ⟨t, false⟩ op).2 = .ok v → (Ftp.step (exec (pyftpdlib mlsd 2026)) 2026 ⟨t, false⟩ op).2 = .ok v := by
    intro mlsd op p v hp ha hk hv
    refine (congrArg Prod.snd (ftp_refines_ref_ok_steps _ (pyftpdlib_conforming mlsd 2026) ⟨t, false⟩ op rfl rfl rfl
      (ht _) ?_ hk v hv)).trans hv
    rw [hp]
    intro q hq
    cases List.mem_singleton.1 hq
    exact ha
  refine ⟨key true _ _ _ rfl (ha1 _) id ?r1, key true _ _ _ rfl (ha1 _) id ?r2, key true _ _ _ rfl (ha2 _) id ?r3,
    key true _ _ _ rfl (ha3 _) id ?_, ?r1, ?r2, ?r3, key false _ _ _ rfl (ha1 _) id ?r1⟩
  all_goals decide +kernel

/-- the base-class `movedir` into a proper ancestor of the source deviates on FTPFS as on MemoryFS and OSFS
    (the same witness as `MemRefines.mem_movedir_ancestor_counterexample`) -/
theorem ftp_movedir_ancestor_counterexample :
    let t : Node := .dir [("a".toList, .dir [("a".toList, .dir [("x".toList, .file [1])])])]
    let s : State := { root := t, closed := false }
    fileAt (Ftp.step (exec (pyftpdlib true 2026)) 2026 s (.movedir "a".toList "/".toList false)).1.root
      ["a".toList, "x".toList] = none ∧
    fileAt (Ref.step s (.movedir "a".toList "/".toList false)).1.root ["a".toList, "x".toList] = some [1] := by
  intro t s
  -- the names are carried, so `step_movedir` says what the call amounts to on the tree; that is evaluated
  have hn : ∀ n : Name, NoCrLf n → NameOk (pyftpdlib true 2026) n := fun _ h => ⟨h, nofun⟩
  have ha : NameOk (pyftpdlib true 2026) "a".toList := hn _ (by decide +kernel)
  have hx : TreeOk (pyftpdlib true 2026) (.dir [("x".toList, .file [1])]) :=
    treeOk_dir_of_ents (entsOk_cons (hn _ (by decide +kernel)) (treeOk_file _ _ (by decide)) (entsOk_nil _))
  have ht : Hyp (pyftpdlib true 2026) t := ⟨pyftpdlib_conforming true 2026, rfl, by decide +kernel, treeOk_dir_of_ents
    (entsOk_cons ha (treeOk_dir_of_ents (entsOk_cons ha hx (entsOk_nil _))) (entsOk_nil _))⟩
  have hroot : ArgOk (pyftpdlib true 2026) "/".toList :=
    argOk_of_validate (by decide) (cs := []) (by decide +kernel) fun c hc => nomatch hc
  exact ⟨(congrArg (fun x : State × Out => fileAt x.1.root ["a".toList, "x".toList])
      (step_movedir t _ _ ["a".toList] [] ht (by decide +kernel) (by decide +kernel) (argOk_a _) hroot false)).trans
    (by decide +kernel), by decide +kernel⟩

/-- Guards against the inherited `FS.removetree` normalising its path before validating it (fixed in /repo 433aea4):
    on a path that is invalid twice over (NUL, and climbing above the root) FTPFS names the NUL as the reference
    does, and a closed FTPFS says FilesystemClosed -/
theorem ftp_removetree_nul_backref_repaired :
    let op : Op := .removetree "\x00/../..".toList
    (Ftp.step (exec (pyftpdlib true 2026)) 2026 State.empty op).2 = .err .InvalidCharsInPath ∧
    (Ref.step State.empty op).2 = .err .InvalidCharsInPath ∧
    (Ftp.step (exec (pyftpdlib true 2026)) 2026 { State.empty with closed := true } (.removetree "..".toList)).2 =
      .err .FilesystemClosed := by
  refine ⟨by decide, by decide, by decide⟩

end Fs.FtpRefines
