/-
  C04 — read-only filesystems cannot be modified through any call.

  The tables (`shapeTable`, `baseCalls`, `guardTable`, `writingChars`) are GENERATED from the sources
  on every run; the table theorems below (`extractor_understood`, decided on its own, and the fields of the one
  evaluation `ro_table_laws`) are therefore re-proved whenever the code of `fs/wrap.py`, `fs/wrapfs.py`,
  `fs/zipfs.py`, `fs/tarfs.py`, `fs/base.py` or `fs/mode.py` changes.
  A public method added to `FS` later appears in `methodsOf` and must be classified
  (`all_public_classified`) and safe (`*_table_safe`), or the build fails.
-/
import FsModel.Guard
import FsProofs.Lemmas.GuardLemmas

namespace Fs.C04
open Fs Fs.Ref Fs.Guard Fs.Generated Fs.GuardLemmas

/-! ### the classification is proved against `Ref.step` -/

/-- The classification is justified against `Ref.step`: a name that `Ref.Op` has is classified
mutator/opener exactly when some well-formed open state exists in which some call of it changes
the tree.  (`settimes` is the exception: `Ref` does not model timestamps — see
`settimes_outside_ref` — so it is a mutator by declaration and is checked dynamically on
explicitly set mtimes.) -/
theorem mutator_iff (m : String) (hm : m ∈ refMethods) (hs : m ≠ "settimes") :
    (isMutator m || isOpener m) = true ↔
      ∃ s op, opMeth op = m ∧ s.closed = false ∧ s.root.wf = true ∧ (step s op).1.root ≠ s.root := by
  constructor
  · intro h
    have hw := witness_ok m hm h hs
    unfold witnessOk at hw
    split at hw
    · rename_i s op _
      simp only [Bool.and_eq_true, beq_iff_eq, Bool.not_eq_true', bne_iff_ne, ne_eq] at hw
      exact ⟨s, op, hw.1.1.1, hw.1.1.2, hw.1.2, mt (congrArg flat) hw.2⟩
    · exact absurd hw (by decide)
  · intro ⟨s, op, hop, _, _, hne⟩
    cases hk : (isMutator m || isOpener m) with
    | true => rfl
    | false =>
      exfalso
      apply hne
      have hcl : op ≠ .close := by
        intro h; subst h; simp [step] at hne
      have hp : isPassive (opMeth op) = true := passive_of_not_mut op (by rw [hop]; exact hk)
      rw [ref_passive_pure s op hp hcl]

/-- `Ref` has no timestamps: `settimes` never changes the reference state -/
theorem settimes_outside_ref (s : State) (p : Str) : (step s (.settimes p)).1 = s := by
  simp only [step]
  split
  · rfl
  · split <;> first | rfl | (simp only [step1, done, fail]; split <;> rfl)

/-- an `openbin` whose mode is not a writing one (`Mode.writing` of this tree) changes nothing -/
theorem open_for_reading_is_pure (s : State) (p m : Str) (h : isWritingMode m = false) :
    (step s (.openbin p m)).1 = s := RouteLemmas.step_query_state s _ (query_of_not_writing p m h)

example : isWritingMode "rb".toList = false ∧ isWritingMode "r+".toList = true ∧
    isWritingMode "x".toList = true := by decide

/-! ### table theorems (re-proved on every run over the generated tables) -/

/-- the extractor understood every class it was asked about, and `Mode.writing` -/
theorem extractor_understood : notUnderstood = [] ∧ writingChars.isSome = true := by decide

/-- What the generated shape table and call graph must show: the table theorems of this file, as the fields of one
structure that is decided in one evaluation.  The look-ups by name (`kindOf`, `shapeOf`, `callsOf`) and the string
literals they compare are what an evaluation costs, and the kernel keeps what it has computed within one proof only. -/
structure RoTableLaws : Prop where
  all_public_classified : ∀ cls ∈ roClasses, ∀ m ∈ methodsOf cls, (kindOf m).isSome = true
  /-- one level below `depthBound`: queries and helpers reach the underlying filesystem only through passive
  methods; `ro_tables_harmless` and `depth_bound_suffices` both follow by monotonicity -/
  harmless_below_bound : ∀ cls ∈ roClasses, ∀ m ∈ methodsOf cls, harmlessN cls (depthBound - 1) m = true
  ro_tables_cover_api : ∀ cls ∈ roClasses, ∀ m ∈ mutators ++ openers, (methodsOf cls).contains m = true
  ro_open_guard_covers_writing : ∀ m ∈ methodsOf "WrapReadOnly",
    (match shapeOf "WrapReadOnly" m with
     | .modeGuarded chars _ _ => coversWriting chars
     | _ => true) = true
  ro_mutators_overridden : ∀ m ∈ methodsOf "WrapReadOnly", isMutator m = true →
    (shapeOf "WrapReadOnly" m == .raisesReadOnly || shapeOf "WrapReadOnly" m == .baseDefault) = true
  ro_has_ref_methods : ∀ m ∈ refMethods, m ≠ "close" → (methodsOf "WrapReadOnly").contains m = true

theorem ro_table_laws : RoTableLaws := by
  -- the structure is the conjunction of its fields; that is decided
  refine (fun ⟨h1, h2, h3, h4, h5, h6⟩ => ⟨h1, h2, h3, h4, h5, h6⟩ : _ ∧ _ ∧ _ ∧ _ ∧ _ ∧ _ → RoTableLaws) ?_
  decide +kernel

/-- every public name visible on a read-only class is classified -/
theorem all_public_classified :
    ∀ cls ∈ roClasses, ∀ m ∈ methodsOf cls, (kindOf m).isSome = true := ro_table_laws.all_public_classified

/-- every public name of the three classes is `Safe`, not only the mutators -/
theorem ro_tables_harmless : ∀ cls ∈ roClasses, TableSafe cls = true := fun cls hcls =>
  List.all_eq_true.mpr fun m hm => harmlessN_mono cls _ m (ro_table_laws.harmless_below_bound cls hcls m hm)

/-- `fs.wrap.read_only`: every mutator (and `open`/`openbin`) is `Safe`.  Here and in the next two the
    condition on `m` is not used: `ro_tables_harmless` holds of every public name. -/
theorem ro_table_safe :
    ∀ m ∈ methodsOf "WrapReadOnly", (isMutator m || isOpener m) = true → Safe "WrapReadOnly" m = true :=
  fun _ hm _ => safe_of_table (ro_tables_harmless _ (.head _)) hm

/-- read-mode ZipFS -/
theorem zip_table_safe :
    ∀ m ∈ methodsOf "ReadZipFS", (isMutator m || isOpener m) = true → Safe "ReadZipFS" m = true :=
  fun _ hm _ => safe_of_table (ro_tables_harmless _ (.tail _ (.head _))) hm

/-- read-mode TarFS -/
theorem tar_table_safe :
    ∀ m ∈ methodsOf "ReadTarFS", (isMutator m || isOpener m) = true → Safe "ReadTarFS" m = true :=
  fun _ hm _ => safe_of_table (ro_tables_harmless _ (.tail _ (.tail _ (.head _)))) hm

/-- the three tables are not vacuous: each has the mutators of the API -/
theorem ro_tables_cover_api :
    ∀ cls ∈ roClasses, ∀ m ∈ mutators ++ openers, (methodsOf cls).contains m = true := ro_table_laws.ro_tables_cover_api

/-- `fs.wrap.read_only` rejects every writing mode before it hands `open`/`openbin` on -/
theorem ro_open_guard_covers_writing :
    ∀ m ∈ methodsOf "WrapReadOnly",
      (match shapeOf "WrapReadOnly" m with
       | .modeGuarded chars _ _ => coversWriting chars
       | _ => true) = true := ro_table_laws.ro_open_guard_covers_writing

/-- every mutator of `fs.wrap.read_only` is the two-line body `check(); raise ResourceReadOnly`, or a
base-class default (the deprecated aliases `setbytes`, `settext`, `setfile`, `setbinfile`, which call an
overridden one) -/
theorem ro_mutators_overridden :
    ∀ m ∈ methodsOf "WrapReadOnly", isMutator m = true →
      (shapeOf "WrapReadOnly" m == .raisesReadOnly || shapeOf "WrapReadOnly" m == .baseDefault) = true :=
  ro_table_laws.ro_mutators_overridden

/-- The depth bound of `Safe` suffices for the emitted call graph: deeper unfolding changes
nothing, for any name. -/
theorem depth_bound_suffices :
    ∀ cls ∈ roClasses, ∀ k m, harmlessN cls (depthBound + k) m = harmlessN cls depthBound m := by
  intro cls hcls
  refine harmlessN_stable cls depthBound (harmlessN_agree_of_table cls depthBound (depthBound - 1) fun m hm => ?_)
  -- both levels are `true` on the table
  have h := harmlessN_mono cls _ m (ro_table_laws.harmless_below_bound cls hcls m hm)
  rw [harmlessN_mono cls depthBound m h]
  exact h.symm

/-! ### `Safe` is sound -/

/-- Soundness of `Safe` for the operational semantics `Exec` (base-class defaults = arbitrary
sequences of the self-calls the extractor found; any public method when `self` escapes), over
*any* underlying filesystem whose passive methods and read-mode opens do not change it. -/
theorem safe_sound {σ : Type} (cls : String) (I : Inner σ) (hI : Honest I) (m : String)
    (h : Safe cls m = true) (s s' : σ) (hx : Exec cls I m s s') : s' = s := by
  obtain ⟨n, hn⟩ := hx
  exact harmless_sound cls I hI n depthBound m s s' h hn

/-- Views never change anything either: a `SubFS` obtained with `opendir`, a `Globber` (whose
`remove` calls `remove`/`removetree`) and a `BoundWalker` act on the read-only filesystem only
through its public methods — any sequence of such calls leaves the underlying state alone. -/
theorem views_never_change {σ : Type} (cls : String) (I : Inner σ) (hI : Honest I)
    (hT : TableSafe cls = true) (s s' : σ)
    (h : SeqOf (Exec cls I) (fun m => m ∈ methodsOf cls) s s') : s' = s := by
  refine seqOf_id _ _ ?_ s s' h
  intro c a b hc hx
  exact safe_sound cls I hI c (safe_of_table hT hc) a b hx

/-- `Ref` is an honest underlying filesystem -/
def refInner : Inner Ref.State where
  call m s s' := ∃ op, opMeth op = m ∧ op ≠ .close ∧ s' = (Ref.step s op).1
  openAs mode s s' := ∃ p, s' = (Ref.step s (.openbin p mode)).1

theorem ref_honest : Honest refInner where
  passive := by
    intro m s s' hp ⟨op, hm, hc, he⟩
    rw [he, ref_passive_pure s op (by rw [hm]; exact hp) hc]
  readOpen := by
    intro mode s s' hw ⟨p, he⟩
    rw [he, open_for_reading_is_pure s p mode hw]

example : ∀ s s', Exec "WrapReadOnly" refInner "writebytes" s s' → s' = s :=
  fun s s' h => safe_sound "WrapReadOnly" refInner ref_honest "writebytes" (by decide +kernel) s s' h

/-! ### the executable wrapper over `Ref` -/

/-- No history through a wrapper whose table is safe changes the wrapped filesystem. -/
theorem ro_never_changes (cls : String) (hT : TableSafe cls = true) (st : RO.State) (ops : List Op) :
    (RO.run cls st ops).1.inner = st.inner := ro_run_inner cls hT ops st

/-- `ro_never_changes` for the three read-only constructions of this tree -/
theorem read_only_never_changes (cls : String) (hcls : cls ∈ roClasses) (st : RO.State) (ops : List Op) :
    (RO.run cls st ops).1.inner = st.inner :=
  ro_never_changes cls (ro_tables_harmless cls hcls) st ops

/-- Mutating calls raise `ResourceReadOnly` (unless the wrapper is closed, in which case a
guarded method raises `FilesystemClosed` first). -/
theorem ro_mutators_raise (st : RO.State) (op : Op) (hm : refMutating op = true)
    (hc : st.closed = false) :
    (RO.step "WrapReadOnly" st op).2 = .err .ResourceReadOnly := by
  have hop : op ≠ .close := by intro h; subst h; revert hm; decide
  have hmem : opMeth op ∈ methodsOf "WrapReadOnly" := by
    simpa using ro_table_laws.ro_has_ref_methods _ (opMeth_mem_refMethods op) (opMeth_ne_close hop)
  have hsafe := safe_of_table (ro_tables_harmless "WrapReadOnly" (.head _)) hmem
  apply ro_mutator_raises "WrapReadOnly" st op hsafe hm (by simp [hc])
  intro chars passes validates hsh
  have hcov : coversWriting chars = true := by
    have := ro_open_guard_covers_writing _ hmem
    rw [hsh] at this
    exact this
  -- a modeGuarded method is an opener, so the call mutates only through a valid writing mode
  have hopener : isOpener (opMeth op) = true := (safe_modeGuarded hsafe hsh).1
  have hmode : (parseBinMode (opMode op)).isSome = true ∧ isWritingMode (opMode op) = true := by
    unfold refMutating at hm
    simpa [opener_not_mutator hopener, hopener] using hm
  refine ⟨?_, ?_⟩
  · rw [modeValid_of_parse _ hmode.1]; simp
  · cases hr : rejects chars (opMode op) with
    | true => rfl
    | false =>
      have := hmode.2
      rw [not_writing_of_covers chars _ hcov hr] at this
      exact absurd this (by decide)

/-- read archives: every mutator proper reports `ResourceReadOnly` (`openbin`, an opener, is covered
by `ro_step_inner`: whatever the archive's own mode test lets through changes nothing) -/
theorem archive_mutators_raise (cls : String) (hcls : cls ∈ roClasses) (st : RO.State) (op : Op)
    (hm : isMutator (opMeth op) = true) (hmem : opMeth op ∈ methodsOf cls) (hc : st.closed = false) :
    (RO.step cls st op).2 = .err .ResourceReadOnly := by
  have hsafe := safe_of_table (ro_tables_harmless cls hcls) hmem
  apply ro_mutator_raises cls st op hsafe (by simp [refMutating, hm]) (by simp [hc])
  intro chars passes validates hsh
  exfalso
  rw [opener_not_mutator (safe_modeGuarded hsafe hsh).1] at hm
  cases hm

/-! ### examples: the hypotheses are met, the model computes -/

example : (RO.run "WrapReadOnly" { inner := State.empty, closed := false }
    [.makedir "a".toList false, .writebytes "f".toList [1], .openbin "f".toList "w".toList,
     .exists_ "f".toList]).2
    = [.err .ResourceReadOnly, .err .ResourceReadOnly, .err .ResourceReadOnly, .ok (.bool false)] := by
  decide +kernel

example : refMutating (.openbin "f".toList "a+".toList) = true ∧ refMutating (.openbin "f".toList "rb".toList) = false := by
  decide

end Fs.C04
