/-
  InfoGenEq — the accessors of `class Info`, regenerated from `$VERIF_REPO/fs/info.py` on every run
  (`FsModel/Generated/InfoGen.lean`, written by harness/extract/infogen.py), against the hand model
  `Fs.Info.Info.*` (FsModel/Info.lean) that InfoLaws / C10 are stated over.  An object is its raw dictionary
  (`i.raw`); a result of the hand model (`IRes`) is read in the generated module's vocabulary through the
  injective `ofIRes` (FsModel/PyInfo.lean).  An accessor whose hand version is total (`get`, `name`, `is_dir`,
  `is_file`, `has_namespace`) never raises.
-/
import FsProofs.Lemmas.InfoGenLemmas
import FsProofs.Lemmas.PyStrLemmas
import FsProofs.Lemmas.PathLemmas

namespace Fs.InfoGenEq
open Fs Fs.Path Fs.PyStr Fs.Info Fs.InfoGen Fs.PathLemmas Fs.PyStrLemmas

theorem coverage : InfoGen.translated =
    ["_make_datetime", "_require_namespace", "accessed", "created", "get", "gid", "group", "has_namespace", "is_dir",
     "is_file", "is_link", "is_writeable", "metadata_changed", "modified", "name", "permissions", "size", "stem",
     "suffix", "suffixes", "target", "type", "uid", "user"] := by decide +kernel

theorem nothing_refused : InfoGen.refused = [] := by decide +kernel

theorem lit_is_dir : "is_dir".toList = (['i', 's', '_', 'd', 'i', 'r'] : Str) := by simp

theorem ofIRes_injective {α : Type} (a b : IRes α) (h : (ofIRes a : InfoGen.Res α) = ofIRes b) : a = b := by
  cases a with
  | ok x => cases b with
    | ok y => simp only [ofIRes, InfoGen.Res.ok.injEq] at h; rw [h]
    | error e => simp [ofIRes] at h
  | error e => cases b with
    | ok y => simp [ofIRes] at h
    | error f =>
      simp only [ofIRes, InfoGen.Res.err.injEq] at h
      cases e <;> cases f <;> first | rfl | (simp [ofIErr] at h)

theorem has_namespace_eq (i : Info) (ns : Str) : InfoGen.has_namespace i.raw ns = i.hasNamespace ns := rfl

theorem make_datetime_eq (r : Raw) (t : JVal) : InfoGen._make_datetime r t = ofIRes (Info.makeDatetime t) := by
  unfold InfoGen._make_datetime Info.makeDatetime pyToDatetime
  cases t with
  | null => rfl
  | bool b => simp only [pyIsNone, JVal.num?]; cases epochToDatetimeQ (if b then 1 else 0) 1 <;> rfl
  | int n => simp only [pyIsNone, JVal.num?]; cases epochToDatetimeQ n 1 <;> rfl
  | float n d => simp only [pyIsNone, JVal.num?]; cases epochToDatetimeQ n d <;> rfl
  | str s => rfl
  | list l => rfl

theorem is_writeable_eq (i : Info) (ns key : Str) :
    InfoGen.is_writeable i.raw ns key = ofIRes (i.isWriteable ns key) := by
  unfold InfoGen.is_writeable Info.isWriteable
  rw [get_eq]
  simp only [pyAnyIn, String.reduceToList]
  cases i.get ns ['_', 'w', 'r', 'i', 't', 'e'] (.list []) <;> rfl

theorem name_eq (i : Info) : InfoGen.name i.raw = .ok i.name := by
  unfold InfoGen.name; rw [get_eq]; rfl

theorem is_dir_eq (i : Info) : InfoGen.is_dir i.raw = .ok i.isDir := by
  unfold InfoGen.is_dir; rw [get_eq]; rfl

theorem is_file_eq (i : Info) : InfoGen.is_file i.raw = .ok i.isFile := by
  unfold InfoGen.is_file; rw [get_eq]; rfl

theorem rpartition_suffix (s : Str) :
    (match pyRpartition s '.' with
      | (_, dot, ext) => (if (!dot.isEmpty) then (['.'] ++ ext) else ([] : Str)))
      = (let r := Info.rpartition '.' s; if r.2.1 then '.' :: r.2.2 else []) := by
  unfold pyRpartition Info.rpartition
  cases rsplit1 '.' s with
  | none => rfl
  | some ht => rfl

theorem suffix_eq (i : Info) : InfoGen.suffix i.raw = ofIRes i.suffix :=
  name_method_then i _ _ _ (fun s => by
    simp only [pyStrMethod, pyStartsWith, startsWith_single, pyCount, suffixOf, dotStart]
    rcases Bool.eq_false_or_eq_true (s.head? == some '.') with h1 | h1
    · rcases Bool.eq_false_or_eq_true (List.count '.' s == 1) with h2 | h2
      · simp only [h1, h2, Bool.and_self, if_true]
      · simp only [h1, h2, Bool.true_and, Bool.false_eq_true, if_true, if_false]
        exact congrArg InfoGen.Res.ok (rpartition_suffix s)
    · simp only [h1, Bool.false_and, Bool.false_eq_true, if_false]
      exact congrArg InfoGen.Res.ok (rpartition_suffix s)) rfl

theorem suffixes_eq (i : Info) : InfoGen.suffixes i.raw = ofIRes i.suffixes :=
  name_method_then i _ _ _ (fun s => by
    simp only [pyStrMethod, pyStartsWith, startsWith_single, pyCount, suffixesOf, dotStart, pySplit]
    rcases Bool.eq_false_or_eq_true (s.head? == some '.') with h1 | h1
    · rcases Bool.eq_false_or_eq_true (List.count '.' s == 1) with h2 | h2
      · simp only [h1, h2, Bool.and_self, if_true]
      · simp only [h1, h2, Bool.true_and, Bool.false_eq_true, if_true, if_false]; rfl
    · simp only [h1, Bool.false_and, Bool.false_eq_true, if_false]; rfl) rfl

/-- `stem` hands out the raw name itself when it starts with a dot, the text before the first dot otherwise -/
theorem stem_eq (i : Info) : InfoGen.stem i.raw = ofIRes (i.stem.map JVal.str) := by
  rw [show i.stem.map JVal.str = i.nameStr.map fun s => .str (stemOf s) by unfold Info.stem; cases i.nameStr <;> rfl]
  refine name_method_then i _ _ _ (fun s => ?_) rfl
  simp only [pyStrMethod, pyStartsWith, startsWith_single, stemOf, dotStart, pySplit]
  rcases Bool.eq_false_or_eq_true (s.head? == some '.') with h1 | h1
  · simp only [h1, if_true]
  · simp only [h1, Bool.false_eq_true, if_false]
    have hne := splitOn_ne_nil '.' s
    cases hs : splitOn '.' s with
    | nil => exact absurd hs hne
    | cons a t => rfl

theorem is_link_eq (i : Info) : InfoGen.is_link i.raw = ofIRes i.isLink :=
  require_get_then i _ _ _ _ _ (by
    simp only [kLink, String.reduceToList]
    cases i.get _ _ <;> rfl)

/-- the shape shared by `size`, `user`, `uid`, `group`, `gid`, `target`: require the namespace, hand the raw value on -/
theorem require_then_get (i : Info) (ns key : Str) :
    (match InfoGen._require_namespace i.raw ns with
      | .err e' => (.err e')
      | .ok _ =>
        (match InfoGen.get i.raw ns key (Info.JVal.null) with
          | .err e' => (.err e')
          | .ok t2' => (.ok t2')))
      = ofIRes (do i.requireNamespace ns; pure (i.get ns key)) :=
  require_get_then i ns key .null .ok _ rfl

theorem size_eq (i : Info) : InfoGen.size i.raw = ofIRes i.size := require_then_get i _ _
theorem target_eq (i : Info) : InfoGen.target i.raw = ofIRes i.target := require_then_get i _ _
theorem user_eq (i : Info) : InfoGen.user i.raw = ofIRes i.user := require_then_get i _ _
theorem uid_eq (i : Info) : InfoGen.uid i.raw = ofIRes i.uid := require_then_get i _ _
theorem group_eq (i : Info) : InfoGen.group i.raw = ofIRes i.group := require_then_get i _ _
theorem gid_eq (i : Info) : InfoGen.gid i.raw = ofIRes i.gid := require_then_get i _ _

theorem type_eq (i : Info) : InfoGen.type i.raw = ofIRes i.type :=
  require_get_then i _ _ _ _ _ (by
    simp only [kDetails, String.reduceToList, pyResourceType]
    cases Info.resourceType _ <;> rfl)

/-- the four time accessors -/
theorem time_accessor (i : Info) (key : Str) :
    (match InfoGen._require_namespace i.raw ['d', 'e', 't', 'a', 'i', 'l', 's'] with
      | .err e' => (.err e')
      | .ok _ =>
        (match InfoGen.get i.raw ['d', 'e', 't', 'a', 'i', 'l', 's'] key (Info.JVal.null) with
          | .err e' => (.err e')
          | .ok t2' =>
            (match InfoGen._make_datetime i.raw (t2') with
              | .err e' => (.err e')
              | .ok t3' =>
                let _time : Option Info.DT := t3'
                (.ok _time))))
      = ofIRes (i.timeAcc key) :=
  require_get_then i _ key _ _ _ (by
    simp only [make_datetime_eq, kDetails, String.reduceToList]
    cases Info.makeDatetime _ <;> rfl)

theorem accessed_eq (i : Info) : InfoGen.accessed i.raw = ofIRes i.accessed := time_accessor i _
theorem modified_eq (i : Info) : InfoGen.modified i.raw = ofIRes i.modified := time_accessor i _
theorem created_eq (i : Info) : InfoGen.created i.raw = ofIRes i.created := time_accessor i _
theorem metadata_changed_eq (i : Info) : InfoGen.metadata_changed i.raw = ofIRes i.metadataChanged := time_accessor i _

theorem permissions_eq (i : Info) : InfoGen.permissions i.raw = ofIRes i.permissions :=
  require_get_then i _ _ _ _ _ (by
    simp only [kAccess, String.reduceToList]
    cases i.get _ _ with
    | list l => simp only [pyIsNone, pyPermissions]; cases Info.strNames l <;> rfl
    | _ => rfl)

end Fs.InfoGenEq
