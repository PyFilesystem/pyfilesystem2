/-
  C14 — glob and wildcard matching follow the documented shell semantics.

  The model is FsModel/Regex.lean (the regex subset the library generates, with Python's meaning),
  FsModel/Wild.lean and FsModel/Glob.lean (fs/wildcard.py, fs/glob.py, fs/lrucache.py of
  /repo 8d610d8; `WildSpec` / `GlobSpec` = the documented semantics written directly).

  All statements quantify over every pattern / name / path (`Str = List Char`), no length bound.
-/
import FsProofs.Lemmas.GlobLemmas

namespace Fs.C14
open Fs Fs.Regex Fs.Path Fs.GlobSpec Fs.GlobLemmas

/-! ## wildcard (fs/wildcard.py) -/

/-- `wildcard.match` / `imatch` decide exactly the documented (fnmatch) relation on names without
`/`: `?` is any one character — also a newline —, `*` any run, bracket expressions as documented,
and `\Z` forces the whole name to be used up.  The only other outcome is `re.error`
(a reversed range such as `[b-a]`; finding C14-reversed-range-re-error). -/
theorem wildcard_correct (pat name : Str) (cs : Bool) (hname : '/' ∉ name) :
    Wild.wmatch pat name cs = .ok (WildSpec.wmatches pat name cs) ∨
      Wild.wmatch pat name cs = .err .reError := by
  unfold Wild.wmatch Wild.compile Wild.translate
  rw [PatTokens.wild_go_seq]
  cases h : PatTokens.seqItems false (WildSpec.tokenize (if cs = true then pat else Wild.lowerStr pat) 0) with
  | ok items =>
    left
    simp only [TR.map, Regex.matches, flags_ms]
    rw [wild_tokens_match cs _ items h none name hname]
    cases cs <;> rfl
  | err e =>
    right
    have : e = .reError := PatTokens.seqItems_err _ _ e h
    subst this; rfl

/-! a name is matched in full, across newlines; `?` and bracket expressions, case-insensitively too -/
example : Wild.wmatch "a".toList "a\nb".toList true = .ok false := by decide +kernel
example : Wild.wmatch "a?b".toList "a\nb".toList true = .ok true := by decide +kernel
example : Wild.wmatch "[!a-c]*.P?".toList "d.x.py".toList false = .ok true := by decide +kernel

/-! ## glob (fs/glob.py)

The full statement

    theorem glob_correct_full (pat : Str) (path : List Str) (isDir cs : Bool) (c : Glob.Compiled)
        (h : Glob.translateGlob pat cs = .ok c) :
        c.re.matches (render path isDir) = GlobSpec.matches pat path isDir cs

is FALSE of the code (/repo 8d610d8), for one reason inside the documented
language — `two_level_matches_one_level_dir` below — and for patterns whose meaning the
documentation leaves open (`.`/`..` components, a `**` glued to other text).  `glob_correct` proves
it everywhere else.  The `_repaired` theorems guard against four deviation classes fixed in /repo
(newline, `**` after another component, bracket expressions vs `/`, directories vs slash-less
patterns), each on the input that witnessed it. -/

/-- **Correctness.**  For every pattern that is `Regular` — no `.`/`..` component, every `**` a whole
component (anywhere in the pattern) —, every resource whose names a filesystem can hold (non-empty,
no `/`; newlines, brackets, anything else allowed), files and directories, both case modes: the
compiled regex accepts the rendered path exactly when the documented semantics says the resource
matches — except for a *directory* against a pattern without trailing `/` whose last non-`**`
component consists of `*` only (`emptyTail`; the open finding below). -/
theorem glob_correct (pat : Str) (path : List Str) (isDir cs : Bool)
    (hreg : Regular pat = true) (hpath : ∀ n ∈ path, FsName n)
    (hdir : isDir = true → endsWithSlash pat = false → emptyTail (pcomps pat) = false)
    (c : Glob.Compiled) (hc : Glob.translateGlob pat cs = .ok c) :
    c.re.matches (render path isDir) = GlobSpec.matches pat path isDir cs := by
  simp only [Regular, Bool.and_eq_true] at hreg
  obtain ⟨hdot, hss⟩ := hreg
  have hdot' : (splitSlash pat).any isDots = false := by simpa [dotFree] using hdot
  have hit := iteratepath_nodots pat hdot'
  have hshape : ∀ x ∈ patComps pat, x = ss ∨ Glob.hasSS x = false := by
    intro x hx
    have := List.all_eq_true.1 hss x hx
    simpa using this
  obtain ⟨comps, hit', _, hpc⟩ := translateGlob_ok pat cs c hc
  obtain rfl : patComps pat = comps := by rw [hit] at hit'; cases hit'; rfl
  obtain ⟨pieces, hl, hlit, hm⟩ := hpc hshape
  have main := glob_items_match cs (endsWithSlash pat) isDir (pcomps pat) pieces hl hlit hdir path hpath none
  unfold GlobSpec.matches
  rw [hm, Bool.eq_iff_iff, main, Bool.and_eq_true, and_comm]

/-- for files `hdir` is void: on files the statement holds for every Regular pattern -/
theorem glob_correct_files (pat : Str) (path : List Str) (cs : Bool)
    (hreg : Regular pat = true) (hpath : ∀ n ∈ path, FsName n)
    (c : Glob.Compiled) (hc : Glob.translateGlob pat cs = .ok c) :
    c.re.matches (render path false) = GlobSpec.matches pat path false cs :=
  glob_correct pat path false cs hreg hpath (fun h => by cases h) c hc

/-! each hypothesis of `glob_correct` on an instance of its own -/
example : Regular "a/**/[!]x]*.p?/**".toList = true := by decide +kernel
example : emptyTail (pcomps "**/*.py".toList) = false := by decide +kernel
example : (Glob.translateGlob "a/**/[!]x]*.p?".toList).map
    (·.re.matches (render ["a".toList, "q\n".toList, "b.py".toList] true)) = .ok true := by decide +kernel
example : FsName "b\n.py".toList := ⟨by decide, by decide⟩

/-! ### what remains open -/

/-- open finding: `*/*` matches the one-level directory `/d/` (the `/` appended to a directory is taken
for the separator in front of an *empty* last name). findings/C14-empty-component-matches-dir-slash.md -/
theorem two_level_matches_one_level_dir :
    (Glob.translateGlob "*/*".toList).map (·.re.matches (render ["d".toList] true)) = .ok true ∧
      GlobSpec.matches "*/*".toList ["d".toList] true = false := by decide +kernel

/-- the negation of the full statement (a Regular pattern, an ordinary directory) -/
theorem glob_correct_full_counterexample :
    ¬ ∀ (pat : Str) (path : List Str) (isDir cs : Bool) (c : Glob.Compiled),
        Regular pat = true → (∀ n ∈ path, FsName n) → Glob.translateGlob pat cs = .ok c →
        c.re.matches (render path isDir) = GlobSpec.matches pat path isDir cs := by
  intro h
  obtain ⟨h1, h2⟩ := two_level_matches_one_level_dir
  cases hc : Glob.translateGlob "*/*".toList true with
  | err e => rw [hc] at h1; cases h1
  | ok c =>
    rw [hc] at h1
    simp only [TR.map, TR.ok.injEq] at h1
    have := h "*/*".toList ["d".toList] true true c (by decide)
      (by intro n hn; simp at hn; subst hn; exact ⟨by decide, by decide⟩) hc
    rw [h1, h2] at this
    cases this

/-- open finding: a reversed range makes `match` raise `re.error`. findings/C14-reversed-range-re-error.md -/
theorem reversed_range_raises : Glob.gmatch "[b-a]".toList "x".toList = .err .reError := by decide +kernel

/-! ### guards against deviations fixed in /repo -/

/-- fixed in /repo 8d610d8: `glob("*")` yields directories (a pattern without trailing `/` accepts `<path>/`). -/
theorem star_matches_directories_repaired :
    (Glob.translateGlob "*".toList).map (·.re.matches (render ["d".toList] true)) = .ok true ∧
      GlobSpec.matches "*".toList ["d".toList] true = true := by decide +kernel

/-- fixed in /repo 2f2ca27: the regex ends in `\Z` without MULTILINE: `match("a", "a\nb")` is False. -/
theorem dollar_newline_repaired :
    (Glob.translateGlob "a".toList).map (·.re.matches (render ["a\nb".toList] false)) = .ok false ∧
      GlobSpec.matches "a".toList ["a\nb".toList] false = false := by decide +kernel

/-- fixed in /repo 81a3019: `**` absorbs whole levels only: `a/**/b` does not match `/ax/b`, does match `/a/x/y/b`. -/
theorem starstar_whole_levels_repaired :
    (Glob.translateGlob "a/**/b".toList).map (·.re.matches (render ["ax".toList, "b".toList] false)) = .ok false ∧
      (Glob.translateGlob "a/**/b".toList).map
        (·.re.matches (render ["a".toList, "x".toList, "y".toList, "b".toList] false)) = .ok true ∧
      (Glob.translateGlob "a/**/b".toList).map (·.re.matches (render ["a".toList, "b".toList] false)) = .ok true := by
  decide +kernel

/-- fixed in /repo 810a9af: `[!…]` keeps its fnmatch meaning (`]` / `-` first are members), no text is injected. -/
theorem negated_class_repaired :
    (Glob.translateGlob "[!-a]".toList).map (·.re.matches (render ["B".toList] false)) = .ok true ∧
      (Glob.translateGlob "[!]a]".toList).map (·.re.matches (render ["b".toList] false)) = .ok true ∧
      (Glob.translateGlob "[!]a]".toList).map (·.re.matches (render ["]".toList] false)) = .ok false ∧
      (Glob.translateGlob "a[!]|.*|]".toList).map
        (·.re.matches (render ["anything".toList, "at".toList, "all".toList] false)) = .ok false := by decide +kernel

/-- fixed in /repo 810a9af: a bracket range that contains `/` does not match the separator. -/
theorem class_range_separator_repaired :
    (Glob.translateGlob "a[+-9]b".toList).map (·.re.matches "/a/b".toList) = .ok false ∧
      (Glob.translateGlob "a[+-9]b".toList).map (·.re.matches "/a5b".toList) = .ok true := by decide +kernel

/-! ### depth pruning -/

/-- **Depth pruning never loses a match**: when `_translate_glob` returns `levels = k`, every
resource the regex accepts lies at depth ≤ k — so `Globber` may pass `max_depth = k`.  No condition
on the pattern; the names only have to be names (non-empty, no `/`). -/
theorem levels_sound (pat : Str) (path : List Str) (isDir cs : Bool)
    (hpath : ∀ n ∈ path, FsName n)
    (c : Glob.Compiled) (hc : Glob.translateGlob pat cs = .ok c) (k : Nat) (hk : c.levels = some k)
    (hm : c.re.matches (render path isDir) = true) : depth path ≤ k := by
  obtain ⟨comps, hit, hlv, hpc⟩ := translateGlob_ok pat cs c hc
  have hres := (ConfineLemmas.iteratepath_ok pat comps hit).1
  rw [hlv, Glob.levelsOf] at hk
  split at hk
  · cases hk
  · rename_i hrec
    cases hk
    have hss : ∀ x ∈ comps, Glob.hasSS x = false := by
      intro x hx
      cases hh : Glob.hasSS x with
      | false => rfl
      | true => exact absurd (List.any_eq_true.2 ⟨x, hx, hh⟩) hrec
    obtain ⟨pieces, hp, hlit, hmatch⟩ := hpc fun x hx => Or.inr (hss x hx)
    rw [hmatch] at hm
    have hseg : ∀ p ∈ comps.map pcomp, p ≠ PComp.starstar := by
      intro p hp'
      obtain ⟨x, hx, rfl⟩ := List.mem_map.1 hp'
      rw [pcomp_seg x (hss x hx)]; simp
    have hcount := count_slash cs (endsWithSlash pat) _ hseg hlit pieces hp none _ hm
    rw [countSlash_render path isDir (fun n hn => (hpath n hn).2), List.length_map] at hcount
    have hcl := foldl_step_length (fun c => decide (c ≠ [])) (by intro c; simp)
      (splitSlash pat) [] comps hres
    have hpb := Nat.le_trans (List.length_filter_le (fun c : Str => decide (c ≠ [])) (splitSlash pat))
      (Nat.le_of_eq (show _ = Glob.countSlash pat + 1 from PathLemmas.length_splitOn '/' pat))
    simp only [depth, List.length_nil, Nat.zero_add] at *
    rcases hcount with ⟨h1, h2⟩ | ⟨h1, h2⟩
    · have hd := endsWithSlash_render path isDir hpath h2
      subst hd
      simp only [if_true] at h1
      omega
    · split at h2 <;> omega

example : (Glob.translateGlob "a/*".toList).map (·.levels) = .ok (some 2) := by decide +kernel

/-- `levels_sound` on a newline and on a range containing `/` (deviations fixed in /repo) -/
theorem levels_newline_repaired :
    (Glob.translateGlob "a".toList).map (fun c => (c.levels, c.re.matches (render ["a\n".toList, "b".toList] false)))
      = .ok (some 1, false) := by decide +kernel

theorem levels_slash_range_repaired :
    (Glob.translateGlob "a[+-9]b".toList).map (fun c => (c.levels, c.re.matches (render ["a".toList, "b".toList] false)))
      = .ok (some 1, false) := by decide +kernel

/-! ## the printer: the structured translation *is* the text the code builds

The correspondence compares the model's regex text with the string built by the real
translators character for character; these two theorems say that the AST the theorems above
reason about prints to exactly that text (and carries the same `levels` / `recursive`). -/

theorem wildcard_regex_text (pat : Str) (cs : Bool) (r : Regex) (h : Wild.compile pat cs = .ok r) :
    r.toPy = Wild.regexText pat cs := by
  obtain ⟨items, hg, rfl⟩ := PatTokens.TR.map_ok h
  have := TR.ok.inj (wild_prints _ 0 items hg)
  simp only [Regex.toPy, Wild.regexText, Wild.translateText, itemsToPy, List.flatMap_append] at this ⊢
  rw [this]
  simp [Item.toPy]

theorem glob_regex_text (pat : Str) (cs : Bool) (c : Glob.Compiled)
    (h : Glob.translateGlob pat cs = .ok c) :
    Glob.translateGlobText pat = .ok (c.levels, c.recursive, c.re.toPy) := by
  unfold Glob.translateGlob at h
  unfold Glob.translateGlobText
  cases hit : Glob.liftRes (iteratepath pat) with
  | err e => rw [hit] at h; cases h
  | ok comps =>
    rw [hit] at h
    simp only at h ⊢
    cases hp : Glob.mapM' Glob.compItems comps with
    | err e => rw [hp] at h; cases h
    | ok ps =>
      rw [hp] at h
      simp only [TR.ok.injEq] at h
      subst h
      have hpr := comps_prints comps ps.flatten (by rw [hp]; rfl)
      cases hm : Glob.mapM' Glob.compText comps with
      | err e => rw [hm] at hpr; cases hpr
      | ok pieces =>
        rw [hm] at hpr
        simp only [Regex.toPy, itemsToPy_cons, List.cons_append, itemsToPy_append, ← TR.ok.inj hpr]
        by_cases he : endsWithSlash pat = true <;>
          simp [he, itemsToPy, Item.toPy, Atom.toPy, Glob.slash, Glob.optSlash, LChar.toPy, lazyMark]

example : (Glob.translateGlob "a/**/[!x]*.py".toList).map (fun c => String.ofList c.re.toPy)
    = .ok "(?s)^/a(?:/[^/]+)*/(?!/)[^x][^/]*\\.py/?\\Z" := by decide +kernel

/-! ## the compiled-pattern caches (fs/lrucache.py; `fs.glob._PATTERN_CACHE`, `fs.wildcard._PATTERN_CACHE`)

Every user of the two process-wide caches is in the model: `glob.match`/`imatch` (read, write on a
miss), `Globber._make_iter` — and through it `__iter__`, `count`, `count_lines`, `remove` — (read
only; a miss compiles privately and stores nothing), `wildcard.match`/`imatch` (read, write on a
miss).  A cache is *valid* when every entry is what compiling its key `(pattern, case_sensitive)`
gives. -/

/-- matching through the LRU cache gives the answer of matching without it and keeps the
cache valid — for every valid cache state, every capacity, every eviction. -/
theorem pattern_cache_transparent (cache : Glob.PatCache) (hv : Glob.PatCache.Valid cache)
    (pat path : Str) (cs : Bool) :
    (Glob.cachedMatch cache pat path cs).1 = Glob.gmatch pat path cs ∧
      Glob.PatCache.Valid (Glob.cachedMatch cache pat path cs).2 :=
  cached_transparent (fun k : Str × Bool => Glob.compile k.1 k.2) (·.re.matches (Glob.fixPath path)) cache hv (pat, cs)
    -- `cachedMatch` is the lemma's `match` under other matcher names: `rfl` once both discriminants are constructors
    _ (by unfold Glob.cachedMatch; cases LRU.get cache (pat, cs) <;> cases Glob.compile pat cs <;> rfl)

/-- the Globber's own access: the regex it tests paths with is the one compiled for *its*
`(pattern, case_sensitive)`, whatever other entries the cache holds, and the cache stays valid -/
theorem globber_cache_transparent (cache : Glob.PatCache) (hv : Glob.PatCache.Valid cache)
    (pat subject : Str) (cs : Bool) :
    (Glob.globberTest cache pat subject cs).1 = (Glob.compile pat cs).map (·.re.matches subject) ∧
      Glob.PatCache.Valid (Glob.globberTest cache pat subject cs).2 := by
  unfold Glob.globberTest Glob.globberCompile
  cases hg : LRU.get cache (pat, cs) with
  | some p =>
    obtain ⟨hc, hv'⟩ := get_inv _ cache hv _ p.1 p.2 hg
    simp only [hc, TR.map]
    exact ⟨trivial, hv'⟩
  | none => exact ⟨rfl, hv⟩

theorem wildcard_cache_transparent (cache : Wild.PatCache) (hv : Wild.PatCache.Valid cache)
    (pat name : Str) (cs : Bool) :
    (Wild.cachedMatch cache pat name cs).1 = Wild.wmatch pat name cs ∧
      Wild.PatCache.Valid (Wild.cachedMatch cache pat name cs).2 :=
  cached_transparent (fun k : Str × Bool => Wild.compile k.1 k.2) (·.matches name) cache hv (pat, cs)
    _ (by unfold Wild.cachedMatch; cases LRU.get cache (pat, cs) <;> cases Wild.compile pat cs <;> rfl)

/-- **Every history.**  Any interleaving of `match`, `imatch`, Globber runs and wildcard matches —
any patterns, the same pattern text in both case modes, any order — answers, call by call, what
the same calls answer without a cache; in particular a case-insensitive use of a pattern never
changes a later case-sensitive answer for the same text. -/
theorem pattern_caches_transparent (ops : List Glob.CacheOp) (st : Glob.Caches) (hv : st.Valid) :
    (Glob.runAll st ops).1 = ops.map Glob.CacheOp.direct ∧ (Glob.runAll st ops).2.Valid := by
  induction ops generalizing st with
  | nil => exact ⟨rfl, hv⟩
  | cons op ops ih =>
    have h1 : (op.run st).1 = op.direct ∧ (op.run st).2.Valid := by
      cases op with
      | globMatch pat path cs => exact (pattern_cache_transparent st.glob hv.1 pat path cs).imp_right (⟨·, hv.2⟩)
      | globber pat subject cs => exact (globber_cache_transparent st.glob hv.1 pat subject cs).imp_right (⟨·, hv.2⟩)
      | wildMatch pat name cs => exact (wildcard_cache_transparent st.wild hv.2 pat name cs).imp_right (⟨hv.1, ·⟩)
    have h2 := ih (op.run st).2 h1.2
    simp only [Glob.runAll, List.map_cons]
    exact ⟨by rw [h1.1, h2.1], h2.2⟩

/-- the initial (empty) caches are valid -/
theorem pattern_cache_initial (n : Nat) : Glob.PatCache.Valid (LRU.empty n) := by
  intro e he; cases he

theorem pattern_caches_initial (n m : Nat) : Glob.Caches.Valid ⟨LRU.empty n, LRU.empty m⟩ :=
  ⟨pattern_cache_initial n, fun e he => by cases he⟩

/-- Globber case-insensitive, then `match` case-sensitive on the same pattern text -/
example : (Glob.runAll ⟨LRU.empty 4, LRU.empty 4⟩
    [.globber "a*".toList "/A1".toList false, .globMatch "a*".toList "/A1".toList true,
     .globMatch "a*".toList "/A1".toList false, .globber "a*".toList "/A1".toList true]).1
    = [.ok true, .ok false, .ok true, .ok false] := by decide +kernel

end Fs.C14
