/-
  C17 — MountFS and MultiFS route every call by their documented rule.

  Property theorems only (helper lemmas: FsProofs/Lemmas/RouteLemmas.lean).  The models are
  FsModel/Mount.lean and FsModel/Multi.lean (transcriptions of fs/mountfs.py, fs/multifs.py and,
  as programs over the methods those classes define, of the fs/base.py defaults they inherit);
  the documented rules are stated in FsModel/RouteSpec.lean on component lists.
  Members are reference states (`Ref.State`); paths are arbitrary `List Char`.
-/
import FsModel.Mount
import FsModel.Multi
import FsModel.RouteSpec
import FsProofs.Lemmas.RouteLemmas

namespace Fs.C17
open Fs Fs.Path Fs.PathSpec Fs.PathLemmas Fs.Ref Fs.Route Fs.RouteSpec Fs.RouteLemmas

/-- a path built from components, absolute or relative (as in C12) -/
def mk (absolute : Bool) (cs : List Str) : Str :=
  (if absolute then ['/'] else []) ++ joinSlash cs

/-! ## MountFS: `_delegate` -/

/-- **Routing by whole components.**  For a table of mount points with clean components and a
path whose normal form has the (clean) components `cs`: `_delegate` answers with the *first*
mount point (in mount order) whose components are a prefix of `cs`, and the member-relative path
is the `/`-join of the remaining components; when no mount point is a component prefix it
answers `(default_fs, p)` with the raw argument.  String prefix on the stored `forcedir` keys and
component prefix coincide.  (`hn`: a path that contains NUL is refused before any of this: `mount_route_total`,
`mount_nul_refused`.) -/
theorem mount_route_component_prefix (t : List (List Str × Nat)) (ht : ∀ e ∈ t, Clean e.1)
    (p : Str) (a : Bool) (cs : List Str) (hc : Clean cs) (hn : '\x00' ∉ p) (hp : normpath p = .ok (mk a cs)) :
    Mount.delegate (tableOf t) p =
      match routeSpec t cs with
      | some (i, rest) => .ok (i, joinSlash rest)
      | none => .ok (0, p) :=
  delegate_tableOf t ht p a cs hc hn hp

/-- every path either contains NUL — then `_delegate` refuses it with InvalidCharsInPath before
normalising it —, or fails to normalise — `_delegate` raises the same error —, or has a
normal form `mk a cs` with clean components, to which the previous theorem applies -/
theorem mount_route_total (t : Mount.Table) (p : Str) :
    ('\x00' ∈ p ∧ Mount.delegate t p = .err .InvalidCharsInPath) ∨
    ('\x00' ∉ p ∧ ∃ e, normpath p = .err e ∧ Mount.delegate t p = .err e) ∨
    ('\x00' ∉ p ∧ ∃ a cs, Clean cs ∧ normpath p = .ok (mk a cs)) := by
  by_cases hn : '\x00' ∈ p
  · exact Or.inl ⟨hn, delegate_nul hn⟩
  · cases hp : normpath p with
    | err e => exact Or.inr (Or.inl ⟨hn, e, rfl, by rw [delegate_noNul hn, hp]⟩)
    | ok n =>
      obtain ⟨cs, -, hc, rfl⟩ := normpath_ok_resolve p n hp
      exact Or.inr (Or.inr ⟨hn, _, cs, hc, rfl⟩)

/-- a path that contains NUL is refused by `_delegate` itself, whatever it normalises to and whichever filesystem
would have received it: normalised first, `m1/z\0/../f` would reach the filesystem mounted at `m1` as `f`
(the check in `_delegate`: /repo 48e26ed). -/
theorem mount_nul_refused (t : Mount.Table) (p : Str) (hn : '\x00' ∈ p) :
    Mount.delegate t p = .err .InvalidCharsInPath := delegate_nul hn

/-- `routeSpec` is "the first mount whose components are a prefix", spelled out -/
theorem mount_route_first_match (t : List (List Str × Nat)) (cs : List Str) (i : Nat) (rest : List Str) :
    routeSpec t cs = some (i, rest) ↔
      ∃ pre ms post, t = pre ++ (ms, i) :: post ∧ (∀ e ∈ pre, ¬ e.1 <+: cs) ∧ ms <+: cs ∧
        rest = cs.drop ms.length := by
  rw [routeSpec_eq_find, Option.map_eq_some_iff]
  simp only [List.find?_eq_some_iff_append, List.isPrefixOf_iff_prefix, Bool.not_eq_true', ← Bool.not_eq_true]
  constructor
  · rintro ⟨⟨ms, _⟩, ⟨hp, pre, post, rfl, hpre⟩, heq⟩
    cases heq
    exact ⟨pre, ms, post, rfl, hpre, hp, rfl⟩
  · rintro ⟨pre, ms, post, rfl, hpre, hp, rfl⟩
    exact ⟨(ms, i), ⟨hp, pre, post, rfl, hpre⟩, rfl⟩

theorem mount_route_default_iff (t : List (List Str × Nat)) (cs : List Str) :
    routeSpec t cs = none ↔ ∀ e ∈ t, ¬ e.1 <+: cs := by
  simp [routeSpec_eq_find, List.isPrefixOf_iff_prefix]

/-- `/a` does not capture `/ab/...`: with mounts `/a` (member 1) and `/ab` (member 2) -/
theorem mount_a_vs_ab :
    Mount.delegate [("/a/".toList, 1), ("/ab/".toList, 2)] "/ab/x".toList = .ok (2, "x".toList) ∧
    Mount.delegate [("/a/".toList, 1)] "/ab/x".toList = .ok (0, "/ab/x".toList) ∧
    Mount.delegate [("/a/".toList, 1), ("/ab/".toList, 2)] "a/../ab/./y/".toList = .ok (2, "y".toList) := by
  decide +kernel

/-- in general: a mount point never captures a path whose components it does not prefix, however
the names overlap as strings -/
theorem mount_no_string_prefix_capture (ms cs : List Str) (i : Nat) (hm : Clean ms) (hc : Clean cs)
    (h : ¬ ms <+: cs) (p : Str) (a : Bool) (hn : '\x00' ∉ p) (hp : normpath p = .ok (mk a cs)) :
    Mount.delegate (tableOf [(ms, i)]) p = .ok (0, p) := by
  rw [mount_route_component_prefix [(ms, i)] (by simpa using hm) p a cs hc hn hp]
  have : routeSpec [(ms, i)] cs = none := (mount_route_default_iff _ _).2 (by simpa using h)
  rw [this]

/-! ## MountFS: `mount` -/

/-- **What `mount` refuses.**  On a table of clean mount points, mounting at a path with normal
form components `cs` raises `MountError` exactly when an existing mount point is a component
prefix of `cs` — the new mount point lies inside (or equals) an existing mount. -/
theorem mount_refuses_inside (s : Mount.MState) (t : List (List Str × Nat)) (ht : ∀ e ∈ t, Clean e.1)
    (hs : s.mounts = tableOf t) (p : Str) (a : Bool) (cs : List Str) (hc : Clean cs)
    (hp : normpath p = .ok (mk a cs)) (i : Nat) :
    (Mount.mount s p i).2 = .mountError ↔ ∃ e ∈ t, e.1 <+: cs := by
  unfold Mount.mount
  rw [hp]
  simp only
  rw [show mk a cs = mkp a cs from rfl, mountKey_mkp hc, hs, any_startsWith_tableOf t ht cs hc,
    ← any_isPrefixOf_iff]
  split
  · next h => simp [h]
  · next h =>
    simp only [h]
    split <;> simp

/-- when it does not refuse, the table grows by the new mount point at the end (whatever
`default_fs.makedirs` answers), and stays a table of clean mount points -/
theorem mount_accepts (s : Mount.MState) (t : List (List Str × Nat)) (ht : ∀ e ∈ t, Clean e.1)
    (hs : s.mounts = tableOf t) (p : Str) (a : Bool) (cs : List Str) (hc : Clean cs)
    (hp : normpath p = .ok (mk a cs)) (i : Nat) (h : ∀ e ∈ t, ¬ e.1 <+: cs) :
    (Mount.mount s p i).1.mounts = tableOf (t ++ [(cs, i)]) ∧
    ∀ j, j ≠ 0 → (Mount.mount s p i).1.fs j = s.fs j := by
  have hany : (s.mounts.any fun m => startsWith (Mount.mountKey (mk a cs)) m.1) = false := by
    rw [show mk a cs = mkp a cs from rfl, mountKey_mkp hc, hs, any_startsWith_tableOf t ht cs hc]
    rw [Bool.eq_false_iff, Ne, any_isPrefixOf_iff]
    rintro ⟨e, he, hpre⟩
    exact h e he hpre
  unfold Mount.mount
  rw [hp]
  simp only [hany, Bool.false_eq_true, if_false]
  refine ⟨?_, fun j hj => set_other _ _ _ _ hj⟩
  rw [hs, tableOf_append]
  simp only [tableOf, List.map_cons, List.map_nil, absOf_eq_mkp]
  rw [show mk a cs = mkp a cs from rfl, mountKey_mkp hc, mountKey_mkp hc]

/-- **The reverse containment is not checked**: an *outer* mount point may be mounted after an
inner one (no existing mount point is a prefix of it), even though an existing mount point then
lies inside the new mount. -/
theorem mount_outer_after_inner_accepted (s : Mount.MState) (t : List (List Str × Nat))
    (ht : ∀ e ∈ t, Clean e.1) (hs : s.mounts = tableOf t) (p : Str) (a : Bool) (cs : List Str)
    (hc : Clean cs) (hp : normpath p = .ok (mk a cs)) (i : Nat)
    (_inner : ∃ e ∈ t, cs <+: e.1 ∧ cs ≠ e.1) (h : ∀ e ∈ t, ¬ e.1 <+: cs) :
    (Mount.mount s p i).2 ≠ .mountError := by
  rw [Ne, mount_refuses_inside s t ht hs p a cs hc hp i]
  rintro ⟨e, he, hpre⟩
  exact h e he hpre

def emptyMount : Mount.MState :=
  { fs := fun _ => Ref.State.empty, mounts := [], closed := false, autoClose := true }

/-- concrete witness, and what the code then does: after `mount("/a/b", 1); mount("/a", 2)` both
are accepted; paths under `/a/b` still go to member 1 (first match), `/a` and `/a/x` go to
member 2 — so member 2's own `b` directory is hidden although `listdir("/a")` is answered by
member 2 (the view is inconsistent; see C10).  The other order is refused. -/
theorem mount_outer_after_inner_counterexample :
    let s1 := (Mount.mount emptyMount "/a/b".toList 1).1
    let r2 := Mount.mount s1 "/a".toList 2
    r2.2 = .ok ∧ r2.1.mounts = [("/a/b/".toList, 1), ("/a/".toList, 2)] ∧
    Mount.delegate r2.1.mounts "/a/b/x".toList = .ok (1, "x".toList) ∧
    Mount.delegate r2.1.mounts "/a/x".toList = .ok (2, "x".toList) ∧
    Mount.delegate r2.1.mounts "/a".toList = .ok (2, []) ∧
    (Mount.mount (Mount.mount emptyMount "/a".toList 2).1 "/a/b".toList 1).2 = .mountError := by
  decide +kernel


/-! ## MountFS: nothing but the routed member changes -/

/-- **Frame for arbitrary programs.**  Whatever a client — in particular every method MountFS
inherits from `fs/base.py`, the walker-based `removetree` / `movedir` / `copydir` included — does
through MountFS's own methods: a member (or the default tree, member 0) that receives no call, or
only queries, is unchanged. -/
theorem mount_frame_any_program (prog : Prog) (s : Mount.MState) (j : Nat)
    (h : ∀ c ∈ (prog.run Mount.sem s).2.2, c.fs = j → isQuery c.op = true) :
    (prog.run Mount.sem s).1.fs j = s.fs j :=
  mountRoutes.frame_any prog s j h

/-- and every call any member ever receives was addressed by `_delegate`: it carries the
member and member-relative path `_delegate` computes for some path; the mount table is never
touched (nor the closed flag and `auto_close`: `mount_run_delegated`). -/
theorem mount_calls_are_delegated (prog : Prog) (s : Mount.MState) :
    (∀ c ∈ (prog.run Mount.sem s).2.2, ∃ q, Mount.delegate s.mounts q = .ok (c.fs, c.path)) ∧
    (prog.run Mount.sem s).1.mounts = s.mounts :=
  ⟨(mount_run_delegated prog s).1, (mount_run_delegated prog s).2.1⟩

/-- every call made on behalf of a one-path operation on `p` is a query or goes to the member
`_delegate` picks for `p` -/
theorem mount_single_calls (s : Mount.MState) (op : Ref.Op) (pr : Prog) (p : Str)
    (hprog : commonProg op = some pr) (hp : op.paths = [p]) :
    ∀ c ∈ (pr.run Mount.sem s).2.2, isQuery c.op = true ∨ routeMember s.mounts p = some c.fs := by
  obtain ⟨hP, hV⟩ := commonProg_single op pr p hprog hp
  have := run_calls Mount.sem (fun s' => s'.mounts = s.mounts) (fun q => q.path = p) (fun _ => False)
    (fun c => isQuery c.op = true ∨ routeMember s.mounts p = some c.fs)
    (fun s' q hi => (MountL.prim_cfg s' q).1.trans hi)
    (fun s' q hi hq c hc => by rw [← hq, ← hi]; exact MountL.prim_route s' q c hc)
    (fun s' q _ hf => absurd hf id)
    pr s rfl hP hV
  exact this.1

/-- **`mount_frame`, one-path operations.**  A call whose path `_delegate` routes to member `i`
(`routeMember … = some i`; member 0 is the default tree) leaves every other mounted filesystem
and the default tree unchanged — for every one-path operation MountFS defines or inherits as a
straight-line program (`makedirs` and the bulk operations are covered by
`mount_frame_any_program`). -/
theorem mount_frame (s s' : Mount.MState) (op : Ref.Op) (p : Str) (out : Out) (tr : List Call)
    (hp : op.paths = [p]) (hmk : ∀ q rc, op ≠ .makedirs q rc)
    (h : Mount.step s op = some (s', out, tr)) (j : Nat) (hj : routeMember s.mounts p ≠ some j) :
    s'.fs j = s.fs j := by
  obtain ⟨pr, hpr, hrun⟩ := MountL.step_some h (by rintro rfl; cases hp)
  have := mount_frame_paths pr s _ (commonProg_single op pr p (MountL.prog_common hpr hmk) hp).1 j
    fun q hq => hq ▸ hj
  rw [hrun] at this
  exact this

/-- **`mount_frame`, `makedirs`** (the inherited default: `get_intermediate_dirs`, then one
`makedir` per missing directory, then `opendir`): only members that `_delegate` picks for the
path or one of its `recursepath` prefixes can change. -/
theorem mount_frame_makedirs (s s' : Mount.MState) (p : Str) (rc : Bool) (out : Out) (tr : List Call)
    (h : Mount.step s (.makedirs p rc) = some (s', out, tr)) (j : Nat)
    (hj : ∀ q ∈ makedirsPaths p, routeMember s.mounts q ≠ some j) : s'.fs j = s.fs j := by
  simp only [Mount.step, Mount.prog, Option.map, Option.some.injEq] at h
  have := mount_frame_paths (baseMakedirs p rc) s _ (uses_baseMakedirs (fun _ => True) p rc).1 j
    fun q hq => hj q.path hq
  rw [h] at this
  exact this

/-- **`mount_frame`, `move` / `copy`.**  At most the two routed members change: every member
that neither the source nor the destination path routes to is unchanged. -/
theorem mount_frame_two (s s' : Mount.MState) (op : Ref.Op) (src dst : Str) (ow : Bool) (out : Out)
    (tr : List Call) (hop : op = .move src dst ow ∨ op = .copy src dst ow)
    (h : Mount.step s op = some (s', out, tr)) (j : Nat)
    (hs : routeMember s.mounts src ≠ some j) (hd : routeMember s.mounts dst ≠ some j) :
    s'.fs j = s.fs j := by
  let P : Prim → Prop := fun q => q.path = absnorm src ∨ q.path = absnorm dst
  have hbody : MovePrims P (absnorm src) (absnorm dst) :=
    ⟨Or.inl rfl, Or.inr rfl, Or.inl rfl, fun _ => Or.inr rfl, Or.inl rfl⟩
  -- both programs validate `src` and `dst` first, and hand on `absnorm src`, `absnorm dst`, which route like them
  have key : ∀ pr k, pr = Prog.validate src (Prog.validate dst k) → AllPrims P pr →
      (pr.run Mount.sem s).1.fs j = s.fs j := by
    rintro _ k rfl hP
    exact MountL.run_validate (C := fun s' => s'.fs j = s.fs j) rfl fun hns =>
      MountL.run_validate (C := fun s' => s'.fs j = s.fs j) rfl fun hnd =>
        mount_frame_paths k s P hP j fun q hq => by
          rcases hq with hq | hq
          · rw [hq, MountL.routeMember_absnorm _ _ hns]; exact hs
          · rw [hq, MountL.routeMember_absnorm _ _ hnd]; exact hd
  rcases hop with rfl | rfl
  · simp only [Mount.step, Mount.prog, commonProg, Option.map, Option.some.injEq] at h
    have := key (baseMove src dst ow) _ rfl (uses_baseMove (V := fun _ => True) src dst ow hbody trivial trivial).1
    rw [h] at this
    exact this
  · simp only [Mount.step, Mount.prog, commonProg, Option.map, Option.some.injEq] at h
    have := key (baseCopy src dst ow) _ rfl
      (uses_baseCopy (V := fun _ => True) src dst ow hbody.2.1 hbody.2.2.1 hbody.2.2.2.1 trivial trivial).1
    rw [h] at this
    exact this

/-- read-only operations change no member at all -/
theorem mount_queries_change_nothing (s s' : Mount.MState) (op : Ref.Op) (out : Out) (tr : List Call)
    (hq : isQuery op = true) (h : Mount.step s op = some (s', out, tr)) (j : Nat) :
    s'.fs j = s.fs j := by
  obtain ⟨pr, hpr, hrun⟩ := MountL.step_some h (by rintro rfl; cases hq)
  have := mountRoutes.query_prog hq (MountL.prog_common hpr (by rintro q rc rfl; cases hq)) s j
  rw [hrun] at this
  exact this


/-! ## MultiFS: priority order and reads -/

/-- `iterate_fs` visits exactly the members of `_filesystems`, in descending `(priority, index)`
order -/
theorem multi_iterate_order (s : Multi.MState) :
    (Multi.iterateFs s).Perm s.entries ∧
    (Multi.iterateFs s).Pairwise (fun x y => KeyLe y x) := by
  refine ⟨MultiL.sortDesc_perm _, ?_⟩
  have := MultiL.sortDesc_desc s.entries
  exact this.imp (fun h => (MultiL.keyLe_iff _ _).1 h)

/-- `add_fs` gives the new member an index larger than every index in use, so "latest added"
is "largest index"; the write member becomes the new one exactly when `write=True` -/
theorem multi_add_fs_index (s : Multi.MState) (name : Str) (fs : Nat) (w : Bool) (prio : Int)
    (h : ∀ e ∈ s.entries, e.idx < s.sortIndex) :
    let s' := Multi.addFs s name fs w prio
    (∀ e ∈ s'.entries, e.idx < s'.sortIndex) ∧
    (⟨name, prio, s.sortIndex, fs⟩ : Multi.Entry) ∈ s'.entries ∧
    s'.writeFs = (if w then some fs else s.writeFs) := by
  refine ⟨?_, MultiL.mem_dictSet_self _ _, rfl⟩
  intro e he
  rcases MultiL.mem_dictSet he with rfl | he'
  · exact Nat.lt_succ_self _
  · exact Nat.lt_succ_of_lt (h e he')

/-- **The answering member is the highest.**  When `_delegate(p)` finds a member, it is a
member of the MultiFS that contains `p` and whose key `(priority, index)` is the maximum among all
members containing `p`. -/
theorem multi_read_highest (s : Multi.MState) (p : Str) (i : Nat)
    (h : (Multi.delegateLoop s.fs p (Multi.iterateFs s)).2.1 = .ok (some i)) :
    ∃ e ∈ s.entries, e.fs = i ∧ Holds s.fs p e ∧ ∀ e' ∈ s.entries, Holds s.fs p e' → KeyLe e' e := by
  obtain ⟨pre, e, post, hsplit, hfs, hholds, hpre⟩ := MultiL.delegateLoop_some s.fs p _ i h
  obtain ⟨hmem, hmax⟩ := MultiL.sortDesc_first_max hsplit hpre
  exact ⟨e, hmem, hfs, hholds, hmax⟩

/-- ties: among members of equal priority containing the path, the latest added answers -/
theorem multi_tie_latest_added (s : Multi.MState) (p : Str) (i : Nat)
    (h : (Multi.delegateLoop s.fs p (Multi.iterateFs s)).2.1 = .ok (some i)) :
    ∃ e ∈ s.entries, e.fs = i ∧
      ∀ e' ∈ s.entries, Holds s.fs p e' → e'.prio = e.prio → e'.idx ≤ e.idx := by
  obtain ⟨e, he, hfs, _, hmax⟩ := multi_read_highest s p i h
  refine ⟨e, he, hfs, fun e' he' hh hp => ?_⟩
  rcases hmax e' he' hh with hlt | ⟨_, hle⟩
  · omega
  · exact hle

/-- and when `_delegate(p)` finds none, no member contains `p` -/
theorem multi_read_none (s : Multi.MState) (p : Str)
    (h : (Multi.delegateLoop s.fs p (Multi.iterateFs s)).2.1 = .ok none) :
    ∀ e ∈ s.entries, ¬ Holds s.fs p e :=
  fun e he => MultiL.delegateLoop_none s.fs p _ h e ((MultiL.mem_sortDesc s.entries e).2 he)

/-- the read methods answer with what that member answers (and `ResourceNotFound` / `False`
when no member contains the path) -/
theorem multi_read_answer (s : Multi.MState) (p : Str) (op : Ref.Op)
    (hop : op = .isdir p ∨ op = .isfile p ∨ op = .getsize p ∨ op = .gettype p ∨ op = .readbytes p)
    (hc : s.closed = false) (s' : Multi.MState) (out : Out) (tr : List Call)
    (hstep : Multi.step s op = some (s', out, tr)) :
    (∀ i, (Multi.delegateLoop s.fs p (Multi.iterateFs s)).2.1 = .ok (some i) →
      out = (Ref.step (s.fs i) op).2) ∧
    ((Multi.delegateLoop s.fs p (Multi.iterateFs s)).2.1 = .ok none →
      out = (if op = .isdir p ∨ op = .isfile p then .ok (.bool false) else .err .ResourceNotFound)) := by
  have hchk : ∀ k, Multi.checked s k = k := fun k => MultiL.checked_open s k (by simp [hc])
  -- each of the five is one method, answered through `_delegate`
  have key : ∀ (pr : Prim) (o : Out), (Multi.viaDelegate s pr p (.ok p) o).2.1 = out →
      (∀ i, (Multi.delegateLoop s.fs p (Multi.iterateFs s)).2.1 = .ok (some i) → out = (forward s.fs i pr p).2.1) ∧
      ((Multi.delegateLoop s.fs p (Multi.iterateFs s)).2.1 = .ok none → out = o) := by
    intro pr o h
    rw [MultiL.viaDelegate_out] at h
    subst h
    exact ⟨fun i hi => by rw [hi], fun hn => by rw [hn]⟩
  rcases hop with rfl | rfl | rfl | rfl | rfl <;>
    simp only [Multi.step, Multi.prog, commonProg, Option.map, Option.some.injEq, one, Prog.run,
      Multi.sem, Multi.prim, hchk, Prod.mk.injEq] at hstep <;>
    simp only [reduceCtorEq, or_false, or_true, if_true, if_false]
  · exact key (.isdir p) _ hstep.2.1
  · exact key (.isfile p) _ hstep.2.1
  · exact key (.getsize p) _ hstep.2.1
  · exact key (.gettype p) _ hstep.2.1
  · exact key (.readbytes p) _ hstep.2.1

/-! ## MultiFS: listings -/

/-- **Union listing, de-duplicated.**  When `listdir(p)` succeeds its value is the
concatenation, in `iterate_fs` (priority) order, of what every member that holds `p` as a
directory lists for it (members that do not have `p`, or hold a — then shadowed — file of that
name, contribute nothing: `listingOf` is empty for them), with later duplicates removed: no name twice, every
listed name of every member present, first occurrences in order. -/
theorem multi_listing_union_dedup (s : Multi.MState) (p : Str) (l : List Name) (meth : Meth)
    (h : (Multi.listing s meth p).2.1 = .ok (.names l)) :
    l = Multi.dedup ((Multi.iterateFs s).flatMap (listingOf s.fs p)) ∧
    l.Nodup ∧
    (∀ x, x ∈ l ↔ ∃ e ∈ s.entries, x ∈ listingOf s.fs p e) ∧
    l.Sublist ((Multi.iterateFs s).flatMap (listingOf s.fs p)) := by
  have hl : l = Multi.dedup ((Multi.iterateFs s).flatMap (listingOf s.fs p)) := by
    unfold Multi.listing at h
    simp only at h
    split at h
    · cases h
    · next acc ex hloop =>
      have := MultiL.listLoop_ok meth p _ s.fs [] false acc ex hloop
      simp only [List.nil_append] at this
      split at h
      · simp only [Res.ok.injEq, Val.names.injEq] at h
        rw [← h, this]
      · cases h
  refine ⟨hl, ?_, ?_, ?_⟩
  · rw [hl]; exact MultiL.nodup_dedupGo _ _
  · intro x
    rw [hl, Multi.dedup, MultiL.mem_dedupGo]
    simp only [List.mem_flatMap, List.not_mem_nil, not_false_eq_true, and_true]
    constructor
    · rintro ⟨e, he, hx⟩; exact ⟨e, (MultiL.mem_sortDesc _ e).1 he, hx⟩
    · rintro ⟨e, he, hx⟩; exact ⟨e, (MultiL.mem_sortDesc _ e).2 he, hx⟩
  · rw [hl]; exact MultiL.sublist_dedupGo _ _

/-- **Which outcome.**  Provided every member answers the listing with names, `ResourceNotFound`
or `DirectoryExpected` (open members, valid path): let `h` be the first member in `iterate_fs`
order that contains the path (its answer is not `ResourceNotFound`).  There is none ⇒
`ResourceNotFound`; `h` holds the path as a file ⇒ `DirectoryExpected`; `h` holds it as a
directory ⇒ the de-duplicated union over the members that hold it as a directory (members
holding a shadowed *file* of that name, or not holding it, contribute nothing). -/
theorem multi_listing_outcome (s : Multi.MState) (p : Str) (meth : Meth)
    (hw : MultiL.WellAnswered s.fs p (Multi.iterateFs s)) :
    (Multi.listing s meth p).2.1 =
      match firstHolder s.fs p (Multi.iterateFs s) with
      | none => .err .ResourceNotFound
      | some h =>
        match listAnswer s.fs p h with
        | .ok _ => .ok (.names (Multi.dedup ((Multi.iterateFs s).flatMap (listingOf s.fs p))))
        | .err er => .err er := by
  have := MultiL.listLoop_outcome meth p (Multi.iterateFs s) s.fs [] false hw
  simp only [Multi.listing, this, Bool.false_eq_true, if_false, List.nil_append]
  cases firstHolder s.fs p (Multi.iterateFs s) with
  | none => simp
  | some h =>
    simp only
    cases listAnswer s.fs p h <;> simp

/-- that first member is the highest: it contains the path and its key `(priority, index)` is the
maximum among the members containing the path -/
theorem multi_listing_holder_highest (s : Multi.MState) (p : Str) (h : Multi.Entry)
    (hf : firstHolder s.fs p (Multi.iterateFs s) = some h) :
    h ∈ s.entries ∧ listAnswer s.fs p h ≠ .err .ResourceNotFound ∧
    ∀ e ∈ s.entries, listAnswer s.fs p e ≠ .err .ResourceNotFound → KeyLe e h := by
  rw [MultiL.firstHolder_eq_find, List.find?_eq_some_iff_append] at hf
  obtain ⟨hne, pre, post, hs, hpre⟩ := hf
  obtain ⟨hmem, hmax⟩ := MultiL.sortDesc_first_max (q := fun e => listAnswer s.fs p e ≠ .err .ResourceNotFound) hs
    (fun x hx => by simpa using hpre x hx)
  exact ⟨hmem, by simpa using hne, hmax⟩

/-! ## MultiFS: writes, removals, frame -/

/-- **Frame for arbitrary programs** over MultiFS's methods (every inherited method, the bulk
ones included): a member that receives no call, or only queries, is unchanged. -/
theorem multi_frame_any_program (prog : Prog) (s : Multi.MState) (j : Nat)
    (h : ∀ c ∈ (prog.run Multi.sem s).2.2, c.fs = j → isQuery c.op = true) :
    (prog.run Multi.sem s).1.fs j = s.fs j :=
  multiRoutes.frame_any prog s j h

/-- every call any program makes is a query, or a creating/writing call on the write member,
or a `remove`/`removedir`; the configuration (members, priorities, write member) never changes -/
theorem multi_calls_classified (prog : Prog) (s : Multi.MState) :
    (∀ c ∈ (prog.run Multi.sem s).2.2,
      isQuery c.op = true ∨ s.writeFs = some c.fs ∨ (∃ q, c.op = .remove q ∨ c.op = .removedir q)) ∧
    (prog.run Multi.sem s).1.writeFs = s.writeFs ∧ (prog.run Multi.sem s).1.entries = s.entries := by
  have := run_calls Multi.sem (fun s' => s'.writeFs = s.writeFs ∧ s'.entries = s.entries)
    (fun _ => True) (fun _ => True)
    (fun c => isQuery c.op = true ∨ s.writeFs = some c.fs ∨ (∃ q, c.op = .remove q ∨ c.op = .removedir q))
    (fun s' p hi => ⟨(MultiL.prim_cfg s' p).2.1.trans hi.1, (MultiL.prim_cfg s' p).1.trans hi.2⟩)
    (fun s' p hi _ c hc => by
      rcases MultiL.prim_calls s' p c hc with hq | ⟨_, hw⟩ | ⟨hr, _⟩
      · exact Or.inl hq
      · exact Or.inr (Or.inl (hi.1 ▸ hw))
      · rcases multiRoutes.forwards s' p c hc with hq | hop
        · exact Or.inl hq
        · right; right
          cases p <;> cases hr
          · exact ⟨_, Or.inl hop⟩
          · exact ⟨_, Or.inr hop⟩)
    (fun s' p _ _ c hc => Or.inl (MultiL.validate_calls s' p c hc))
    prog s ⟨rfl, rfl⟩ (allPrims_true prog) (allValidates_true prog)
  exact ⟨this.1, this.2.1, this.2.2⟩

/-- **`multi_frame`.**  For any program over MultiFS's methods: a member other than the write
member changes only if it receives a `remove` / `removedir` call (which `_delegate` sends to
the member containing the path, see `multi_remove_only_holder`). -/
theorem multi_frame (prog : Prog) (s : Multi.MState) (j : Nat) (hw : s.writeFs ≠ some j)
    (hr : ∀ c ∈ (prog.run Multi.sem s).2.2, c.fs = j → ∀ q, c.op ≠ .remove q ∧ c.op ≠ .removedir q) :
    (prog.run Multi.sem s).1.fs j = s.fs j := by
  apply multi_frame_any_program
  intro c hc hcj
  rcases (multi_calls_classified prog s).1 c hc with hq | hwf | ⟨q, hq⟩
  · exact hq
  · exact absurd (hcj ▸ hwf) hw
  · rcases hq with hq | hq
    · exact absurd hq (hr c hc hcj q).1
    · exact absurd hq (hr c hc hcj q).2

/-- **Creating and writing calls change at most the write member.**  For every operation that
creates or writes (`makedir`, `makedirs`, `writebytes`, `appendbytes`, `create`, `touch`,
`settimes`, `copy`, `openbin` in a writing mode): every member other than `write_fs` is
unchanged — in particular *all* members when there is no write member. -/
theorem multi_writes_only_write_fs (s s' : Multi.MState) (op : Ref.Op) (out : Out) (tr : List Call)
    (hcw : creatingOrWriting op = true) (h : Multi.step s op = some (s', out, tr)) (j : Nat)
    (hj : s.writeFs ≠ some j) : s'.fs j = s.fs j := by
  obtain ⟨pr, hprog, hrun⟩ := MultiL.step_some h (by rintro rfl; cases hcw)
  have := multiRoutes.confined (fun s' => s'.writeFs = s.writeFs) (fun q => removes q = false) j
    (fun s' p hi => (MultiL.prim_cfg s' p).2.1.trans hi)
    (fun s' p hi hp c hc hcj => (MultiL.prim_write_route s' p hp c hc).elim id fun hw =>
      absurd (hcj ▸ hi ▸ hw) hj)
    pr s rfl (MultiL.creating_allPrims op pr hprog hcw)
  rw [hrun] at this
  exact this

/-- **Without a write member** a creating/writing operation changes nothing and fails — the
only call that can return normally is `create(p, wipe=False)` on an existing path, which returns
`False` without attempting to write. -/
theorem multi_no_write_fs (s s' : Multi.MState) (op : Ref.Op) (out : Out) (tr : List Call)
    (hw : s.writeFs = none) (hcw : creatingOrWriting op = true)
    (h : Multi.step s op = some (s', out, tr)) :
    (∀ j, s'.fs j = s.fs j) ∧
    ((∃ e, out = .err e) ∨ (∃ p, op = .create p false ∧ out = .ok (.bool false))) := by
  refine ⟨fun j => multi_writes_only_write_fs s s' op out tr hcw h j (by simp [hw]), ?_⟩
  let A : Out → Prop := fun o => (∃ e, o = .err e) ∨ (∃ p, op = .create p false ∧ o = .ok (.bool false))
  have hA : ∀ e, A (.err e) := fun e => Or.inl ⟨e, rfl⟩
  obtain ⟨pr, hpr, hrun⟩ := MultiL.step_some h (by rintro rfl; cases hcw)
  suffices hW : MultiL.WriteEnds A pr by
    have := MultiL.run_writeEnds A hA pr s hw hW
    rw [hrun] at this
    exact this
  cases op <;> first | exact absurd hcw Bool.false_ne_true | cases hpr
  case create p w => exact MultiL.writeEnds_createThen hA fun hw => Or.inr ⟨p, hw ▸ rfl, rfl⟩
  case touch p => exact MultiL.writeEnds_createThen hA fun _ => MultiL.writeEnds_one hA rfl
  case copy src dst ow => exact MultiL.writeEnds_baseCopy hA src dst ow
  case openbin p m => exact MultiL.writeEnds_one hA hcw
  all_goals exact MultiL.writeEnds_one hA rfl

/-- on an open MultiFS the writing methods — `makedir`, `makedirs`, `setinfo`, `upload`,
`writebytes`, `writetext`, and `openbin` / `open` in a (valid) writing mode such as `w`, `a`, `x`,
`r+`, `rb+`, `r+t` — raise exactly `ResourceReadOnly` then, without asking any member -/
theorem multi_no_write_fs_read_only (s : Multi.MState) (pr : Prim) (hw : s.writeFs = none)
    (hc : s.closed = false) (hpw : pr.writes = true)
    (hm : ∀ p m, (pr = .openbin p m ∨ ∃ d, pr = .open_ p m d) → modeOk m = true) :
    (Multi.prim s pr).2.1 = .err .ResourceReadOnly ∧ (Multi.prim s pr).2.2 = [] ∧
    (Multi.prim s pr).1.fs = s.fs := by
  obtain ⟨e, h, he⟩ := MultiL.prim_write_none s pr hw hpw
  cases he hc hm
  rw [h]
  exact ⟨rfl, rfl, rfl⟩

/-- **Every writing method changes at most the write member** — stated for the methods
themselves (so also for `open(path, mode)` with whatever is then written through the file object,
`writetext`, `upload`): a call of a creating/writing method leaves every member other than
`write_fs` unchanged, and every call it makes is a query or goes to `write_fs`. -/
theorem multi_write_methods_only_write_fs (s : Multi.MState) (pr : Prim) (hpw : pr.writes = true)
    (j : Nat) (hj : s.writeFs ≠ some j) :
    (Multi.prim s pr).1.fs j = s.fs j ∧
    ∀ c ∈ (Multi.prim s pr).2.2, isQuery c.op = true ∨ s.writeFs = some c.fs := by
  have hnr : removes pr = false := by cases pr <;> first | rfl | (simp [Prim.writes] at hpw)
  have hcalls := MultiL.prim_write_route s pr hnr
  refine ⟨multiRoutes.frame s pr j (fun c hc hcj => ?_), hcalls⟩
  rcases hcalls c hc with hq | hw
  · exact hq
  · exact absurd (hcj ▸ hw) hj

/-- `open` in a mode that is not a writing mode (`r`, `rb`, `rt`) is answered by the member
`_delegate` finds and changes nothing; in a writing mode it goes to the write member — the routing
is by `check_writable(mode)`, i.e. by `w`, `a`, `x` **or `+`** in the mode string -/
theorem multi_open_routing (s : Multi.MState) (p m : Str) (d : Option Bytes) (hc : s.closed = false)
    (hm : modeOk m = true) :
    (checkWritable m = true → Multi.prim s (.open_ p m d) = Multi.viaWrite s (.open_ p m d) p) ∧
    (checkWritable m = false →
      Multi.prim s (.open_ p m d) =
        Multi.viaDelegate s (.open_ p m d) p (.ok p) (.err .ResourceNotFound) ∧
      ∀ j, (Multi.prim s (.open_ p m d)).1.fs j = s.fs j) := by
  have hprim : Multi.prim s (.open_ p m d) =
      (if checkWritable m = true then Multi.viaWrite s (.open_ p m d) p
       else Multi.viaDelegate s (.open_ p m d) p (.ok p) (.err .ResourceNotFound)) := by
    simp [Multi.prim, Multi.checked, hc, hm]
  refine ⟨fun hw => by rw [hprim, if_pos hw], fun hw => ?_⟩
  have hprim' : Multi.prim s (.open_ p m d) =
      Multi.viaDelegate s (.open_ p m d) p (.ok p) (.err .ResourceNotFound) := by
    rw [hprim]; simp [hw]
  refine ⟨hprim', fun j => ?_⟩
  apply multiRoutes.frame
  intro c hcm _
  rcases MultiL.prim_calls s _ c hcm with hq | ⟨hwr, _⟩ | ⟨hr, _⟩
  · exact hq
  · have : checkWritable m = true := (writes_open p m d).symm.trans hwr
    rw [hw] at this; cases this
  · cases hr

/-- read-only operations change no member -/
theorem multi_queries_change_nothing (s s' : Multi.MState) (op : Ref.Op) (out : Out) (tr : List Call)
    (hq : isQuery op = true) (h : Multi.step s op = some (s', out, tr)) (j : Nat) :
    s'.fs j = s.fs j := by
  obtain ⟨pr, hpr, hrun⟩ := MultiL.step_some h (by rintro rfl; cases hq)
  have := multiRoutes.query_prog hq (MultiL.prog_common hpr (by rintro q rc rfl; cases hq)) s j
  rw [hrun] at this
  exact this

/-- **`remove` / `removedir` act on the member that contains the path** — the member
`_delegate` finds, which need not be the write member (the coded rule; the property constrains
creating and writing calls only): every other member is unchanged. -/
theorem multi_remove_only_holder (s s' : Multi.MState) (op : Ref.Op) (p : Str) (out : Out)
    (tr : List Call) (hop : op = .remove p ∨ op = .removedir p)
    (h : Multi.step s op = some (s', out, tr)) (j : Nat)
    (hj : (Multi.delegateLoop s.fs p (Multi.iterateFs s)).2.1 ≠ .ok (some j)) : s'.fs j = s.fs j := by
  have key : ∀ q : Prim, removes q = true → q.writes = false → q.path = p →
      ((one q).run Multi.sem s).1.fs j = s.fs j := by
    intro q hr hw hp
    apply multi_frame_any_program
    intro c hc hcj
    simp only [one, Prog.run, List.append_nil] at hc
    rcases MultiL.prim_calls s q c hc with h1 | ⟨hw', _⟩ | ⟨_, hd⟩
    · exact h1
    · rw [hw] at hw'; cases hw'
    · rw [hp, hcj] at hd; exact absurd hd hj
  rcases hop with rfl | rfl
  · simp only [Multi.step, Multi.prog, commonProg, Option.map, Option.some.injEq] at h
    have := key (.remove p) rfl rfl rfl
    rw [h] at this
    exact this
  · simp only [Multi.step, Multi.prog, commonProg, Option.map, Option.some.injEq] at h
    have := key (.removedir p) rfl rfl rfl
    rw [h] at this
    exact this

def twoMembers : Multi.MState :=
  { fs := Fss.ofList [{ root := .dir [("f".toList, .file [1])], closed := false },
                      { root := .dir [], closed := false }],
    entries := [⟨"ro".toList, 0, 0, 0⟩, ⟨"w".toList, 0, 1, 1⟩], sortIndex := 2, writeFs := some 1,
    closed := false, autoClose := true }

/-- concrete witness of the coded rule: with a read-only layer (member 0) holding `f` and an
empty write layer (member 1), `remove("f")` succeeds and deletes the file from member 0. -/
theorem multi_remove_acts_on_read_member :
    (Multi.step twoMembers (.remove "f".toList)).map
      (fun r => (r.2.1, r.2.2.map (fun c => (c.fs, c.meth)), (r.1.fs 0).root.entries.length)) =
    some (.ok .unit, [(1, .exists_), (0, .exists_), (0, .remove)], 0) := by
  decide +kernel


/-! ## non-vacuity -/

example : Clean ["a".toList, "b".toList] := by
  intro c hc; simp at hc; rcases hc with rfl | rfl <;> simp [CleanComp, dot, dotdot]

/-- the hypotheses of `mount_route_component_prefix` are met, and both branches occur -/
example : normpath "x/../a/b//f/".toList = .ok (mk false ["a".toList, "b".toList, "f".toList]) := by decide +kernel
example : routeSpec [(["a".toList], 1), (["a".toList, "b".toList], 2)] ["a".toList, "b".toList, "f".toList]
    = some (1, ["b".toList, "f".toList]) := by decide +kernel
example : routeSpec [(["a".toList], 1)] ["ab".toList, "f".toList] = none := by decide +kernel

def demoMount : Mount.MState :=
  { fs := Fss.ofList [{ root := .dir [("a".toList, .dir [])], closed := false },
                      { root := .dir [("f".toList, .file [7])], closed := false }],
    mounts := [("/a/".toList, 1)], closed := false, autoClose := true }

/-- a step with a non-trivial effect: `move("/a/f", "/g")` reads member 1, writes the default tree,
removes from member 1 -/
example : (Mount.step demoMount (.move "/a/f".toList "/g".toList false)).map
    (fun r => (r.2.1, r.2.2.map (fun c => (c.fs, c.meth, c.path)))) =
    some (.ok .unit, [(1, .validatepath, "f".toList), (0, .validatepath, "/g".toList),
      (0, .getinfo, "/g".toList), (1, .getinfo, "f".toList), (1, .open_, "f".toList),
      (0, .upload, "/g".toList), (1, .remove, "f".toList)]) := by decide +kernel

example : routeMember demoMount.mounts "/a/f".toList = some 1 ∧ routeMember demoMount.mounts "/g".toList = some 0 := by
  decide +kernel

/-- three members, `f` held by two of them, for the instances of `multi_read_highest` / `multi_listing_union_dedup`
below -/
def demoMulti : Multi.MState :=
  { fs := Fss.ofList [{ root := .dir [("f".toList, .file [1]), ("x".toList, .dir [])], closed := false },
                      { root := .dir [("f".toList, .file [2]), ("y".toList, .dir [])], closed := false },
                      { root := .dir [("y".toList, .file [3])], closed := false }],
    entries := [⟨"lo".toList, 0, 0, 0⟩, ⟨"hi".toList, 0, 1, 1⟩, ⟨"neg".toList, -1, 2, 2⟩],
    sortIndex := 3, writeFs := none, closed := false, autoClose := true }

example : (Multi.delegateLoop demoMulti.fs "f".toList (Multi.iterateFs demoMulti)).2.1 = .ok (some 1) := by decide +kernel
example : (Multi.listing demoMulti .listdir []).2.1 = .ok (.names ["f".toList, "y".toList, "x".toList]) := by decide +kernel
/-- a name that is a directory in the higher layer and a file in a lower one: the file is
shadowed; the other way round the file answers -/
def mixedMulti (hiDir : Bool) : Multi.MState :=
  { fs := Fss.ofList [{ root := .dir [("b".toList, .dir [("x".toList, .file [])])], closed := false },
                      { root := .dir [("b".toList, .file [1])], closed := false }],
    entries := [⟨"d".toList, if hiDir then 1 else 0, 0, 0⟩, ⟨"f".toList, if hiDir then 0 else 1, 1, 1⟩],
    sortIndex := 2, writeFs := none, closed := false, autoClose := true }

example : (Multi.listing (mixedMulti true) .listdir "b".toList).2.1 = .ok (.names ["x".toList]) := by decide +kernel
example : (Multi.listing (mixedMulti false) .listdir "b".toList).2.1 = .err .DirectoryExpected := by decide +kernel
example : (Multi.listing (mixedMulti true) .listdir "c".toList).2.1 = .err .ResourceNotFound := by decide +kernel

/-- `open`: `r+` is a writing mode.  With a read layer holding `f` and an empty write layer,
`open("f", "r+")` goes to the write layer (and fails there: `ResourceNotFound`), the read layer is
not asked to open anything; `open("f", "rt")` is answered by the read layer; without a write
layer `open(…, "rb+")` is `ResourceReadOnly`; on a MountFS the data written through
`open("/a/f", "r+")` lands in the mounted member only. -/
example : (let r := Multi.prim twoMembers (.open_ "f".toList "r+".toList (some [9]))
           (r.2.1, r.2.2.map (fun c => (c.fs, c.meth)))) = (.err .ResourceNotFound, [(1, .open_)]) := by decide +kernel
example : (let r := Multi.prim twoMembers (.open_ "f".toList "rt".toList none)
           (r.2.1, r.2.2.map (fun c => (c.fs, c.meth)))) =
    (.ok .unit, [(1, .exists_), (0, .exists_), (0, .open_)]) := by decide +kernel
example : (Multi.prim demoMulti (.open_ "f".toList "rb+".toList none)).2.1 = .err .ResourceReadOnly := by decide +kernel
example : (let r := Mount.prim demoMount (.open_ "/a/f".toList "r+".toList (some [9, 9]))
           (r.2.1, r.2.2.map (fun c => (c.fs, c.meth, c.path)),
            (Ref.step (r.1.fs 1) (.readbytes "f".toList)).2)) =
    (.ok .unit, [(1, .open_, "f".toList)], .ok (.bytes [9, 9])) := by decide +kernel

example : (Multi.step demoMulti (.writebytes "g".toList [1])).map (·.2.1) = some (.err .ResourceReadOnly) := by decide +kernel
example : (Multi.step demoMulti (.create "f".toList false)).map (·.2.1) = some (.ok (.bool false)) := by decide +kernel

end Fs.C17
