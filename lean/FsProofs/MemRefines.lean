/-
  MemoryFS, as coded (FsModel.Mem = transcription of fs/memoryfs.py + inherited fs/base.py
  defaults), implements the reference semantics (FsModel.Ref) — part of C01.
-/
import FsProofs.Lemmas.MemLemmas

namespace Fs.MemRefines
open Fs Fs.Ref Fs.MemLemmas

/-- The one class of calls in which MemoryFS (through the base-class `move_dir` = copy, then
remove the source) is known to deviate from the contract: `movedir` whose destination is a
proper ancestor of the source (`mem_movedir_ancestor_counterexample`). -/
def knownDeviation (op : Op) : Prop :=
  match op with
  | .movedir sp dp _ => ∃ a b, validate sp = .ok a ∧ validate dp = .ok b ∧ b <+: a ∧ a ≠ b
  | _ => False

/-! ### from per-operation agreement to the refinement statement -/

/-- the conclusion of the refinement, for one pair of outcomes -/
def Refines (s : State) (op : Op) (m r : State × Out) : Prop :=
  (m.2.isOk = r.2.isOk) ∧ (r.2.isOk = true → m = r) ∧
  (∀ e, m.2 = .err e → e ∈ adm s op ∧ m.1 = s)

theorem refines_of_eq (s : State) (op : Op) (m : State × Out) (hd : s.root.isDir = true)
    (hl : (Ref.step s op).2 ≠ .err .OperationFailed) (h : m = Ref.step s op) :
    Refines s op m (Ref.step s op) := by
  rw [h]
  refine ⟨rfl, fun _ => rfl, fun e he => ⟨?_, QueryLemmas.step_err_state he⟩⟩
  rcases QueryLemmas.step_truthful s op e hd he with h' | h'
  · exact h'
  · subst h'; exact absurd he hl

theorem refines_of_agree (s : State) (op : Op) (m : State × Out) (A : List Err) (hd : s.root.isDir = true)
    (hl : (Ref.step s op).2 ≠ .err .OperationFailed) (hA : A = adm s op)
    (h : Agree A s m (Ref.step s op)) :
    Refines s op m (Ref.step s op) := by
  rcases h with h | ⟨e, e', hm, hr, he⟩
  · exact refines_of_eq s op m hd hl h
  · rw [hm]
    refine ⟨by simp [Res.isOk, hr], fun h => by simp [hr, Res.isOk] at h, ?_⟩
    intro x hx
    simp only [Res.err.injEq] at hx
    subst hx
    exact ⟨hA ▸ he, rfl⟩

open QueryLemmas in
/-- For one call and its outcome `m`: a refused call is turned away with the same error, an admitted one agrees
with `step1` / `step2` on the validated path(s). -/
theorem refines_op (s : State) (op : Op) (m : State × Out) (hc : s.closed = false) (hd : s.root.isDir = true)
    (hl : (Ref.step s op).2 ≠ .err .OperationFailed)
    (hclose : op = .close → m = Ref.step s op)
    (hR : ∀ e, refusal validate op = some e → m = fail s e)
    (h1 : ∀ p cs, op.paths = [p] → refusal validate op = none → validate p = .ok cs →
      Agree (adm1 s.root cs op) s m (step1 s cs op))
    (h2 : ∀ p q a b, op.paths = [p, q] → validate p = .ok a → validate q = .ok b →
      Agree (adm2 s.root a b op) s m (step2 s a b op)) :
    Refines s op m (Ref.step s op) := by
  cases front s op hc with
  | close h => exact refines_of_eq s op m hd hl (hclose h)
  | refused e hr hs _ => exact refines_of_eq s op m hd hl ((hR e hr).trans hs.symm)
  | one p cs hp hr hv hs ha => exact refines_of_agree s op m _ hd hl ha.symm (hs ▸ h1 p cs hp hr hv)
  | two p q a b hp hva hvb hs ha => exact refines_of_agree s op m _ hd hl ha.symm (hs ▸ h2 p q a b hp hva hvb)

theorem mem_one (s : State) (op : Op) (p : Str) (cs : List Name) (hc : s.closed = false)
    (hd : s.root.isDir = true) (hwf : s.root.wf = true) (hp : op.paths = [p])
    (hr : QueryLemmas.refusal validate op = none) (hv : validate p = .ok cs) :
    Agree (adm1 s.root cs op) s (Mem.step s op) (step1 s cs op) := by
  cases op with
  | openbin q m =>
    cases hp
    obtain ⟨md, hm⟩ := QueryLemmas.parse_of_admitted hr
    exact mem_openbin s p cs hc hv m md hm
  | move | copy | movedir | copydir | close => cases hp
  | getinfo => cases hp; exact Or.inl (mem_getinfo s p cs hc hv)
  | exists_ | isdir | isfile | getsize | gettype =>
    cases hp
    simp only [Mem.step, Mem.exists_, Mem.isdir, Mem.isfile, mem_getinfo_eq s p cs hc hv, step1]
    left
    cases s.root.get cs with
    | none => rfl
    | some n => cases n <;> rfl
  | listdir | isempty =>
    cases hp
    simp only [Mem.step, Mem.isempty, mem_listdir_eq s p cs hc hv, step1]
    left
    cases s.root.get cs with
    | none => rfl
    | some n => rcases n with _ | _ | _ <;> rfl
  | settimes => cases hp; exact Or.inl (mem_settimes s p cs hc hv)
  | makedir _ r => cases hp; exact Or.inl (mem_makedir s p cs hc hv r)
  | readbytes => cases hp; exact Or.inl (mem_readbytes s p cs hc hv hd)
  | writebytes _ d => cases hp; exact Or.inl (mem_writebytes s p cs hc hv d)
  | appendbytes _ d => cases hp; exact Or.inl (mem_appendbytes s p cs hc hv d)
  | create _ w => cases hp; exact Or.inl (mem_create s p cs hc hv w)
  | touch => cases hp; exact Or.inl (mem_touch s p cs hc hv)
  | removetree => cases hp; exact Or.inl (mem_removetree s p cs hc hv)
  | removedir => cases hp; exact Or.inl (mem_removedir s p cs hc hv)
  | remove => cases hp; exact mem_remove s p cs hc hv hd hwf
  | makedirs _ r => cases hp; exact mem_makedirs s p cs hc hv hd r

/-- two-path operations, valid paths -/
theorem mem_two (s : State) (op : Op) (p q : Str) (a b : List Name) (hc : s.closed = false)
    (hd : s.root.isDir = true) (hwf : s.root.wf = true) (hp : op.paths = [p, q])
    (hk : ¬ knownDeviation op) (hva : validate p = .ok a) (hvb : validate q = .ok b) :
    Agree (adm2 s.root a b op) s (Mem.step s op) (step2 s a b op) := by
  cases op with
  | move _ _ o => cases hp; exact mem_move s p q a b hc hva hvb hd hwf o
  | copy _ _ o => cases hp; exact Or.inl (mem_copy s p q a b hc hva hvb hd o)
  | movedir _ _ c =>
    cases hp
    exact Or.inl (mem_movedir s p q a b hc hva hvb c fun h => hk ⟨a, b, hva, hvb, h.1, h.2⟩)
  | copydir _ _ c => cases hp; exact Or.inl (mem_copydir s p q a b hc hva hvb hd hwf c)
  | _ => cases hp

/-- Refinement, one call: on an open filesystem, for every operation outside the known
deviation whose reference outcome is not the loose mid-way failure, MemoryFS gives the same
verdict; on success the same value and the same tree; on failure a truthful error class and
an unchanged state. -/
theorem mem_refines_ref (s : State) (op : Op) (hc : s.closed = false)
    (hd : s.root.isDir = true) (hwf : s.root.wf = true) (hk : ¬ knownDeviation op)
    (hl : (Ref.step s op).2 ≠ .err .OperationFailed) :
    ((Mem.step s op).2.isOk = (Ref.step s op).2.isOk) ∧
    ((Ref.step s op).2.isOk = true → Mem.step s op = Ref.step s op) ∧
    (∀ e, (Mem.step s op).2 = .err e → e ∈ adm s op ∧ (Mem.step s op).1 = s) :=
  refines_op s op _ hc hd hl (fun h => h ▸ rfl) (fun e h => mem_step_refused s op e (vpath_open_fun hc ▸ h))
    (fun p cs hp hr hv => mem_one s op p cs hc hd hwf hp hr hv)
    (fun p q a b hp hva hvb => mem_two s op p q a b hc hd hwf hp hk hva hvb)

/-- a closed MemoryFS never changes and never answers -/
theorem mem_closed_is_final (s : State) (op : Op) (hc : s.closed = true) (hop : op ≠ .close) :
    (Mem.step s op).1 = s ∧ ∃ e, (Mem.step s op).2 = .err e := by
  obtain ⟨e, h⟩ := QueryLemmas.refusal_of_all_err (vp := Mem.vpath s)
    (fun p => ⟨_, by unfold Mem.vpath; rw [hc]; rfl⟩) hop
  rw [mem_step_refused s op e h]
  exact ⟨rfl, e, rfl⟩

/-- a call that succeeds in the reference and is outside the known deviation has the same outcome on
MemoryFS -/
theorem mem_refines_ref_ok_steps (s : State) (op : Op) (hc : s.closed = false)
    (hd : s.root.isDir = true) (hwf : s.root.wf = true) (v : Val)
    (hk : ¬ knownDeviation op) (hok : (Ref.step s op).2 = .ok v) :
    Mem.step s op = Ref.step s op :=
  (mem_refines_ref s op hc hd hwf hk (by rw [hok]; exact fun h => by cases h)).2.1
    (by rw [hok]; rfl)

/-- bytes of the file at a path, if there is one -/
def fileAt (t : Node) (q : List Name) : Option Bytes :=
  match t.get q with
  | some (.file b) => some b
  | _ => none

/-- the deviation is real: witness on the model of the code (replayed on the real MemoryFS by
the correspondence: `movedir('a', '/')` with `a/a/x`) -/
theorem mem_movedir_ancestor_counterexample :
    let t : Node := .dir [("a".toList, .dir [("a".toList, .dir [("x".toList, .file [1])])])]
    let s : State := { root := t, closed := false }
    fileAt (Mem.step s (.movedir "a".toList "/".toList false)).1.root ["a".toList, "x".toList] = none ∧
    fileAt (Ref.step s (.movedir "a".toList "/".toList false)).1.root ["a".toList, "x".toList] = some [1] := by
  decide +kernel

end Fs.MemRefines
