/-
  ModeGenEq — the `Mode` predicates regenerated from `$VERIF_REPO/fs/mode.py` on every run
  (`FsModel/Generated/ModeGen.lean`, written by `harness/extract/modegen.py`) are equal to the
  hand-written `Fs.File.Mode.*` that the C16 / C02 theorems are stated over, and
  `Fs.Ref.parseBinMode` — the mode parser of the reference semantics, of `Mem`, `Os` and `Guard` —
  is `validate_bin` followed by the generated flag properties (`parseBinMode_eq_gen`).
  Extra proof module of C16 (re-proved against the freshly generated file on every run).
-/
import FsModel.Generated.ModeGen
import FsModel.File
import FsModel.Ref
import FsProofs.Lemmas.PyStrLemmas

namespace Fs.ModeGenEq
open Fs Fs.PyStr Fs.PyStrLemmas Fs.PathGenLemmas Fs.File

/-- the translator found and translated exactly the methods the hand model transcribes -/
theorem coverage : ModeGen.translated =
    ["__contains__", "appending", "binary", "create", "exclusive", "reading", "text", "to_platform",
     "to_platform_bin", "truncate", "updating", "validate", "validate_bin", "writing"] := by decide +kernel

theorem nothing_refused : ModeGen.refused = [] := by decide +kernel

/-- finish an equation between boolean combinations of `Mode.has m c` (any order / association) -/
macro "bool_cases" m:term : tactic =>
  `(tactic| (cases Mode.has $m 'r' <;> cases Mode.has $m 'w' <;> cases Mode.has $m 'x' <;> cases Mode.has $m 'a' <;>
             cases Mode.has $m '+' <;> cases Mode.has $m 'b' <;> cases Mode.has $m 't' <;> rfl))

theorem contains_eq (m : Str) (c : Char) : ModeGen.contains m [c] = Mode.has m c := by
  simp [ModeGen.contains, Mode.has, pyIn_char]

theorem create_eq (m : Str) : ModeGen.create m = Mode.create m := by
  simp only [ModeGen.create, Mode.create, contains_eq] <;> bool_cases m

theorem reading_eq (m : Str) : ModeGen.reading m = Mode.reading m := by
  simp only [ModeGen.reading, Mode.reading, contains_eq] <;> bool_cases m

theorem writing_eq (m : Str) : ModeGen.writing m = Mode.writing m := by
  simp only [ModeGen.writing, Mode.writing, contains_eq] <;> bool_cases m

theorem appending_eq (m : Str) : ModeGen.appending m = Mode.appending m := by
  simp only [ModeGen.appending, Mode.appending, contains_eq] <;> bool_cases m

theorem updating_eq (m : Str) : ModeGen.updating m = Mode.updating m := by
  simp only [ModeGen.updating, Mode.updating, contains_eq] <;> bool_cases m

theorem truncate_eq (m : Str) : ModeGen.truncate m = Mode.truncate m := by
  simp only [ModeGen.truncate, Mode.truncate, contains_eq] <;> bool_cases m

theorem exclusive_eq (m : Str) : ModeGen.exclusive m = Mode.exclusive m := by
  simp only [ModeGen.exclusive, Mode.exclusive, contains_eq] <;> bool_cases m

theorem binary_eq (m : Str) : ModeGen.binary m = Mode.binary m := by
  simp only [ModeGen.binary, Mode.binary, contains_eq] <;> bool_cases m

theorem text_eq (m : Str) : ModeGen.text m = Mode.text m := by
  simp only [ModeGen.text, Mode.text, contains_eq] <;> bool_cases m

/-- Python 3: `to_platform` is the identity (`six.PY2` is false) -/
theorem to_platform_eq (m : Str) : ModeGen.to_platform m = m := by
  simp [ModeGen.to_platform]

theorem to_platform_bin_eq (m : Str) : ModeGen.to_platform_bin m = Mode.toPlatformBin m := by
  simp only [ModeGen.to_platform_bin, Mode.toPlatformBin, to_platform_eq, pyReplace_nil, pyIn_char, Mode.has]
  rfl

theorem validate_eq (m : Str) : ModeGen.validate m = Mode.validate m := by
  cases m with
  | nil => rfl
  | cons c0 r =>
    have hs : pySumBool (List.map (fun c => pyIn c (c0 :: r)) (pyChars ['r', 'w', 'x', 'a'])) =
        (List.filter (fun c => Mode.has (c0 :: r) c) Mode.firstChars).length := by
      have : List.map (fun c => pyIn c (c0 :: r)) (pyChars ['r', 'w', 'x', 'a']) =
          List.map (fun c => Mode.has (c0 :: r) c) Mode.firstChars := by
        simp only [pyChars, List.map_map, Mode.firstChars, Mode.has]
        apply List.map_congr_left
        intro c _
        exact pyIn_char c _
      rw [this, pySumBool_map]
    simp only [ModeGen.validate, Mode.validate, pyIsSuperset, List.isEmpty_cons, pyStrIdx_cons_zero, hs,
      pyIn_char, pySet, Mode.has, Mode.firstChars]
    rfl

theorem validate_bin_eq (m : Str) : ModeGen.validate_bin m = Mode.validateBin m := by
  simp only [ModeGen.validate_bin, Mode.validateBin, validate_eq, contains_eq]
  cases Mode.validate m <;> rfl

/-! ### `Ref.parseBinMode` is `validate_bin` + the generated flag properties -/

/-- the flag record `Ref.parseBinMode` returns, computed with the GENERATED predicates -/
def genFlags (m : Str) : Ref.Mode :=
  { reading := ModeGen.reading m, writing := ModeGen.writing m, create := ModeGen.create m,
    truncate := ModeGen.truncate m, exclusive := ModeGen.exclusive m, appending := ModeGen.appending m }

theorem parseBinMode_eq_gen (m : Str) :
    Ref.parseBinMode m = if (ModeGen.validate_bin m).isOk then some (genFlags m) else none := by
  rw [validate_bin_eq]
  cases m with
  | nil => rfl
  | cons c0 r =>
    simp only [Ref.parseBinMode, Mode.validateBin, Mode.validate, genFlags, reading_eq, writing_eq, create_eq,
      truncate_eq, exclusive_eq, appending_eq, Mode.reading, Mode.writing, Mode.create, Mode.truncate,
      Mode.exclusive, Mode.appending, Mode.has, Ref.modeValidChars, Mode.validChars, Mode.firstChars,
      not_nodup_eq]
    -- both sides are the same boolean function of six tests on `m`: all characters valid, the first one of
    -- `rwxa`, `t` present, `b` present, a repeated character, other than one of `rwxa` present
    by_cases h1 : ((c0 :: r).all fun x => ['r', 'w', 'x', 't', 'a', 'b', '+'].contains x) = true
    · by_cases h2 : ['r', 'w', 'x', 'a'].contains c0 = true
      · by_cases h3 : (c0 :: r).contains 't' = true
        · by_cases hb : (c0 :: r).contains 'b' = true <;>
          by_cases hd : ((c0 :: r).eraseDups.length != (c0 :: r).length) = true <;>
          by_cases hc : ((List.filter (fun x => (c0 :: r).contains x) ['r', 'w', 'x', 'a']).length != 1) = true <;>
          simp only [h1, h2, h3, hb, hd, hc, Res.isOk, Bool.not_true, Bool.false_eq_true, if_false, if_true,
            Bool.and_true, Bool.and_false] <;> rfl
        · by_cases hd : ((c0 :: r).eraseDups.length != (c0 :: r).length) = true <;>
          by_cases hc : ((List.filter (fun x => (c0 :: r).contains x) ['r', 'w', 'x', 'a']).length != 1) = true <;>
          simp only [h1, h2, h3, hd, hc, Res.isOk, Bool.not_true, Bool.false_eq_true, if_false, if_true,
            Bool.false_and] <;> rfl
      · simp only [h1, h2, Res.isOk, Bool.not_true, Bool.false_eq_true, if_false, if_true, Bool.not_false]
    · simp only [h1, Res.isOk, Bool.not_false, if_true]
      rfl


/-! non-vacuity -/
example : ModeGen.validate_bin "r+b".toList = .ok () ∧ ModeGen.validate_bin "rw".toList = .err .ValueError ∧
    ModeGen.validate_bin "rt".toList = .err .ValueError ∧ ModeGen.to_platform_bin "rt".toList = "rb".toList := by decide +kernel

end Fs.ModeGenEq
