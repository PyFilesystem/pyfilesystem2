/-
  C01 — "… MultiFS with a write layer …": MultiFS **as coded** (FsModel.MultiFs = transcription of
  fs/multifs.py + the fs/base.py / fs/copy.py / fs/move.py / fs/walk.py defaults it inherits, as a functor
  over the step function of its layers) against the reference semantics on the OVERLAY tree.

  Vocabulary (FsModel/MultiFs.lean, FsProofs/Lemmas/MultiFs*.lean):
  * `MState σ`        layers `(name, priority, insertion index, state)` in `_filesystems` order, the write
                      layer, the flags; `order s` = `iterate_fs()` as positions; `writePos s` = `write_fs`;
  * `step fuel F s op` one call on the MultiFS object over layers that step with `F`;
  * `overlay s`       the tree a user sees: for each path the highest-priority layer that has it,
                      directories merged, higher entries first;
  * `Good t`          a layer state `RefinesRef` speaks about: open, a directory root, well-formed;
  * `RefinesRef F`    the refinement statement of `MemRefines.mem_refines_ref` (Lemmas/WrapSimLemmas.lean).
  Helper lemmas live in FsProofs/Lemmas/MultiFs*.lean; this file holds the property theorems.
-/
import FsModel.MultiFs
import FsModel.RouteSpec
import FsProofs.WrapRefines
import FsProofs.Lemmas.MultiFsLemmas
import FsProofs.Lemmas.MultiFsSingle
import FsProofs.Lemmas.MultiFsListing
import FsProofs.Lemmas.MultiFsUnshadowed
import FsProofs.C17

namespace Fs.MultiRefines
open Fs Fs.Ref Fs.MultiFs Fs.MultiFsLemmas Fs.WrapRefines Fs.MemRefines

/-! ## a closed MultiFS, and `close` -/

section Closed
variable {σ : Type}

/-- **multi_closed_is_final.**  Every method of a closed MultiFS fails with FilesystemClosed and changes
nothing — neither the MultiFS nor any layer — whatever the layer function `F`
(`self.check()` comes first in every method, the inherited `FS.removetree` included: it starts with
`validatepath`, so the flag is looked at before the path is normalised; `multi_closed_removetree_class_repaired` is
the instance `removetree("..")`). -/
theorem multi_closed_is_final (fuel : Nat) (F : FS σ) (s : MState σ) (op : Op) (hc : s.closed = true)
    (hop : op ≠ .close) :
    MultiFs.step fuel F s op = (s, .err .FilesystemClosed) := by
  cases op
  case close => exact absurd rfl hop
  all_goals simp [MultiFs.step, hc]

/-- `close()` of a closed MultiFS does nothing (in the code the first `close()` has cleared `_filesystems` when it
closed the layers; the model keeps the layers, and `closeM` tests `!s.closed` instead) -/
theorem multi_close_idempotent (fuel : Nat) (F : FS σ) (s : MState σ) (hc : s.closed = true) :
    MultiFs.step fuel F s .close = (s, .ok .unit) := by
  obtain ⟨ls, w, si, c, a⟩ := s
  simp only at hc
  subst hc
  simp [MultiFs.step, closeM]

/-- without `auto_close` a `close()` sets the flag and leaves every layer alone -/
theorem multi_close_keeps_layers (fuel : Nat) (F : FS σ) (s : MState σ) (ha : s.autoClose = false) :
    MultiFs.step fuel F s .close = ({ s with closed := true }, .ok .unit) := by
  simp [MultiFs.step, closeM, ha]

/-- **multi_close_closes_layers_when_auto_close.**  `close()` of an open MultiFS with `auto_close` sets
the flag and closes EVERY layer (one `close()` each, in `_filesystems` order); nothing else about a
layer changes.  (`hok`: the layers' `close()` do not raise — true of every filesystem in the library;
a raising layer stops the loop, `closeLoop`.) -/
theorem multi_close_closes_layers_when_auto_close (fuel : Nat) (F : FS σ) (s : MState σ)
    (hc : s.closed = false) (ha : s.autoClose = true)
    (hok : ∀ l ∈ s.layers, (F l.st .close).2.isOk = true) :
    MultiFs.step fuel F s .close =
      ({ s with closed := true, layers := s.layers.map fun l => { l with st := (F l.st .close).1 } }, .ok .unit) := by
  simp only [MultiFs.step, closeM, ha, hc, Bool.not_false, Bool.and_self, if_true]
  have := closeLoop_all F s.layers [] { s with closed := true } (by simp) hok
  simp only [List.length_nil, List.nil_append, ha] at this
  rw [List.range_eq_range', this]

/-- … over reference layers: every layer is closed afterwards, its tree is what it was, and it answers
every further call with FilesystemClosed -/
theorem multi_close_closes_ref_layers (fuel : Nat) (s : MState State) (hc : s.closed = false)
    (ha : s.autoClose = true) :
    let r := MultiFs.step fuel Ref.step s .close
    r.2 = .ok .unit ∧ r.1.closed = true ∧
    r.1.layers = s.layers.map (fun l => { l with st := { l.st with closed := true } }) ∧
    ∀ l ∈ r.1.layers, ∀ op, op ≠ .close → Ref.step l.st op = (l.st, .err .FilesystemClosed) := by
  have h := multi_close_closes_layers_when_auto_close fuel Ref.step s hc ha (fun l _ => rfl)
  rw [h]
  refine ⟨rfl, rfl, rfl, ?_⟩
  intro l hl op hop
  simp only [List.mem_map] at hl
  obtain ⟨l0, _, rfl⟩ := hl
  exact QueryLemmas.step_closed _ op hop rfl

end Closed


/-! ## `_delegate` is the C17 routing rule -/

/-- the C17 routing state (FsModel.Multi) of a stack of reference layers: member index = position in
`_filesystems` -/
def toRoute (s : MState State) : Multi.MState :=
  { fs := Route.Fss.ofList (s.layers.map (·.st)), entries := entries s, sortIndex := s.sortIndex,
    writeFs := writePos s, closed := s.closed, autoClose := s.autoClose }

/-- **multi_delegate_spec.**  `MultiFS._delegate` of the functor model IS `Multi.delegateLoop` of the C17
routing model on the same stack (`toRoute`), so C17's theorems apply verbatim: the layer it finds
(`C17.multi_read_highest`, not re-proved here) has the path and the maximal `(priority, insertion index)`
among the layers that have it — priority first, then latest added —; when it finds none, no layer has the
path (`C17.multi_read_none`).  Queries never change a reference layer. -/
theorem multi_delegate_spec (s : MState State) (p : Str) :
    (delegate Ref.step s p).1 = s ∧
    (delegate Ref.step s p).2 =
      (Multi.delegateLoop (toRoute s).fs p (Multi.iterateFs (toRoute s))).2.1 ∧
    (∀ i, (delegate Ref.step s p).2 = .ok (some i) →
      ∃ e ∈ (toRoute s).entries, e.fs = i ∧ RouteSpec.Holds (toRoute s).fs p e ∧
        ∀ e' ∈ (toRoute s).entries, RouteSpec.Holds (toRoute s).fs p e' → RouteSpec.KeyLe e' e) ∧
    ((delegate Ref.step s p).2 = .ok none →
      ∀ e ∈ (toRoute s).entries, ¬ RouteSpec.Holds (toRoute s).fs p e) := by
  have hlt : ∀ e ∈ Multi.sortDesc (entries s), e.fs < s.layers.length := fun e he =>
    entries_fs_lt s e ((RouteLemmas.MultiL.mem_sortDesc _ e).1 he)
  have h := delegateLoop_route s p (Multi.sortDesc (entries s)) hlt (toRoute s).fs (fun _ => rfl)
  have hd : delegate Ref.step s p = (s, (Multi.delegateLoop (toRoute s).fs p (Multi.iterateFs (toRoute s))).2.1) := h
  rw [hd]
  exact ⟨rfl, rfl, fun i hi => C17.multi_read_highest (toRoute s) p i hi,
    fun hn => C17.multi_read_none (toRoute s) p hn⟩

/-- … and over ANY layers that refine the reference `_delegate` finds the same layer as over the
reference itself, without changing any layer: the first layer in `iterate_fs` order that has the path
(a path that does not validate is refused with the reference's class by the first layer asked) -/
theorem multi_delegate_generic (F : FS State) (hF : RefinesRef F) (s : MState State) (hg : AllGood s) (p : Str) :
    delegate F s p = delegate Ref.step s p ∧
    delegate F s p = (s, match validate p with
      | .err e => if order s = [] then .ok none else .err e
      | .ok cs => .ok ((order s).find? (hasAt s cs))) := by
  rw [delegate_spec F hF s hg p, delegate_spec Ref.step ref_refines_ref s hg p]
  exact ⟨rfl, rfl⟩


/-! ## ONE layer that is the write layer (the `multi` backend) -/

/-- with ONE layer the overlay is that layer's tree -/
theorem multi_single_overlay (s : MState State) (l : Layer State) (hl : s.layers = [l]) :
    overlay s = { root := l.st.root, closed := s.closed } :=
  overlay_single s l hl

/-- **multi_single_write_layer_refines_partial.**  A MultiFS with exactly one layer, which is its write layer
(what `fsharness.make_backend("multi")` builds), over ANY layer filesystem `F` that refines the reference
(`RefinesRef F`: MemoryFS as coded, OSFS as coded, a SubFS of them at any depth, …) refines the reference for the
21 operations that do not walk the filesystem (every query, `makedir(s)`, `writebytes`, `appendbytes`, `create`,
`touch`, `settimes`, `openbin` in every mode string, `remove`, `removedir`, `move`, `copy`): same verdict as
`Ref.step` on the layer's tree (= the overlay, `multi_single_overlay`); on success the same value, the layer ends
in the reference's resulting state and nothing else changes; on failure nothing changes and the class is admissible.
`close` is `multi_close_closes_layers_when_auto_close` / `multi_close_keeps_layers`.

Not covered here: `removetree`, `movedir`, `copydir`.  On a MultiFS they are the base-class walkers (`Walker`,
`copy_structure`, `Copier`) over the MultiFS's own `scandir`/`makedir`/`copy`/`remove` (`FsModel.BaseWalk` over
`MultiFs.prim`).  `FsProofs/BaseWalkLaws.multi_single_write_layer_refines` is the statement for EVERY operation, the
three walkers included (the walk over the MultiFS's own calls computes the reference's tree-level result — up to
the order of entries for `copydir` / `movedir`, under the side conditions listed there); it uses this theorem for
the 21 operations that do not walk.  The three walkers are also evaluated on a concrete tree in the last `example`
of this file. -/
theorem multi_single_write_layer_refines_partial (fuel : Nat) (F : FS State) (hF : RefinesRef F)
    (s : MState State) (l : Layer State) (hl : s.layers = [l]) (hw : s.writeIdx = some l.idx)
    (hc : s.closed = false) (G : Good l.st) (op : Op) (hop : op ≠ .close) (hwk : walker op = false) :
    let r := MultiFs.step fuel F s op
    let ref := Ref.step l.st op
    (r.2.isOk = ref.2.isOk) ∧
    (ref.2.isOk = true → r = ({ s with layers := [{ l with st := ref.1 }] }, ref.2) ∧ overlay r.1 = ref.1) ∧
    (∀ e, r.2 = .err e → r.1 = s ∧ e ∈ adm l.st op) := by
  have S : Single s l := ⟨hl, hw, hc, G⟩
  have hcl : (Ref.step l.st op).1.closed = false := (QueryLemmas.step_closed_same l.st op hop).trans G.opn
  obtain ⟨h1, h2, h3⟩ := outcome_split (sim1_step fuel F hF s l S op hop hwk)
  refine ⟨h1, fun hk => ?_, h3⟩
  rw [h2 hk, multi_single_overlay (put1 s l (Ref.step l.st op).1) _ rfl]
  exact ⟨rfl, by simp only [put1, hc]; rw [← hcl]⟩

/-- instance: MultiFS over MemoryFS **as coded** (`FsModel.Mem`), the configuration the harness runs -/
theorem multi_single_mem_refines (fuel : Nat) (s : MState State) (l : Layer State) (hl : s.layers = [l])
    (hw : s.writeIdx = some l.idx) (hc : s.closed = false) (G : Good l.st) (op : Op) (hop : op ≠ .close)
    (hwk : walker op = false) :
    let r := MultiFs.step fuel Mem.step s op
    let ref := Ref.step l.st op
    (r.2.isOk = ref.2.isOk) ∧
    (ref.2.isOk = true → r = ({ s with layers := [{ l with st := ref.1 }] }, ref.2) ∧ overlay r.1 = ref.1) ∧
    (∀ e, r.2 = .err e → r.1 = s ∧ e ∈ adm l.st op) :=
  multi_single_write_layer_refines_partial fuel Mem.step mem_refines s l hl hw hc G op hop hwk

/-! ## the read side on ANY stack -/

/-- **multi_queries_refine_overlay.**  Any stack: an open MultiFS with at least one layer, over ANY layer
filesystem that refines the reference, every layer in a good state (open, directory root, well-formed),
the layers TYPE-CONSISTENT (no path is a file in one layer and a directory in another: `Consistent`).
Then every query — `exists isdir isfile gettype getsize getinfo readbytes listdir isempty` and `openbin` in
every mode that cannot write — changes nothing (no layer, not the MultiFS) and answers what the reference
answers on the OVERLAY tree: same verdict; on success the same value (for `listdir` the same names in the
same order: the de-duplicated union in `iterate_fs` order); on failure a class that is admissible for the
overlay.  Priorities, insertion order, the position of the write layer and the number of layers are
arbitrary.  Without type consistency the statement is false: `multi_file_over_dir_counterexample`,
`multi_dir_file_dir_counterexample`; without layers: `multi_no_layers_counterexample`.
(`scandir` is the same loop as `listdir` plus one `getinfo` per new name on the layer that listed it —
`MultiFs.scanM`; its names are `listdir`'s; the per-entry `Info` is tied by the exact correspondence
`multifs.scan` only.) -/
theorem multi_queries_refine_overlay (fuel : Nat) (F : FS State) (hF : RefinesRef F) (s : MState State)
    (hc : s.closed = false) (hne : s.layers ≠ []) (hg : AllGood s) (hcons : Consistent s)
    (op : Op) (hq : RouteSpec.isQuery op = true) :
    let r := MultiFs.step fuel F s op
    let ref := Ref.step (overlay s) op
    r.1 = s ∧ ref.1 = overlay s ∧ (r.2.isOk = ref.2.isOk) ∧ (ref.2.isOk = true → r.2 = ref.2) ∧
    (∀ e, r.2 = .err e → e ∈ adm (overlay s) op) := by
  have G : GoodStack s := ⟨hc, hne, hg, hcons⟩
  have hs := stack_query fuel F hF G op hq
  obtain ⟨h1, h2, h3⟩ := outcome_split (hs.cases (overlay_root_isDir G) (bulk_of_query hq))
  exact ⟨hs.1, RouteLemmas.step_query_state _ _ hq, h1, fun hk => by rw [h2 hk], fun e he => (h3 e he).2⟩

/-- instance: any consistent stack of MemoryFS layers as coded -/
theorem multi_queries_refine_overlay_mem (fuel : Nat) (s : MState State) (hc : s.closed = false)
    (hne : s.layers ≠ []) (hg : AllGood s) (hcons : Consistent s) (op : Op) (hq : RouteSpec.isQuery op = true) :
    let r := MultiFs.step fuel Mem.step s op
    let ref := Ref.step (overlay s) op
    r.1 = s ∧ ref.1 = overlay s ∧ (r.2.isOk = ref.2.isOk) ∧ (ref.2.isOk = true → r.2 = ref.2) ∧
    (∀ e, r.2 = .err e → e ∈ adm (overlay s) op) :=
  multi_queries_refine_overlay fuel Mem.step mem_refines s hc hne hg hcons op hq

/-! ## the write side on a stack: which layer a mutator acts on -/

section WriteSide
variable {σ : Type}

/-- the methods MultiFS hands to `write_fs` as they are -/
def directWrite : Op → Bool
  | .makedir _ _ | .makedirs _ _ | .writebytes _ _ | .appendbytes _ _ | .settimes _ => true
  | .openbin _ m => Route.modeOk m && Route.checkWritable m
  | _ => false

/-- **multi_write_goes_to_write_layer.**  `makedir`, `makedirs`, `writebytes`, `appendbytes` (= `open(…, "ab")`),
`settimes`/`setinfo` and `openbin` in every writing mode (`w a x +`; hence `r+` and `a` on a file that lives
in a read layer) are ONE call of the same method, with the same path, on the write layer — whatever the
other layers hold, whatever the priorities: no `_delegate`, no look at the overlay.  Every other layer is
untouched; the outcome is the write layer's.  (Any layer function `F`, any state.) -/
theorem multi_write_goes_to_write_layer (fuel : Nat) (F : FS σ) (s : MState σ) (op : Op)
    (hc : s.closed = false) (hw : directWrite op = true) (w : Nat) (l : Layer σ)
    (hwp : writePos s = some w) (hl : s.layers[w]? = some l) :
    MultiFs.step fuel F s op =
      ({ s with layers := s.layers.set w { l with st := (F l.st op).1 } }, (F l.st op).2) := by
  rw [step_open fuel F s hc op (by rintro rfl; cases hw)]
  cases op <;> simp only [directWrite, Bool.false_eq_true, Bool.and_eq_true] at hw <;>
    simp only [stepOpen, onWrite, hwp, callLayer_some F s w _ l hl]
  case openbin p m => simp [openbinM, hw.1, hw.2, onWrite, hwp, callLayer_some F s w _ l hl]

/-- … and without a write layer they raise ResourceReadOnly and nothing changes (an invalid mode string
is ValueError first, as everywhere) -/
theorem multi_no_write_layer_read_only (fuel : Nat) (F : FS σ) (s : MState σ) (op : Op)
    (hc : s.closed = false) (hw : directWrite op = true) (hwp : writePos s = none) :
    MultiFs.step fuel F s op = (s, .err .ResourceReadOnly) := by
  rw [step_open fuel F s hc op (by rintro rfl; cases hw)]
  cases op <;> simp only [directWrite, Bool.false_eq_true, Bool.and_eq_true] at hw <;>
    simp only [stepOpen, onWrite, hwp]
  case openbin p m => simp [openbinM, hw.1, hw.2, onWrite, hwp]

end WriteSide

/-- **multi_remove_acts_on_holder.**  `remove` / `removedir` (and `getsize`, `gettype`, `readbytes`, …) are one
call on the FIRST layer in `iterate_fs` order that has the path — not on the write layer —, ResourceNotFound
when no layer has it; every other layer is untouched.  (Good layers that refine the reference; a path that
does not validate is refused with the reference's class before any layer changes.) -/
theorem multi_remove_acts_on_holder (fuel : Nat) (F : FS State) (hF : RefinesRef F) (s : MState State)
    (hc : s.closed = false) (hg : AllGood s) (op : Op) (p : Str) (hop : op = .remove p ∨ op = .removedir p) :
    MultiFs.step fuel F s op = match validate p with
      | .err e => if order s = [] then (s, .err .ResourceNotFound) else (s, .err e)
      | .ok cs =>
        match (order s).find? (hasAt s cs) with
        | none => (s, .err .ResourceNotFound)
        | some i => callLayer F s i op := by
  rw [step_open fuel F s hc op (by rcases hop with rfl | rfl <;> nofun)]
  rcases hop with rfl | rfl <;> exact onDelegate_eq F hF s hg p _ _

/-- **multi_remove_reveals.**  `remove(p)` of a file held by the first layer `i0` that has the path (so: the
file the user sees) succeeds, deletes it from THAT layer only — and from then on `_delegate(p)` finds the
NEXT layer in `iterate_fs` order that has the path: if there is one, the path still exists afterwards and
shows that layer's resource (`multi_remove_reveals_counterexample` is the instance the reference cannot
follow); if there is none the path is gone, as in the reference. -/
theorem multi_remove_reveals (fuel : Nat) (F : FS State) (hF : RefinesRef F) (s : MState State)
    (hc : s.closed = false) (hg : AllGood s) (p : Str) (cs : List Name) (hv : validate p = .ok cs)
    (pre post : List Nat) (i0 : Nat) (l0 : Layer State) (b : Bytes)
    (hsplit : order s = pre ++ i0 :: post) (hpre : ∀ j ∈ pre, hasAt s cs j = false)
    (hl0 : s.layers[i0]? = some l0) (hb : l0.st.root.get cs = some (.file b)) :
    let r := MultiFs.step fuel F s (.remove p)
    r.2 = .ok .unit ∧
    r.1 = putW s i0 l0 { l0.st with root := l0.st.root.del cs } ∧
    (order r.1).find? (hasAt r.1 cs) = post.find? (hasAt s cs) := by
  have Gl := hg l0 (List.mem_of_getElem? hl0)
  have hne : cs ≠ [] := TreeLemmas.ne_nil_of_file Gl.dir hb
  have hh0 : hasAt s cs i0 = true := by simp [hasAt, hl0, hb]
  have hfind : (order s).find? (hasAt s cs) = some i0 := by
    rw [hsplit, List.find?_append]
    have : pre.find? (hasAt s cs) = none := List.find?_eq_none.2 (fun j hj => by simp [hpre j hj])
    simp [this, hh0]
  have hrm : Ref.step l0.st (.remove p) = ({ l0.st with root := l0.st.root.del cs }, .ok .unit) := by
    rw [QueryLemmas.step_one l0.st _ p Gl.opn rfl (by nofun), hv]
    simp [step1, hne, hb, upd]
  have hstep : MultiFs.step fuel F s (.remove p) = callLayer F s i0 (.remove p) := by
    rw [multi_remove_acts_on_holder fuel F hF s hc hg _ p (Or.inl rfl), hv]
    simp only [hfind]
  have hcall : callLayer F s i0 (.remove p) = (putW s i0 l0 { l0.st with root := l0.st.root.del cs }, .ok .unit) := by
    rcases callLayer_cases F hF s hg i0 l0 hl0 (.remove p) rfl with ⟨_, h⟩ | ⟨e, _, hr, _, _⟩
    · rw [h, hrm]; rfl
    · rw [hrm] at hr; exact absurd (congrArg Prod.snd hr) (by simp)
  simp only
  rw [hstep, hcall]
  refine ⟨rfl, rfl, ?_⟩
  have hgone : (l0.st.root.del cs).get cs = none := by
    have := TreeLemmas.get_del_append cs [] l0.st.root hne Gl.wf
    simpa using this
  have hnd := order_nodup s
  rw [hsplit] at hnd
  obtain ⟨_, hnd2, hnd3⟩ := List.nodup_append.1 hnd
  have hi0 : hasAt (putW s i0 l0 { l0.st with root := l0.st.root.del cs }) cs i0 = false := by
    rw [hasAt_eq, nodeAt_putW i0 l0 _ hl0 cs i0]; simp [hgone]
  rw [(putW_cfg i0 l0 _ hl0).order, hsplit, List.find?_append, List.find?_cons, hi0,
    find?_putW i0 l0 _ hl0 cs pre (fun h => hnd3 i0 h i0 List.mem_cons_self rfl),
    find?_putW i0 l0 _ hl0 cs post (List.nodup_cons.1 hnd2).1,
    List.find?_eq_none.2 (fun j hj => by simp [hpre j hj])]
  rfl

/-! ## when a mutator DOES coincide with the reference on the overlay: unshadowed paths -/

/-- the path is refused by validation, or goes through a top-level name that no layer other than the write
layer (position `w`) holds — decidable -/
def unshadowedPath (s : MState State) (w : Nat) (p : Str) : Bool :=
  match validate p with
  | .err _ => true
  | .ok [] => false
  | .ok (c :: _) => (List.range s.layers.length).all fun j => j == w || !(hasAt s [c] j)

/-- **the side condition**: there is a write layer and every path argument is unshadowed (the same
predicate as `unshadowed` in harness/props/_multiexact.py) -/
def unshadowed (s : MState State) (op : Op) : Bool :=
  match writePos s with
  | none => false
  | some w => op.paths.all (unshadowedPath s w)

theorem onlyW_of_unshadowedPath {s : MState State} {w : Nat} {p : Str} (h : unshadowedPath s w p = true)
    {c : Name} {rest : List Name} (hv : validate p = .ok (c :: rest)) : OnlyW s w c := by
  intro j hj
  unfold unshadowedPath at h
  rw [hv] at h
  simp only [List.all_eq_true, List.mem_range, Bool.or_eq_true, beq_iff_eq, Bool.not_eq_eq_eq_not, Bool.not_true] at h
  by_cases hlt : j < s.layers.length
  · rcases h j hlt with h' | h'
    · exact absurd h' hj
    · exact h'
  · simp [hasAt, List.getElem?_eq_none (Nat.le_of_not_lt hlt)]

/-- the one-path mutators (one call on one layer; `create` / `touch`: `exists`, then a call on the write layer) -/
def simpleMutator : Op → Bool
  | .makedir _ _ | .makedirs _ _ | .writebytes _ _ | .appendbytes _ _ | .settimes _ | .remove _ | .removedir _
  | .create _ _ | .touch _ => true
  | .openbin _ m => Route.modeOk m && Route.checkWritable m
  | _ => false

theorem simpleMutator_plain {op : Op} (hm : simpleMutator op = true) :
    op ≠ .close ∧ RouteSpec.isQuery op = false ∧ walker op = false := by
  refine ⟨fun h => (by subst h; cases hm), ?_, by cases op <;> first | rfl | cases hm⟩
  -- `openbin` is left: a mode that writes
  cases op <;> first | rfl | cases hm | skip
  simp only [simpleMutator, Bool.and_eq_true] at hm
  simpa only [RouteLemmas.isQuery_openbin, Bool.not_eq_false'] using hm.2

/-- **multi_mutators_refine_when_unshadowed.**  On a stack of good, type-consistent layers with a write layer `w`, a
mutating operation that does not walk, each of whose path arguments is `unshadowed` (refused by validation, or a
non-root path whose first component is held by no other layer), coincides with `Ref.step` on the overlay:
same verdict; on success the same value, the write layer makes the reference's step on its own tree, no
other layer changes, and the new overlay shows at every path what the reference's resulting tree shows
(`ObsEq`: names, types, bytes — the entry ORDER of a new top-level name is the write layer's position in
`iterate_fs`, not "last"); on failure nothing changes and the class is admissible for the overlay.

The operations: `makedir`, `makedirs`, `writebytes`, `appendbytes`, `settimes`, `openbin` in every writing mode (one
call on the write layer), `remove`, `removedir` (one call on the layer that has the path — here necessarily the write
layer), `create`, `touch` (`exists` through the overlay, then `open(…, "wb")` / `setinfo` on the write layer), `move`,
`copy` (`exists` / `getinfo` / `readbytes` through the overlay, then `writebytes` on the write layer and, for `move`,
`remove`).  The proof has two halves: routing (`MultiFsLemmas.lsim_step`: the method acts on the write layer as the
reference acts on that layer's own tree) and the locality of the reference (`MultiFsLemmas.step_local`: an operation on
`c/…` sees and changes only the top-level entry `c`, and under an unshadowed name the overlay IS the write layer's
entry, `overlay_top`); `usim_of_lsim` puts them together (`MultiFsLemmas.unshadowed_step`).
Not covered: the three walkers `removetree`, `movedir`, `copydir`; on unshadowed paths they are checked against
`Ref.step` on the overlay of the real stacks by the `unshadowed` oracle of the harness only (found_input=True). -/
theorem multi_mutators_refine_when_unshadowed (fuel : Nat) (F : FS State) (hF : RefinesRef F)
    (s : MState State) (hc : s.closed = false) (hne : s.layers ≠ []) (hg : AllGood s) (hcons : Consistent s)
    (w : Nat) (lw : Layer State) (hwp : writePos s = some w) (hl : s.layers[w]? = some lw)
    (op : Op) (hop : op ≠ .close) (hq : RouteSpec.isQuery op = false) (hwk : walker op = false)
    (hu : unshadowed s op = true) :
    let r := MultiFs.step fuel F s op
    let ref := Ref.step (overlay s) op
    (r.2.isOk = ref.2.isOk) ∧
    (ref.2.isOk = true →
      r.2 = ref.2 ∧ r.1 = putW s w lw (Ref.step lw.st op).1 ∧ ObsEq (overlay r.1).root ref.1.root) ∧
    (∀ e, r.2 = .err e → r.1 = s ∧ e ∈ adm (overlay s) op) := by
  show USim s w lw op (MultiFs.step fuel F s op)
  refine unshadowed_step fuel F hF ⟨hc, hne, hg, hcons⟩ ⟨hc, hg, hl, hwp⟩ op hop hq hwk fun p hp cs hv => ?_
  simp only [unshadowed, hwp, List.all_eq_true] at hu
  cases cs with
  | nil => simpa [unshadowedPath, hv] using hu p hp
  | cons c rest => exact ⟨c, rest, rfl, onlyW_of_unshadowedPath (hu p hp) hv⟩

/-- **multi_mutators_refine_when_unshadowed_partial.**  `multi_mutators_refine_when_unshadowed` for the one-path
mutators (`simpleMutator`: all of its operations but `move` and `copy`). -/
theorem multi_mutators_refine_when_unshadowed_partial (fuel : Nat) (F : FS State) (hF : RefinesRef F)
    (s : MState State) (hc : s.closed = false) (hne : s.layers ≠ []) (hg : AllGood s) (hcons : Consistent s)
    (w : Nat) (lw : Layer State) (hwp : writePos s = some w) (hl : s.layers[w]? = some lw)
    (op : Op) (hm : simpleMutator op = true) (hu : unshadowed s op = true) :
    let r := MultiFs.step fuel F s op
    let ref := Ref.step (overlay s) op
    (r.2.isOk = ref.2.isOk) ∧
    (ref.2.isOk = true →
      r.2 = ref.2 ∧ r.1 = putW s w lw (Ref.step lw.st op).1 ∧ ObsEq (overlay r.1).root ref.1.root) ∧
    (∀ e, r.2 = .err e → r.1 = s ∧ e ∈ adm (overlay s) op) := by
  obtain ⟨hop, hq, hwk⟩ := simpleMutator_plain hm
  exact multi_mutators_refine_when_unshadowed fuel F hF s hc hne hg hcons w lw hwp hl op hop hq hwk hu

/-- non-vacuity of the side condition: a read-only layer on top, the write layer below, a path under a
name only the write layer holds — and what `unshadowed` rules out -/
example :
    let s : MState State := { layers := [⟨"w".toList, 0, 0, ⟨.dir [("mine".toList, .dir [])], false⟩⟩,
                                          ⟨"ro".toList, 1, 1, ⟨.dir [("theirs".toList, .dir [])], false⟩⟩],
                              writeIdx := some 0, sortIndex := 2, closed := false, autoClose := true }
    unshadowed s (.writebytes "mine/f".toList [1]) = true ∧ unshadowed s (.makedir "new".toList false) = true ∧
    unshadowed s (.writebytes "theirs/f".toList [1]) = false ∧ unshadowed s (.remove "/".toList) = false := by
  decide +kernel

/-! ## concrete stacks (witnesses; every one of them is replayed on the real MultiFS by the directed
corpus of `harness/props/_multiexact.py`) -/

/-- a reference layer -/
def lay (name : String) (prio : Int) (idx : Nat) (es : Ents) : Layer State :=
  ⟨name.toList, prio, idx, ⟨.dir es, false⟩⟩
/-- a stack; `w` = insertion index of the write layer -/
def stack (ls : List (Layer State)) (w : Option Nat) : MState State :=
  { layers := ls, writeIdx := w, sortIndex := ls.length, closed := false, autoClose := true }
def fl (n : String) (b : Bytes) : Name × Node := (n.toList, .file b)
def dr (n : String) (es : Ents) : Name × Node := (n.toList, .dir es)
/-- what the user sees after the call, through the reference's own queries on the overlay -/
def see (r : MState State × Out) (p : String) : Out := (Ref.step (overlay r.1) (.readbytes p.toList)).2
def has (r : MState State × Out) (p : String) : Out := (Ref.step (overlay r.1) (.exists_ p.toList)).2
/-- the reference's call on the overlay tree, and what is seen afterwards -/
def ref (s : MState State) (op : Op) : State × Out := Ref.step (overlay s) op
def rsee (r : State × Out) (p : String) : Out := (Ref.step r.1 (.readbytes p.toList)).2
def rhas (r : State × Out) (p : String) : Out := (Ref.step r.1 (.exists_ p.toList)).2
/-- one MultiFS call over reference layers -/
def call (s : MState State) (op : Op) : MState State × Out := MultiFs.step 16 Ref.step s op
/-- a read-only layer (priority 1) over the write layer (priority 0) -/
def roOverW (hi lo : Ents) : MState State := stack [lay "w" 0 0 lo, lay "ro" 1 1 hi] (some 0)
/-- the write layer (priority 1) over a read-only layer (priority 0) -/
def wOverRo (hi lo : Ents) : MState State := stack [lay "ro" 0 0 lo, lay "w" 1 1 hi] (some 1)

/-! ### mutators on a stack are NOT transparent on the overlay — one decided witness per rule.
Verdict for all of them against the text of C01 ("MultiFS with a write layer … the same observable tree as
the reference"): DOCUMENTED LIMIT, not a finding.  A MultiFS is a union view without copy-up
(docs/source/reference/multifs.rst: "the directory structure of each overlays the previous filesystem");
as soon as a layer other than the write layer holds or shadows the path, no assignment of the call to
one layer can make the union behave like one plain tree.  What C01 covers is the write layer alone
(`multi_single_write_layer_refines_partial`, `BaseWalkLaws.multi_single_write_layer_refines`) and the mutators that
do not walk, on unshadowed paths (`multi_mutators_refine_when_unshadowed`).  No witness below is an
inconsistency WITHIN the write layer. -/

/-- `remove` acts on the layer that HAS the file (here the read-only one!) and reveals the file of the
same name below it: the call succeeds and the path still exists, with the lower content -/
theorem multi_remove_reveals_counterexample :
    let s := roOverW [fl "f" [1]] [fl "f" [2]]
    let r := call s (.remove "f".toList)
    r.2 = .ok .unit ∧ see r "f" = .ok (.bytes [2]) ∧
    (ref s (.remove "f".toList)).2 = .ok .unit ∧ rhas (ref s (.remove "f".toList)) "f" = .ok (.bool false) := by
  decide +kernel

/-- writing a path a higher read-only layer has: the write layer gets the data, the user still reads
the old content -/
theorem multi_write_shadowed_counterexample :
    let s := roOverW [fl "c" [1]] []
    let r := call s (.writebytes "c".toList [9])
    r.2 = .ok .unit ∧ see r "c" = .ok (.bytes [1]) ∧ rsee (ref s (.writebytes "c".toList [9])) "c" = .ok (.bytes [9]) := by
  decide +kernel

/-- appending (and `openbin(…, "a")` / `"r+"`) to a file that lives in a read layer below: a NEW file is
created in the write layer with the appended data only (no copy-up) -/
theorem multi_append_read_layer_counterexample :
    let s := wOverRo [] [fl "c" [1]]
    let r := call s (.appendbytes "c".toList [9])
    r.2 = .ok .unit ∧ see r "c" = .ok (.bytes [9]) ∧
    rsee (ref s (.appendbytes "c".toList [9])) "c" = .ok (.bytes [1, 9]) ∧
    (call s (.openbin "c".toList "r+".toList)).2 = .err .ResourceNotFound ∧
    (ref s (.openbin "c".toList "r+".toList)).2 = .ok .unit := by
  decide +kernel

/-- writing below a directory that exists only in a read layer: the write layer has no such parent -/
theorem multi_write_below_read_dir_counterexample :
    let s := wOverRo [] [dr "a" []]
    (call s (.writebytes "a/g".toList [9])).2 = .err .ResourceNotFound ∧
    (ref s (.writebytes "a/g".toList [9])).2 = .ok .unit ∧
    (call s (.makedir "a/n".toList false)).2 = .err .ResourceNotFound ∧
    (ref s (.makedir "a/n".toList false)).2 = .ok .unit := by
  decide +kernel

/-- `touch` / `settimes` of a file in a read layer: `exists` says yes (overlay), `setinfo` goes to the write
layer, which does not have it -/
theorem multi_touch_read_layer_counterexample :
    let s := wOverRo [] [fl "c" [1]]
    (call s (.touch "c".toList)).2 = .err .ResourceNotFound ∧ (ref s (.touch "c".toList)).2 = .ok .unit ∧
    (call s (.settimes "c".toList)).2 = .err .ResourceNotFound ∧ (ref s (.settimes "c".toList)).2 = .ok .unit := by
  decide +kernel

/-- `makedir` / `makedirs` of a directory a read layer already has: created (again) in the write layer
instead of DirectoryExists -/
theorem multi_makedir_read_layer_counterexample :
    let s := wOverRo [] [dr "d" [fl "x" [1]]]
    (call s (.makedir "d".toList false)).2 = .ok .unit ∧ (ref s (.makedir "d".toList false)).2 = .err .DirectoryExists ∧
    (call s (.makedirs "d".toList false)).2 = .ok .unit ∧ (ref s (.makedirs "d".toList false)).2 = .err .DirectoryExists ∧
    see (call s (.makedir "d".toList false)) "d/x" = .ok (.bytes [1]) := by
  decide +kernel

/-- `removedir` asks only the highest layer that has the directory: empty THERE is enough, and the
directory (with the lower content) is still there afterwards -/
theorem multi_removedir_counterexample :
    let s := roOverW [dr "d" []] [dr "d" [fl "x" [1]]]
    let r := call s (.removedir "d".toList)
    r.2 = .ok .unit ∧ see r "d/x" = .ok (.bytes [1]) ∧ (ref s (.removedir "d".toList)).2 = .err .DirectoryNotEmpty := by
  decide +kernel

/-- `removetree` walks the union once: of every name it removes the highest copy, so shadowed files and
the directories holding them survive -/
theorem multi_removetree_counterexample :
    let s := roOverW [dr "a" [fl "f" [1]]] [dr "a" [fl "f" [2], fl "g" [3]]]
    let r := call s (.removetree "/".toList)
    r.2 = .ok .unit ∧ see r "a/f" = .ok (.bytes [2]) ∧ has r "a/g" = .ok (.bool false) ∧
    rhas (ref s (.removetree "/".toList)) "a" = .ok (.bool false) := by
  decide +kernel

/-- `move` reads through the overlay, writes to the write layer and removes from the layer that has the
source — here the read-only one, revealing the write layer's own file of that name -/
theorem multi_move_counterexample :
    let s := roOverW [fl "c" [1]] [fl "c" [2]]
    let r := call s (.move "c".toList "n".toList true)
    r.2 = .ok .unit ∧ see r "n" = .ok (.bytes [1]) ∧ see r "c" = .ok (.bytes [2]) ∧
    rhas (ref s (.move "c".toList "n".toList true)) "c" = .ok (.bool false) := by
  decide +kernel

/-- `movedir`: the copy lands in the write layer, then `removetree(src)` leaves what was shadowed -/
theorem multi_movedir_counterexample :
    let s := roOverW [dr "a" [fl "f" [1]]] [dr "a" [fl "f" [2]]]
    let r := call s (.movedir "a".toList "e".toList true)
    r.2 = .ok .unit ∧ see r "e/f" = .ok (.bytes [1]) ∧ see r "a/f" = .ok (.bytes [2]) ∧
    rhas (ref s (.movedir "a".toList "e".toList true)) "a" = .ok (.bool false) := by
  decide +kernel

/-- without a write layer `remove` still removes — from a layer nobody declared writable (the creating
calls raise ResourceReadOnly: `multi_no_write_layer_read_only`) -/
theorem multi_remove_without_write_layer_counterexample :
    let s := stack [lay "a" 0 0 [fl "c" [1]]] none
    let r := call s (.remove "c".toList)
    r.2 = .ok .unit ∧ has r "c" = .ok (.bool false) ∧ (call s (.writebytes "n".toList [])).2 = .err .ResourceReadOnly := by
  decide +kernel

/-! ### the read side without type consistency -/

/-- a FILE over a DIRECTORY of the same name: `isfile k`, yet `exists k/inner` and `readbytes k/inner/x`
answer from the lower layer — no tree shows that; `listdir k` is DirectoryExpected.  (On `overlay` the
file wins and hides everything below it.)  This is the `k` of the `multi2` backend. -/
theorem multi_file_over_dir_counterexample :
    let s := roOverW [fl "k" [7]] [dr "k" [dr "inner" [fl "x" [1]]]]
    (call s (.isfile "k".toList)).2 = .ok (.bool true) ∧
    (call s (.exists_ "k/inner".toList)).2 = .ok (.bool true) ∧
    (call s (.readbytes "k/inner/x".toList)).2 = .ok (.bytes [1]) ∧
    (call s (.listdir "k".toList)).2 = .err .DirectoryExpected ∧
    (ref s (.exists_ "k/inner".toList)).2 = .ok (.bool false) := by
  decide +kernel

/-- a DIRECTORY over a FILE over a DIRECTORY: the listing is the union of the two directories, the file
in between is skipped (the `DirectoryExpected` rule of `listLoop`: /repo 8405cc0) — `overlay` (a right fold) stops
at the file -/
theorem multi_dir_file_dir_counterexample :
    let s := stack [lay "lo" 0 0 [dr "j" [fl "x" [1]]], lay "mid" 1 1 [fl "j" [2]], lay "hi" 2 2 [dr "j" [fl "y" [3]]]] none
    (call s (.listdir "j".toList)).2 = .ok (.names ["y".toList, "x".toList]) ∧
    (ref s (.listdir "j".toList)).2 = .ok (.names ["y".toList]) := by
  decide +kernel

/-- a MultiFS without layers shows no root at all -/
theorem multi_no_layers_counterexample :
    let s := stack [] none
    (call s (.exists_ "/".toList)).2 = .ok (.bool false) ∧ (call s (.listdir "/".toList)).2 = .err .ResourceNotFound ∧
    (ref s (.exists_ "/".toList)).2 = .ok (.bool true) := by
  decide +kernel

/-- `FS.removetree` starts with `validatepath`, i.e. with `check()` (/repo 433aea4): on a closed MultiFS
`removetree("..")` is FilesystemClosed, as in the reference — not the IllegalBackReference that normalising the argument
before looking at the flag would give -/
theorem multi_closed_removetree_class_repaired :
    let s : MState State := { stack [lay "w" 0 0 []] (some 0) with closed := true }
    (call s (.removetree "..".toList)).2 = .err .FilesystemClosed ∧
    (ref s (.removetree "..".toList)).2 = .err .FilesystemClosed ∧
    (call s (.removetree "a".toList)).2 = .err .FilesystemClosed := by
  decide +kernel

/-! ### non-vacuity: the order of `iterate_fs`, shadowing, the bulk defaults on a single write layer -/

/-- priorities descending, then latest added first; the listing is the de-duplicated union in that order -/
example :
    let s := stack [lay "x" 0 0 [fl "c" [1], fl "x" []], lay "w" 0 1 [fl "c" [2]], lay "y" 0 2 [fl "c" [3], fl "y" []],
                    lay "top" 5 3 [fl "t" []]] (some 1)
    order s = [3, 2, 1, 0] ∧ (call s (.readbytes "c".toList)).2 = .ok (.bytes [3]) ∧
    (call s (.listdir "/".toList)).2 = .ok (.names ["t".toList, "c".toList, "y".toList, "x".toList]) ∧
    (ref s (.listdir "/".toList)).2 = .ok (.names ["t".toList, "c".toList, "y".toList, "x".toList]) := by
  decide +kernel

/-- the walker-based defaults on ONE write layer (the `multi` backend) agree with the reference on a
concrete tree (they are outside `multi_single_write_layer_refines_partial`; the statement that includes them is
`BaseWalkLaws.multi_single_write_layer_refines`) -/
example :
    let t : Ents := [dr "a" [fl "f" [1], dr "b" [fl "g" [2]]], fl "c" [3]]
    let s := stack [lay "w" 0 0 t] (some 0)
    (call s (.copydir "a".toList "e".toList true)).2 = .ok .unit ∧
    see (call s (.copydir "a".toList "e".toList true)) "e/b/g" = .ok (.bytes [2]) ∧
    rsee (ref s (.copydir "a".toList "e".toList true)) "e/b/g" = .ok (.bytes [2]) ∧
    has (call s (.movedir "a".toList "e".toList true)) "a" = .ok (.bool false) ∧
    see (call s (.movedir "a".toList "e".toList true)) "e/f" = .ok (.bytes [1]) ∧
    has (call s (.removetree "a".toList)) "a" = .ok (.bool false) ∧
    see (call s (.removetree "a".toList)) "c" = .ok (.bytes [3]) := by
  decide +kernel

end Fs.MultiRefines
