/-
  C12Gen — the headline C12 theorems restated over the definitions GENERATED from fs/path.py
  (`Fs.PathGen.*`), by rewriting with the equalities of `FsProofs/PathGenEq.lean`.
  Whatever `FsProofs/C12.lean` proves about the hand transcription therefore holds of the code
  the translator read on this run (modulo the translator and the PyStr primitives, see
  design.d/PATHGEN.md).  Generated functions that contain a partial Python operation return `Res`;
  the statements below say `.ok …` for them.
-/
import FsProofs.C12
import FsProofs.PathGenEq

namespace Fs.C12Gen
open Fs Fs.Path Fs.PathSpec Fs.PathLemmas Fs.PathGenEq
open Fs.C12 (mk)

/-! ## normpath -/

/-- generated normpath = component-wise resolution (fast path included) -/
theorem normpath_eq_spec (p : Str) : PathGen.normpath p = specNorm p := by
  rw [normpath_eq]; exact C12.normpath_eq_spec p

/-- IllegalBackReference exactly when the resolution climbs above the start -/
theorem normpath_err_iff_climbs (p : Str) :
    PathGen.normpath p = .err .IllegalBackReference ↔ climbs (splitSlash p) := by
  rw [normpath_eq]; exact C12.normpath_err_iff_climbs p

theorem normpath_err_only_backref (p : Str) (e : Err) (h : PathGen.normpath p = .err e) :
    e = .IllegalBackReference := by
  rw [normpath_eq] at h; exact C12.normpath_err_only_backref p e h

/-- the result has no `.`, `..` or empty component -/
theorem normpath_clean (p q : Str) (h : PathGen.normpath p = .ok q) :
    ∃ cs, Clean cs ∧ q = mk (startsWithSlash p) cs := by
  rw [normpath_eq] at h; exact C12.normpath_clean p q h

theorem normpath_idem (p q : Str) (h : PathGen.normpath p = .ok q) : PathGen.normpath q = .ok q := by
  rw [normpath_eq] at h ⊢; exact C12.normpath_idem p q h

/-- fixed points of the generated normpath are exactly the joins of clean components -/
theorem norm_iff_clean (q : Str) : PathGen.normpath q = .ok q ↔ ∃ a cs, Clean cs ∧ q = mk a cs := by
  rw [normpath_eq]; exact C12.norm_iff_clean q

/-! ## inverses on normalised paths -/

theorem iteratepath_mk (a : Bool) (cs : List Str) (h : Clean cs) :
    PathGen.iteratepath (mk a cs) = .ok cs := by
  rw [iteratepath_eq]; exact C12.iteratepath_mk a cs h

theorem split_mk_snoc (a : Bool) (cs : List Str) (c : Str) (h : Clean (cs ++ [c])) :
    PathGen.split (mk a (cs ++ [c])) =
      .ok (if cs = [] then (if a then ['/'] else []) else mk a cs, c) := by
  rw [split_eq, C12.split_mk_snoc a cs c h]

/-- split then combine is the identity on normalised paths (dirname/basename never raise) -/
theorem combine_dirname_basename (q : Str) (h : PathGen.normpath q = .ok q) :
    ∃ d b, PathGen.dirname q = .ok d ∧ PathGen.basename q = .ok b ∧ PathGen.combine d b = q := by
  rw [normpath_eq] at h
  exact ⟨dirname q, basename q, dirname_eq q, basename_eq q, by
    rw [combine_eq]; exact C12.combine_dirname_basename q h⟩

theorem join_dirname_basename (q : Str) (h : PathGen.normpath q = .ok q) :
    ∃ d b, PathGen.dirname q = .ok d ∧ PathGen.basename q = .ok b ∧ PathGen.join [d, b] = .ok q := by
  rw [normpath_eq] at h
  exact ⟨dirname q, basename q, dirname_eq q, basename_eq q, by
    rw [join_eq]; exact C12.join_dirname_basename q h⟩

theorem recursepath_eq_prefixes (a : Bool) (cs : List Str) (h : Clean cs) :
    PathGen.recursepath (mk a cs) false =
      .ok ((List.range (cs.length + 1)).map fun i => mk true (cs.take i)) := by
  rw [recursepath_eq]; exact C12.recursepath_eq_prefixes a cs h

theorem parts_eq (a : Bool) (cs : List Str) (h : Clean cs) :
    PathGen.parts (mk a cs) = .ok ((if a then ['/'] else ['.', '/']) :: cs) := by
  rw [PathGenEq.parts_eq]; exact C12.parts_eq a cs h

/-! ## whole-component comparisons -/

theorem isbase_iff_component_prefix (a b : Bool) (as bs : List Str) (ha : Clean as) (hb : Clean bs) :
    PathGen.isbase (mk a as) (mk b bs) = true ↔ as <+: bs := by
  rw [isbase_eq]; exact C12.isbase_iff_component_prefix a b as bs ha hb

/-- `/ab` is not below `/a`: the comparison is on whole components, not on raw string prefixes -/
theorem not_isbase_sibling_prefix : PathGen.isbase ['/', 'a'] ['/', 'a', 'b'] = false := by
  rw [isbase_eq]; exact C12.not_isbase_sibling_prefix

theorem isparent_iff_component_prefix (a : Bool) (as bs : List Str) (ha : Clean as) (hb : Clean bs) :
    PathGen.isparent (mk a as) (mk a bs) = .ok true ↔ as <+: bs := by
  rw [isparent_eq, ← C12.isparent_iff_component_prefix a as bs ha hb]
  constructor
  · intro h; injection h
  · intro h; rw [h]

theorem not_isparent_sibling_prefix : PathGen.isparent ['/', 'a'] ['/', 'a', 'b'] = .ok false := by
  rw [isparent_eq, C12.not_isparent_sibling_prefix]

theorem frombase_append (a : Bool) (as bs : List Str) (ha : Clean as) (hb : Clean bs)
    (hp : as <+: bs) : ∃ r, PathGen.frombase (mk a as) (mk a bs) = .ok r ∧ mk a as ++ r = mk a bs := by
  rw [frombase_eq]; exact C12.frombase_append a as bs ha hb hp

theorem frombase_rejects (a : Bool) (as bs : List Str) (ha : Clean as) (hb : Clean bs)
    (hp : ¬ as <+: bs) : PathGen.frombase (mk a as) (mk a bs) = .err .ValueError := by
  rw [frombase_eq]; exact C12.frombase_rejects a as bs ha hb hp

theorem frombase_whole_components (a b : Bool) (as bs : List Str) (ha : Clean as) (hb : Clean bs)
    (r : Str) (h : PathGen.frombase (mk a as) (mk b bs) = .ok r) :
    as <+: bs ∧ comps r = bs.drop as.length := by
  rw [frombase_eq] at h; exact C12.frombase_whole_components a b as bs ha hb r h

theorem relativefrom_resolves (a b : Bool) (as bs : List Str) (ha : Clean as) (hb : Clean bs) :
    ∃ r, PathGen.relativefrom (mk a as) (mk b bs) = .ok r ∧ resolve (as ++ splitSlash r) = some bs := by
  rw [relativefrom_eq]; exact C12.relativefrom_resolves a b as bs ha hb

theorem issamedir_iff_init_eq (a : Bool) (as bs : List Str) (ha : Clean as) (hb : Clean bs)
    (hna : as ≠ []) (hnb : bs ≠ []) :
    PathGen.issamedir (mk a as) (mk a bs) = .ok (decide (as.dropLast = bs.dropLast)) := by
  rw [issamedir_eq]; exact C12.issamedir_iff_init_eq a as bs ha hb hna hnb

/-! ## non-vacuity: the generated definitions compute -/

example : PathGen.normpath "/foo//bar/../a.b/".toList = .ok "/foo/a.b".toList := by decide +kernel
example : PathGen.normpath "foo/../../bar".toList = .err .IllegalBackReference := by decide +kernel
example : PathGen.recursepath "a/b".toList = .ok ["/".toList, "/a".toList, "/a/b".toList] := by decide +kernel
example : PathGen.isparent "foo/bar/".toList "foo/bar".toList = .ok true := by decide +kernel
example : PathGen.frombase "/".toList "foo".toList = .ok "foo".toList := by decide +kernel

end Fs.C12Gen
