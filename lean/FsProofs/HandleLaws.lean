/-
  HandleLaws — laws of the reference semantics with OPEN HANDLES (FsModel/Handles.lean):
  file objects kept open across other filesystem calls, several handles on one file, files
  removed / moved / overwritten while open.  Extends C01 (one reference semantics) and C16 (file
  objects behave like Python io files) to histories in which the two interleave.

  Defines what some statements speak of: `flatten`, `callsOn`, `traceOn`, `undisturbed`.
-/
import FsProofs.Lemmas.HandleRun
import FsProofs.Lemmas.FileLemmas

namespace Fs.HandleLaws
open Fs Fs.File Fs.Handles Fs.HandleLemmas Fs.TreeLemmas

/-! ## (0) the invariant of the tables -/

/-- a fresh state over a well-formed directory tree is well-formed -/
theorem wf_init (t : Node) (hd : t.isDir = true) (hw : t.wf = true) : WF (HState.init t) :=
  ⟨hd, hw, by intro cs h; simp [HState.init] at h, by simp [HState.init], by intro h hh; simp [HState.init] at hh⟩

/-- EVERY operation — filesystem call, open, file-object call — preserves the invariant `WF`, under
either `movedir` variant. -/
theorem wf_preserved (impl : MovedirImpl) (s : HState) (op : HOp) (h : WF s) : WF (step impl s op).1 := by
  cases op with
  | tree op => exact wf_treeStep impl h op
  | open_ p m => exact wf_openStep h p m
  | file hid op => exact wf_fileStep h hid op

theorem wf_run (impl : MovedirImpl) (s : HState) (ops : List HOp) (h : WF s) : WF (run impl s ops).1 := by
  induction ops generalizing s with
  | nil => exact h
  | cons op ops ih => exact ih _ (wf_preserved impl s op h)

example : WF (run .rename (HState.init (.dir [("f".toList, .file [1])]))
    [.open_ "f".toList "r+".toList, .tree (.remove "f".toList), .file 0 (.write [2])]).1 :=
  wf_run _ _ _ (wf_init _ rfl rfl)

/-- the executable check the driver reports (`wf=`) is the invariant -/
theorem wf_bool_iff (s : HState) : s.wf = true ↔ WF s := by
  simp only [HState.wf, Bool.and_eq_true, List.all_eq_true, nodupB_iff, decide_eq_true_eq]
  constructor
  · rintro ⟨⟨⟨⟨h1, h2⟩, h3⟩, h4⟩, h5⟩
    refine ⟨h1, h2, ?_, h4, h5⟩
    intro cs hcs
    have := h3 _ hcs
    simp only [Bool.and_eq_true, Bool.not_eq_eq_eq_not, Bool.not_true, List.isEmpty_eq_false_iff] at this
    exact ⟨this.1, (Option.isSome_iff_exists.1 this.2).imp fun _ hb => fileAt_eq_some.1 hb⟩
  · intro h
    refine ⟨⟨⟨⟨h.root_dir, h.tree_wf⟩, ?_⟩, h.links_nodup⟩, h.handle_ino⟩
    intro l hl
    cases l with
    | unlinked b => rfl
    | linked cs =>
      obtain ⟨hne, b, hb⟩ := h.linked_file cs hl
      simp only [Bool.and_eq_true, Bool.not_eq_eq_eq_not, Bool.not_true, List.isEmpty_eq_false_iff]
      exact ⟨hne, by rw [fileAt_eq_some.2 hb]; rfl⟩

/-! ## (a) without handles kept open the model IS the reference -/

/-- a filesystem call: verdict, value and tree are `Ref.step`'s — in EVERY state, whatever handles
are open — and no handle is touched -/
theorem tree_calls_refine_ref (impl : MovedirImpl) (s : HState) (op : Ref.Op) :
    forget (treeStep impl s op).1 = (Ref.step (forget s) op).1 ∧
    (treeStep impl s op).2 = .tree (Ref.step (forget s) op).2 ∧
    (treeStep impl s op).1.handles = s.handles := ⟨rfl, rfl, rfl⟩

/-- a history of filesystem calls only is `Ref.run` (the C01 theorems are this special case) -/
theorem tree_history_refines_ref (impl : MovedirImpl) (s : HState) (ops : List Ref.Op) :
    forget (run impl s (ops.map .tree)).1 = (Ref.run (forget s) ops).1 ∧
    (run impl s (ops.map .tree)).2 = (Ref.run (forget s) ops).2.map (fun o => (.tree o, none)) := by
  induction ops generalizing s with
  | nil => exact ⟨rfl, rfl⟩
  | cons op ops ih =>
    obtain ⟨h1, h2⟩ := ih (treeStep impl s op).1
    simp only [List.map_cons, run, step, Ref.run]
    exact ⟨h1, by rw [h2]; rfl⟩

/-- ONE CLOSED SESSION — `open`, any file-object calls on the handle it returned, `close` — executed from
ANY state (whatever other handles exist) is, under `forget`, the reference's single call that opens,
uses and closes the file inside the call (`refSession`: `Ref.step openbin`, then the `IoRef` session on
the file's bytes, final bytes stored back): same tree, same open verdict, same result and `tell()` of
every call; and it leaves no handle open that was not open before. -/
theorem session_refines_ref (impl : MovedirImpl) (s : HState) (p mode : Str) (calls : List File.Op) :
    forget (run impl s ((Item.session p mode calls).flat s.handles.length)).1 =
        (refSession (forget s) p mode calls).1 ∧
    itemObs (.session p mode calls) (run impl s ((Item.session p mode calls).flat s.handles.length)).2 =
        some (.session (refSession (forget s) p mode calls).2) ∧
    (run impl s ((Item.session p mode calls).flat s.handles.length)).1.allClosed = s.allClosed := by
  rw [session_flat]
  have hbad : s.handles[s.handles.length]? = none := by simp
  simp only [run, step, forget]
  cases hr : Ref.step s.fs (.openbin p mode) with
  | mk fs' out =>
    cases out with
    | err e =>
      rw [openStep_err hr, run_file_calls_bad impl _ _ s hbad]
      have hrs : refSession s.fs p mode calls = (s.fs, .err e) := by simp only [refSession, hr]
      rw [hrs]
      exact ⟨rfl, rfl, rfl⟩
    | ok v =>
      obtain ⟨cs, hv, hne, b, hb⟩ := openbin_ok_file hr
      rw [openStep_ok hr hv]
      have hfa : fileAt fs'.root cs = some b := fileAt_eq_some.2 hb
      -- the state after `open`: the new handle is on the inode linked at `cs`, whose bytes are `b`
      have hi : (⟨fs', (intern s.inodes cs).1, s.handles ++ [newHandle s fs' cs mode]⟩ : HState).inodes[
          (newHandle s fs' cs mode).ino]? = some (.linked cs) := intern_getElem? s.inodes cs
      have hok : inoOk ⟨fs', (intern s.inodes cs).1, s.handles ++ [newHandle s fs' cs mode]⟩ (newHandle s fs' cs mode).ino := by
        unfold inoOk; rw [hi]; exact ⟨hne, b, hb⟩
      rw [run_file_calls impl _ _ _ _ List.getElem?_concat_length hok, inoBytes_linked hi hb, setInoBytes_linked _ hi hb]
      simp only [refSession, hr, hv, runFrom_final]
      refine ⟨?_, ?_, ?_⟩
      · simp [newHandle, hfa]
      · simp only [itemObs, mapM_fileObs, Option.map_some, newHandle, hfa, Option.getD_some]
      · simp only [HState.allClosed, allClosed_append_set, ioRun_close_closed, Bool.and_true]

/-- `refSession` is adequate (1): the reference's own `openbin` step IS the session without calls -/
theorem openbin_is_session (st : Ref.State) (p mode : Str) :
    (refSession st p mode []).1 = (Ref.step st (.openbin p mode)).1 ∧
    (refSession st p mode []).2.isOk = (Ref.step st (.openbin p mode)).2.isOk := by
  cases hr : Ref.step st (.openbin p mode) with
  | mk st' out =>
    cases out with
    | err e =>
      have hst : st' = st := by
        have := QueryLemmas.step_err_state (e := e) (congrArg Prod.snd hr)
        rwa [hr] at this
      subst hst
      simp only [refSession, hr]
      exact ⟨trivial, rfl⟩
    | ok v =>
      obtain ⟨cs, hv, _, b, hb⟩ := openbin_ok_file hr
      have hfa : fileAt st'.root cs = some b := fileAt_eq_some.2 hb
      have hfin : ∀ fl pos, (IoRef.runFrom fl ⟨b, pos, false⟩ ([] ++ [File.Op.close])).2 = b := fun _ _ => rfl
      simp only [refSession, hr, hv, hfa, Option.getD_some, hfin, set_self cs _ _ hb]
      exact ⟨trivial, rfl⟩

/-- `refSession` is adequate (2): the reference's `writebytes` step IS the session `open(p, "w"); write(d); close()` -/
theorem writebytes_is_session (st : Ref.State) (p : Str) (d : Bytes) :
    (refSession st p ['w'] [.write d]).1 = (Ref.step st (.writebytes p d)).1 ∧
    (refSession st p ['w'] [.write d]).2.isOk = (Ref.step st (.writebytes p d)).2.isOk := by
  have hmode : Ref.parseBinMode ['w'] =
      some { reading := false, writing := true, create := true, truncate := true, exclusive := false, appending := false } := by
    decide +kernel
  have hfin : ∀ d : Bytes, (IoRef.runFrom (Mode.flags ['w']) ⟨[], 0, false⟩ [.write d, File.Op.close]).2 = d := by
    intro d
    cases d with
    | nil => rfl
    | cons x xs => exact List.append_nil (x :: xs)
  by_cases hc : st.closed = true
  · rw [refSession, QueryLemmas.step_closed st (.openbin p ['w']) nofun hc,
      QueryLemmas.step_closed st (.writebytes p d) nofun hc]
    exact ⟨rfl, rfl⟩
  · simp only [Bool.not_eq_true] at hc
    have h1 := QueryLemmas.step_openbin st p ['w'] hc
    have h2 := QueryLemmas.step_one st (.writebytes p d) p hc rfl nofun
    simp only [hmode, Option.isNone_some, Bool.false_eq_true, if_false] at h1
    cases hv : Ref.validate p with
    | err e =>
      simp only [hv] at h1 h2
      simp only [refSession, h1, h2, hv]
      exact ⟨rfl, rfl⟩
    | ok cs =>
      simp only [hv] at h1 h2
      rw [h2]
      simp only [refSession, h1, hv, Ref.step1, Ref.writeFile, hmode]
      by_cases hcs : cs = []
      · simp [hcs, Ref.fail, Res.isOk]
      · cases hpar : st.root.get (Ref.parentOf cs) with
        | none => simp [hcs, Ref.fail, Res.isOk]
        | some pn =>
          cases pn with
          | file _ => simp [hcs, Ref.fail, Res.isOk]
          | dir es =>
            have hset : fileAt (st.root.set cs (.file [])) cs = some [] :=
              fileAt_eq_some.2 (get_set_same cs st.root _ es hcs hpar)
            cases hg : st.root.get cs with
            | none => simp [hcs, Ref.upd, hset, hfin, set_set_same, Res.isOk]
            | some n =>
              cases n with
              | dir _ => simp [hcs, Ref.fail, Res.isOk]
              | file b => simp [hcs, Ref.upd, hset, hfin, set_set_same, Res.isOk]

/-- one item (a filesystem call or a closed session) against the reference -/
theorem item_refines_ref (impl : MovedirImpl) (s : HState) (it : Item) :
    forget (run impl s (it.flat s.handles.length)).1 = (refItem (forget s) it).1 ∧
    itemObs it (run impl s (it.flat s.handles.length)).2 = some (refItem (forget s) it).2 ∧
    (run impl s (it.flat s.handles.length)).1.allClosed = s.allClosed := by
  cases it with
  | tree op => exact ⟨rfl, rfl, rfl⟩
  | session p mode calls => exact session_refines_ref impl s p mode calls

/-- a history in which no handle outlives the call that opened it (filesystem
calls and closed sessions, in any number and order, from ANY state) behaves exactly like the handle-free
reference under `forget`: same final tree and closed flag, and per item the same verdict / value /
results and `tell()`s.  With no session at all this is `Ref.run` (`tree_history_refines_ref`), so the
C01 theorems are the special case. -/
theorem handles_refine_ref (impl : MovedirImpl) (s : HState) (its : List Item) :
    forget (runItems impl s its).1 = (refItems (forget s) its).1 ∧
    (its.zip (runItems impl s its).2).map (fun x => itemObs x.1 x.2) = (refItems (forget s) its).2.map some ∧
    (runItems impl s its).1.allClosed = s.allClosed := by
  induction its generalizing s with
  | nil => exact ⟨rfl, rfl, rfl⟩
  | cons it its ih =>
    obtain ⟨h1, h2, h3⟩ := item_refines_ref impl s it
    obtain ⟨i1, i2, i3⟩ := ih (run impl s (it.flat s.handles.length)).1
    simp only [runItems, refItems]
    refine ⟨?_, ?_, ?_⟩
    · rw [i1, h1]
    · simp only [List.zip_cons_cons, List.map_cons, h2, i2, h1]
    · rw [i3, h3]

/-- the flat handle-level history of a list of items (hids as `run` assigns them) -/
def flatten (impl : MovedirImpl) : HState → List Item → List HOp
  | _, [] => []
  | s, it :: its => it.flat s.handles.length ++ flatten impl (run impl s (it.flat s.handles.length)).1 its

theorem run_flatten (impl : MovedirImpl) (s : HState) (its : List Item) :
    (run impl s (flatten impl s its)).1 = (runItems impl s its).1 := by
  induction its generalizing s with
  | nil => rfl
  | cons it its ih => simp only [flatten, run_append, runItems, ih]

/-- a history made of items is one in which "every open is closed before the next filesystem call":
the decidable predicate `quiescent` holds of its flat form (from a state without open handles) -/
theorem items_are_quiescent (impl : MovedirImpl) (s : HState) (its : List Item) (h : s.allClosed = true) :
    quiescent impl s (flatten impl s its) = true := by
  have hend : (run impl s (flatten impl s its)).1.allClosed = true := by
    rw [run_flatten, (handles_refine_ref impl s its).2.2, h]
  simp only [quiescent, hend, Bool.and_true]
  clear hend
  induction its generalizing s with
  | nil => rfl
  | cons it its ih =>
    have h3 := (item_refines_ref impl s it).2.2
    have hrest := ih (run impl s (it.flat s.handles.length)).1 (by rw [h3]; exact h)
    simp only [flatten, quiescentAt_append, hrest, Bool.and_true]
    cases it with
    | tree op => simp only [Item.flat, quiescentAt, h, Bool.and_true]
    | session p mode calls =>
      rw [session_flat]
      simp only [quiescentAt, h, Bool.true_and]
      exact quiescentAt_files impl _ _ _

/-! ## (b) a file-object call touches its own inode's bytes and its own position, nothing else -/

/-- exact footprint of one file-object call on handle `hid` (inode `h.ino`):
the filesystem's closed flag, every other handle (position, mode, closed flag), this handle's inode and
mode, and the link state of every inode are unchanged; when the inode is linked at `cs` the tree changes
by rewriting the bytes of the file at `cs` and in nothing else (same names, same kinds, same other
bytes); when it is unlinked the tree does not change at all. -/
theorem handle_ops_frame (s : HState) (hw : WF s) (hid : Nat) (op : File.Op) (h : Handle)
    (hh : s.handles[hid]? = some h) :
    (fileStep s hid op).1.fs.closed = s.fs.closed ∧
    (∀ j, j ≠ hid → (fileStep s hid op).1.handles[j]? = s.handles[j]?) ∧
    (∃ h', (fileStep s hid op).1.handles[hid]? = some h' ∧ h'.ino = h.ino ∧ h'.fl = h.fl) ∧
    (∀ cs, s.inodes[h.ino]? = some (.linked cs) →
        (fileStep s hid op).1.inodes = s.inodes ∧
        ∃ b', (fileStep s hid op).1.fs.root = s.fs.root.set cs (.file b')) ∧
    (∀ b, s.inodes[h.ino]? = some (.unlinked b) →
        (fileStep s hid op).1.fs = s.fs ∧
        ∃ b', (fileStep s hid op).1.inodes = s.inodes.set h.ino (.unlinked b')) := by
  have hok := hw.inoOk hh
  obtain ⟨hlt, _⟩ := List.getElem?_eq_some_iff.1 hh
  rw [fileStep_eq op hh hok]
  refine ⟨setInoBytes_closed _ _ _, ?_, ?_, ?_, ?_⟩
  · intro j hj
    simp only [List.getElem?_set_ne (Ne.symm hj)]
  · exact ⟨_, List.getElem?_set_self hlt, rfl, rfl⟩
  · intro cs hi
    obtain ⟨_, b, hb⟩ := hw.linked_file cs (List.mem_of_getElem? hi)
    rw [setInoBytes_linked _ hi hb]
    exact ⟨rfl, _, rfl⟩
  · intro b hi
    rw [setInoBytes_unlinked _ hi]
    exact ⟨rfl, _, rfl⟩

/-- … hence the bytes of every OTHER inode, and of every file the inode is not linked at, are unchanged -/
theorem handle_ops_frame_bytes (s : HState) (hw : WF s) (hid : Nat) (op : File.Op) (h : Handle)
    (hh : s.handles[hid]? = some h) :
    (∀ j, j ≠ h.ino → (fileStep s hid op).1.inoBytes j = s.inoBytes j) ∧
    (∀ q, s.inodes[h.ino]? ≠ some (.linked q) →
        fileAt (fileStep s hid op).1.fs.root q = fileAt s.fs.root q) := by
  obtain ⟨_, _, _, hlinked, hunlinked⟩ := handle_ops_frame s hw hid op h hh
  rcases inoOk_cases (hw.inoOk hh) with ⟨cs, b, hi, hne, hb⟩ | ⟨b, hi⟩
  · obtain ⟨hino, b', hroot⟩ := hlinked cs hi
    constructor
    · intro j hj
      simp only [HState.inoBytes, hino, hroot]
      cases hl : s.inodes[j]? with
      | none => rfl
      | some l =>
        cases l with
        | unlinked x => rfl
        | linked q =>
          -- another inode is linked at another path
          have hq : q ≠ cs := fun e => hj (links_unique hw.links_nodup (e ▸ hl) hi)
          simp only [Link.bytes, fileAt_set_other b' hne hb hq]
    · intro q hq
      rw [hroot]
      exact fileAt_set_other b' hne hb (fun e => hq (e ▸ hi))
  · obtain ⟨hfs, b', hino⟩ := hunlinked b hi
    constructor
    · intro j hj
      simp only [HState.inoBytes, hino, hfs, List.getElem?_set_ne (Ne.symm hj)]
    · intro q _
      rw [hfs]

/-! ## (c) filesystem calls and the handles that are open while they run -/

/-- no filesystem call (of either `movedir` variant, succeeding or failing)
changes any handle: inode, mode, position, closed flag; nor the size of the inode table -/
theorem tree_ops_keep_handles (impl : MovedirImpl) (s : HState) (op : Ref.Op) :
    (treeStep impl s op).1.handles = s.handles ∧
    (treeStep impl s op).1.inodes.length = s.inodes.length := by
  refine ⟨rfl, ?_⟩
  simp only [treeStep]
  split
  · exact length_fixup _ _ _ _
  · rfl

/-- … and never changes the bytes of an inode that stays linked where it was, unless the call was asked
to touch that path (`C05.touched`: it writes / overwrites the file there, or the path is at or below a
moved / removed / copied-onto one) -/
theorem tree_ops_keep_linked_bytes (impl : MovedirImpl) (s : HState) (hw : WF s) (op : Ref.Op)
    (i : Nat) (q : List Name) (hi : s.inodes[i]? = some (.linked q))
    (hi' : (treeStep impl s op).1.inodes[i]? = some (.linked q)) (hn : ¬ C05.touched op q) :
    (treeStep impl s op).1.inoBytes i = s.inoBytes i := by
  obtain ⟨_, b, hb⟩ := hw.linked_file q (List.mem_of_getElem? hi)
  have hb' : (treeStep impl s op).1.fs.root.get q = some (.file b) := C05.frame_files s.fs op q b hb hn
  rw [inoBytes_linked hi' hb', inoBytes_linked hi hb]

/-- whatever a filesystem call takes out of the tree (`remove`,
`removetree`, an overwriting `move`, the source of a copying `movedir`), an inode that is unlinked after
the call holds exactly the bytes it had before it; so every handle on it still sees the old content at
its old position (`view` = what `IoRef` works on), and an inode that was already unlinked is never
touched by a filesystem call. -/
theorem unlinked_content_survives (impl : MovedirImpl) (s : HState) (op : Ref.Op) (i : Nat) (x : Bytes)
    (hi' : (treeStep impl s op).1.inodes[i]? = some (.unlinked x)) :
    x = s.inoBytes i ∧ (treeStep impl s op).1.inoBytes i = s.inoBytes i ∧
    ∀ hid h, s.handles[hid]? = some h → h.ino = i → view (treeStep impl s op).1 hid = view s hid := by
  have hx : x = s.inoBytes i := by
    cases hr : (Ref.step s.fs op).2 with
    | err e =>
      rw [treeStep_err hr] at hi'
      exact (inoBytes_unlinked hi').symm
    | ok v =>
      rw [treeStep_ok hr] at hi'
      rcases keeps_fixup impl s.fs.root op s.inodes i x hi' with h | ⟨q, hq, hx⟩
      · exact (inoBytes_unlinked h).symm
      · simp only [HState.inoBytes, hq, Link.bytes, hx]
  have hb : (treeStep impl s op).1.inoBytes i = s.inoBytes i := by rw [inoBytes_unlinked hi', hx]
  refine ⟨hx, hb, ?_⟩
  intro hid h hh hino
  have hh' : (treeStep impl s op).1.handles[hid]? = some h := hh
  simp only [view, hh, hh', hino, hb]

/-- a successful `remove` unlinks every inode linked at the path, with the bytes it had -/
theorem remove_unlinks (impl : MovedirImpl) (s : HState) (p : Str) (cs : List Name) (v : Ref.Val) (i : Nat)
    (hv : Ref.validate p = .ok cs) (hok : (Ref.step s.fs (.remove p)).2 = .ok v)
    (hi : s.inodes[i]? = some (.linked cs)) :
    (treeStep impl s (.remove p)).1.inodes[i]? = some (.unlinked (s.inoBytes i)) := by
  rw [treeStep_ok hok, fixup_remove _ hv]
  exact unlinkUnder_under hi (List.prefix_refl _)

/-- a successful `removetree` unlinks every inode linked below the directory, with the bytes it had -/
theorem removetree_unlinks (impl : MovedirImpl) (s : HState) (p : Str) (cs r : List Name) (v : Ref.Val) (i : Nat)
    (hv : Ref.validate p = .ok cs) (hok : (Ref.step s.fs (.removetree p)).2 = .ok v)
    (hi : s.inodes[i]? = some (.linked (cs ++ r))) :
    (treeStep impl s (.removetree p)).1.inodes[i]? = some (.unlinked (s.inoBytes i)) := by
  rw [treeStep_ok hok, fixup_removetree _ hv]
  exact unlinkUnder_under hi (List.prefix_append _ _)

/-- a successful `move` onto an existing file unlinks the inode that was linked at the destination -/
theorem move_overwrite_unlinks (impl : MovedirImpl) (s : HState) (sp dp : Str) (ow : Bool) (a b : List Name)
    (v : Ref.Val) (i : Nat) (ha : Ref.validate sp = .ok a) (hb : Ref.validate dp = .ok b) (hne : a ≠ b)
    (hok : (Ref.step s.fs (.move sp dp ow)).2 = .ok v) (hi : s.inodes[i]? = some (.linked b)) :
    (treeStep impl s (.move sp dp ow)).1.inodes[i]? = some (.unlinked (s.inoBytes i)) := by
  rw [treeStep_ok hok, fixup_move ow _ ha hb hne]
  exact relocate_unlinked a b (unlinkUnder_under hi (List.prefix_refl _))

/-- after a successful `move a → b` the inode that was linked at `a` is linked
at `b` with the same bytes, its handles are untouched, and whatever a handle on it does afterwards shows
at the NEW path: after any file-object call the file at `b` holds exactly the bytes `IoRef` computes,
and nothing is at `a`. -/
theorem handle_follows_move (impl : MovedirImpl) (s : HState) (hw : WF s) (sp dp : Str) (ow : Bool)
    (a b : List Name) (v : Ref.Val) (i : Nat)
    (ha : Ref.validate sp = .ok a) (hb : Ref.validate dp = .ok b) (hne : a ≠ b)
    (hok : (Ref.step s.fs (.move sp dp ow)).2 = .ok v) (hi : s.inodes[i]? = some (.linked a)) :
    (treeStep impl s (.move sp dp ow)).1.inodes[i]? = some (.linked b) ∧
    (treeStep impl s (.move sp dp ow)).1.inoBytes i = s.inoBytes i ∧
    ∀ hid h fop, s.handles[hid]? = some h → h.ino = i →
      (fileStep (treeStep impl s (.move sp dp ow)).1 hid fop).1.fs.root.get b =
        some (.file (IoRef.step h.fl ⟨s.inoBytes i, h.pos, h.closed⟩ fop).1.bytes) ∧
      (fileStep (treeStep impl s (.move sp dp ow)).1 hid fop).1.fs.root.get a = none := by
  obtain ⟨hpb, hpa, data, hga⟩ := C05.move_post s.fs sp dp ow a b v ha hb hne hw.tree_wf hok
  obtain ⟨_, _, _, _, _, hnd, _⟩ := step_move_ok ha hb hne hok
  have hnp : ¬ b <+: a := not_prefix_of_not_dir hga hne hnd
  have hw' := wf_treeStep impl hw (.move sp dp ow)
  have hlink : (treeStep impl s (.move sp dp ow)).1.inodes[i]? = some (.linked b) := by
    rw [treeStep_ok hok, fixup_move ow _ ha hb hne]
    have := relocate_linked a b (unlinkUnder_other (t := s.fs.root) hi hnp)
    rwa [reloc_self] at this
  have hfb : (treeStep impl s (.move sp dp ow)).1.fs.root.get b = some (.file data) := by
    show (Ref.step s.fs (.move sp dp ow)).1.root.get b = _
    rw [hpb, hga]
  have hbytes : (treeStep impl s (.move sp dp ow)).1.inoBytes i = s.inoBytes i := by
    rw [inoBytes_linked hlink hfb, inoBytes_linked hi hga]
  refine ⟨hlink, hbytes, ?_⟩
  intro hid h fop hh hino
  subst hino
  have hh' : (treeStep impl s (.move sp dp ow)).1.handles[hid]? = some h := hh
  obtain ⟨hbne, _⟩ := hw'.linked_file b (List.mem_of_getElem? hlink)
  rw [fileStep_eq fop hh' (hw'.inoOk hh'), setInoBytes_linked _ hlink hfb, hbytes]
  refine ⟨get_set_file_self _ hbne hfb, ?_⟩
  rcases get_set_leaf _ hbne hfb hne with he | ⟨es, _, he, _⟩
  · exact he.trans hpa
  · exact absurd (he.symm.trans hpa) nofun

/-- The reference (`MovedirImpl.rename`): a successful `movedir a → b` onto a
destination that does not exist re-links every inode below `a` at the same relative path below `b`, with
the same bytes: open files follow the directory (POSIX rename; `MemoryFS.movedir`). -/
theorem handle_follows_movedir (s : HState) (hw : WF s) (sp dp : Str) (cr : Bool) (a b r : List Name)
    (v : Ref.Val) (i : Nat) (ha : Ref.validate sp = .ok a) (hb : Ref.validate dp = .ok b) (hne : a ≠ b)
    (hnew : s.fs.root.get b = none) (hok : (Ref.step s.fs (.movedir sp dp cr)).2 = .ok v)
    (hi : s.inodes[i]? = some (.linked (a ++ r))) :
    (treeStep .rename s (.movedir sp dp cr)).1.inodes[i]? = some (.linked (b ++ r)) ∧
    (treeStep .rename s (.movedir sp dp cr)).1.inoBytes i = s.inoBytes i := by
  obtain ⟨_, x, hx⟩ := hw.linked_file _ (List.mem_of_getElem? hi)
  have hlink : (treeStep .rename s (.movedir sp dp cr)).1.inodes[i]? = some (.linked (b ++ r)) := by
    rw [treeStep_ok hok, fixup_movedir_new cr _ ha hb hne hnew]
    have := relocate_linked a b hi
    rwa [reloc_under] at this
  have hfb := C05.movedir_post s.fs sp dp cr a b r v x ha hb hne hw.tree_wf hok hx
  exact ⟨hlink, by rw [inoBytes_linked hlink hfb, inoBytes_linked hi hx]⟩

/-- in every other case (the destination exists: every backend merges by copying;
or the as-coded `fs/base.py` variant `MovedirImpl.copy`: OSFS, SubFS(OSFS), write archives) a successful
`movedir` UNLINKS the inodes below the source, with the bytes they had: handles on them go on working on
content no path names any more, and what they write is not seen at the destination. -/
theorem movedir_copy_unlinks (impl : MovedirImpl) (s : HState) (sp dp : Str) (cr : Bool) (a b r : List Name)
    (v : Ref.Val) (i : Nat) (ha : Ref.validate sp = .ok a) (hb : Ref.validate dp = .ok b) (hne : a ≠ b)
    (hcase : impl = .copy ∨ (s.fs.root.get b).isSome = true)
    (hok : (Ref.step s.fs (.movedir sp dp cr)).2 = .ok v)
    (hi : s.inodes[i]? = some (.linked (a ++ r))) :
    (treeStep impl s (.movedir sp dp cr)).1.inodes[i]? = some (.unlinked (s.inoBytes i)) := by
  rw [treeStep_ok hok, fixup_movedir_copy cr _ ha hb hne hcase]
  exact unlinkUnder_under hi (List.prefix_append _ _)

/-- the two `movedir` variants never differ in verdict, value, tree or handle table — only in where the
inodes below the source of a `movedir` onto a new destination are linked afterwards -/
theorem movedir_impls_agree_on_tree (s : HState) (op : Ref.Op) :
    forget (treeStep .rename s op).1 = forget (treeStep .copy s op).1 ∧
    (treeStep .rename s op).2 = (treeStep .copy s op).2 ∧
    (treeStep .rename s op).1.handles = (treeStep .copy s op).1.handles := ⟨rfl, rfl, rfl⟩

/-- … and that difference IS observable once a handle is open below the source: after
`open d/f "r+"; movedir d → e (create)`, a write through the handle is read back at `e/f` under the
reference (rename) and is not under the as-coded base-class variant (copy).  This is the one place where
the backends genuinely differ. -/
theorem movedir_impl_counterexample :
    let s0 := HState.init (.dir [("d".toList, .dir [("f".toList, .file [120])])])
    let hist : List HOp := [.open_ "d/f".toList "r+".toList, .tree (.movedir "d".toList "e".toList true),
      .file 0 (.seek 0 2), .file 0 (.write [33]), .tree (.readbytes "e/f".toList)]
    ((run .rename s0 hist).2.map (·.1)).getLast? = some (.tree (.ok (.bytes [120, 33]))) ∧
    ((run .copy s0 hist).2.map (·.1)).getLast? = some (.tree (.ok (.bytes [120]))) := by
  decide +kernel

/-! ## (d) two handles on one file -/

/-- two `open`s of one path (the second right after the first) return two
handles on ONE inode: the second `open` finds the table entry the first one made -/
theorem same_path_same_inode (s : HState) (p m1 m2 : Str) (cs : List Name) (fs1 fs2 : Ref.State) (v1 v2 : Ref.Val)
    (hv : Ref.validate p = .ok cs)
    (h1 : Ref.step s.fs (.openbin p m1) = (fs1, .ok v1))
    (h2 : Ref.step fs1 (.openbin p m2) = (fs2, .ok v2)) :
    ∃ ha hb, (openStep (openStep s p m1).1 p m2).1.handles = s.handles ++ [ha, hb] ∧ ha.ino = hb.ino := by
  rw [openStep_ok h1 hv, openStep_ok (s := ⟨fs1, _, _⟩) h2 hv]
  refine ⟨_, _, List.append_assoc _ _ _, ?_⟩
  simp only [newHandle, intern_twice]

/-- two handles on one inode see each other's writes at once (MemoryFS has no
buffering; OSFS with `buffering=0`): after ANY call through `hid1`, what `IoRef` works on for `hid2` is the
new bytes of the inode — all of them, at the same offsets — with `hid2`'s own position and closed flag
untouched. -/
theorem two_handles_coherent (s : HState) (hw : WF s) (hid1 hid2 : Nat) (h1 h2 : Handle) (op : File.Op)
    (hh1 : s.handles[hid1]? = some h1) (hh2 : s.handles[hid2]? = some h2) (hne : hid2 ≠ hid1)
    (hino : h2.ino = h1.ino) :
    view (fileStep s hid1 op).1 hid2 =
      some ⟨(IoRef.step h1.fl ⟨s.inoBytes h1.ino, h1.pos, h1.closed⟩ op).1.bytes, h2.pos, h2.closed⟩ ∧
    view (fileStep s hid1 op).1 hid1 = some (IoRef.step h1.fl ⟨s.inoBytes h1.ino, h1.pos, h1.closed⟩ op).1 := by
  obtain ⟨_, hothers, _, _, _⟩ := handle_ops_frame s hw hid1 op h1 hh1
  obtain ⟨_, hh1', hb⟩ := fileStep_view hw op hh1
  refine ⟨?_, by simp only [view, hh1', hb]⟩
  simp only [view, hothers hid2 hne, hh2, hino, hb]

/-- concretely: `hid1` writes `d` (non-empty; at its position, or at the
end in append mode); `hid2`, another open readable handle on the same inode, seeks to that offset and
reads `len d` bytes: it gets exactly `d`. -/
theorem written_is_read_by_the_other (s : HState) (hw : WF s) (hid1 hid2 : Nat) (h1 h2 : Handle) (d : Bytes)
    (hh1 : s.handles[hid1]? = some h1) (hh2 : s.handles[hid2]? = some h2) (hne : hid2 ≠ hid1)
    (hino : h2.ino = h1.ino) (hd : d ≠ [])
    (ho1 : h1.closed = false) (hw1 : h1.fl.writing = true) (ho2 : h2.closed = false) (hr2 : h2.fl.reading = true)
    (p : Nat) (hp : p = if h1.fl.appending then (s.inoBytes h1.ino).length else h1.pos) :
    (fileStep (fileStep (fileStep s hid1 (.write d)).1 hid2 (.seek (Int.ofNat p) 0)).1 hid2
        (.read (some (Int.ofNat d.length)))).2 = .file (.bytes d) := by
  have hw1' := wf_fileStep hw hid1 (.write d)
  -- the inode after the write
  obtain ⟨_, _, hbb⟩ := fileStep_view hw (.write d) hh1
  rw [ho1, FileLemmas.ioref_write_bytes _ _ _ _ hw1 hd, ← hp] at hbb
  obtain ⟨_, hothers, _, _, _⟩ := handle_ops_frame s hw hid1 (.write d) h1 hh1
  have hh2' : (fileStep s hid1 (.write d)).1.handles[hid2]? = some h2 := by rw [hothers hid2 hne]; exact hh2
  rw [← hino] at hbb
  -- the seek
  obtain ⟨_, hseek_h, hseek_b⟩ := fileStep_view hw1' (.seek (Int.ofNat p) 0) hh2'
  have hw2 := wf_fileStep hw1' hid2 (.seek (Int.ofNat p) 0)
  rw [ho2, FileLemmas.ioref_seek_set] at hseek_h hseek_b
  -- the read
  obtain ⟨hout, _, _⟩ := fileStep_view hw2 (.read (some (Int.ofNat d.length))) hseek_h
  rw [hout]
  simp only [hseek_b, hbb]
  rw [FileLemmas.ioref_read_some _ _ _ _ hr2, FileLemmas.writeAt_read_back _ _ _ hd]

/-! ## (e) each handle is an `IoRef` file on its inode's content -/

/-- `open` returns a new handle whose `view` is an open `IoRef` file on the bytes the file has after the reference's
`openbin`, at position 0, or at the end in append mode -/
theorem open_is_ioref_open (s : HState) (p mode : Str) (cs : List Name) (fs' : Ref.State) (v : Ref.Val)
    (hv : Ref.validate p = .ok cs) (hr : Ref.step s.fs (.openbin p mode) = (fs', .ok v)) :
    (openStep s p mode).2 = .opened s.handles.length ∧
    ∃ b, fileAt fs'.root cs = some b ∧
      view (openStep s p mode).1 s.handles.length =
        some ⟨b, if (Mode.flags mode).appending then b.length else 0, false⟩ := by
  obtain ⟨cs', hv', _, b, hb⟩ := openbin_ok_file hr
  rw [hv] at hv'
  cases hv'
  have hi := intern_getElem? s.inodes cs
  rw [openStep_ok hr hv]
  refine ⟨rfl, b, fileAt_eq_some.2 hb, ?_⟩
  have hbytes := inoBytes_linked
    (s := ⟨fs', (intern s.inodes cs).fst, s.handles ++ [newHandle s fs' cs mode]⟩) hi hb
  simp only [view, List.getElem?_concat_length]
  simp only [newHandle, fileAt_eq_some.2 hb, Option.getD_some, Option.some.injEq, IoState.mk.injEq, and_true]
  exact hbytes

/-- any sequence of calls on one handle, with nothing else in between, IS the
`IoRef` session on (the inode's bytes, the handle's position, its closed flag): every result and
`tell()` equal, and at the end the inode holds `IoRef`'s final bytes.  (Linked or unlinked inode; any
other handles may exist.)  With `memfile_refines_ioref` (C16) and the correspondence this is the
per-handle statement of C16 inside a filesystem history. -/
theorem handle_refines_ioref (impl : MovedirImpl) (hid : Nat) (calls : List File.Op) (s : HState) (hw : WF s)
    (h : Handle) (hh : s.handles[hid]? = some h) :
    (run impl s (calls.map (.file hid))).2 =
        (IoRef.runFrom h.fl ⟨s.inoBytes h.ino, h.pos, h.closed⟩ calls).1.map fileObs ∧
    view (run impl s (calls.map (.file hid))).1 hid = some (ioRun h.fl ⟨s.inoBytes h.ino, h.pos, h.closed⟩ calls) ∧
    (run impl s (calls.map (.file hid))).1.inoBytes h.ino =
        (IoRef.runFrom h.fl ⟨s.inoBytes h.ino, h.pos, h.closed⟩ calls).2 := by
  have hok := hw.inoOk hh
  obtain ⟨hlt, _⟩ := List.getElem?_eq_some_iff.1 hh
  rw [run_file_calls impl hid calls s h hh hok, runFrom_final]
  refine ⟨rfl, ?_, inoBytes_setInoBytes _ hok⟩
  simp only [view, List.getElem?_set_self hlt, inoBytes_with_handles, inoBytes_setInoBytes _ hok]

/-- the calls of a history that are addressed to handle `hid` -/
def callsOn (hid : Nat) : List HOp → List File.Op
  | [] => []
  | .file h op :: ops => if h = hid then op :: callsOn hid ops else callsOn hid ops
  | _ :: ops => callsOn hid ops

/-- … and their entries in the trace of the history -/
def traceOn (hid : Nat) : List HOp → List (HOut × Option Nat) → List (HOut × Option Nat)
  | .file h _ :: ops, x :: xs => if h = hid then x :: traceOn hid ops xs else traceOn hid ops xs
  | _ :: ops, _ :: xs => traceOn hid ops xs
  | _, _ => []

/-- executing `ops` from `s`: every call that is NOT a file-object call on `hid` leaves what the handle works
on — (inode bytes, position, closed flag) — as it was.  (Decidable, by execution.  Sufficient conditions:
`foreign_file_call_undisturbs`, `tree_call_undisturbs`, `unlinked_content_survives`, `handle_follows_move`.) -/
def undisturbed (impl : MovedirImpl) (hid : Nat) : HState → List HOp → Bool
  | _, [] => true
  | s, op :: ops =>
    (match op with
     | .file h _ => h == hid || decide (view (step impl s op).1 hid = view s hid)
     | _ => decide (view (step impl s op).1 hid = view s hid))
    && undisturbed impl hid (step impl s op).1 ops

/-- inside ANY history (other handles working, filesystem calls,
opens), as long as nothing but its own calls changes what the handle works on, the handle is an `IoRef` file:
the results and `tell()`s of its calls are those of the `IoRef` session made of exactly these calls, started
on what it saw at the beginning, and at the end it sees `IoRef`'s final state. -/
theorem handle_refines_ioref_interleaved (impl : MovedirImpl) (hid : Nat) (ops : List HOp) (s : HState) (hw : WF s)
    (h : Handle) (hh : s.handles[hid]? = some h) (hu : undisturbed impl hid s ops = true) :
    traceOn hid ops (run impl s ops).2 =
        (IoRef.runFrom h.fl ⟨s.inoBytes h.ino, h.pos, h.closed⟩ (callsOn hid ops)).1.map fileObs ∧
    view (run impl s ops).1 hid = some (ioRun h.fl ⟨s.inoBytes h.ino, h.pos, h.closed⟩ (callsOn hid ops)) := by
  induction ops generalizing s h with
  | nil => exact ⟨rfl, by simp only [run, callsOn, ioRun, view, hh]⟩
  | cons op ops ih =>
    have hw' := wf_preserved impl s op hw
    simp only [undisturbed, Bool.and_eq_true] at hu
    obtain ⟨hu1, hu2⟩ := hu
    -- once the handle shows `io'`, the rest of the history is the `IoRef` run from `io'`
    have rest : ∀ (h' : Handle) (io' : IoState), (step impl s op).1.handles[hid]? = some h' → h'.fl = h.fl →
        (⟨(step impl s op).1.inoBytes h'.ino, h'.pos, h'.closed⟩ : IoState) = io' →
        traceOn hid ops (run impl (step impl s op).1 ops).2 =
            (IoRef.runFrom h.fl io' (callsOn hid ops)).1.map fileObs ∧
        view (run impl (step impl s op).1 ops).1 hid = some (ioRun h.fl io' (callsOn hid ops)) := by
      intro h' io' hh' hfl hio
      have := ih (step impl s op).1 hw' h' hh' hu2
      rwa [hio, hfl] at this
    -- a step that keeps the view leaves the `IoRef` state where it was
    have keep := fun (hv : view (step impl s op).1 hid = view s hid) =>
      (step_keeps_handle_static impl hw op hh).elim fun h' hh' =>
        rest h' ⟨s.inoBytes h.ino, h.pos, h.closed⟩ hh'.1 hh'.2.1
          (by simpa only [view, hh'.1, hh, Option.some.injEq] using hv)
    cases op with
    | tree top => exact keep (by simpa using hu1)
    | open_ p m => exact keep (by simpa using hu1)
    | file hid2 fop =>
      by_cases he : hid2 = hid
      · subst he
        obtain ⟨hout, hh', hb⟩ := fileStep_view hw fop hh
        obtain ⟨i1, i2⟩ := rest _ (IoRef.step h.fl ⟨s.inoBytes h.ino, h.pos, h.closed⟩ fop).1 hh' rfl (by simp only [step, hb])
        refine ⟨?_, ?_⟩
        · simp only [run, step, hout, traceOn, callsOn, if_true, IoRef.runFrom, List.map_cons, fileObs, obsTell,
            subject, tellOf, hh', IoRef.obsTell]
          exact congrArg _ i1
        · simpa only [callsOn, if_true, run, ioRun] using i2
      · have hv : view (step impl s (.file hid2 fop)).1 hid = view s hid := by
          simp only [Bool.or_eq_true, beq_iff_eq, decide_eq_true_eq] at hu1
          exact hu1.resolve_left he
        simpa only [callsOn, traceOn, run, he, if_false] using keep hv

/-- a file-object call on a handle of ANOTHER inode disturbs nothing: sufficient condition for `undisturbed` -/
theorem foreign_file_call_undisturbs (s : HState) (hw : WF s) (hid hid2 : Nat) (h h2 : Handle) (fop : File.Op)
    (hh : s.handles[hid]? = some h) (hh2 : s.handles[hid2]? = some h2) (hino : h.ino ≠ h2.ino) :
    view (fileStep s hid2 fop).1 hid = view s hid := by
  have hne : hid ≠ hid2 := by intro e; subst e; rw [hh] at hh2; cases hh2; exact hino rfl
  obtain ⟨_, hothers, _, _, _⟩ := handle_ops_frame s hw hid2 fop h2 hh2
  obtain ⟨hbytes, _⟩ := handle_ops_frame_bytes s hw hid2 fop h2 hh2
  simp only [view, hothers hid hne, hh, hbytes h.ino hino]

/-- a filesystem call that does not touch the path the handle's inode is linked at (and leaves it linked
there) disturbs nothing: sufficient condition for `undisturbed` -/
theorem tree_call_undisturbs (impl : MovedirImpl) (s : HState) (hw : WF s) (op : Ref.Op) (hid : Nat) (h : Handle)
    (q : List Name) (hh : s.handles[hid]? = some h) (hi : s.inodes[h.ino]? = some (.linked q))
    (hi' : (treeStep impl s op).1.inodes[h.ino]? = some (.linked q)) (hn : ¬ C05.touched op q) :
    view (treeStep impl s op).1 hid = view s hid := by
  have hh' : (treeStep impl s op).1.handles[hid]? = some h := hh
  simp only [view, hh, hh', tree_ops_keep_linked_bytes impl s hw op h.ino q hi hi' hn]

/-! ## (f) closing the FILESYSTEM while handles are open -/

/-- What the code does (MemoryFS.close drops its root, OSFS.close does nothing to open
descriptors, TempFS / write archives remove their directory): after `close()` every filesystem call and every
`open` raises `FilesystemClosed` and changes nothing, but the handles opened before go on working exactly as
if the filesystem were open — every file-object call gives the same result and leaves the same handles and
inode contents; only the filesystem's closed flag differs.  C18 ("after the first close no call can read or
change stored data … every data or metadata access raises FilesystemClosed") quantifies over the public
methods of the FILESYSTEM; a file object is a separate resource with its own `close()`, and no backend
tracks or invalidates it. -/
theorem closed_fs_handles (impl : MovedirImpl) (s : HState) :
    (treeStep impl s .close).1 = { s with fs := { s.fs with closed := true } } ∧
    (∀ (c : HState), c.fs.closed = true →
      (∀ op, op ≠ Ref.Op.close → treeStep impl c op = (c, .tree (.err .FilesystemClosed))) ∧
      (∀ p m, openStep c p m = (c, .openErr .FilesystemClosed))) ∧
    (∀ hid fop,
      (fileStep { s with fs := { s.fs with closed := true } } hid fop).2 = (fileStep s hid fop).2 ∧
      (fileStep { s with fs := { s.fs with closed := true } } hid fop).1 =
        { (fileStep s hid fop).1 with fs := { (fileStep s hid fop).1.fs with closed := true } }) := by
  refine ⟨rfl, ?_, ?_⟩
  · intro c hc
    constructor
    · intro op hop
      have := QueryLemmas.step_closed c.fs op hop hc
      exact treeStep_err (impl := impl) (by rw [this]; rfl)
    · intro p m
      have := QueryLemmas.step_closed c.fs (.openbin p m) (by simp) hc
      exact openStep_err this
  · intro hid fop
    have hbytes : ∀ i, ({ s with fs := { s.fs with closed := true } } : HState).inoBytes i = s.inoBytes i :=
      fun _ => rfl
    simp only [fileStep]
    cases hh : s.handles[hid]? with
    | none => exact ⟨rfl, rfl⟩
    | some h =>
      simp only [hbytes, setInoBytes_with_closed]
      refine ⟨trivial, ?_⟩
      split
      · rfl
      · rfl

/-! ## examples — the hypotheses are satisfiable; the laws on concrete histories -/

/-- a removed file is still read through its handle; a new file of the same name is another inode -/
example : ((run .rename (HState.init (.dir [("f".toList, .file [97, 98])]))
      [.open_ "f".toList "r+".toList, .tree (.remove "f".toList), .tree (.writebytes "f".toList [122]),
       .file 0 (.read none), .tree (.readbytes "f".toList)]).2.map (·.1)) =
    [.opened 0, .tree (.ok .unit), .tree (.ok .unit), .file (.bytes [97, 98]), .tree (.ok (.bytes [122]))] := by
  decide +kernel

/-- a moved file keeps its handle: the write shows at the new path -/
example : ((run .rename (HState.init (.dir [("f".toList, .file [97])]))
      [.open_ "f".toList "a".toList, .tree (.move "f".toList "g".toList false), .file 0 (.write [33]),
       .tree (.readbytes "g".toList), .tree (.exists_ "f".toList)]).2.map (·.1)) =
    [.opened 0, .tree (.ok .unit), .file (.nat 1), .tree (.ok (.bytes [97, 33])), .tree (.ok (.bool false))] := by
  decide +kernel

/-- two appending handles interleave at the current end; `writebytes` truncates the inode both are on -/
example : ((run .rename (HState.init (.dir [("u".toList, .file [48])]))
      [.open_ "u".toList "a".toList, .open_ "u".toList "a+".toList, .file 0 (.write [49]), .file 1 (.write [50]),
       .file 0 (.write [51]), .tree (.readbytes "u".toList), .tree (.writebytes "u".toList []), .file 1 (.seek 0 0),
       .file 1 (.read none)]).2) =
    [(.opened 0, some 1), (.opened 1, some 1), (.file (.nat 1), some 2), (.file (.nat 1), some 3),
     (.file (.nat 1), some 4), (.tree (.ok (.bytes [48, 49, 50, 51])), none), (.tree (.ok .unit), none),
     (.file (.nat 0), some 0), (.file (.bytes []), some 0)] := by
  decide +kernel

/-- `quiescent` separates histories that keep a handle open across a filesystem call from those that do not;
the executable invariant holds along both -/
example : quiescent .rename (HState.init (.dir [("f".toList, .file [97])]))
      [.open_ "f".toList "r".toList, .file 0 (.read none), .file 0 .close, .tree (.remove "f".toList)] = true ∧
    quiescent .rename (HState.init (.dir [("f".toList, .file [97])]))
      [.open_ "f".toList "r".toList, .tree (.remove "f".toList), .file 0 (.read none), .file 0 .close] = false ∧
    (run .rename (HState.init (.dir [("f".toList, .file [97])]))
      [.open_ "f".toList "r".toList, .tree (.remove "f".toList), .file 0 (.read none)]).1.wf = true := by
  decide +kernel

/-- after the FILESYSTEM is closed: calls raise FilesystemClosed, the handle goes on working -/
example : ((run .rename (HState.init (.dir [("z".toList, .file [122])]))
      [.open_ "z".toList "r+".toList, .tree .close, .file 0 (.seek 0 2), .file 0 (.write [87]), .file 0 (.seek 0 0),
       .file 0 (.read none), .tree (.readbytes "z".toList), .open_ "z".toList "r".toList]).2.map (·.1)) =
    [.opened 0, .tree (.ok .unit), .file (.nat 1), .file (.nat 1), .file (.nat 0), .file (.bytes [122, 87]),
     .tree (.err .FilesystemClosed), .openErr .FilesystemClosed] := by
  decide +kernel

end Fs.HandleLaws
