/-
  C15 — Zip and Tar archives round-trip any tree.

  Model: FsModel/Archive.lean (writers' member list; ReadZipFS; ReadTarFS), over FsModel/Ref.lean
  (the directory of ReadZipFS is a fold of `Ref.step`).  Helper lemmas: FsProofs/Lemmas/
  {Archive,Zip,Tar}Lemmas.lean.  All statements quantify over every well-formed tree (any names,
  any nesting, any bytes), every mtime assignment and every path *string*.

  EXTERNAL HYPOTHESIS of the two round-trip theorems (not a Lean hypothesis: it is the place
  where `zipMembers`/`tarMembers` is fed to `readZip`/`readTar`): zipfile / tarfile return
  exactly the (name, kind, bytes, time) list they were given, in order.  The correspondence
  (harness/props/c15.py) compares both sides of that seam with the real libraries on every run.
-/
import FsProofs.Lemmas.ZipLemmas
import FsProofs.Lemmas.TarLemmas

namespace Fs.C15
open Fs Fs.Path Fs.PathSpec Fs.Archive
open Fs.PathLemmas Fs.ArchiveLemmas Fs.ZipLemmas Fs.TarLemmas Fs.TreeLemmas

/-! ## the writers emit one member per resource -/

/-- `write_zip` and `write_tar` emit exactly one member for every resource below the root (the
breadth-first walker misses nothing and repeats nothing), carrying its kind, bytes and mtime;
member names are pairwise different. -/
theorem members_cover_tree (t : Node) (mt : List Name → Int) (ht : t.wf = true) (hd : t.isDir = true) :
    (∀ m, m ∈ zipMembers mt t ↔ ∃ cs n, cs ≠ [] ∧ t.get cs = some n ∧
        m = ⟨zipName cs n.isDir, n.isDir, fileBytes n, zipTime (mt cs)⟩) ∧
    (∀ m, m ∈ tarMembers mt t ↔ ∃ cs n, cs ≠ [] ∧ t.get cs = some n ∧
        m = ⟨tarName cs, n.isDir, fileBytes n, tarTime (mt cs)⟩) ∧
    ((zipMembers mt t).map (·.name)).Nodup ∧ ((tarMembers mt t).map (·.name)).Nodup ∧
    (zipMembers mt t).length + 1 = t.count ∧ (tarMembers mt t).length + 1 = t.count := by
  refine ⟨fun m => mem_map_walkInfo ht hd _ m, fun m => mem_map_walkInfo ht hd _ m, ?_, ?_, ?_, ?_⟩
  · rw [zipMembers, List.map_map]
    exact nodup_map_walkInfo ht hd _ fun cs n cs' n' h1 h2 h1' h2' he =>
      (zipName_inj (get_clean ht h2) (get_clean ht h2') h1 h1' he).1
  · rw [tarMembers, List.map_map]
    refine nodup_map_walkInfo ht hd _ fun cs n cs' n' _ h2 _ h2' he => ?_
    have hn : tarName cs = tarName cs' := he
    rw [tarName_eq (get_clean ht h2), tarName_eq (get_clean ht h2')] at hn
    exact mkp_inj (get_clean ht h2) (get_clean ht h2') hn
  · rw [zipMembers, List.length_map]
    exact walkInfo_length hd
  · rw [tarMembers, List.length_map]
    exact walkInfo_length hd

example : (zipMembers (fun _ => 7) (.dir [("d".toList, .dir [("f".toList, .file [1, 2])]), ("e".toList, .dir [])])).map
    (fun m => (String.ofList m.name, m.isDir, m.data, m.mtime)) =
    [("d/", true, [], 6), ("e/", true, [], 6), ("d/f", false, [1, 2], 6)] := by decide +kernel

/-! ## round trip -/

/-- Zip round trip.  Write any well-formed tree with `write_zip`, reopen the members with
`ReadZipFS`: building the directory raises nothing, and at *every path string* `p` that
validates (to the components `cs`) the reopened archive answers exactly what the tree holds
there — existence, type, listing (as a set), the bytes through `openbin` and through
`readbytes`, the size, and the mtime rounded down to an even second. -/
theorem zip_roundtrip (t : Node) (mt : List Name → Int) (ht : t.wf = true) (hd : t.isDir = true)
    (p : Str) (cs : List Name) (hv : Ref.validate p = .ok cs) :
    (readZip (zipMembers mt t)).err = none ∧
    Agree t (zipTime (mt cs)) cs ((readZip (zipMembers mt t)).obs p) := by
  obtain ⟨h1, h2, h3⟩ := readZip_dir_kinds ht hd mt
  refine ⟨h1, ?_⟩
  have hzw : (readZip (zipMembers mt t)).dir.wf = true :=
    buildDir_wf Ref.State.empty (by decide) _ _
  exact zip_obs_agree mt ht hd hzw h2 h3 (fun cs n hne hg => lookupLast_zipMembers ht hd mt hne hg) hv

/-- a path that does not validate is refused by the archive as by any filesystem: nothing to compare -/
example : (readZip (zipMembers (fun _ => 0) (.dir []))).isdir "..".toList = .err .IllegalBackReference := by
  decide +kernel

/-- Tar round trip below the root: as for zip (mtime to the whole second); empty directories are
members of their own and intermediate directories are found both as members and implicitly. -/
theorem tar_roundtrip (t : Node) (mt : List Name → Int) (ht : t.wf = true) (hd : t.isDir = true)
    (p : Str) (cs : List Name) (hv : Ref.validate p = .ok cs) (hc : cs ≠ []) :
    Agree t (tarTime (mt cs)) cs ((readTar (tarMembers mt t)).obs p) := by
  have hcl := clean_of_cleanName (validate_ok hv).1
  have hrel := rel_of_validate hv
  unfold Agree
  simp only [TarFS.obs]
  cases hg : t.get cs with
  | none =>
    obtain ⟨h1, h2, h3, h4, h5, h6⟩ := ans_absent (z := readTar (tarMembers mt t)) hcl hc hrel (keyed_tarEntries _)
      (odGet_tarMembers_none ht hd mt hcl hg) fun h => (below_tarMembers ht hd mt hc).1 h hg
    exact ⟨h1, h2, h3, h4, h5, h5, h6⟩
  | some n =>
    obtain ⟨h1, h2, h3, h4, h5, h6⟩ := ans_member (z := readTar (tarMembers mt t)) hcl hc hrel
      (odGet_tarMembers_some ht hd mt hc hg)
    cases n with
    | file b => exact ⟨h1, h2, h3, h4, h5, h5, h6⟩
    | dir es =>
      obtain ⟨l, hl1, hl2⟩ := tar_childNames_perm mt ht hd hcl hg
      exact ⟨h1, h2, h3, ⟨l, h4.trans hl1, hl2⟩, h5, by rw [if_neg hc]; exact h6⟩

/-
  The statement for every path,
    ∀ p cs, validate p = ok cs → Agree t (tarTime (mt cs)) cs ((readTar (tarMembers mt t)).obs p),
  is false of the code at one point (`tar_root_read_class_counterexample`): at the root `openbin("/")`
  raises ResourceNotFound where the contract says FileExpected (error class only).  Everything else
  holds at the root too, for every tree, the empty one included.
-/

/-- Tar round trip at the root: everything except the error class of `openbin("/")`. -/
theorem tar_roundtrip_root_partial (t : Node) (mt : List Name → Int) (ht : t.wf = true)
    (hd : t.isDir = true) (p : Str) (hv : Ref.validate p = .ok []) :
    let o := (readTar (tarMembers mt t)).obs p
    o.exists_ = .ok true ∧ o.isdir = .ok true ∧ o.isfile = .ok false ∧
    (∃ l, o.listdir = .ok l ∧ l.Perm (Ents.names t.entries)) ∧
    o.details = .ok ⟨[], true, none, none⟩ ∧ o.read = .err .ResourceNotFound := by
  cases t with
  | file d => simp [Node.isDir] at hd
  | dir es =>
    obtain ⟨h1, h2, h3, h4, h5, h6⟩ := ans_root (z := readTar (tarMembers mt (.dir es))) (keyed_tarEntries _)
      (rel_of_validate hv)
    obtain ⟨l, hl1, hl2⟩ := tar_childNames_perm mt ht hd clean_nil (get_nil (.dir es))
    exact ⟨h1, h2, h3, ⟨l, h4.trans hl1, hl2⟩, h6, h5⟩

/-- guards against `isdir("/")` being False for an archive without members (fixed in /repo e5a4c4f):
the empty tree round-trips through tar — its root is a directory for `isdir` as well -/
theorem tar_empty_root_isdir_repaired :
    (readTar (tarMembers (fun _ => 0) (.dir []))).isdir ['/'] = .ok true ∧
    ((readTar (tarMembers (fun _ => 0) (.dir []))).details ['/']).map (·.isDir) = .ok true ∧
    (readTar (tarMembers (fun _ => 0) (.dir []))).listdir ['/'] = .ok [] ∧
    (readTar []).isdir [] = .ok true := by decide +kernel

/-- `ReadTarFS.openbin("/")` reports the root as missing rather than as a directory (not fixed) -/
theorem tar_root_read_class_counterexample :
    (readTar (tarMembers (fun _ => 0) (.dir [("f".toList, .file [])]))).openRead ['/'] = .err .ResourceNotFound := by
  decide +kernel

/-- `ReadZipFS.readbytes` of a directory raises ResourceNotFound where `openbin` (and the contract)
say FileExpected: the reason `Agree` leaves `readbytes` of a directory open -/
theorem zip_readbytes_dir_counterexample :
    (readZip (zipMembers (fun _ => 0) (.dir [("d".toList, .dir [])]))).readbytes "d".toList = .err .ResourceNotFound ∧
    (readZip (zipMembers (fun _ => 0) (.dir [("d".toList, .dir [])]))).openRead "d".toList = .err .FileExpected := by
  decide +kernel

/-- the hypotheses are met by a tree with an empty directory, an empty file, nested directories,
names with spaces / dots / glob characters / non-BMP code points -/
example : (Node.dir [("a b".toList, .dir [("..x".toList, .file []), ("😀*".toList, .dir [])]),
    ("[é]".toList, .file [0, 255])]).wf = true := by decide +kernel

example : (readTar (tarMembers (fun _ => 5) (.dir [("a b".toList, .dir [("😀*".toList, .dir [])])]))).listdir
    "/zz/../a b/".toList = .ok ["😀*".toList] := by decide +kernel

/-! ## modification times -/

/-- zip keeps the even second at or below the mtime (DOS time: 2-second resolution), tar the whole
second; writing what was read back changes nothing.  (That the reopened archive reports exactly
`zipTime (mt cs)` / `tarTime (mt cs)` is the `details` component of the round-trip theorems.) -/
theorem mtime_to_resolution (m : Int) :
    zipTime m ≤ m ∧ m < zipTime m + 2 ∧ zipTime m % 2 = 0 ∧ zipTime (zipTime m) = zipTime m ∧
    tarTime m = m :=
  ⟨Int.mul_ediv_self_le (by decide), Int.lt_mul_ediv_self_add (by decide), Int.mul_emod_right 2 _,
    congrArg (2 * ·) (Int.mul_ediv_cancel_left _ (by decide)), rfl⟩

/-! ## archives nobody should have written -/

/-- Hostile names, zip.  Whatever the member names (absolute, `..`, `a//b`, `./a`, duplicates, a
file below a file), the directory `ReadZipFS` builds is a well-formed tree: every name in it is a
legal resource name (non-empty, not `.`/`..`, no `/`, no NUL) and unique in its directory. -/
theorem zip_directory_wf (ms : List Member) : (readZip ms).dir.wf = true :=
  buildDir_wf Ref.State.empty (by decide) _ _

/-- Hostile names.  For every member list and every path string: the names a read-only archive
lists are clean components; in a zip every resource that exists at all is reached through clean
components only; and the `name` under which ReadTarFS describes a resource is the last component
of the (normalised) path that was asked for — empty for the root, clean otherwise. -/
theorem hostile_names_confined (ms : List Member) :
    (∀ p l, (readZip ms).listdir p = .ok l → ∀ c ∈ l, CleanComp c) ∧
    (∀ p l, (readTar ms).listdir p = .ok l → ∀ c ∈ l, CleanComp c) ∧
    (∀ cs n, (readZip ms).dir.get cs = some n → Clean cs) ∧
    (∀ p d, (readTar ms).details p = .ok d → d.name = [] ∨ CleanComp d.name) := by
  have hw := zip_directory_wf ms
  refine ⟨?_, ?_, fun cs n hg => get_clean hw hg, ?_⟩
  · intro p l hl c hc
    obtain ⟨cs, es, _, hg, rfl⟩ := zip_listdir_ok hl
    exact names_clean (TreeLemmas.entsWf_of_get hw hg) hc
  · intro p l hl c hc
    obtain ⟨r, hr, hch⟩ := tar_listdir_ok hl
    obtain ⟨cs, hcs, rfl⟩ := rel_ok hr
    obtain ⟨l', h1, _, h3⟩ := childNames_spec (keyed_tarEntries ms) hcs
    rw [show (readTar ms).childNames (mkp false cs) = .ok l' from h1] at hch
    cases hch
    exact (clean_append.1 ((h3 c).1 hc).clean).2 c List.mem_cons_self
  · intro p d hd
    obtain ⟨cs, hcs, _, hname⟩ := tar_details_name (keyed_tarEntries ms) p d hd
    rcases list_nil_or_snoc cs with rfl | ⟨i, x, rfl⟩
    · left; rw [hname]; rfl
    · right
      rw [hname, lastName_snoc]
      exact (clean_append.1 hcs).2 x List.mem_cons_self

/-- guards against `Info.name` taken from the raw member name (fixed in /repo b3e3bd5): the members
`a/.` and `b/c/..` are listed as `a` / `b` and also *described* as `a` / `b` (the raw member name
gives `.` / `..`, on which the walker loops or leaves the root) -/
theorem tar_info_name_repaired :
    (readTar [⟨"a/.".toList, true, [], 0⟩]).listdir ['/'] = .ok ["a".toList] ∧
    ((readTar [⟨"a/.".toList, true, [], 0⟩]).details "a".toList).map (·.name) = .ok "a".toList ∧
    ((readTar [⟨"b/c/..".toList, false, [1], 0⟩]).details "b".toList).map (·.name) = .ok "b".toList := by
  decide +kernel

/-- Every name ReadTarFS lists can be stat'ed, is described under that very name,
and can be opened when it is a file — for any member list (explicit and implicit directories,
duplicates, un-normalised names) -/
theorem tar_listed_paths_stat (ms : List Member) (cs : List Name) (hcs : Clean cs) (l : List Name)
    (hl : (readTar ms).listdir (mkp true cs) = .ok l) (x : Name) (hx : x ∈ l) :
    ∃ d, (readTar ms).details (mkp true (cs ++ [x])) = .ok d ∧ d.name = x ∧
      (d.isDir = false → ∃ b, (readTar ms).openRead (mkp true (cs ++ [x])) = .ok b) :=
  tar_listed_stat (keyed_tarEntries ms) hcs hl hx

/-- members that climb above the root are dropped by ReadTarFS and abort ReadZipFS's directory at
that member (first access raises, later accesses see the members before it); neither exposes a
path outside -/
theorem backref_members :
    (readTar [⟨"ok".toList, false, [1], 0⟩, ⟨"../up".toList, false, [2], 0⟩, ⟨"a/../../x".toList, false, [3], 0⟩]).listdir
      ['/'] = .ok ["ok".toList] ∧
    (readZip [⟨"ok".toList, false, [1], 0⟩, ⟨"../up".toList, false, [2], 0⟩, ⟨"later".toList, false, [3], 0⟩]).err =
      some .IllegalBackReference ∧
    (readZip [⟨"ok".toList, false, [1], 0⟩, ⟨"../up".toList, false, [2], 0⟩, ⟨"later".toList, false, [3], 0⟩]).listdir
      ['/'] = .ok ["ok".toList] := by decide +kernel

/-- guards against a raw KeyError from `openbin`/`readbytes` and silently lost `details` (fixed in
/repo 1679dcb): members stored under un-normalised names are listed under their normalised path
*and can be read and stat'ed there* -/
theorem zip_unnormalised_name_repaired :
    (readZip [⟨"a//b".toList, false, [120], 7⟩]).listdir "a".toList = .ok ["b".toList] ∧
    (readZip [⟨"a//b".toList, false, [120], 7⟩]).openRead "a/b".toList = .ok [120] ∧
    (readZip [⟨"a//b".toList, false, [120], 7⟩]).readbytes "a/b".toList = .ok [120] ∧
    (readZip [⟨"a//b".toList, false, [120], 7⟩]).details "a/b".toList = .ok ⟨"b".toList, false, some 1, some 7⟩ ∧
    (readZip [⟨"./a".toList, false, [121], 0⟩]).openRead "a".toList = .ok [121] ∧
    (readZip [⟨"/abs".toList, false, [122], 0⟩]).openRead "abs".toList = .ok [122] ∧
    (readZip [⟨"a/../b".toList, false, [123], 0⟩]).openRead "b".toList = .ok [123] ∧
    (readZip [⟨"d//".toList, true, [], 9⟩]).details "d".toList = .ok ⟨"d".toList, true, some 0, some 9⟩ := by decide +kernel

/-- Every listed file of a zip can be opened and stat'ed, whatever the member names.  At any
path string that validates to the components of a file of the directory, `openbin`, `readbytes`
and `getinfo(details)` answer with the bytes, size and mtime of one member of the archive. -/
theorem zip_listed_files_readable (ms : List Member) (p : Str) (cs : List Name)
    (hv : Ref.validate p = .ok cs) (b : Bytes) (hg : (readZip ms).dir.get cs = some (.file b)) :
    ∃ m, m ∈ ms ∧ (readZip ms).openRead p = .ok m.data ∧ (readZip ms).readbytes p = .ok m.data ∧
      (readZip ms).details p = .ok ⟨Ref.lastName cs, false, some m.data.length, some m.mtime⟩ := by
  obtain ⟨st, hst1, hst2⟩ := readZip_named ms cs (kindAt_eq_false.2 ⟨b, hg⟩)
  obtain ⟨m, hm1, _, hm3⟩ := lookupLast_of_mem_names hst2
  have hc : cs ≠ [] := ne_nil_of_file (buildDir_isDir Ref.State.empty rfl [] _) hg
  have hstored : (readZip ms).stored (mkp false cs) = st := by rw [ZipFS.stored, hst1]; rfl
  exact ⟨m, hm1, zip_file_answers hv hc hg (by rw [hstored]; exact hm3)⟩

/-- with several members normalising to one path the last one is read (`_zip_names` is a dict) -/
example : (readZip [⟨"a//b".toList, false, [1], 0⟩, ⟨"a/b".toList, false, [2], 0⟩, ⟨"a/./b".toList, false, [3], 0⟩]).openRead
    "a/b".toList = .ok [3] := by decide +kernel

/-! ## duplicates -/

/-- zip: the bytes, size and mtime of a name come from the *last* member written under it
(`ZipFile.NameToInfo`) -/
theorem zip_duplicate_last_wins (pre post : List Member) (m : Member)
    (h : ∀ x ∈ post, x.name ≠ m.name) : lookupLast (pre ++ m :: post) m.name = some m :=
  find?_reverse_last pre post m (beq_self_eq_true _) fun x hx => beq_eq_false_iff_ne.2 (h x hx)

/-- zip: the *type* of a path is decided by the first member that creates it (`create` does not
replace, `makedirs(recreate=True)` accepts what is there) -/
theorem zip_duplicate_type_first_wins :
    (readZip [⟨"a/".toList, true, [], 0⟩, ⟨"a".toList, false, [1], 0⟩]).isdir "a".toList = .ok true ∧
    (readZip [⟨"d".toList, false, [1], 0⟩, ⟨"e".toList, false, [2], 0⟩, ⟨"d".toList, false, [3], 0⟩]).openRead "d".toList =
      .ok [3] ∧
    (readZip [⟨"d".toList, false, [1], 0⟩, ⟨"e".toList, false, [2], 0⟩, ⟨"d".toList, false, [3], 0⟩]).listdir ['/'] =
      .ok ["d".toList, "e".toList] := by decide +kernel

/-- tar: `OrderedDict` — a key resolves to the *last* member whose name normalises to it -/
theorem tar_duplicate_last_wins (pre post : List Member) (m : Member) (k : Str)
    (hk : tarKey m.name = some k) (h : ∀ x ∈ post, tarKey x.name ≠ some k) :
    odGet k (tarEntries (pre ++ m :: post)) = some m := by
  rw [odGet_tarEntries]
  exact find?_reverse_last pre post m (beq_iff_eq.2 hk) fun x hx => beq_eq_false_iff_ne.2 (h x hx)

/-- tar: a key is listed at the position of its *first* member, in archive order -/
theorem tar_duplicate_first_position (ms : List Member) :
    (readTar ms).entries.map Prod.fst = dedupe (ms.filterMap fun m => tarKey m.name) :=
  keys_tarEntries ms

example :
    (readTar [⟨"d".toList, false, [1], 0⟩, ⟨"e".toList, false, [2], 0⟩, ⟨"./d".toList, false, [3], 0⟩]).listdir ['/'] =
      .ok ["d".toList, "e".toList] ∧
    (readTar [⟨"d".toList, false, [1], 0⟩, ⟨"e".toList, false, [2], 0⟩, ⟨"./d".toList, false, [3], 0⟩]).openRead "d".toList =
      .ok [3] := by decide +kernel

end Fs.C15
