/-
  C18 — close() is final, idempotent and finalises exactly once.

  `guardTable` is GENERATED from the sources on every run (harness/extract/generate.py): for every
  class and every public name visible on it, whether a `check()` dominates the first access to
  instance state.  `all_data_methods_guarded` is re-proved whenever the code changes; a public
  method added later must be guarded (or be put on the justified allow-list `Guard.helpers`).
-/
import FsModel.Guard
import FsProofs.Lemmas.GuardLemmas

namespace Fs.C18
open Fs Fs.Ref Fs.Guard Fs.Generated Fs.GuardLemmas

/-! ### table theorems (re-proved on every run) -/

/-- a name must be guarded unless it is on the allow-list (`Guard.helpers`); an unclassified name
counts as data -/
def mustGuard (m : String) : Bool := !(kindOf m == some .helper)

/-- acceptable results of the dominance analysis -/
def guardOk : GuardV → Bool
  | .guarded => true       -- FilesystemClosed before any access to instance state
  | _ => false

/-- What the generated guard table must show: the table theorems of this file, as the fields of one structure that is
decided in one evaluation.  The look-ups by name (`kindOf` of every public name, the rows of each class) and the
string literals they compare are what an evaluation costs, and the kernel keeps what it has computed within one proof
only. -/
structure GuardTableLaws : Prop where
  all_public_classified : ∀ m ∈ publicNames, (kindOf m).isSome = true
  /-- `guardOk` is read off the row while `mustGuard` compares names: the row is evaluated first -/
  all_data_methods_guarded :
    ∀ t ∈ guardTable, t.1 ∈ concreteClasses → ∀ r ∈ t.2, guardOk r.2.2 = true ∨ mustGuard r.1 = false
  guard_table_covers : notUnderstood = [] ∧
    ∀ cls ∈ concreteClasses, ∀ m ∈ mutators ++ openers ++ ["getinfo", "listdir", "scandir", "readbytes", "exists"],
      (publicOf cls).contains m = true
  wrappers_guard_ref_ops :
    ∀ cls ∈ ["WrapFS", "SubFS", "ClosingSubFS", "WrapReadOnly", "WrapCachedDir", "WriteZipFS", "WriteTarFS"],
      ∀ m ∈ refMethods, m ≠ "close" → guardOf cls m = .guarded
  finalisers_noop_when_closed :
    guardOf "WriteZipFS" "write_zip" = .closedNoop ∧ guardOf "WriteTarFS" "write_tar" = .closedNoop

theorem guard_table_laws : GuardTableLaws := by
  -- the structure is the conjunction of its fields; that is decided
  refine (fun ⟨h1, h2, h3, h4, h5⟩ => ⟨h1, h2, h3, h4, h5⟩ : _ ∧ _ ∧ _ ∧ _ ∧ _ → GuardTableLaws) ?_
  decide +kernel

/-- Every public method of every concrete class that reads or changes stored data or metadata
raises `FilesystemClosed` before it touches instance state. -/
theorem all_data_methods_guarded :
    ∀ t ∈ guardTable, t.1 ∈ concreteClasses → ∀ r ∈ t.2, mustGuard r.1 = true → guardOk r.2.2 = true :=
  fun t ht hc r hr hm => (guard_table_laws.all_data_methods_guarded t ht hc r hr).resolve_right (by simp [hm])

/-- every public name found by the extractor is classified (mutator / opener / query / helper) -/
theorem all_public_classified : ∀ m ∈ publicNames, (kindOf m).isSome = true :=
  guard_table_laws.all_public_classified

/-- `dataOrMeta` is exactly "classified and not on the allow-list" -/
theorem dataOrMeta_iff_mustGuard : ∀ m ∈ publicNames, dataOrMeta m = mustGuard m := by
  intro m hm
  have hk := all_public_classified m hm
  unfold dataOrMeta mustGuard
  revert hk
  cases kindOf m with
  | none => exact fun h => nomatch h
  | some k => cases k <;> exact fun _ => rfl

/-- the table is not vacuous: every class of the list is there with the whole `FS` API -/
theorem guard_table_covers :
    notUnderstood = [] ∧
    ∀ cls ∈ concreteClasses, ∀ m ∈ mutators ++ openers ++ ["getinfo", "listdir", "scandir", "readbytes", "exists"],
      (publicOf cls).contains m = true := guard_table_laws.guard_table_covers

/-- helpers that are *not* guarded stay inert after close on their own account: the archive
finalisers are no-ops once closed -/
theorem finalisers_noop_when_closed :
    guardOf "WriteZipFS" "write_zip" = .closedNoop ∧ guardOf "WriteTarFS" "write_tar" = .closedNoop :=
  guard_table_laws.finalisers_noop_when_closed

/-! ### the reference semantics -/

/-- after `close`, nothing changes and every operation reports FilesystemClosed -/
theorem closed_is_final (s : State) (op : Op) (h : s.closed = true) (hop : op ≠ .close) :
    step s op = (s, .err .FilesystemClosed) := QueryLemmas.step_closed s op hop h

/-- `close` may be repeated: the second one changes nothing and succeeds -/
theorem close_idempotent (s : State) :
    step (step s .close).1 .close = ((step s .close).1, .ok .unit) ∧ (step s .close).1.closed = true := by
  simp [step]

/-- a whole history after `close` (`with`-block exit is a call of `close`) leaves the state
alone and answers `FilesystemClosed` to everything but further closes -/
theorem closed_run_is_final (s : State) (h : s.closed = true) (ops : List Op) :
    (run s ops).1 = s ∧ ∀ o ∈ (run s ops).2, o = .err .FilesystemClosed ∨ o = .ok .unit := by
  induction ops with
  | nil => exact ⟨rfl, by intro o ho; cases ho⟩
  | cons op ops ih =>
    by_cases hop : op = .close
    · subst hop
      have e : step s .close = (s, .ok .unit) := by
        cases s with | mk root closed => simp only at h; subst h; rfl
      simp only [run, e]
      exact ⟨ih.1, List.forall_mem_cons.mpr ⟨Or.inr rfl, ih.2⟩⟩
    · simp only [run, closed_is_final s op h hop]
      exact ⟨ih.1, List.forall_mem_cons.mpr ⟨Or.inl rfl, ih.2⟩⟩

/-! ### wrappers: own flag + guard table -/

/-- a guarded method of a closed wrapper raises FilesystemClosed and reaches nothing -/
theorem wrapper_closed_is_final (cls : String) (st : RO.State) (op : Op) (h : st.closed = true)
    (hop : op ≠ .close) (hg : guardOf cls (opMeth op) = .guarded) :
    Wrap.step cls st op = (st, .err .FilesystemClosed) := by
  cases op <;> first | exact absurd rfl hop | simp [Wrap.step, h, hg]

/-- the delegating wrappers of this tree guard every operation `Ref.Op` has -/
theorem wrappers_guard_ref_ops :
    ∀ cls ∈ ["WrapFS", "SubFS", "ClosingSubFS", "WrapReadOnly", "WrapCachedDir", "WriteZipFS", "WriteTarFS"],
      ∀ m ∈ refMethods, m ≠ "close" → guardOf cls m = .guarded := guard_table_laws.wrappers_guard_ref_ops

/-- hence: once closed, a wrapper answers FilesystemClosed to every operation and the wrapped
filesystem is neither read nor changed through it -/
theorem wrappers_closed_final (cls : String)
    (hcls : cls ∈ ["WrapFS", "SubFS", "ClosingSubFS", "WrapReadOnly", "WrapCachedDir", "WriteZipFS", "WriteTarFS"])
    (st : RO.State) (op : Op) (h : st.closed = true) (hop : op ≠ .close) :
    Wrap.step cls st op = (st, .err .FilesystemClosed) := by
  apply wrapper_closed_is_final cls st op h hop
  apply wrappers_guard_ref_ops cls hcls
  · exact opMeth_mem_refMethods op
  · exact opMeth_ne_close hop

/-- why the guard matters: the wrapper's `close` does not close what it wraps, so a method that is
*not* guarded still acts on the wrapped filesystem after close (a closed `SubFS` does this with
`move`/`copy` when `WrapFS.move/movedir/copy/copydir` lack the `check()` call; /repo a090d59 added it) -/
theorem unguarded_method_leaks (cls : String) (hg : guardOf cls "move" ≠ .guarded) (hc : Wrap.closesInner cls = false) :
    ∃ st op, st.closed = true ∧ (Wrap.step cls st op).2 = .ok .unit ∧ (Wrap.step cls st op).1.inner ≠ st.inner := by
  refine ⟨(Wrap.step cls { inner := { root := .dir [(['a'], .file [1])], closed := false }, closed := false } .close).1,
    .move ['a'] ['b'] false, ?_, ?_, ?_⟩
  · rfl
  all_goals
    have : (guardOf cls "move" == .guarded) = false := by simpa using hg
    simp only [Wrap.step, hc, opMeth, this]
  · decide
  · intro h
    have h2 := congrArg (fun s => flat s.root) h
    revert h2
    decide

theorem wrapper_close_idempotent (cls : String) (st : RO.State) :
    (Wrap.step cls (Wrap.step cls st .close).1 .close).1 = (Wrap.step cls st .close).1 := by
  simp only [Wrap.step]
  split <;> simp [step]

/-! ### finalisation: archives, TempFS, composites, views -/

open Finalise

/-- invariant of the archive finalisation: an open archive filesystem has written nothing yet,
a closed one at most one archive -/
def ArchInv (s : Arch) : Prop := (s.closed = true → s.writes ≤ 1) ∧ (s.closed = false → s.writes = 0)

theorem arch_close_inv (s : Arch) (f : Bool) (h : ArchInv s) : ArchInv (s.close f).1 := by
  cases s with | mk c t w a =>
  unfold ArchInv at *
  cases c <;> cases t <;> cases f <;> simp_all [Arch.close]

/-- at most one archive is ever written, whatever the sequence of `close()` calls and failures -/
theorem archive_writes_le_one (fs : List Bool) : (Arch.run Arch.init fs).1.writes ≤ 1 := by
  suffices h : ∀ (fs : List Bool) (s : Arch), ArchInv s → ArchInv (Arch.run s fs).1 by
    have hinit : ArchInv Arch.init := And.intro (fun hc => absurd hc (by decide)) (fun _ => rfl)
    have := h fs Arch.init hinit
    cases hc : (Arch.run Arch.init fs).1.closed with
    | true => exact this.1 hc
    | false => rw [this.2 hc]; exact Nat.zero_le 1
  intro fs
  induction fs with
  | nil => intro s h; exact h
  | cons f fs ih => intro s h; exact ih _ (arch_close_inv s f h)

/-- `n ≥ 1` closes the first of which succeeds: exactly one archive write, and every close
returns normally -/
theorem archive_written_once (fs : List Bool) :
    (Arch.run Arch.init (false :: fs)).1.writes = 1 ∧
    (Arch.run Arch.init (false :: fs)).1.attempts = 1 ∧
    ∀ o ∈ (Arch.run Arch.init (false :: fs)).2, o = .ok := by
  have h : ∀ (s : Arch) (fs : List Bool), s.closed = true →
      (Arch.run s fs).1 = s ∧ ∀ o ∈ (Arch.run s fs).2, o = CloseOut.ok := by
    intro s fs hc
    induction fs with
    | nil => exact ⟨rfl, by intro o ho; cases ho⟩
    | cons f fs ih =>
      have e : s.close f = (s, .ok) := by simp [Arch.close, hc]
      simp only [Arch.run, e]
      exact ⟨ih.1, List.forall_mem_cons.mpr ⟨rfl, ih.2⟩⟩
  have e : Arch.init.close false = ({ closed := true, tempClosed := true, writes := 1, attempts := 1 }, .ok) := by decide
  simp only [Arch.run, e]
  have := h { closed := true, tempClosed := true, writes := 1, attempts := 1 } fs rfl
  rw [this.1]
  exact ⟨rfl, rfl, List.forall_mem_cons.mpr ⟨rfl, this.2⟩⟩

/-- What the code does when the archive write raises during the first `close()`: the temporary
filesystem is closed by `finally` (a TempFS is deleted), `_closed` stays false — `isclosed()`
keeps answering False — every later `close()` raises FilesystemClosed (from the closed temporary
filesystem), and no archive is ever written. -/
theorem close_after_failed_close (fs : List Bool) :
    (Arch.run Arch.init (true :: fs)).1.closed = false ∧
    (Arch.run Arch.init (true :: fs)).1.tempClosed = true ∧
    (Arch.run Arch.init (true :: fs)).1.writes = 0 ∧
    (Arch.run Arch.init (true :: fs)).2 = .writeError :: fs.map (fun _ => .fsClosed) := by
  have h : ∀ (s : Arch) (fs : List Bool), s.closed = false → s.tempClosed = true →
      (Arch.run s fs).1.closed = false ∧ (Arch.run s fs).1.tempClosed = true ∧
      (Arch.run s fs).1.writes = s.writes ∧ (Arch.run s fs).2 = fs.map (fun _ => CloseOut.fsClosed) := by
    intro s fs
    induction fs generalizing s with
    | nil => intro hc ht; exact ⟨hc, ht, rfl, rfl⟩
    | cons f fs ih =>
      intro hc ht
      have e : s.close f = ({ s with attempts := s.attempts + 1 }, .fsClosed) := by simp [Arch.close, hc, ht]
      simp only [Arch.run, e, List.map_cons]
      have := ih { s with attempts := s.attempts + 1 } hc ht
      exact ⟨this.1, this.2.1, this.2.2.1, by rw [this.2.2.2]⟩
  have e : Arch.init.close true = ({ closed := false, tempClosed := true, writes := 0, attempts := 1 }, .writeError) := by
    decide
  simp only [Arch.run, e]
  have := h { closed := false, tempClosed := true, writes := 0, attempts := 1 } fs rfl rfl
  exact ⟨this.1, this.2.1, this.2.2.1, by rw [this.2.2.2]⟩

theorem tempfs_removed_on_close (s : Temp) (h : s.dirExists = true) (hc : s.cleaned = false) :
    (s.close.closed = true) ∧ (s.close.dirExists = false ↔ s.autoClean = true) := by
  cases s with | mk closed cleaned dirExists autoClean =>
  simp only at h hc
  subst h hc
  cases autoClean <;> simp [Temp.close, Temp.clean]

theorem tempfs_close_idempotent (s : Temp) : s.close.close = s.close := by
  cases s with | mk closed cleaned dirExists autoClean =>
  cases autoClean <;> cases cleaned <;> simp [Temp.close, Temp.clean]

theorem members_closed_iff_auto_close (s : Comp) (h : ∀ m ∈ s.members, m = false) (hne : s.members ≠ []) :
    s.close.closed = true ∧ ((∀ m ∈ s.close.members, m = true) ↔ s.autoClose = true) := by
  cases s with | mk closed autoClose members =>
  simp only at h hne
  cases autoClose with
  | true => simp [Comp.close]
  | false =>
    simp only [Comp.close, Bool.false_eq_true, if_false, iff_false, true_and]
    intro hall
    cases members with
    | nil => exact hne rfl
    | cons m ms =>
      have h1 := h m (List.mem_cons_self ..)
      have h2 := hall m (List.mem_cons_self ..)
      rw [h1] at h2
      exact absurd h2 (by decide)

theorem closing_subfs_closes_parent (s : Sub) :
    s.close.closed = true ∧ (s.close.parentClosed = (s.parentClosed || s.closing)) := by
  simp [Sub.close]

/-! ### examples -/

example : (Arch.run Arch.init [false, false, false]).1.writes = 1 := by decide
example : (Arch.run Arch.init [true, false, false]).2 = [.writeError, .fsClosed, .fsClosed] := by decide
example : (run State.empty [.makedir "a".toList false, .close, .exists_ "a".toList, .close, .makedir "b".toList false]).2
    = [.ok .unit, .ok .unit, .err .FilesystemClosed, .ok .unit, .err .FilesystemClosed] := by decide

end Fs.C18
