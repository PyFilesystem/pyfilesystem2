/-
  The loop combinators of `FsModel/PyStr.lean` without their recursion: `pyWhile` by a measure that each
  round lowers (so that fuel above the measure never runs out), `pyFor` for a body that never leaves the loop.
  Per-loop lemmas give the measure and say what a single round does.
-/
import FsModel.PyStr

namespace Fs.PyLoop
open Fs Fs.PyStr

/-- `P s o`: "the loop started in `s` ends in `o`".  It is enough that `P` holds of every way a round can
leave the loop, and is carried backwards over a round that goes on, while `μ` falls. -/
theorem pyWhile_rule {σ ρ : Type} (step : σ → Flow σ ρ) (μ : σ → Nat) (P : σ → LoopOut σ ρ → Prop)
    (h : ∀ s, match step s with
      | .next s' => μ s' < μ s ∧ ∀ o, P s' o → P s o
      | .brk s' => P s (.done s')
      | .ret r => P s (.ret r)
      | .exc e => P s (.exc e))
    (fuel : Nat) (s : σ) (hfuel : μ s < fuel) : P s (pyWhile fuel s step) := by
  induction fuel generalizing s with
  | zero => omega
  | succ n ih =>
    have hs := h s
    rw [pyWhile]
    generalize step s = fl at hs ⊢
    cases fl with
    | next s' => exact hs.2 _ (ih s' (by have := hs.1; omega))
    | brk s' => exact hs
    | ret r => exact hs
    | exc e => exact hs

theorem pyFor_fold {α σ ρ : Type} (g : σ → α → σ) (f : α → σ → Flow σ ρ) (hf : ∀ x s, f x s = .next (g s x))
    (xs : List α) (s : σ) : pyFor xs s f = .done (xs.foldl g s) := by
  induction xs generalizing s with
  | nil => rfl
  | cons x xs ih => rw [pyFor, hf]; exact ih _

end Fs.PyLoop
