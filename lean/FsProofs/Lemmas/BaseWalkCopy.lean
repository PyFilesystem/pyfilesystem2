/-
  The breadth-first walks of `copy_dir`
  (`copy_structure`, then the file walk) over the primitives of `Ref.step`, from a source directory `a` into
  an existing destination directory `b` that does not overlap with it, compute the tree-level description
  `BaseWalkSpec.recQ` of the pending queue — hence `recNode` of the whole source.
-/
import FsProofs.Lemmas.BaseWalkRm
import FsProofs.Lemmas.BaseWalkComm
import FsProofs.Lemmas.BaseWalkMerge

namespace Fs.BaseWalkCopy
open Fs Fs.Path Fs.Ref Fs.BaseWalk Fs.TreeLemmas Fs.WrapLemmas Fs.BaseWalkPrim Fs.BaseWalkRm Fs.BaseWalkSpec
  Fs.BaseWalkComm Fs.BaseWalkMerge

/-! ### the setting: source `a`, destination `b`, neither inside the other -/

/-- a tree with the node `S` at `a` and something at `b`; the walks replace the node at `b` -/
structure Ctx where
  root0 : Node
  a : List Name
  b : List Name
  S : Node
  hdir : root0.isDir = true
  hwf : root0.wf = true
  ha : CleanN a
  hb : CleanN b
  inc : Inc a b
  hS : root0.get a = some S
  hB : (root0.get b).isSome = true

namespace Ctx

/-- the state in which the destination sub-tree is `D` -/
def st (C : Ctx) (D : Node) : State := { root := setAt C.root0 C.b D, closed := false }

theorem S_wf (C : Ctx) : C.S.wf = true := TreeLemmas.get_wf C.a C.root0 _ C.hwf C.hS

theorem good (C : Ctx) {D : Node} (hw : D.wf = true) (hd : D.isDir = true) : GoodS (C.st D) := by
  cases D with
  | file x => cases hd
  | dir ds =>
    exact ⟨rfl, TreeLemmas.isDir_setAt_dir _ _ _ C.hdir, TreeLemmas.setAt_wf _ _ _ C.hb C.hwf (by simpa [Node.wf] using hw)⟩

theorem get_b (C : Ctx) (D : Node) (r : List Name) : (C.st D).root.get (C.b ++ r) = D.get r := by
  obtain ⟨u, hu⟩ := Option.isSome_iff_exists.1 C.hB
  exact get_setAt hu D r

theorem get_a (C : Ctx) (D : Node) (r : List Name) : (C.st D).root.get (C.a ++ r) = C.S.get r := by
  have h1 : ¬ C.b <+: C.a ++ r := not_prefix_append C.inc.1 C.inc.2
  have h2 : ¬ C.a ++ r <+: C.b := fun h => C.inc.1 ((List.prefix_append _ _).trans h)
  show (setAt C.root0 C.b D).get (C.a ++ r) = _
  rw [get_setAt_diverge _ _ _ _ h1 h2, get_sub C.hS]

theorem setAt_b (C : Ctx) (D : Node) (r : List Name) (x : Node) :
    setAt (C.st D).root (C.b ++ r) x = (C.st (setAt D r x)).root := by
  obtain ⟨u, hu⟩ := Option.isSome_iff_exists.1 C.hB
  exact setAt_setAt_sub hu D x r

theorem clean_src (C : Ctx) {r : List Name} {n : Node} (h : C.S.get r = some n) : CleanN r :=
  cleanName_of_get C.S_wf h

theorem ne_ab (C : Ctx) (r : List Name) : C.a ++ r ≠ C.b ++ r := by
  intro h
  have := List.append_cancel_right h
  exact C.inc.1 (this ▸ List.prefix_refl _)

theorem child_src (C : Ctx) {r : List Name} {k : Name} (hr : CleanN r) (hk : cleanName k = true) :
    combine (absOf (C.a ++ r)) k = absOf (C.a ++ (r ++ [k])) := by
  rw [combine_absOf (cleanN_append.2 ⟨C.ha, hr⟩) hk, List.append_assoc]

theorem child_target (C : Ctx) {r : List Name} {k : Name} (hr : CleanN r) (hk : cleanName k = true) :
    target (absOf C.a) (absOf C.b) (absOf (C.a ++ (r ++ [k]))) = .ok (absOf (C.b ++ (r ++ [k]))) :=
  target_absOf C.ha C.hb (cleanN_snoc hr hk) (by simp)

section Child
variable (C : Ctx) {D : Node} {r : List Name} {ds : Ents} (hg : D.get r = some (.dir ds)) (k : Name)
include hg

theorem get_b_child : (C.st D).root.get (C.b ++ (r ++ [k])) = Ents.lookup k ds := by
  rw [C.get_b, get_snoc_dir hg]

theorem get_b_parent : (C.st D).root.get (parentOf (C.b ++ (r ++ [k]))) = some (.dir ds) := by
  have : parentOf (C.b ++ (r ++ [k])) = C.b ++ r := by simp [parentOf, ← List.append_assoc]
  rw [this, C.get_b, hg]

theorem set_b_child (x : Node) :
    ({ (C.st D) with root := (C.st D).root.set (C.b ++ (r ++ [k])) x } : State) =
      C.st (setAt D r (.dir (Ents.put k x ds))) := by
  have hne : C.b ++ (r ++ [k]) ≠ [] := by simp
  have : (C.st D).root.set (C.b ++ (r ++ [k])) x = (C.st (setAt D r (.dir (Ents.put k x ds)))).root := by
    rw [← setAt_ne hne, C.setAt_b, ← setAt_child hg ds k x, setAt_self _ _ _ hg]
  rw [this]
  rfl

/-- `makedir(b/r/k, recreate=True)` -/
theorem makedir_child (hw : D.wf = true) (hd : D.isDir = true) (hr : CleanN r) (hk : cleanName k = true) :
    PR.makedir (C.st D) (absOf (C.b ++ (r ++ [k]))) =
      match Ents.lookup k ds with
      | none => (C.st (setAt D r (.dir (Ents.put k (.dir []) ds))), .ok .unit)
      | some (.dir _) => (C.st D, .ok .unit)
      | some (.file _) => (C.st D, .err .DirectoryExpected) := by
  have hc : CleanN (C.b ++ (r ++ [k])) := cleanN_append.2 ⟨C.hb, cleanN_snoc hr hk⟩
  have hne : C.b ++ (r ++ [k]) ≠ [] := by simp
  show Ref.step (C.st D) (.makedir _ true) = _
  rw [ref_one _ (C.good hw hd).opn _ hc rfl]
  simp only [step1, hne, if_false, C.get_b_parent hg, C.get_b_child hg]
  rcases Ents.lookup k ds with _ | ⟨_ | _⟩
  · simp only [upd, C.set_b_child hg]
  · rfl
  · rfl

theorem copy_child (hw : D.wf = true) (hd : D.isDir = true) (hr : CleanN r) (hk : cleanName k = true) (fb : Bytes)
    (hs : C.S.get (r ++ [k]) = some (.file fb)) :
    copyFileInternal PR (C.st D) (absOf (C.a ++ (r ++ [k]))) (absOf (C.b ++ (r ++ [k]))) =
      match Ents.lookup k ds with
      | some (.dir _) => (C.st D, .err .FileExpected)
      | _ => (C.st (setAt D r (.dir (Ents.put k (.file fb) ds))), .ok .unit) := by
  have hrk : CleanN (r ++ [k]) := cleanN_snoc hr hk
  have hsrc : CleanN (C.a ++ (r ++ [k])) := cleanN_append.2 ⟨C.ha, hrk⟩
  have hdst : CleanN (C.b ++ (r ++ [k])) := cleanN_append.2 ⟨C.hb, hrk⟩
  have G := C.good hw hd
  have hne : C.b ++ (r ++ [k]) ≠ [] := by simp
  have hneq : C.a ++ (r ++ [k]) ≠ C.b ++ (r ++ [k]) := C.ne_ab _
  have hsne : absOf (C.a ++ (r ++ [k])) ≠ absOf (C.b ++ (r ++ [k])) := fun e => hneq ((absOf_inj hsrc hdst).1 e)
  have hv1 : PR.validatepath (C.st D) (absOf (C.a ++ (r ++ [k]))) = (C.st D, .ok (absOf (C.a ++ (r ++ [k])))) :=
    validateOf_ref_absOf _ G.opn hsrc
  have hv2 : PR.validatepath (C.st D) (absOf (C.b ++ (r ++ [k]))) = (C.st D, .ok (absOf (C.b ++ (r ++ [k])))) :=
    validateOf_ref_absOf _ G.opn hdst
  simp only [copyFileInternal, hv1, hv2, hsne, if_false]
  show Ref.step (C.st D) (.copy _ _ true) = _
  rw [ref_two _ G.opn _ hsrc hdst rfl]
  have hgs : (C.st D).root.get (C.a ++ (r ++ [k])) = some (.file fb) := by rw [C.get_a, hs]
  simp only [step2, Bool.not_true, Bool.false_and, Bool.false_eq_true, if_false, hneq, hgs, hne,
    C.get_b_parent hg, C.get_b_child hg]
  rcases Ents.lookup k ds with _ | ⟨_ | _⟩
  · simp only [upd, C.set_b_child hg]
  · simp only [upd, C.set_b_child hg]
  · rfl

end Child

end Ctx

theorem clean_of_lookup {es : Ents} {k : Name} {v : Node} (hw : entsWf es = true) (h : Ents.lookup k es = some v) :
    cleanName k = true := lookup_cleanName k v es hw h

theorem infos_cons (e : Name × Node) (es : Ents) : infos (e :: es) = infoOf e :: infos es := rfl

section Level
variable (C : Ctx) (r : List Name) (hr : CleanN r) {D0 u : Node} (hw0 : D0.wf = true) (hd0 : D0.isDir = true)
  (hu : D0.get r = some u)
include hr hw0 hd0 hu

/-- `dcur`: the running content of the destination directory `b/r` of `D0` -/
theorem structEntries_lvl : ∀ (es' dcur : Ents) (q : List Str), entsWf es' = true → entsWf dcur = true →
    (∀ d1, lvl .struct es' dcur = some d1 →
      structEntries PR (absOf C.a) (absOf C.b) (absOf (C.a ++ r)) (infos es') q (C.st (setAt D0 r (.dir dcur))) =
        (C.st (setAt D0 r (.dir d1)), .ok (q ++ (kids es').map (fun k => absOf (C.a ++ (r ++ [k])))))) ∧
    (lvl .struct es' dcur = none →
      ∃ D', structEntries PR (absOf C.a) (absOf C.b) (absOf (C.a ++ r)) (infos es') q (C.st (setAt D0 r (.dir dcur))) =
        (C.st D', .err .DirectoryExpected))
  | [], dcur, q, _, _ => by
    refine ⟨fun d1 h => ?_, fun h => by cases h⟩
    cases h
    simp only [infos, List.map_nil, structEntries, kids, List.append_nil]
  | (k, .file fb) :: es', dcur, q, he, hd => by
    rw [infos_cons]
    simp only [lvl, infoOf, structEntries, Bool.false_eq_true, if_false, kids]
    exact structEntries_lvl es' dcur q (entsWf_cons.1 he).2.2.2 hd
  | (k, .dir ke) :: es', dcur, q, he, hd => by
    obtain ⟨hk, _, _, he'⟩ := entsWf_cons.1 he
    have hD : (setAt D0 r (.dir dcur)).get r = some (.dir dcur) := get_setAt_self hu _
    rw [infos_cons]
    simp only [lvl, infoOf, structEntries, if_true, kids]
    rw [C.child_src hr hk, C.child_target hr hk]
    simp only
    rw [C.makedir_child hD k (TreeLemmas.setAt_wf _ _ _ hr hw0 hd) (TreeLemmas.isDir_setAt_dir _ _ _ hd0) hr hk,
      setAt_setAt]
    rcases Ents.lookup k dcur with _ | ⟨fb | e'⟩
    · simpa only [List.map_cons, List.append_assoc, List.singleton_append] using
        structEntries_lvl es' _ (q ++ [absOf (C.a ++ (r ++ [k]))]) he'
          (entsWf_put _ _ _ hk (by simp [Node.wf, entsWf]) hd)
    · exact ⟨fun d1 h => (by cases h), fun _ => ⟨_, rfl⟩⟩
    · simpa only [List.map_cons, List.append_assoc, List.singleton_append] using
        structEntries_lvl es' dcur (q ++ [absOf (C.a ++ (r ++ [k]))]) he' hd

theorem fileEntries_lvl (es0 : Ents) (hS : C.S.get r = some (.dir es0)) :
    ∀ (es' dcur : Ents) (q : List Str), (∀ e ∈ es', e ∈ es0) → entsWf es' = true → entsWf dcur = true →
    (∀ d1, lvl .files es' dcur = some d1 →
      fileEntries PR (absOf C.a) (absOf C.b) (absOf (C.a ++ r)) (infos es') q (C.st (setAt D0 r (.dir dcur))) =
        (C.st (setAt D0 r (.dir d1)), .ok (q ++ (kids es').map (fun k => absOf (C.a ++ (r ++ [k])))))) ∧
    (lvl .files es' dcur = none →
      ∃ D', fileEntries PR (absOf C.a) (absOf C.b) (absOf (C.a ++ r)) (infos es') q (C.st (setAt D0 r (.dir dcur))) =
        (C.st D', .err .FileExpected))
  | [], dcur, q, _, _, _ => by
    refine ⟨fun d1 h => ?_, fun h => by cases h⟩
    cases h
    simp only [infos, List.map_nil, fileEntries, kids, List.append_nil]
  | (k, .dir ke) :: es', dcur, q, hsub, he, hd => by
    obtain ⟨hk, _, _, he'⟩ := entsWf_cons.1 he
    rw [infos_cons]
    simp only [lvl, infoOf, fileEntries, if_true, kids]
    rw [C.child_src hr hk]
    simpa only [List.map_cons, List.append_assoc, List.singleton_append] using
      fileEntries_lvl es0 hS es' dcur (q ++ [absOf (C.a ++ (r ++ [k]))]) (fun e h => hsub e (by simp [h])) he' hd
  | (k, .file fb) :: es', dcur, q, hsub, he, hd => by
    obtain ⟨hk, _, _, he'⟩ := entsWf_cons.1 he
    have hD : (setAt D0 r (.dir dcur)).get r = some (.dir dcur) := get_setAt_self hu _
    have hs : C.S.get (r ++ [k]) = some (.file fb) := by
      rw [get_snoc_dir hS, TreeLemmas.lookup_of_mem (TreeLemmas.entsWf_of_get C.S_wf hS) (hsub (k, .file fb) (by simp))]
    rw [infos_cons]
    simp only [lvl, infoOf, fileEntries, Bool.false_eq_true, if_false, kids]
    rw [C.child_src hr hk, C.child_target hr hk]
    simp only
    rw [C.copy_child hD k (TreeLemmas.setAt_wf _ _ _ hr hw0 hd) (TreeLemmas.isDir_setAt_dir _ _ _ hd0) hr hk fb hs,
      setAt_setAt]
    have ih := fileEntries_lvl es0 hS es' (Ents.put k (.file fb) dcur) q (fun e h => hsub e (by simp [h])) he'
      (entsWf_put _ _ _ hk (by simp [Node.wf]) hd)
    rcases Ents.lookup k dcur with _ | ⟨fb' | e'⟩
    · exact ih
    · exact ih
    · exact ⟨fun d1 h => (by cases h), fun _ => ⟨_, rfl⟩⟩

end Level

theorem structEntries_ref (C : Ctx) (r : List Name) (hr : CleanN r) :
    ∀ (es' : Ents) (ds : Ents) (D : Node) (q : List Str), entsWf es' = true → entsWf ds = true →
      D.wf = true → D.isDir = true → D.get r = some (.dir ds) →
      match lvl .struct es' ds with
      | some d1 => structEntries PR (absOf C.a) (absOf C.b) (absOf (C.a ++ r)) (infos es') q (C.st D) =
          (C.st (setAt D r (.dir d1)), .ok (q ++ (kids es').map (fun k => absOf (C.a ++ (r ++ [k])))))
      | none => ∃ D', structEntries PR (absOf C.a) (absOf C.b) (absOf (C.a ++ r)) (infos es') q (C.st D) =
          (C.st D', .err .DirectoryExpected) := by
  intro es' ds D q he hd hDw hDd hg
  have h := structEntries_lvl C r hr hDw hDd hg es' ds q he hd
  rw [setAt_self _ _ _ hg] at h
  cases hl : lvl .struct es' ds with
  | some d1 => exact h.1 d1 hl
  | none => exact h.2 hl

theorem fileEntries_ref (C : Ctx) (r : List Name) (hr : CleanN r) (es0 : Ents) (hS : C.S.get r = some (.dir es0)) :
    ∀ (es' : Ents) (ds : Ents) (D : Node) (q : List Str), (∀ e ∈ es', e ∈ es0) → entsWf es' = true →
      entsWf ds = true → D.wf = true → D.isDir = true → D.get r = some (.dir ds) →
      match lvl .files es' ds with
      | some d1 => fileEntries PR (absOf C.a) (absOf C.b) (absOf (C.a ++ r)) (infos es') q (C.st D) =
          (C.st (setAt D r (.dir d1)), .ok (q ++ (kids es').map (fun k => absOf (C.a ++ (r ++ [k])))))
      | none => ∃ D', fileEntries PR (absOf C.a) (absOf C.b) (absOf (C.a ++ r)) (infos es') q (C.st D) =
          (C.st D', .err .FileExpected) := by
  intro es' ds D q hsub he hd hDw hDd hg
  have h := fileEntries_lvl C r hr hDw hDd hg es0 hS es' ds q hsub he hd
  rw [setAt_self _ _ _ hg] at h
  cases hl : lvl .files es' ds with
  | some d1 => exact h.1 d1 hl
  | none => exact h.2 hl

/-! ### the breadth-first walk -/

/-- what the consumer of the walk does with one directory: the level `lvl ph` on the destination directory,
the sub-directories appended to the queue — or the conflict class -/
def VisitSpec (C : Ctx) (ph : Phase) (visit : Str → List ScanInfo → List Str → State → State × Res (List Str)) : Prop :=
  ∀ (r : List Name) (es ds : Ents) (D : Node) (q : List Str), C.S.get r = some (.dir es) → entsWf ds = true →
    D.wf = true → D.isDir = true → D.get r = some (.dir ds) →
    match lvl ph es ds with
    | some d1 => visit (absOf (C.a ++ r)) (infos es) q (C.st D) =
        (C.st (setAt D r (.dir d1)), .ok (q ++ (kids es).map (fun k => absOf (C.a ++ (r ++ [k])))))
    | none => ∃ D', visit (absOf (C.a ++ r)) (infos es) q (C.st D) = (C.st D', .err (cls ph))

theorem visitSpec_struct (C : Ctx) : VisitSpec C .struct (structEntries PR (absOf C.a) (absOf C.b)) := by
  intro r es ds D q hs hd hDw hDd hg
  have hw : entsWf es = true := TreeLemmas.entsWf_of_get C.S_wf hs
  exact structEntries_ref C r (C.clean_src hs) es ds D q hw hd hDw hDd hg

theorem visitSpec_files (C : Ctx) : VisitSpec C .files (fileEntries PR (absOf C.a) (absOf C.b)) := by
  intro r es ds D q hs hd hDw hDd hg
  have hw : entsWf es = true := TreeLemmas.entsWf_of_get C.S_wf hs
  exact fileEntries_ref C r (C.clean_src hs) es hs es ds D q (fun e h => h) hw hd hDw hDd hg

/-- the invariant on a pending directory: its destination is there (`struct`: the directory itself, it was
created when its parent was visited; `files`: every directory below it, the structure walk is over) -/
def J (ph : Phase) (S D : Node) (r : List Name) : Prop :=
  match ph with
  | .struct => ∃ ds, D.get r = some (.dir ds)
  | .files => Cov S D r

theorem J_dir {ph : Phase} {S D : Node} {r : List Name} {es : Ents} (hs : S.get r = some (.dir es))
    (h : J ph S D r) : ∃ ds, D.get r = some (.dir ds) := by
  cases ph with
  | struct => exact h
  | files => simpa using h [] es (by simpa using hs)

theorem J_other {ph : Phase} {S D : Node} {r r' : List Name} (x : Node) (hi : Inc r r') (h : J ph S D r') :
    J ph S (setAt D r x) r' := by
  cases ph with
  | struct =>
    obtain ⟨ds, hd⟩ := h
    exact ⟨ds, by rw [get_setAt_diverge _ _ _ _ hi.1 hi.2]; exact hd⟩
  | files =>
    intro y e hy
    obtain ⟨ds, hd⟩ := h y e hy
    refine ⟨ds, ?_⟩
    rw [get_setAt_diverge _ _ _ _ (not_prefix_append hi.2 hi.1) fun hp => hi.2 ((List.prefix_append r' y).trans hp)]
    exact hd

theorem J_kid {ph : Phase} {S D : Node} {r : List Name} {es ds d1 : Ents} {k : Name} {e : Ents}
    (hw : entsWf es = true) (hd : D.get r = some (.dir ds)) (hk : Ents.lookup k es = some (.dir e))
    (hl : lvl ph es ds = some d1) (h : J ph S D r) : J ph S (setAt D r (.dir d1)) (r ++ [k]) := by
  have hs := lvl_spec ph es ds d1 hw hl k
  rw [hk] at hs
  obtain ⟨r0, hr0, hd1⟩ := hs
  cases ph with
  | struct =>
    -- the level has made the sub-directory a directory of the destination
    obtain ⟨e', he'⟩ : ∃ e', Ents.lookup k d1 = some (.dir e') := by
      rcases lvl1_dir hr0 with ⟨d, ho, rfl⟩ | ⟨_, ho, rfl⟩ | ⟨hp, _⟩
      · exact ⟨d, by rw [hd1, ho]; rfl⟩
      · exact ⟨[], by rw [hd1, ho]; rfl⟩
      · cases hp
    exact ⟨e', by rw [get_setAt hd]; simp [Node.get, he']⟩
  | files =>
    -- the level has left the destination entry of a sub-directory alone
    cases hr0
    change Ents.lookup k d1 = Ents.lookup k ds at hd1
    intro y e0 hy
    obtain ⟨ds', hds'⟩ := h ([k] ++ y) e0 (by simpa [List.append_assoc] using hy)
    refine ⟨ds', ?_⟩
    rw [List.append_assoc, get_setAt hd]
    rw [get_sub hd] at hds'
    simpa [Node.get, hd1] using hds'

/-- the size of the source sub-trees still to be walked -/
def qCount (S : Node) (Q : List (List Name)) : Nat := (Q.map (subCount S)).sum

theorem qCount_append (S : Node) (Q1 Q2 : List (List Name)) : qCount S (Q1 ++ Q2) = qCount S Q1 + qCount S Q2 := by
  simp [qCount]

theorem kids_count (S : Node) (r : List Name) (es : Ents) (hs : S.get r = some (.dir es)) (hw : entsWf es = true) :
    qCount S ((kids es).map (fun k => r ++ [k])) ≤ entsCount es := by
  have key : ∀ (es' : Ents), (∀ e ∈ es', e ∈ es) →
      qCount S ((kids es').map (fun k => r ++ [k])) ≤ entsCount es' := by
    intro es'
    induction es' with
    | nil => intro _; simp [kids, qCount]
    | cons x xs ih =>
      intro hsub
      obtain ⟨k, v⟩ := x
      have ih' := ih (fun e h => hsub e (by simp [h]))
      cases v with
      | file b => simp only [kids, entsCount]; omega
      | dir e =>
        have hl := TreeLemmas.lookup_of_mem hw (hsub (k, .dir e) (by simp))
        have : subCount S (r ++ [k]) = (Node.dir e).count := by
          simp [subCount, get_snoc_dir hs, hl]
        simp only [kids, List.map_cons, qCount, List.sum_cons, entsCount, this] at ih' ⊢
        omega
  exact key es (fun e h => h)

theorem map_paths (a r : List Name) (ks : List Name) :
    ks.map (fun k => absOf (a ++ (r ++ [k]))) = (ks.map (fun k => r ++ [k])).map (fun r' => absOf (a ++ r')) := by
  simp [List.map_map, Function.comp_def]

/-- **the breadth-first walk computes `recQ`.**  From a queue of pending directories that is an antichain,
each a directory of the source whose destination is in place, with fuel for the directories still to come:
the walk ends in the destination `recQ` describes — or fails with the conflict class of the phase when
`recQ` has none. -/
theorem walk_ref (C : Ctx) (ph : Phase) (visit : Str → List ScanInfo → List Str → State → State × Res (List Str))
    (HV : VisitSpec C ph visit) :
    ∀ (fuel : Nat) (Q : List (List Name)) (D : Node), D.wf = true → D.isDir = true →
      (∀ r ∈ Q, ∃ es, C.S.get r = some (.dir es)) → (∀ r ∈ Q, J ph C.S D r) → Q.Pairwise Inc →
      qCount C.S Q < fuel →
      match recQ ph C.S Q D with
      | some D' => walkBreadth PR visit fuel (Q.map (fun r => absOf (C.a ++ r))) (C.st D) = (C.st D', .ok .unit)
      | none => ∃ D', walkBreadth PR visit fuel (Q.map (fun r => absOf (C.a ++ r))) (C.st D) =
          (C.st D', .err (cls ph))
  | 0, _, _, _, _, _, _, _, hf => by omega
  | f + 1, [], D, _, _, _, _, _, _ => by simp [recQ, walkBreadth]
  | f + 1, r :: Q', D, hDw, hDd, hsrc, hJ, hpw, hf => by
    obtain ⟨es, hs⟩ := hsrc r (by simp)
    obtain ⟨ds, hd⟩ := J_dir hs (hJ r (by simp))
    have hwe : entsWf es = true := TreeLemmas.entsWf_of_get C.S_wf hs
    have hwd : entsWf ds = true := TreeLemmas.entsWf_of_get hDw hd
    have hr : CleanN r := C.clean_src hs
    have G : GoodS (C.st D) := C.good hDw hDd
    have hv := HV r es ds D (Q'.map (fun r => absOf (C.a ++ r))) hs hwd hDw hDd hd
    simp only [List.map_cons, walkBreadth, scandir_ref G (cleanN_append.2 ⟨C.ha, hr⟩), C.get_a, hs]
    cases hl : lvl ph es ds with
    | none =>
      rw [hl] at hv
      obtain ⟨D', hD'⟩ := hv
      have : recQ ph C.S (r :: Q') D = none := by
        simp [recQ, modAt_of hs hd, recNode, hl]
      rw [this]
      exact ⟨D', by rw [hD']⟩
    | some d1 =>
      rw [hl] at hv
      simp only at hv
      rw [hv]
      simp only
      -- the new queue and destination
      have hpw' := List.pairwise_cons.1 hpw
      have hD1w : (setAt D r (.dir d1)).wf = true :=
        TreeLemmas.setAt_wf _ _ _ hr hDw (lvl_wf ph es ds d1 hwe hwd hl)
      have hD1d : (setAt D r (.dir d1)).isDir = true := TreeLemmas.isDir_setAt_dir _ _ _ hDd
      have hkl : ∀ k ∈ kids es, ∃ e, Ents.lookup k es = some (.dir e) := fun k hk => (mem_kids hwe).1 hk
      have hincK : ∀ p ∈ (kids es).map (fun k => r ++ [k]), ∀ q ∈ Q', Inc p q := by
        intro p hp q hq
        obtain ⟨k, _, rfl⟩ := List.mem_map.1 hp
        exact inc_child_left k (hpw'.1 q hq)
      have hrec : recQ ph C.S (r :: Q') D = recQ ph C.S (Q' ++ (kids es).map (fun k => r ++ [k])) (setAt D r (.dir d1)) := by
        rw [← recQ_comm ph C.S _ _ _ hincK, recQ_append]
        simp only [recQ]
        rw [modAt_unfold_some ph C.S D r es ds d1 C.S_wf hs hd hl]
      rw [hrec, map_paths, ← List.map_append]
      refine walk_ref C ph visit HV f _ _ hD1w hD1d ?_ ?_ ?_ ?_
      · intro r' hr'
        rcases List.mem_append.1 hr' with h | h
        · exact hsrc r' (by simp [h])
        · obtain ⟨k, hk, rfl⟩ := List.mem_map.1 h
          obtain ⟨e, he⟩ := hkl k hk
          exact ⟨e, by rw [get_snoc_dir hs, he]⟩
      · intro r' hr'
        rcases List.mem_append.1 hr' with h | h
        · exact J_other _ (hpw'.1 r' h) (hJ r' (by simp [h]))
        · obtain ⟨k, hk, rfl⟩ := List.mem_map.1 h
          obtain ⟨e, he⟩ := hkl k hk
          exact J_kid hwe hd he hl (hJ r (by simp))
      · rw [List.pairwise_append]
        refine ⟨hpw'.2, ?_, ?_⟩
        · rw [List.pairwise_map]
          exact (kids_nodup es hwe).imp (fun h => inc_siblings r h)
        · intro q hq p hp
          exact inc_symm (hincK p hp q hq)
      · have h1 := kids_count C.S r es hs hwe
        have h2 : subCount C.S r = 1 + entsCount es := by simp [subCount, hs, Node.count]
        simp only [qCount, List.map_cons, List.sum_cons] at hf
        rw [qCount_append]
        simp only [qCount] at h1 ⊢
        omega

theorem walk_root (C : Ctx) (ph : Phase) (visit : Str → List ScanInfo → List Str → State → State × Res (List Str))
    (HV : VisitSpec C ph visit) (fuel : Nat) (es : Ents) (hS : C.S = .dir es) (D : Node) (hDw : D.wf = true)
    (hDd : D.isDir = true) (hJ : J ph C.S D []) (hf : (Node.dir es).count < fuel) :
    (∀ D', recNode ph C.S D = some D' → walkBreadth PR visit fuel [absOf C.a] (C.st D) = (C.st D', .ok .unit)) ∧
    (recNode ph C.S D = none → ∃ D', walkBreadth PR visit fuel [absOf C.a] (C.st D) = (C.st D', .err (cls ph))) := by
  have h := walk_ref C ph visit HV fuel [[]] D hDw hDd
    (fun r hr => by cases List.mem_singleton.1 hr; exact ⟨es, by rw [hS]; rfl⟩)
    (fun r hr => by cases List.mem_singleton.1 hr; exact hJ)
    (List.pairwise_singleton _ _) (by simpa [qCount, subCount, hS, Node.get] using hf)
  have hq : ([[]] : List (List Name)).map (fun r => absOf (C.a ++ r)) = [absOf C.a] := by simp
  have hr : recQ ph C.S [[]] D = recNode ph C.S D := by
    simp only [recQ, modAt, Node.get]
    cases recNode ph C.S D <;> simp [setAt]
  rw [hq, hr] at h
  cases hrec : recNode ph C.S D with
  | none => rw [hrec] at h; exact ⟨fun _ h' => (by cases h'), fun _ => h⟩
  | some D' => rw [hrec] at h; exact ⟨fun _ h' => by cases h'; exact h, fun h' => by cases h'⟩

end Fs.BaseWalkCopy
