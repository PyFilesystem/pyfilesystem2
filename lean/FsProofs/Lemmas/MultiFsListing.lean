/-
  Helper lemmas for the listing part of `MultiRefines.multi_queries_refine_overlay`:
  `MultiFS.listdir` on a stack of good, type-consistent layers against the overlay (`listLoop_stack`, `stack_listdir`);
  `isempty` is that `listdir` post-processed, on the stack (`isemptyM_eq`) as on the reference.
-/
import FsProofs.Lemmas.MultiFsQuery

namespace Fs.MultiFsLemmas
open Fs Fs.Ref Fs.MultiFs Fs.WrapRefines Fs.MemRefines

/-! ### `dedup` (keep first occurrences) -/

theorem dedupGo_eq_filter : ∀ (l seen : List Name),
    Multi.dedupGo seen l = (Multi.dedup l).filter (fun y => decide (y ∉ seen))
  | [], _ => rfl
  | x :: xs, seen => by
    simp only [Multi.dedup, Multi.dedupGo, List.not_mem_nil, if_false]
    rw [dedupGo_eq_filter xs [x], dedupGo_eq_filter xs seen, dedupGo_eq_filter xs (x :: seen)]
    by_cases hx : x ∈ seen
    · simp only [hx, if_true, List.filter_cons, not_true_eq_false, decide_false, Bool.false_eq_true, if_false,
        List.filter_filter]
      exact List.filter_congr fun y _ => by by_cases hy : y = x <;> simp [hy, hx]
    · simp only [hx, if_false, List.filter_cons, not_false_eq_true, decide_true, if_true, List.filter_filter]
      congr 1
      exact List.filter_congr fun y _ => by simp [Bool.and_comm]

theorem dedup_cons (x : Name) (l : List Name) :
    Multi.dedup (x :: l) = x :: (Multi.dedup l).filter (fun y => decide (y ≠ x)) := by
  simp only [Multi.dedup, Multi.dedupGo, List.not_mem_nil, if_false]
  rw [dedupGo_eq_filter l [x]]
  simp [Multi.dedup]

/-- first occurrences of `a ++ R` when `a` has no repetition: `a`, then what is new in `R` -/
theorem dedup_append : ∀ (a R : List Name), a.Nodup →
    Multi.dedup (a ++ R) = a ++ (Multi.dedup R).filter (fun x => decide (x ∉ a))
  | [], R, _ => (List.filter_eq_self.2 fun _ _ => by simp).symm
  | x :: a, R, h => by
    obtain ⟨hx, ha⟩ := List.nodup_cons.1 h
    rw [List.cons_append, dedup_cons, dedup_append a R ha, List.filter_append, List.filter_filter,
      List.filter_eq_self.2 fun y hy => by simpa using fun (e : y = x) => hx (e ▸ hy)]
    simp

theorem dedup_of_nodup (l : List Name) (hn : l.Nodup) : Multi.dedup l = l := by
  have := dedup_append l [] hn
  rwa [List.append_nil, show Multi.dedup [] = [] from rfl, List.filter_nil, List.append_nil] at this

/-! ### the names of a merged directory -/

theorem names_erase_filter (k : Name) : ∀ (ds : Ents), (Ents.names ds).Nodup →
    Ents.names (Ents.erase k ds) = (Ents.names ds).filter (fun x => decide (x ≠ k)) := by
  intro ds
  induction ds with
  | nil => intro _; rfl
  | cons e ds ih =>
    intro hn
    obtain ⟨k', v⟩ := e
    have hn2 : (k' :: Ents.names ds).Nodup := hn
    have hn' := List.nodup_cons.1 hn2
    by_cases hk : k' = k
    · subst hk
      simp only [Ents.erase, if_true, Ents.names, List.map_cons, List.filter_cons, ne_eq, not_true_eq_false,
        decide_false, Bool.false_eq_true, if_false]
      symm
      apply List.filter_eq_self.2
      intro x hx
      simp only [decide_eq_true_eq]
      rintro rfl
      exact hn'.1 hx
    · have := ih hn'.2
      simp only [Ents.names] at this
      simp [Ents.erase, hk, Ents.names, this]

theorem names_overEnts : ∀ (es ds : Ents), (Ents.names ds).Nodup →
    Ents.names (overEnts es ds) = Ents.names es ++ (Ents.names ds).filter (fun x => decide (x ∉ Ents.names es)) := by
  intro es
  induction es with
  | nil =>
    intro ds _
    simp only [overEnts, Ents.names, List.map_nil, List.nil_append]
    exact (List.filter_eq_self.2 (fun x _ => by simp)).symm
  | cons e es ih =>
    intro ds hn
    obtain ⟨k, v⟩ := e
    have hne : (Ents.names (Ents.erase k ds)).Nodup := by
      rw [names_erase_filter k ds hn]; exact hn.filter _
    have h1 := ih (Ents.erase k ds) hne
    rw [names_erase_filter k ds hn] at h1
    simp only [Ents.names] at h1 ⊢
    simp only [overEnts, List.map_cons, List.cons_append, List.cons.injEq, true_and]
    rw [h1, List.filter_filter]
    congr 1
    apply List.filter_congr
    intro x _
    by_cases h1 : x = k <;> by_cases h2 : x ∈ List.map (fun x => x.fst) es <;> simp [h1, h2]

/-- the names a layer contributes to a union listing of the path -/
def namesOf : Option Node → List Name
  | some (.dir es) => Ents.names es
  | _ => []

/-- every layer that has the path has it as a well-formed directory -/
def AllDirs (xs : List (Option Node)) : Prop := ∀ n, some n ∈ xs → ∃ es, n = .dir es ∧ (Ents.names es).Nodup

theorem flatMap_namesOf_none : ∀ (xs : List (Option Node)), (∀ x ∈ xs, x = none) → xs.flatMap namesOf = []
  | [], _ => rfl
  | x :: xs, h => by
    have hx := h x (by simp)
    subst hx
    simp [List.flatMap_cons, namesOf, flatMap_namesOf_none xs (fun y hy => h y (by simp [hy]))]

/-- **the listing of a merged directory**: the de-duplicated concatenation, in layer order -/
theorem ovAt_dir_names : ∀ (xs : List (Option Node)), AllDirs xs →
    (ovAt xs = none ∧ ∀ x ∈ xs, x = none) ∨
    ∃ es', ovAt xs = some (.dir es') ∧ Ents.names es' = Multi.dedup (xs.flatMap namesOf) := by
  intro xs
  induction xs with
  | nil => intro _; exact Or.inl ⟨rfl, by simp⟩
  | cons x xs ih =>
    intro h
    have h' : AllDirs xs := fun n hn => h n (by simp [hn])
    cases x with
    | none =>
      rcases ih h' with ⟨h1, h2⟩ | ⟨es', h1, h2⟩
      · exact Or.inl ⟨by simp [ovAt, h1], by intro y hy; simp at hy; rcases hy with rfl | hy; rfl; exact h2 y hy⟩
      · exact Or.inr ⟨es', by simp [ovAt, h1], by simp [List.flatMap_cons, namesOf, h2]⟩
    | some n =>
      obtain ⟨es, rfl, hnd⟩ := h n (by simp)
      right
      rcases ih h' with ⟨h1, h2⟩ | ⟨ds', h1, h2⟩
      · refine ⟨es, by show some (overNode (.dir es) (ovAt xs)) = some (.dir es); rw [h1, overNode_none], ?_⟩
        simp only [List.flatMap_cons, namesOf, flatMap_namesOf_none xs h2, List.append_nil]
        exact (dedup_of_nodup _ hnd).symm
      · refine ⟨overEnts es ds', by
          show some (overNode (.dir es) (ovAt xs)) = some (.dir (overEnts es ds')); rw [h1]; simp only [overNode], ?_⟩
        have hnd' : (Ents.names ds').Nodup := by rw [h2]; exact RouteLemmas.MultiL.nodup_dedupGo [] _
        rw [names_overEnts es ds' hnd', h2]
        simp only [List.flatMap_cons, namesOf]
        exact (dedup_append _ _ hnd).symm


/-! ### blocked paths -/

theorem blocked_mono {t u : Node} (h : ∀ q b, t.get q = some (.file b) → ∃ b', u.get q = some (.file b')) :
    ∀ (cs pre : List Name), blockedByFile t pre cs = true → blockedByFile u pre cs = true := by
  intro cs
  induction cs with
  | nil => intro _ hb; cases hb
  | cons c cs ih =>
    intro pre hb
    simp only [blockedByFile, Bool.or_eq_true] at hb ⊢
    rcases hb with hb | hb
    · rcases hg : t.get pre with _ | b | _ <;> rw [hg] at hb <;> try cases hb
      obtain ⟨b', hb'⟩ := h pre b hg
      exact Or.inl (by rw [hb'])
    · by_cases hcs : cs = []
      · simp [hcs] at hb
      · simp only [hcs, if_false] at hb ⊢
        exact Or.inr (ih _ hb)

section
variable {s : MState State}

/-- the first layer that has the path has a file there too -/
theorem file_overlay (G : GoodStack s) (j : Nat) (l : Layer State) (hl : s.layers[j]? = some l) (q : List Name)
    (b : Bytes) (hg : l.st.root.get q = some (.file b)) : ∃ b', (overlay s).root.get q = some (.file b') := by
  cases hf : (order s).find? (hasAt s q) with
  | none =>
    have := List.find?_eq_none.1 hf j (mem_order s j (List.getElem?_eq_some_iff.1 hl).1)
    simp [hasAt, hl, hg] at this
  | some i =>
    obtain ⟨li, n, _, _, hli, hn, _, _, hov⟩ := overlay_first s G.cons G.ne q i hf
    have hcons := G.cons li (List.mem_of_getElem? hli) l (List.mem_of_getElem? hl) q n (.file b) hn hg
    cases n with
    | dir es => simp [Node.isDir] at hcons
    | file b' => exact ⟨b', by rw [hov, overNode_file]⟩

/-- a path blocked in some layer is blocked in the overlay (the file in the way is seen by everybody) -/
theorem blocked_overlay (G : GoodStack s) (cs : List Name) (j : Nat) (l : Layer State)
    (hl : s.layers[j]? = some l) (hb : blockedByFile l.st.root [] cs = true) :
    blockedByFile (overlay s).root [] cs = true :=
  blocked_mono (file_overlay G j l hl) cs [] hb

/-! ### what a layer answers to `listdir` -/

theorem callLayer_listdir (F : FS State) (hF : RefinesRef F) (hg : AllGood s) (i : Nat) (l : Layer State)
    (hl : s.layers[i]? = some l) (p : Str) (cs : List Name) (hv : validate p = .ok cs) :
    match l.st.root.get cs with
    | some (.dir es) => callLayer F s i (.listdir p) = (s, .ok (.names (Ents.names es)))
    | some (.file _) => callLayer F s i (.listdir p) = (s, .err .DirectoryExpected)
    | none => ∃ e', callLayer F s i (.listdir p) = (s, .err e') ∧
        (e' = .ResourceNotFound ∨ (e' = .DirectoryExpected ∧ blockedByFile l.st.root [] cs = true)) := by
  have G : Good l.st := hg l (List.mem_of_getElem? hl)
  have href := ref_listdir l.st G.opn p cs hv
  have hadm : adm l.st (.listdir p) = adm1 l.st.root cs (.listdir p) := by
    rw [QueryLemmas.adm_one l.st _ p G.opn rfl (by nofun), hv]
  rcases callLayer_cases F hF s hg i l hl (.listdir p) rfl with ⟨hok, h⟩ | ⟨e, e', hr, h, ha⟩
  · rw [h, RouteLemmas.step_query_state l.st _ rfl, set_st_self _ _ _ hl]
    cases hn : l.st.root.get cs with
    | none => rw [href, hn] at hok; cases hok
    | some n =>
      cases n with
      | file _ => rw [href, hn] at hok; cases hok
      | dir es => simp only; rw [href, hn]
  · rw [h]
    rw [hadm] at ha
    cases hn : l.st.root.get cs with
    | none =>
      simp only [adm1, admDirArg, kindAt, hn, reduceCtorEq, false_or, if_true, List.mem_append, List.mem_singleton] at ha
      refine ⟨e', rfl, ?_⟩
      rcases ha with ha | ha
      · exact Or.inl ha
      · split at ha
        · next hb => simp at ha; exact Or.inr ⟨ha, hb⟩
        · cases ha
    | some n =>
      cases n with
      | dir es => rw [href, hn] at hr; exact absurd (congrArg Prod.snd hr) (by simp)
      | file b =>
        simp only
        have hb := TreeLemmas.not_blocked_of_get l.st.root _ [] cs (by simpa using hn)
        simp [adm1, admDirArg, kindAt, hn, hb] at ha
        rw [ha]


/-! ### the loops of `listdir` / `isempty` on a stack -/

/-- once a layer has listed the path every later layer is skipped or appended -/
theorem listLoop_ex (F : FS State) (hF : RefinesRef F) (hg : AllGood s) (p : Str) (cs : List Name)
    (hv : validate p = .ok cs) : ∀ (is : List Nat), (∀ i ∈ is, i < s.layers.length) →
    ∀ acc, listLoop F p is acc true s = (s, .ok (acc ++ (is.map (nodeAt s cs)).flatMap namesOf, true)) := by
  intro is
  induction is with
  | nil => intro _ acc; simp [listLoop]
  | cons i is ih =>
    intro hlt acc
    have hi := hlt i (by simp)
    obtain ⟨l, hl⟩ := exists_layer hi
    have ih' := ih (fun j hj => hlt j (by simp [hj]))
    have hc := callLayer_listdir F hF hg i l hl p cs hv
    have hna := nodeAt_layer hl cs
    simp only [listLoop, List.map_cons, List.flatMap_cons]
    cases hn : l.st.root.get cs with
    | none =>
      rw [hn] at hc
      obtain ⟨e', hce, he⟩ := hc
      rw [hce, hna, hn]
      rcases he with rfl | ⟨rfl, _⟩ <;> simp [namesOf, ih']
    | some n =>
      rw [hn] at hc
      cases n with
      | file b => rw [hc, hna, hn]; simp [namesOf, ih']
      | dir es => rw [hc, hna, hn]; simp [namesOf, ih', List.append_assoc]

/-- layers that do not have the path, met before any layer has listed it: skipped — or one of them, in
which a file blocks the path, answers DirectoryExpected -/
theorem listLoop_missing (F : FS State) (hF : RefinesRef F) (hg : AllGood s) (p : Str) (cs : List Name)
    (hv : validate p = .ok cs) (rest : List Nat) (acc : List Name) : ∀ (pre : List Nat),
    (∀ i ∈ pre, i < s.layers.length) → (∀ i ∈ pre, nodeAt s cs i = none) →
    listLoop F p (pre ++ rest) acc false s = listLoop F p rest acc false s ∨
    (listLoop F p (pre ++ rest) acc false s = (s, .err .DirectoryExpected) ∧
      ∃ j ∈ pre, ∃ l, s.layers[j]? = some l ∧ blockedByFile l.st.root [] cs = true) := by
  intro pre
  induction pre with
  | nil => intro _ _; exact Or.inl rfl
  | cons i pre ih =>
    intro hlt hnone
    have hi := hlt i (by simp)
    obtain ⟨l, hl⟩ := exists_layer hi
    have hc := callLayer_listdir F hF hg i l hl p cs hv
    have hn : l.st.root.get cs = none := by rw [← nodeAt_layer hl cs]; exact hnone i (by simp)
    rw [hn] at hc
    obtain ⟨e', hce, he⟩ := hc
    simp only [List.cons_append, listLoop, hce]
    rcases he with rfl | ⟨rfl, hb⟩
    · simp only
      rcases ih (fun j hj => hlt j (by simp [hj])) (fun j hj => hnone j (by simp [hj])) with h | ⟨h, j, hj, hx⟩
      · exact Or.inl h
      · exact Or.inr ⟨h, j, by simp [hj], hx⟩
    · simp only [Bool.false_eq_true, if_false]
      exact Or.inr ⟨trivial, i, by simp, l, hl, hb⟩

/-- `isempty` stops at the first non-empty listing; the layers after a listing can only add names
(`listLoop_ex`), so that is the verdict of the whole `listdir` loop -/
theorem scanFirst_eq_listLoop (F : FS State) (hF : RefinesRef F) (hg : AllGood s) (p : Str) (cs : List Name)
    (hv : validate p = .ok cs) : ∀ (is : List Nat), (∀ i ∈ is, i < s.layers.length) → ∀ ex,
    scanFirstLoop F p is ex s = match listLoop F p is [] ex s with
      | (s1, .err e) => (s1, .err e)
      | (s1, .ok (acc, ex')) => (s1, if ex' then .ok (.bool acc.isEmpty) else .err .ResourceNotFound) := by
  intro is
  induction is with
  | nil => intro _ ex; rfl
  | cons i is ih =>
    intro hlt ex
    have hi := hlt i (by simp)
    obtain ⟨l, hl⟩ := exists_layer hi
    have hlt' : ∀ j ∈ is, j < s.layers.length := fun j hj => hlt j (by simp [hj])
    have hc := callLayer_listdir F hF hg i l hl p cs hv
    have hde : callLayer F s i (.listdir p) = (s, .err .DirectoryExpected) →
        scanFirstLoop F p (i :: is) ex s = match listLoop F p (i :: is) [] ex s with
          | (s1, .err e) => (s1, .err e)
          | (s1, .ok (acc, ex')) => (s1, if ex' then .ok (.bool acc.isEmpty) else .err .ResourceNotFound) := by
      intro hce
      simp only [scanFirstLoop, listLoop, hce]
      cases ex with
      | true => exact ih hlt' true
      | false => rfl
    cases hn : l.st.root.get cs with
    | none =>
      rw [hn] at hc
      obtain ⟨e', hce, he⟩ := hc
      rcases he with rfl | ⟨rfl, _⟩
      · simp only [scanFirstLoop, listLoop, hce]; exact ih hlt' ex
      · exact hde hce
    | some n =>
      rw [hn] at hc
      cases n with
      | file b => exact hde hc
      | dir es =>
        simp only [scanFirstLoop, listLoop, hc, List.nil_append]
        cases Ents.names es with
        | nil => exact ih hlt' true
        | cons x xs => simp only; rw [listLoop_ex F hF hg p cs hv is hlt' (x :: xs)]; rfl


/-! ### `listdir` / `isempty` against the overlay -/

theorem not_blocked_of_overlay (G : GoodStack s) (cs : List Name) (x : Node) (hov : (overlay s).root.get cs = some x)
    (j : Nat) (l : Layer State) (hl : s.layers[j]? = some l) : blockedByFile l.st.root [] cs = false := by
  cases hb : blockedByFile l.st.root [] cs with
  | false => rfl
  | true =>
    have := blocked_overlay G cs j l hl hb
    rw [TreeLemmas.not_blocked_of_get _ x [] cs (by simpa using hov)] at this
    cases this

theorem allDirs_of_dir (G : GoodStack s) (cs : List Name) (i0 : Nat) (l0 : Layer State) (es0 : Ents)
    (hl0 : s.layers[i0]? = some l0) (hn0 : l0.st.root.get cs = some (.dir es0)) :
    AllDirs ((order s).map (nodeAt s cs)) := by
  intro n hn
  obtain ⟨j, _, hj⟩ := List.mem_map.1 hn
  unfold nodeAt at hj
  cases hl : s.layers[j]? with
  | none => rw [hl] at hj; cases hj
  | some l =>
    rw [hl] at hj
    simp only [Option.bind_some] at hj
    have hml := List.mem_of_getElem? hl
    have hc := G.cons l hml l0 (List.mem_of_getElem? hl0) cs _ _ hj hn0
    cases n with
    | file b => simp [Node.isDir] at hc
    | dir es =>
      refine ⟨es, rfl, ?_⟩
      have hwf := TreeLemmas.get_wf cs l.st.root _ (G.good l hml).wf hj
      exact TreeLemmas.names_nodup (by simpa [Node.wf] using hwf)

theorem listLoop_stack (F : FS State) (hF : RefinesRef F) (G : GoodStack s) (p : Str) (cs : List Name)
    (hv : validate p = .ok cs) :
    match (overlay s).root.get cs with
    | none => listLoop F p (order s) [] false s = (s, .ok ([], false)) ∨
        (listLoop F p (order s) [] false s = (s, .err .DirectoryExpected) ∧
          blockedByFile (overlay s).root [] cs = true)
    | some (.file _) => listLoop F p (order s) [] false s = (s, .err .DirectoryExpected)
    | some (.dir es) => ∃ acc, listLoop F p (order s) [] false s = (s, .ok (acc, true)) ∧
        Ents.names es = Multi.dedup acc := by
  have hlt : ∀ i ∈ order s, i < s.layers.length := fun i hi => order_lt s i hi
  cases hf : (order s).find? (hasAt s cs) with
  | none =>
    rw [overlay_get_none s G.cons G.ne cs hf]
    rcases listLoop_missing F hF G.good p cs hv [] [] (order s) hlt (find_none_nodeAt cs hf) with
      h | ⟨h, j, _, l, hl, hb⟩
    · rw [List.append_nil] at h; exact Or.inl h
    · rw [List.append_nil] at h; exact Or.inr ⟨h, blocked_overlay G cs j l hl hb⟩
  | some i0 =>
    obtain ⟨l0, n', pre, post, hl0, hn0', hsplit, hpre, hov⟩ := overlay_first s G.cons G.ne cs i0 hf
    have hpre_lt : ∀ i ∈ pre, i < s.layers.length := fun i hi => hlt i (by rw [hsplit]; simp [hi])
    have hpost_lt : ∀ i ∈ post, i < s.layers.length := fun i hi => hlt i (by rw [hsplit]; simp [hi])
    have hc0 := callLayer_listdir F hF G.good i0 l0 hl0 p cs hv
    rw [hn0'] at hc0
    cases n' with
    | file b =>
      rw [hov, overNode_file, hsplit]
      rcases listLoop_missing F hF G.good p cs hv (i0 :: post) [] pre hpre_lt hpre with h | ⟨h, _⟩
      · rw [h]; simp [listLoop, hc0]
      · exact h
    | dir es0 =>
      rcases ovAt_dir_names _ (allDirs_of_dir G cs i0 l0 es0 hl0 hn0') with ⟨hnone, _⟩ | ⟨es', hes', hnames⟩
      · rw [← overlay_get s G.cons G.ne cs, hov] at hnone; cases hnone
      · rw [overlay_get s G.cons G.ne cs, hes']
        refine ⟨Ents.names es0 ++ (post.map (nodeAt s cs)).flatMap namesOf, ?_, ?_⟩
        · rw [hsplit]
          rcases listLoop_missing F hF G.good p cs hv (i0 :: post) [] pre hpre_lt hpre with h | ⟨_, j, _, l, hl, hb⟩
          · rw [h]
            simp only [listLoop, hc0, List.nil_append]
            exact listLoop_ex F hF G.good p cs hv post hpost_lt _
          · rw [not_blocked_of_overlay G cs _ hov j l hl] at hb; cases hb
        · rw [hnames, hsplit]
          simp only [List.map_append, List.map_cons, List.flatMap_append, List.flatMap_cons]
          rw [flatMap_namesOf_none (pre.map (nodeAt s cs)) (by
            intro x hx; obtain ⟨j, hj, rfl⟩ := List.mem_map.1 hx; exact hpre j hj)]
          simp [nodeAt_layer hl0 cs, hn0', namesOf]

/-- an invalid path: the first layer asked refuses it with the reference's class -/
theorem loops_invalid (F : FS State) (hF : RefinesRef F) (hg : AllGood s) (hne : order s ≠ []) (p : Str) (e : Err)
    (hv : validate p = .err e) :
    listLoop F p (order s) [] false s = (s, .err e) ∧ scanFirstLoop F p (order s) false s = (s, .err e) := by
  cases ho : order s with
  | nil => exact absurd ho hne
  | cons i rest =>
    obtain ⟨l, hl⟩ := exists_layer (order_lt s i (by simp [ho]))
    have Gl : Good l.st := hg l (List.mem_of_getElem? hl)
    have hcall : callLayer F s i (.listdir p) = (s, .err e) := by
      rcases callLayer_cases F hF s hg i l hl (.listdir p) rfl with ⟨hok, _⟩ | ⟨e0, e', _, h, ha⟩
      · rw [QueryLemmas.step_one l.st _ p Gl.opn rfl (by nofun), hv] at hok; cases hok
      · rw [QueryLemmas.adm_one l.st _ p Gl.opn rfl (by nofun), hv] at ha
        simp at ha
        rw [h, ha]
    simp only [listLoop, scanFirstLoop, hcall]
    rcases QueryLemmas.validate_err_cases p e hv with rfl | rfl <;> exact ⟨rfl, rfl⟩

theorem stack_listdir (F : FS State) (hF : RefinesRef F) (G : GoodStack s) (p : Str) :
    QSim s (.listdir p) (listdirM F s p) := by
  unfold listdirM
  cases hv : validate p with
  | err e =>
    rw [(loops_invalid F hF G.good (order_ne_nil G) p e hv).1]
    exact ⟨rfl, Or.inl (by rw [QueryLemmas.step_one (overlay s) (.listdir p) p G.opn rfl nofun, hv]; rfl)⟩
  | ok cs =>
    have hro := ref_listdir (overlay s) G.opn p cs hv
    have hL := listLoop_stack F hF G p cs hv
    cases hg : (overlay s).root.get cs with
    | none =>
      rw [hg] at hL
      rcases hL with h | ⟨h, hb⟩
      · rw [h]; exact ⟨rfl, Or.inl (by rw [hro, hg])⟩
      · rw [h]
        refine ⟨rfl, Or.inr ⟨.ResourceNotFound, .DirectoryExpected, by rw [hro, hg], rfl, ?_⟩⟩
        rw [QueryLemmas.adm_one (overlay s) _ p G.opn rfl (by nofun), hv]
        simp [adm1, admDirArg, hb]
    | some n =>
      rw [hg] at hL
      cases n with
      | file b => rw [hL]; exact ⟨rfl, Or.inl (by rw [hro, hg])⟩
      | dir es =>
        obtain ⟨acc, h, hnames⟩ := hL
        rw [h]
        exact ⟨rfl, Or.inl (by rw [hro, hg]; simp only [hnames])⟩

theorem adm_isempty_listdir' (t : State) (hc : t.closed = false) (p : Str) :
    adm t (.isempty p) = adm t (.listdir p) :=
  WrapLemmas.adm_isempty t p

theorem isemptyM_eq (F : FS State) (hF : RefinesRef F) (hg : AllGood s) (p : Str) :
    isemptyM F s p = WrapLemmas.empPost (listdirM F s p) := by
  unfold isemptyM listdirM
  cases hv : validate p with
  | err e =>
    by_cases hne : order s = []
    · rw [hne]; rfl
    · rw [(loops_invalid F hF hg hne p e hv).1, (loops_invalid F hF hg hne p e hv).2]; rfl
  | ok cs =>
    rw [scanFirst_eq_listLoop F hF hg p cs hv (order s) (fun i hi => order_lt s i hi) false]
    generalize listLoop F p (order s) [] false s = r
    obtain ⟨s1, ⟨acc, _ | _⟩ | e⟩ := r
    · rfl
    · cases acc with
      | nil => rfl
      | cons x xs => simp only [dedup_cons]; rfl
    · rfl

theorem qsim_isempty {p : Str} {r : MState State × Out} (h : QSim s (.listdir p) r) :
    QSim s (.isempty p) (WrapLemmas.empPost r) := by
  unfold QSim
  rw [WrapLemmas.ref_isempty, WrapLemmas.adm_isempty]
  exact ⟨h.1, h.2.imp (congrArg WrapLemmas.firstOf) fun ⟨e, e', hr, ho, ha⟩ =>
    ⟨e, e', WrapLemmas.firstOf_err_iff.2 hr, WrapLemmas.firstOf_err_iff.2 ho, ha⟩⟩

theorem stack_isempty (F : FS State) (hF : RefinesRef F) (G : GoodStack s) (p : Str) :
    QSim s (.isempty p) (isemptyM F s p) := by
  rw [isemptyM_eq F hF G.good p]
  exact qsim_isempty (stack_listdir F hF G p)

theorem stack_query (fuel : Nat) (F : FS State) (hF : RefinesRef F) (G : GoodStack s) (op : Op)
    (hq : RouteSpec.isQuery op = true) : QSim s op (MultiFs.step fuel F s op) := by
  rw [step_open fuel F s G.opn op (by rintro rfl; cases hq)]
  cases op <;> simp only [RouteSpec.isQuery, Bool.false_eq_true] at hq <;> simp only [stepOpen]
  case exists_ p => exact stack_exists F hF G p
  case isdir p | isfile p =>
    exact stack_onDelegate F hF G _ p rfl (fun _ _ e => by cases e) rfl rfl rfl _ (fun cs _ hg => by simp [step1, hg, done])
  case getsize p | gettype p | readbytes p =>
    exact stack_onDelegate F hF G _ p rfl (fun _ _ e => by cases e) rfl rfl rfl _ (fun cs _ hg => by simp [step1, hg, fail])
  case listdir p => exact stack_listdir F hF G p
  case isempty p => exact stack_isempty F hF G p
  case getinfo p => exact stack_getinfo F hF G p
  case openbin p m =>
    have hcw : Route.checkWritable m = false := by simpa using (RouteLemmas.isQuery_openbin p m).symm.trans hq
    exact stack_openbin_read F hF G p m hcw

end

end Fs.MultiFsLemmas
