/-
  Lemmas about FsModel.FtpParse for C20: the parsers are total, and read back what the renderers
  write (LIST, MLSD, FEAT, calendar).
  `Fs.FtpModelLemmas.featLine_noBreak` stands here, ahead of its namespace's own module, because
  `feat_roundtrip_core` uses it.
-/
import FsModel.FtpParse
import FsProofs.Lemmas.ParseLemmas

namespace Fs.FtpModelLemmas
open Fs Fs.FtpParse

theorem featLine_noBreak (kv : Str × Str) (h : NoBreak kv.1 ∧ NoBreak kv.2) : NoBreak (featLine kv) := by
  unfold NoBreak featLine at *
  simp only [List.cons_append, List.forall_mem_cons, List.forall_mem_append]
  refine ⟨by decide, h.1, ?_⟩
  split
  · exact fun _ h => nomatch h
  · exact List.forall_mem_cons.2 ⟨by decide, h.2⟩

end Fs.FtpModelLemmas

namespace Fs.FtpLemmas
open Fs Fs.Path Fs.Parse Fs.FtpParse Fs.ParseLemmas

/-! ### totality of the LIST parsers -/

/-- `_parse_time` never raises: an impossible `datetime` yields `None` -/
theorem finishTime_ok (y : Nat) (t : Option Tm) : ∃ r, finishTime y t = .ok r := by
  unfold finishTime
  cases t with
  | none => exact ⟨_, rfl⟩
  | some tm =>
    simp only
    split
    · exact ⟨_, rfl⟩
    · exact ⟨_, rfl⟩

theorem finishTime_ne_err (y : Nat) (t : Option Tm) (e : Err) : finishTime y t ≠ .err e := by
  obtain ⟨r, hr⟩ := finishTime_ok y t
  rw [hr]; intro h; cases h

theorem intOfDigits_err_iff (s : Str) (e : Err) :
    intOfDigits s = .err e ↔ e = .ValueError ∧ s.length > maxStrDigits := by
  unfold intOfDigits; split <;> simp_all [eq_comm]

theorem intOfDigits_err (s : Str) (e : Err) (h : intOfDigits s = .err e) : e = .ValueError :=
  ((intOfDigits_err_iff s e).1 h).1

theorem intOfDigits_ok (s : Str) (h : s.length ≤ maxStrDigits) : intOfDigits s = .ok (natOfDigits s) :=
  if_neg (Nat.not_lt.mpr h)

/-- `decode_linux` raises exactly when `int(size)` does -/
theorem decodeLinux_err_iff (y : Nat) (l : Str) (g : LinuxGroups) (e : Err) :
    decodeLinux y l g = .err e ↔ e = .ValueError ∧ g.size.length > maxStrDigits := by
  obtain ⟨mt, hmt⟩ : ∃ mt, decodeLinuxTime y g.mtime = .ok mt := finishTime_ok y _
  unfold decodeLinux
  simp only [hmt]
  rw [← intOfDigits_err_iff]
  cases intOfDigits g.size <;> simp

theorem decodeLinux_err (y : Nat) (l : Str) (g : LinuxGroups) (e : Err)
    (h : decodeLinux y l g = .err e) : e = .ValueError := ((decodeLinux_err_iff y l g e).1 h).1

theorem decodeNt_err (y : Nat) (l : Str) (g : NtGroups) (e : Err)
    (h : decodeNt y l g = .err e) : e = .ValueError := by
  unfold decodeNt decodeNtTime at h
  split at h
  · rename_i heq
    cases h
    unfold ntSize at heq
    split at heq
    · cases heq
    · split at heq
      · cases heq
      · rename_i h2; cases heq; exact intOfDigits_err _ _ h2
  · split at h
    · rename_i heq; exact absurd heq (finishTime_ne_err _ _ _)
    · cases h

/-- `except ValueError` catches everything a decoder can raise -/
theorem skipErr_ok (r : Res ListInfo) (h : ∀ e, r = .err e → e = .ValueError) :
    ∃ o, skipErr r = .ok o := by
  cases r with
  | ok i => exact ⟨_, rfl⟩
  | err e => rw [h e rfl]; exact ⟨none, rfl⟩

/-- value of a line result (errors carry no value) -/
def okVal {α} (r : Res (Option α)) : Option α :=
  match r with
  | .ok o => o
  | .err _ => none

/-- `parse_line` never raises: `skipErr` catches the only exception a decoder can raise -/
theorem parseLine_ok (y : Nat) (l : Str) : ∃ r, parseLine y l = .ok r := by
  unfold parseLine
  split
  · exact skipErr_ok _ (fun e he => decodeLinux_err _ _ _ e he)
  · split
    · exact skipErr_ok _ (fun e he => decodeNt_err _ _ _ e he)
    · exact ⟨_, rfl⟩

theorem parse_eq (y : Nat) (lines : List Str) :
    parse y lines = .ok ((lines.filter (fun l => decide (strip l ≠ []))).filterMap
      (fun l => okVal (parseLine y l))) := by
  induction lines with
  | nil => rfl
  | cons l rest ih =>
    obtain ⟨r, hr⟩ := parseLine_ok y l
    unfold parse
    by_cases hb : strip l = []
    · simp [hb, ih]
    · simp only [hb, if_false, hr, ih]
      cases r <;> simp [hb, hr, okVal]

theorem parse_err (y : Nat) (lines : List Str) (e : Err)
    (h : parse y lines = .err e) : ∃ l ∈ lines, strip l ≠ [] ∧ parseLine y l = .err e := by
  rw [parse_eq] at h; cases h

/-! ### totality of the MLSD parser -/

theorem timegm_err (y m d h mi s : Int) (e : Err) (he : timegm y m d h mi s = .err e) :
    e = .ValueError := by
  unfold timegm at he; split at he <;> cases he; rfl

/-- `_parse_ftp_time` never raises (`calendar.timegm` is inside the `try`) -/
theorem parseFtpTime_ok (t : Str) : ∃ r, parseFtpTime t = .ok r := by
  unfold parseFtpTime
  split
  · split
    · exact ⟨_, rfl⟩
    · rename_i e heq
      rw [timegm_err _ _ _ _ _ _ e heq]
      exact ⟨none, rfl⟩
  · exact ⟨_, rfl⟩

theorem mlsdSize_ok (facts : List (Str × Str)) : ∃ n, mlsdSize facts = .ok n := by
  unfold mlsdSize
  simp only
  split
  · split <;> exact ⟨_, rfl⟩
  · exact ⟨_, rfl⟩

theorem mlsdTime_ok (facts : List (Str × Str)) (k : Str) : ∃ r, mlsdTime facts k = .ok r := by
  unfold mlsdTime
  split
  · exact ⟨_, rfl⟩
  · rename_i v _
    obtain ⟨r, hr⟩ := parseFtpTime_ok v
    rw [hr]; exact ⟨_, rfl⟩

/-- the value of a computation that is known not to raise -/
def valOr {α} (d : α) : Res α → α
  | .ok a => a
  | .err _ => d

theorem eq_ok_valOr {α} (d : α) {r : Res α} (h : ∃ a, r = .ok a) : r = .ok (valOr d r) := by
  obtain ⟨a, rfl⟩ := h; rfl

theorem valOr_of_eq {α} (d : α) {r : Res α} {a : α} (h : r = .ok a) : valOr d r = a := by rw [h]; rfl

def sizeVal (F : List (Str × Str)) : Nat := valOr 0 (mlsdSize F)
def timeVal (F : List (Str × Str)) (k : Str) : Option (Option Int) := valOr none (mlsdTime F k)
abbrev tyOf (F : List (Str × Str)) : Str := (dictGet kType F).getD kFile

/-- what `_parse_mlsx` yields for a line whose name and facts are `nf`: since nothing in it can
    raise, the parser is `.ok` of this function (`parseMlsxLine_eq`) -/
def mlsxVal (nf : Option Str × List (Str × Str)) : Option MlsdInfo :=
  match nf.1 with
  | none => none
  | some name =>
    if tyOf nf.2 ≠ kDir ∧ tyOf nf.2 ≠ kFile then none
    else some ⟨name, tyOf nf.2 = kDir, nf.2, sizeVal nf.2, timeVal nf.2 kModify, timeVal nf.2 kCreate⟩

theorem mlsxVal_some (nm : Str) (F : List (Str × Str)) (ty : Str) (hty : tyOf F = ty)
    (htyok : ty = kDir ∨ ty = kFile) (sz : Nat) (hsz : mlsdSize F = .ok sz) (mo cr : Option (Option Int))
    (hmo : mlsdTime F kModify = .ok mo) (hcr : mlsdTime F kCreate = .ok cr) :
    mlsxVal (some nm, F) = some ⟨nm, ty = kDir, F, sz, mo, cr⟩ := by
  have : ¬ (ty ≠ kDir ∧ ty ≠ kFile) := by rcases htyok with h | h <;> simp [h]
  simp only [mlsxVal, hty, this, if_false, sizeVal, timeVal, valOr_of_eq _ hsz, valOr_of_eq _ hmo,
    valOr_of_eq _ hcr]

theorem parseMlsxLine_eq (l : Str) :
    parseMlsxLine l = .ok (mlsxVal (parseFacts (dropLeadSpace (rstripEol l)))) := by
  unfold parseMlsxLine mlsxVal
  simp only
  cases (parseFacts (dropLeadSpace (rstripEol l))).1 with
  | none => rfl
  | some name =>
    by_cases h : (dictGet kType (parseFacts (dropLeadSpace (rstripEol l))).2).getD kFile ≠ kDir ∧
        (dictGet kType (parseFacts (dropLeadSpace (rstripEol l))).2).getD kFile ≠ kFile
    · simp only [tyOf, if_pos h]
    · simp only [tyOf, if_neg h]
      rw [eq_ok_valOr 0 (mlsdSize_ok _), eq_ok_valOr none (mlsdTime_ok _ kModify),
        eq_ok_valOr none (mlsdTime_ok _ kCreate)]
      rfl

theorem parseMlsx_eq (lines : List Str) : parseMlsx lines =
    .ok (lines.filterMap fun l => mlsxVal (parseFacts (dropLeadSpace (rstripEol l)))) := by
  induction lines with
  | nil => rfl
  | cons l rest ih =>
    unfold parseMlsx
    rw [parseMlsxLine_eq, ih]
    cases h : mlsxVal (parseFacts (dropLeadSpace (rstripEol l))) <;> simp [h]

/-! ### splitlines -/

theorem splitlines_go_cons_nobreak (cur : Str) (c : Char) (rest : Str) (h : isLineBreak c = false) :
    splitlines.go cur (c :: rest) = splitlines.go (c :: cur) rest := by
  have hr : c ≠ '\r' := by rintro rfl; revert h; decide
  rw [splitlines.go.eq_def]
  split
  · simp at *
  · rename_i heq; simp only [List.cons.injEq] at heq; exact absurd heq.1 hr
  · rename_i heq; simp only [List.cons.injEq] at heq; obtain ⟨rfl, rfl⟩ := heq; simp [h]

theorem splitlines_go_nl (cur rest : Str) :
    splitlines.go cur ('\n' :: rest) = cur.reverse :: splitlines.go [] rest := by
  rw [splitlines.go.eq_def]
  split
  · simp at *
  · rename_i heq; simp at heq
  · rename_i heq; simp only [List.cons.injEq] at heq; obtain ⟨rfl, rfl⟩ := heq; simp [isLineBreak]

theorem splitlines_go_line (cur l rest : Str) (h : NoBreak l) :
    splitlines.go cur (l ++ '\n' :: rest) = (cur.reverse ++ l) :: splitlines.go [] rest := by
  induction l generalizing cur with
  | nil => simp [splitlines_go_nl]
  | cons c cs ih =>
    rw [List.cons_append, splitlines_go_cons_nobreak _ _ _ (h c (by simp)), ih _ (fun x hx => h x (by simp [hx]))]
    simp

theorem splitlines_go_last (cur l : Str) (h : NoBreak l) (hne : l ≠ []) :
    splitlines.go cur l = [cur.reverse ++ l] := by
  induction l generalizing cur with
  | nil => exact absurd rfl hne
  | cons c cs ih =>
    rw [splitlines_go_cons_nobreak _ _ _ (h c (by simp))]
    cases cs with
    | nil => simp [splitlines.go]
    | cons d ds =>
      rw [ih _ (fun x hx => h x (by simp [hx])) (by simp)]
      simp

/-! ### FEAT -/

theorem dictSet_new (k v : Str) (d : List (Str × Str)) (h : k ∉ d.map Prod.fst) :
    dictSet k v d = d ++ [(k, v)] := by
  induction d with
  | nil => rfl
  | cons x xs ih =>
    obtain ⟨k', v'⟩ := x
    simp only [List.map_cons, List.mem_cons, not_or] at h
    have : k' ≠ k := fun e => h.1 e.symm
    simp [dictSet, this, ih h.2]

def featStep (d : List (Str × Str)) (line : Str) : List (Str × Str) :=
  match line with
  | ' ' :: body => let p := partition ' ' body; dictSet p.1 p.2.2 d
  | _ => d

theorem parseFeatures_eq (resp : Str) : parseFeatures resp =
    if (partition '-' resp).1 = ['2', '1', '1'] then (splitlines resp).foldl featStep [] else [] := by
  unfold parseFeatures; rfl

theorem featStep_line (d : List (Str × Str)) (kv : Str × Str) (hk : ' ' ∉ kv.1)
    (hnew : kv.1 ∉ d.map Prod.fst) : featStep d (featLine kv) = d ++ [kv] := by
  unfold featStep featLine
  simp only
  by_cases hv : kv.2 = []
  · simp only [hv, if_true, List.append_nil]
    rw [partition_not_mem _ _ hk]
    simp only
    rw [dictSet_new _ _ _ hnew]
    obtain ⟨k, v⟩ := kv
    simp at hv; simp [hv]
  · simp only [hv, if_false, List.cons_append]
    rw [partition_append_sep _ _ _ hk]
    simp only
    rw [dictSet_new _ _ _ hnew]

theorem splitlines_render (feats : List (Str × Str)) (h : ∀ kv ∈ feats, NoBreak (featLine kv)) :
    splitlines (renderFeat feats) = featHead :: (feats.map featLine ++ [featEnd]) := by
  unfold splitlines renderFeat
  have hh : NoBreak featHead := by unfold NoBreak; decide
  have he : NoBreak featEnd := by unfold NoBreak; decide
  rw [List.append_assoc, List.cons_append, splitlines_go_line [] _ _ hh]
  simp only [List.reverse_nil, List.nil_append, List.cons.injEq, true_and]
  induction feats with
  | nil => simpa using splitlines_go_last [] featEnd he (by decide)
  | cons x xs ih =>
    simp only [List.flatMap_cons, List.append_assoc, List.cons_append, List.nil_append,
      List.map_cons]
    rw [splitlines_go_line [] _ _ (h x (by simp))]
    simp only [List.reverse_nil, List.nil_append, List.cons.injEq, true_and]
    exact ih (fun kv hkv => h kv (by simp [hkv]))

theorem feat_roundtrip_core (feats : List (Str × Str))
    (hk : ∀ kv ∈ feats, ' ' ∉ kv.1) (hb : ∀ kv ∈ feats, NoBreak kv.1 ∧ NoBreak kv.2)
    (hnd : (feats.map Prod.fst).Nodup) :
    parseFeatures (renderFeat feats) = feats := by
  rw [parseFeatures_eq]
  have hpre : (partition '-' (renderFeat feats)).1 = ['2', '1', '1'] := by
    have : renderFeat feats = ['2', '1', '1'] ++ '-' :: ("Features:".toList ++ '\n' ::
        feats.flatMap (fun kv => featLine kv ++ ['\n']) ++ featEnd) := by
      unfold renderFeat featHead; simp
    rw [this, partition_append_sep _ _ _ (by decide)]
  rw [if_pos hpre, splitlines_render feats fun kv hkv => FtpModelLemmas.featLine_noBreak kv (hb kv hkv)]
  simp only [List.foldl_cons, List.foldl_append, List.foldl_nil]
  have h0 : featStep [] featHead = [] := by decide
  rw [h0, List.foldl_map, foldl_append_new _ id feats []
    (fun kv hkv d => featStep_line d kv (hk kv hkv)) (by simpa using hnd)]
  simp only [List.nil_append, List.map_id]
  unfold featStep featEnd
  rfl

/-! ### calendar arithmetic

  `daysFromCivil` and `civilFromDays` count in years that begin on 1 March (year `y'`, months
  `mp = 0 … 11` from March), so that the leap day is the last day of its year and
  `daysFromCivil y m d = yearStart y' + monthStart mp + d - 1 - 719468`.  The year-level facts are
  proved on the digits of `y' = 400 e + 100 g + 4 q + t`, in which `yearStart` is linear. -/

theorem validDate_iff (y m d : Nat) :
    validDate y m d = true ↔ 1 ≤ y ∧ y ≤ 9999 ∧ 1 ≤ m ∧ m ≤ 12 ∧ 1 ≤ d ∧ d ≤ daysInMonth y m := by
  simp [validDate, and_assoc]

theorem daysInMonth_ne_feb (y m : Nat) (h : m ≠ 2) : daysInMonth y m = daysInMonth 0 m := by
  have : (m == 2) = false := by simpa using h
  simp only [daysInMonth, this, Bool.false_eq_true, if_false]

theorem daysInMonth_eq_1900 (y m : Nat) :
    daysInMonth y m = daysInMonth 1900 m + if m = 2 ∧ isLeap y = true then 1 else 0 := by
  by_cases h : m = 2
  · subst h; cases hl : isLeap y <;> simp [daysInMonth, hl] <;> decide
  · rw [daysInMonth_ne_feb y m h, daysInMonth_ne_feb 1900 m h]; simp [h]

/-- 1900 is a common year -/
theorem validDate_iff_1900 (y m d : Nat) (hy : 1 ≤ y ∧ y ≤ 9999) :
    validDate y m d = true ↔ validDate 1900 m d = true ∨ (m = 2 ∧ d = 29 ∧ isLeap y = true) := by
  have h28 : daysInMonth 1900 2 = 28 := by decide
  rw [validDate_iff, validDate_iff, daysInMonth_eq_1900 y m]
  by_cases hm : m = 2 ∧ isLeap y = true
  · obtain ⟨rfl, hl⟩ := hm
    rw [if_pos ⟨rfl, hl⟩, h28]
    simp only [hl, and_true, true_and]
    omega
  · rw [if_neg hm]
    constructor
    · intro h; left; omega
    · rintro (h | ⟨h2, _, hl⟩)
      · omega
      · exact absurd ⟨h2, hl⟩ hm

theorem validDate_of_1900 (y m d : Nat) (hy : 1 ≤ y ∧ y ≤ 9999) (h : validDate 1900 m d = true) :
    validDate y m d = true := (validDate_iff_1900 y m d hy).2 (Or.inl h)

theorem isLeap_iff (y : Nat) : isLeap y = true ↔ (y % 4 = 0 ∧ (y % 100 ≠ 0 ∨ y % 400 = 0)) := by
  simp [isLeap]

theorem daysInMonth_bounds (y m : Nat) : 28 ≤ daysInMonth y m ∧ daysInMonth y m ≤ 31 := by
  unfold daysInMonth; split <;> (try split) <;> omega

theorem divMod_of_eq {x k a r : Nat} (h : x = k * a + r) (hr : r < k) : x / k = a ∧ x % k = r :=
  (Nat.div_mod_unique (Nat.zero_lt_of_lt hr)).2 ⟨by rw [h, Nat.add_comm], hr⟩

/-- days from 0000-03-01 to 1 March of year `y'` -/
def yearStart (y' : Nat) : Nat := y' / 400 * 146097 + (y' % 400 * 365 + y' % 400 / 4 - y' % 400 / 100)

/-- days from 1 March to the first of month `mp` (March = 0, …, February = 11) -/
def monthStart (mp : Nat) : Nat := (153 * mp + 2) / 5

theorem daysFromCivil_eq (y m d : Nat) : daysFromCivil y m d =
    ((yearStart (if m ≤ 2 then y - 1 else y) + (monthStart ((m + 9) % 12) + d - 1) : Nat) : Int) - 719468 := by
  simp only [daysFromCivil, yearStart, monthStart, Nat.add_assoc]

theorem year_digits (y' : Nat) :
    ∃ e g q t, g < 4 ∧ q < 25 ∧ t < 4 ∧ y' = 400 * e + 100 * g + 4 * q + t :=
  ⟨y' / 400, y' % 400 / 100, y' % 100 / 4, y' % 4, Nat.div_lt_of_lt_mul (Nat.mod_lt _ (by decide)),
    Nat.div_lt_of_lt_mul (Nat.mod_lt _ (by decide)), Nat.mod_lt _ (by decide), by omega⟩

theorem yoe_div (g q t : Nat) (hq : q < 25) (ht : t < 4) :
    (100 * g + 4 * q + t) / 4 = 25 * g + q ∧ (100 * g + 4 * q + t) / 100 = g := by omega

theorem yearStart_digits (e g q t : Nat) (hg : g < 4) (hq : q < 25) (ht : t < 4) :
    yearStart (400 * e + 100 * g + 4 * q + t) = 146097 * e + (36524 * g + 1461 * q + 365 * t) := by
  obtain ⟨h1, h2⟩ := divMod_of_eq (x := 400 * e + 100 * g + 4 * q + t) (k := 400) (a := e)
    (r := 100 * g + 4 * q + t) (by omega) (by omega)
  rw [yearStart, h1, h2, (yoe_div g q t hq ht).1, (yoe_div g q t hq ht).2]
  omega

theorem isLeap_succ_digits (e g q t : Nat) (hg : g < 4) (hq : q < 25) (ht : t < 4) :
    isLeap (400 * e + 100 * g + 4 * q + t + 1) = true ↔ t = 3 ∧ (q = 24 → g = 3) := by
  rw [isLeap_iff]; omega

theorem yearStart_succ (y' : Nat) :
    yearStart (y' + 1) = yearStart y' + if isLeap (y' + 1) then 366 else 365 := by
  obtain ⟨e, g, q, t, hg, hq, ht, rfl⟩ := year_digits y'
  -- the digits of `y' + 1` are only named: `omega` finds the carry from the equation `h'`
  obtain ⟨e', g', q', t', hg', hq', ht', h'⟩ := year_digits (400 * e + 100 * g + 4 * q + t + 1)
  have hs := (congrArg yearStart h').trans (yearStart_digits e' g' q' t' hg' hq' ht')
  simp only [hs, yearStart_digits e g q t hg hq ht, isLeap_succ_digits e g q t hg hq ht]
  split <;> omega

theorem yearStart_add_le (a k : Nat) : yearStart a + 365 * k ≤ yearStart (a + k) := by
  induction k with
  | zero => simp
  | succ k ih =>
    have := yearStart_succ (a + k)
    rw [Nat.add_assoc] at this
    split at this <;> omega

/-- recovering the year of the era from the day of the era (the core of days → civil) -/
theorem yoe_recover (g q t doy doe : Nat) (hg : g < 4) (hq : q < 25) (ht : t < 4) (hd : doy < 366)
    (hleap : doy = 365 → t = 3 ∧ (q = 24 → g = 3))
    (hdoe : doe = 36524 * g + 1461 * q + 365 * t + doy) :
    (doe - doe / 1460 + doe / 36524 - doe / 146096) / 365 = 100 * g + 4 * q + t ∧ doe < 146097 := by
  by_cases hlast : g = 3 ∧ q = 24 ∧ t = 3 ∧ doy = 365
  · -- 29 February of the last year of the era: the one day on which `doe / 36524` is 4 and not `g`
    obtain ⟨rfl, rfl, rfl, rfl⟩ := hlast
    subst hdoe
    decide
  · have hX : 1461 * q + 365 * t + doy < 36524 := by omega
    have h1 := (divMod_of_eq (x := doe) (k := 36524) (a := g) (r := 1461 * q + 365 * t + doy)
      (by omega) hX).1
    have h2 : doe / 146096 = 0 := Nat.div_eq_of_lt (by omega)
    rw [h1, h2]
    clear hlast h1 h2
    omega

theorem civilFromDays_yearStart (y' doy mp : Nat) (hd : doy < 366)
    (hleap : doy = 365 → isLeap (y' + 1) = true) (hmp : (5 * doy + 2) / 153 = mp) :
    civilFromDays (((yearStart y' + doy : Nat) : Int) - 719468) =
      (if (if mp < 10 then mp + 3 else mp - 9) ≤ 2 then y' + 1 else y',
       if mp < 10 then mp + 3 else mp - 9, doy - monthStart mp + 1) := by
  subst hmp
  obtain ⟨e, g, q, t, hg, hq, ht, rfl⟩ := year_digits y'
  rw [isLeap_succ_digits e g q t hg hq ht] at hleap
  obtain ⟨hyoe, hlt⟩ := yoe_recover g q t doy _ hg hq ht hd hleap rfl
  obtain ⟨hera, hdoe⟩ := divMod_of_eq (k := 146097) (a := e) (Nat.add_assoc _ _ _) hlt
  obtain ⟨h4, h100⟩ := yoe_div g q t hq ht
  have hdoy : 36524 * g + 1461 * q + 365 * t + doy -
      (365 * (100 * g + 4 * q + t) + (25 * g + q) - g) = doy := by omega
  have hy : 100 * g + 4 * q + t + e * 400 = 400 * e + 100 * g + 4 * q + t := by omega
  unfold civilFromDays
  simp only [Int.sub_add_cancel, Int.toNat_natCast, yearStart_digits e g q t hg hq ht, hera, hdoe,
    hyoe, h4, h100, hdoy, hy, monthStart]

theorem month_of_doy (mp doy : Nat) (h1 : monthStart mp ≤ doy) (h2 : doy < monthStart (mp + 1)) :
    (5 * doy + 2) / 153 = mp := by
  unfold monthStart at h1 h2; omega

theorem monthStart_succ : ∀ m, m < 13 → 1 ≤ m → m ≠ 2 →
    monthStart ((m + 9) % 12 + 1) = monthStart ((m + 9) % 12) + daysInMonth 0 m := by decide

theorem days_from_first (y m d : Nat) (hd : 1 ≤ d) :
    daysFromCivil y m 1 + (d : Int) - 1 = daysFromCivil y m d := by
  rw [daysFromCivil_eq, daysFromCivil_eq]; omega

theorem days_succ_day (y m d : Nat) (hd : 1 ≤ d) : daysFromCivil y m (d + 1) = daysFromCivil y m d + 1 := by
  rw [← days_from_first y m d hd, ← days_from_first y m (d + 1) (by omega)]; omega

theorem days_succ_month (y m : Nat) (hy : 1 ≤ y) (hm1 : 1 ≤ m) (hm : m < 12) :
    daysFromCivil y (m + 1) 1 = daysFromCivil y m (daysInMonth y m) + 1 := by
  rw [daysFromCivil_eq, daysFromCivil_eq]
  by_cases h2 : m = 2
  · -- February → March: the year of `yearStart` changes
    subst h2
    have := yearStart_succ (y - 1)
    rw [Nat.sub_add_cancel hy] at this
    simp only [Nat.reduceAdd, Nat.reduceLeDiff, if_true, if_false, Nat.reduceMod, this, daysInMonth,
      beq_self_eq_true, monthStart, Nat.reduceMul, Nat.reduceDiv]
    split <;> omega
  · have hs := monthStart_succ m (by omega) hm1 h2
    have hmp : (m + 1 + 9) % 12 = (m + 9) % 12 + 1 := by omega
    have hle : (m + 1 ≤ 2) = (m ≤ 2) := propext (by omega)
    simp only [hmp, hs, hle, daysInMonth_ne_feb y m h2]
    have := (daysInMonth_bounds 0 m).1
    omega

theorem days_succ_year (y : Nat) :
    daysFromCivil (y + 1) 1 1 = daysFromCivil y 12 31 + 1 := by
  rw [daysFromCivil_eq, daysFromCivil_eq]
  simp only [Nat.reduceLeDiff, if_true, if_false, Nat.add_sub_cancel, monthStart, Nat.reduceAdd,
    Nat.reduceMod, Nat.reduceMul, Nat.reduceDiv]
  omega

theorem doy_of_valid (y m d : Nat) (hm1 : 1 ≤ m) (hm2 : m ≤ 12) (hd1 : 1 ≤ d)
    (hd2 : d ≤ daysInMonth y m) :
    monthStart ((m + 9) % 12) ≤ monthStart ((m + 9) % 12) + d - 1 ∧
    monthStart ((m + 9) % 12) + d - 1 < monthStart ((m + 9) % 12 + 1) ∧
    monthStart ((m + 9) % 12) + d - 1 < 366 ∧
    (monthStart ((m + 9) % 12) + d - 1 = 365 → m = 2 ∧ isLeap y = true) := by
  by_cases h2 : m = 2
  · subst h2
    simp only [daysInMonth, beq_self_eq_true, if_true] at hd2
    simp only [Nat.reduceAdd, Nat.reduceMod, monthStart, Nat.reduceMul, Nat.reduceDiv, true_and]
    cases hl : isLeap y
    · rw [hl, if_neg Bool.false_ne_true] at hd2
      exact ⟨by omega, by omega, by omega, by omega⟩
    · rw [hl, if_pos rfl] at hd2
      exact ⟨by omega, by omega, by omega, fun _ => rfl⟩
  · have hs := monthStart_succ m (by omega) hm1 h2
    rw [daysInMonth_ne_feb y m h2] at hd2
    have : monthStart ((m + 9) % 12 + 1) ≤ 337 := by unfold monthStart; omega
    omega

theorem civil_of_days (y m d : Nat) (hy1 : 1 ≤ y) (hm1 : 1 ≤ m) (hm2 : m ≤ 12) (hd1 : 1 ≤ d)
    (hd2 : d ≤ daysInMonth y m) : civilFromDays (daysFromCivil y m d) = (y, m, d) := by
  obtain ⟨h1, h2, h3, h4⟩ := doy_of_valid y m d hm1 hm2 hd1 hd2
  have h5 : monthStart ((m + 9) % 12) + d - 1 = 365 → isLeap ((if m ≤ 2 then y - 1 else y) + 1) = true := by
    intro h
    obtain ⟨rfl, hl⟩ := h4 h
    rw [if_pos (Nat.le_refl 2), Nat.sub_add_cancel hy1]
    exact hl
  rw [daysFromCivil_eq, civilFromDays_yearStart _ _ _ h3 h5 (month_of_doy _ _ h1 h2)]
  have hm : (if (m + 9) % 12 < 10 then (m + 9) % 12 + 3 else (m + 9) % 12 - 9) = m := by
    split <;> omega
  have hy : (if m ≤ 2 then (if m ≤ 2 then y - 1 else y) + 1 else if m ≤ 2 then y - 1 else y) = y := by
    split <;> omega
  rw [hm, hy, show monthStart ((m + 9) % 12) + d - 1 - monthStart ((m + 9) % 12) + 1 = d by omega]

theorem civil_roundtrip (y m d : Nat) (h : validDate y m d = true) :
    civilFromDays (daysFromCivil y m d) = (y, m, d) := by
  obtain ⟨hy1, _, hm1, hm2, hd1, hd2⟩ := (validDate_iff y m d).1 h
  exact civil_of_days y m d hy1 hm1 hm2 hd1 hd2

/-! ### maximal runs -/

theorem stops_cons (p : Char → Bool) (c : Char) (r : Str) (h : p c = false) : Stops p (c :: r) := by
  intro c' r' e; cases e; exact h

theorem stops_of_all (p : Char → Bool) (a : Str) (hne : a ≠ []) (h : ∀ c ∈ a, p c = false) : Stops p a := by
  obtain ⟨c, r, rfl⟩ := List.exists_cons_of_ne_nil hne
  exact stops_cons _ _ _ (h c (by simp))

theorem stops_append_of_stops (p : Char → Bool) (a rest : Str) (hne : a ≠ []) (h : Stops p a) :
    Stops p (a ++ rest) := by
  obtain ⟨c, r, rfl⟩ := List.exists_cons_of_ne_nil hne
  exact stops_cons _ _ _ (h c r rfl)

theorem stops_append (p : Char → Bool) (a rest : Str) (hne : a ≠ []) (h : ∀ c ∈ a, p c = false) :
    Stops p (a ++ rest) :=
  stops_append_of_stops p a rest hne (stops_of_all p a hne h)

theorem dropWhile_of_stops (p : Char → Bool) (s : Str) (h : Stops p s) : s.dropWhile p = s := by
  cases s with
  | nil => rfl
  | cons c r => exact List.dropWhile_cons_of_neg (by simp [h c r rfl])

theorem takeWhile_of_stops (p : Char → Bool) (s : Str) (h : Stops p s) : s.takeWhile p = [] := by
  cases s with
  | nil => rfl
  | cons c r => simp [List.takeWhile, h c r rfl]

theorem takeWhile_append_stop (p : Char → Bool) (tok rest : Str) (hall : ∀ c ∈ tok, p c = true)
    (hstop : Stops p rest) : (tok ++ rest).takeWhile p = tok := by
  rw [List.takeWhile_append_of_pos hall, takeWhile_of_stops p rest hstop, List.append_nil]

theorem dropWhile_append_stop (p : Char → Bool) (tok rest : Str) (hall : ∀ c ∈ tok, p c = true)
    (hstop : Stops p rest) : (tok ++ rest).dropWhile p = rest := by
  rw [List.dropWhile_append_of_pos hall, dropWhile_of_stops p rest hstop]

theorem run1_append (p : Char → Bool) (tok rest : Str) (hne : tok ≠ [])
    (hall : ∀ c ∈ tok, p c = true) (hstop : Stops p rest) :
    run1 p (tok ++ rest) = some (tok, rest) := by
  unfold run1
  rw [takeWhile_append_stop p tok rest hall hstop, dropWhile_append_stop p tok rest hall hstop]
  cases tok with
  | nil => exact absurd rfl hne
  | cons x xs => rfl

theorem run1_space (rest : Str) (hstop : Stops isSpace rest) :
    run1 isSpace (' ' :: rest) = some ([' '], rest) :=
  run1_append isSpace [' '] rest (by simp) (by intro c hc; simp at hc; subst hc; decide) hstop

/-! ### digits -/

theorem not_space_of_printable (c : Char) (h1 : 33 ≤ c.toNat) (h2 : c.toNat < 127) :
    isSpace c = false := by
  simp only [isSpace, Path.isPySpace, Bool.or_eq_false_iff, Bool.and_eq_false_imp, decide_eq_true_eq,
    decide_eq_false_iff_not, beq_eq_false_iff_ne]
  omega

theorem digit_toNat : ∀ n, n < 10 → (Char.ofNat (48 + n)).toNat = 48 + n := by decide
theorem digit_isDigit : ∀ n, n < 10 → isDigit (Char.ofNat (48 + n)) = true := by decide
theorem digit_not_space : ∀ n, n < 10 → isSpace (Char.ofNat (48 + n)) = false := by decide
theorem digit_not_type : ∀ n, n < 10 → isTypeChar (Char.ofNat (48 + n)) = false := by decide

theorem digitChar_val (n : Nat) : (digitChar n).toNat - 48 = n % 10 := by
  unfold digitChar; rw [digit_toNat _ (Nat.mod_lt _ (by decide))]; omega
theorem digitChar_isDigit (n : Nat) : isDigit (digitChar n) = true :=
  digit_isDigit _ (Nat.mod_lt _ (by decide))

theorem natOfDigits_pad2 (n : Nat) (h : n < 100) : natOfDigits (pad2 n) = n := by
  simp only [natOfDigits, pad2, List.foldl, digitChar_val, Nat.zero_mul, Nat.zero_add]
  rw [Nat.mod_eq_of_lt (Nat.div_lt_of_lt_mul h), Nat.div_add_mod']
theorem natOfDigits_pad4 (n : Nat) (h : n < 10000) : natOfDigits (pad4 n) = n := by
  simp only [natOfDigits, pad4, List.foldl, digitChar_val, Nat.zero_mul, Nat.zero_add]
  rw [Nat.mod_eq_of_lt (Nat.div_lt_of_lt_mul h), div_mul_add_mod n 100 10, div_mul_add_mod n 10 10,
    Nat.div_add_mod']
theorem allDigits_pad2 (n : Nat) : allDigits (pad2 n) = true := by
  simp [allDigits, pad2, digitChar_isDigit]
theorem allDigits_pad4 (n : Nat) : allDigits (pad4 n) = true := by
  simp [allDigits, pad4, digitChar_isDigit]
theorem pad2_ne_nil (n : Nat) : pad2 n ≠ [] := List.cons_ne_nil _ _
theorem mem_pad2 (n : Nat) : ∀ c ∈ pad2 n, isDigit c = true := by
  intro c hc; simp only [pad2, List.mem_cons, List.not_mem_nil, or_false] at hc
  rcases hc with rfl | rfl <;> exact digitChar_isDigit _
theorem mem_pad4 (n : Nat) : ∀ c ∈ pad4 n, isDigit c = true := by
  intro c hc; simp only [pad4, List.mem_cons, List.not_mem_nil, or_false] at hc
  rcases hc with rfl | rfl | rfl | rfl <;> exact digitChar_isDigit _

theorem digit_ind {P : Char → Prop} (hP : ∀ n, n < 10 → P (Char.ofNat (48 + n))) (c : Char)
    (h : isDigit c = true) : P c := by
  have hv : 48 ≤ c.toNat ∧ c.toNat ≤ 57 := by simpa [isDigit] using h
  have := hP (c.toNat - 48) (by omega)
  rwa [show 48 + (c.toNat - 48) = c.toNat by omega, Char.ofNat_toNat] at this

theorem digit_nonspace (c : Char) (h : isDigit c = true) : isSpace c = false :=
  digit_ind (P := fun c => isSpace c = false) digit_not_space c h
theorem digit_not_intSpace (c : Char) (h : isDigit c = true) : isIntSpace c = false :=
  digit_ind (P := fun c => isIntSpace c = false) (by decide) c h
theorem digit_ne_sign (c : Char) (h : isDigit c = true) : c ≠ '-' ∧ c ≠ '+' ∧ c ≠ '_' :=
  digit_ind (P := fun c => c ≠ '-' ∧ c ≠ '+' ∧ c ≠ '_') (by decide) c h
theorem digit_word (c : Char) (h : isDigit c = true) : (isWord c || c == ':') = true :=
  digit_ind (P := fun c => (isWord c || c == ':') = true) (by decide) c h
theorem digit_isDigitProp (c : Char) (h : isDigit c = true) : isDigitProp c = true :=
  digit_ind (P := fun c => isDigitProp c = true) (by decide) c h

/-- `intBody` accepts a plain digit string -/
theorem intBody_digits (s : Str) (hne : s ≠ []) (h : ∀ c ∈ s, isDigit c = true) : intBody s = some s := by
  induction s with
  | nil => exact absurd rfl hne
  | cons c cs ih =>
    have hc := h c (by simp)
    cases cs with
    | nil => simp [intBody, hc]
    | cons d ds =>
      have hd := h d (by simp)
      have hd' : d ≠ '_' := (digit_ne_sign d hd).2.2
      simp only [intBody, hc, if_true, hd', if_false]
      rw [ih (by simp) (fun x hx => h x (by simp [hx]))]
      rfl

theorem stops_reverse_of_all (p : Char → Bool) (s : Str) (h : ∀ c ∈ s, p c = false) :
    Stops p s.reverse :=
  fun c _ hcr => h c (List.mem_reverse.1 (hcr ▸ List.mem_cons_self))

theorem digits_stripped (s : Str) (h : ∀ c ∈ s, isDigit c = true) : Stripped s :=
  ⟨fun c r hs => digit_nonspace c (h c (by rw [hs]; simp)),
   stops_reverse_of_all _ _ fun c hc => digit_nonspace c (h c hc)⟩

theorem digits_not_mem (s : Str) (h : ∀ c ∈ s, isDigit c = true) (x : Char) (hx : isDigit x = false) : x ∉ s := by
  intro hm; rw [h x hm] at hx; cases hx

theorem natOfDigits_snoc (ds : Str) (d : Char) : natOfDigits (ds ++ [d]) = natOfDigits ds * 10 + (d.toNat - 48) := by
  simp [natOfDigits, List.foldl_append]

/-- `int()` of a plain digit string within the digit limit -/
theorem pyInt_digits (s : Str) (hne : s ≠ []) (h : ∀ c ∈ s, isDigit c = true)
    (hlen : s.length ≤ maxStrDigits) : pyInt s = some (natOfDigits s : Int) := by
  have hsp : ∀ c ∈ s, isIntSpace c = false := fun c hc => digit_not_intSpace c (h c hc)
  unfold pyInt
  rw [dropWhile_of_stops _ _ (stops_of_all _ _ hne hsp), dropWhile_of_stops _ _ (stops_reverse_of_all _ _ hsp),
    List.reverse_reverse]
  obtain ⟨c, cs, rfl⟩ := List.exists_cons_of_ne_nil hne
  have hc := digit_ne_sign c (h c (by simp))
  have hm : splitSign (c :: cs) = (false, c :: cs) := by
    unfold splitSign
    split
    · rename_i heq; simp only [List.cons.injEq] at heq; exact absurd heq.1 hc.1
    · rename_i heq; simp only [List.cons.injEq] at heq; exact absurd heq.1 hc.2.1
    · rfl
  simp only [hm, intBody_digits _ hne h]
  rw [if_neg (by omega)]
  rfl

/-! ### strip -/

theorem strip_stripped (s : Str) (h : Stripped s) : strip s = s := by
  unfold strip lstrip rstrip
  rw [dropWhile_of_stops _ _ h.1, dropWhile_of_stops _ _ h.2, List.reverse_reverse]

theorem strip_space_cons (s : Str) (h : Stripped s) : strip (' ' :: s) = s := by
  unfold strip lstrip
  rw [List.dropWhile_cons_of_pos (by decide)]
  exact strip_stripped s h

/-! ### MLSD: times, facts, names -/

theorem pyInt_pad2 (n : Nat) (h : n < 100) : pyInt (pad2 n) = some (n : Int) := by
  rw [pyInt_digits _ (by simp [pad2]) (mem_pad2 n) (by simp [pad2, maxStrDigits]), natOfDigits_pad2 n h]
theorem pyInt_pad4 (n : Nat) (h : n < 10000) : pyInt (pad4 n) = some (n : Int) := by
  rw [pyInt_digits _ (by simp [pad4]) (mem_pad4 n) (by simp [pad4, maxStrDigits]), natOfDigits_pad4 n h]

/-- the facts part of a rendered line: `k1=v1;k2=v2;…;` -/
def factsText (facts : List (Str × Str)) : Str :=
  facts.flatMap (fun kv => kv.1 ++ '=' :: kv.2 ++ [';'])

theorem renderMlsd_eq (facts : List (Str × Str)) (name : Str) :
    renderMlsd facts name = factsText facts ++ ' ' :: name := rfl

theorem factsText_cons (kv : Str × Str) (rest : List (Str × Str)) :
    factsText (kv :: rest) = factStr kv ++ ';' :: factsText rest := by
  simp [factsText, factStr, List.append_assoc]

theorem not_mem_factsText (x : Char) (h1 : x ≠ '=') (h2 : x ≠ ';') (facts : List (Str × Str))
    (hf : ∀ kv ∈ facts, x ∉ kv.1 ∧ x ∉ kv.2) : x ∉ factsText facts := by
  simp only [factsText, List.mem_flatMap, List.mem_append, List.mem_cons, List.not_mem_nil, or_false, not_exists,
    not_and, not_or]
  exact fun kv hkv => ⟨⟨(hf kv hkv).1, h1, (hf kv hkv).2⟩, h2⟩

theorem factsText_no_space (facts : List (Str × Str)) (hf : ∀ kv ∈ facts, WFFact kv) :
    ' ' ∉ factsText facts :=
  not_mem_factsText ' ' (by decide) (by decide) facts fun kv h => ⟨(hf kv h).k_sp, (hf kv h).v_sp⟩

theorem factsText_ends (facts : List (Str × Str)) (hne : facts ≠ []) :
    ∃ a, factsText facts = a ++ [';'] := by
  induction facts with
  | nil => exact absurd rfl hne
  | cons kv rest ih =>
    rw [factsText_cons]
    cases rest with
    | nil => exact ⟨factStr kv, by simp [factsText]⟩
    | cons kv' rest' =>
      obtain ⟨a, ha⟩ := ih (by simp)
      exact ⟨factStr kv ++ ';' :: a, by rw [ha]; simp⟩

theorem endsWithSemi_snoc (a : Str) : endsWithSemi (a ++ [';']) = true := by
  simp [endsWithSemi]

/-- a rendered line always has a facts part (possibly the empty one) -/
theorem noFactsPart_render (facts : List (Str × Str)) (name : Str) (hf : ∀ kv ∈ facts, WFFact kv) :
    noFactsPart (renderMlsd facts name) = false := by
  unfold noFactsPart
  rw [renderMlsd_eq, partition_append_sep _ _ _ (factsText_no_space facts hf)]
  simp only [Bool.not_true, Bool.false_or, Bool.and_eq_false_imp, Bool.not_eq_eq_eq_not,
    Bool.not_true, Bool.not_false]
  cases facts with
  | nil => simp [factsText]
  | cons kv rest =>
    obtain ⟨a, ha⟩ := factsText_ends (kv :: rest) (by simp)
    intro _
    rw [ha, endsWithSemi_snoc]

theorem splitOn_factsText (facts : List (Str × Str)) (hf : ∀ kv ∈ facts, WFFact kv) :
    splitOn ';' (factsText facts) = facts.map factStr ++ [[]] := by
  induction facts with
  | nil => rfl
  | cons kv rest ih =>
    have hw := hf kv (by simp)
    rw [factsText_cons, PathLemmas.splitOn_append_sep ';' _ _ (by
      unfold factStr; simp only [List.mem_append, List.mem_cons, not_or]
      exact ⟨hw.k_semi, by decide, hw.v_semi⟩)]
    rw [ih (fun kv' h => hf kv' (by simp [h]))]
    simp

theorem factStep_fact (d : List (Str × Str)) (kv : Str × Str) (hw : WFFact kv) :
    factStep d (factStr kv) = dictSet (lower kv.1) kv.2 d := by
  unfold factStep factStr
  simp only
  rw [partition_append_sep _ _ _ hw.k_eq]
  simp only [if_true, strip_stripped _ hw.k_strip, strip_stripped _ hw.v_strip]

theorem factStep_nil (d : List (Str × Str)) : factStep d [] = d := by
  simp [factStep, partition]

/-- a name without `/`, not empty, not `.` / `..` is its own `pathName` -/
theorem pathName_wf (name : Str) (hn : WFName name) : pathName name = some name := by
  unfold pathName
  have h1 : name ≠ ['/'] := fun h => hn.slash (by rw [h]; simp)
  have hb : basename (rstripSlash name) = name := by
    rw [PathLemmas.rstripSlash_of_not_ends _ (PathLemmas.endsWithSlash_of_not_mem _ hn.slash)]
    unfold basename split
    rw [PathLemmas.rsplit1_none _ _ hn.slash]
  simp only [h1, hn.ne, or_self, if_false, hb, Option.some.injEq, hn.dot, hn.dotdot]

theorem rstripEol_length_le (s : Str) : (rstripEol s).length ≤ s.length := by
  unfold rstripEol
  have := (List.dropWhile_suffix (l := s.reverse) isEol).length_le
  simpa using this

theorem noEol_of_rstripEol (s : Str) (h : (rstripEol s).length = s.length) : NoEol s := by
  unfold rstripEol at h
  simp only [List.length_reverse] at h
  intro c r hcr
  have hl : s.length = r.length + 1 := by
    have := congrArg List.length hcr
    simpa using this
  rw [hcr] at h
  cases hc : isEol c with
  | false => rfl
  | true =>
    exfalso
    simp only [List.dropWhile, hc] at h
    have := (List.dropWhile_suffix (l := r) isEol).length_le
    omega

/-- whenever an entry has a name, it is the last component of the pathname without its trailing
    slashes — nothing else is done to it -/
theorem pathName_some (p n : Str) (h : pathName p = some n) : n = basename (rstripSlash p) := by
  unfold pathName at h
  by_cases h1 : p = [] ∨ p = ['/']
  · simp [h1] at h
  · by_cases hb : basename (rstripSlash p) = []
    · simp [h1, hb] at h
    · simp only [h1, hb, if_false] at h
      split at h
      · cases h
      · exact (Option.some.inj h).symm

theorem parseFacts_render_any (facts : List (Str × Str)) (name : Str) (hf : ∀ kv ∈ facts, WFFact kv)
    (hnd : (facts.map (fun kv => lower kv.1)).Nodup) :
    parseFacts (renderMlsd facts name) = (pathName name, facts.map (fun kv => (lower kv.1, kv.2))) := by
  unfold parseFacts
  simp only [noFactsPart_render facts name hf, Bool.false_eq_true, if_false]
  rw [renderMlsd_eq, partition_append_sep _ _ _ (factsText_no_space facts hf)]
  simp only
  rw [splitOn_factsText facts hf, List.foldl_append, List.foldl_map,
    foldl_append_new _ (fun kv => (lower kv.1, kv.2)) facts []
      (fun kv hkv d hnew => by rw [factStep_fact d kv (hf kv hkv), dictSet_new _ _ _ hnew])
      (by simpa [Function.comp_def] using hnd)]
  simp [factStep_nil]

theorem dropWhile_append_cons (p : Char → Bool) (a : Str) (x : Char) (r : Str) (hx : p x = false) :
    (a ++ x :: r).dropWhile p = a.dropWhile p ++ x :: r := by
  induction a with
  | nil => simp [List.dropWhile, hx]
  | cons c cs ih =>
    by_cases hc : p c = true
    · simp [List.dropWhile, hc, ih]
    · simp [List.dropWhile, hc]

theorem rstripEol_append_space (a n : Str) : rstripEol (a ++ ' ' :: n) = a ++ ' ' :: rstripEol n := by
  unfold rstripEol
  simp only [List.reverse_append, List.reverse_cons, List.append_assoc, List.singleton_append]
  rw [dropWhile_append_cons isEol n.reverse ' ' a.reverse (by decide)]
  simp

theorem rstripEol_render (facts : List (Str × Str)) (name : Str) :
    rstripEol (renderMlsd facts name) = renderMlsd facts (rstripEol name) := by
  rw [renderMlsd_eq, renderMlsd_eq, rstripEol_append_space]

theorem rstripEol_noEol (s : Str) (h : NoEol s) : rstripEol s = s := by
  unfold rstripEol
  rw [dropWhile_of_stops _ _ h, List.reverse_reverse]

theorem dropLeadSpace_cons_ne (c : Char) (r : Str) (h : c ≠ ' ') : dropLeadSpace (c :: r) = c :: r := by
  unfold dropLeadSpace
  split
  · rename_i heq; cases heq; exact absurd rfl h
  · rfl

theorem dropLeadSpace_of_stops (l : Str) (h : Stops (fun c => c == ' ') l) : dropLeadSpace l = l := by
  cases l with
  | nil => rfl
  | cons c r =>
    apply dropLeadSpace_cons_ne
    intro e
    have := h c r rfl
    simp [e] at this

/-- a rendered line with at least one fact does not start with a space -/
theorem render_head (facts : List (Str × Str)) (name : Str) (hf : ∀ kv ∈ facts, WFFact kv)
    (hne : facts ≠ []) : Stops (fun c => c == ' ') (renderMlsd facts name) := by
  cases facts with
  | nil => exact absurd rfl hne
  | cons kv rest =>
    have hw := hf kv (by simp)
    rw [renderMlsd_eq, factsText_cons]
    unfold factStr
    cases hk : kv.1 with
    | nil => simp only [List.nil_append, List.cons_append]; exact stops_cons _ _ _ (by decide)
    | cons c r =>
      simp only [List.cons_append]
      apply stops_cons
      have : c ≠ ' ' := by
        intro e; apply hw.k_sp; rw [hk, e]; simp
      simpa using this

theorem parseMlsxLine_rendered (facts : List (Str × Str)) (text : Str)
    (hf : ∀ kv ∈ facts, WFFact kv) (hne : facts ≠ [])
    (hnd : (facts.map (fun kv => lower kv.1)).Nodup) :
    parseMlsxLine (renderMlsd facts text) =
      .ok (mlsxVal (pathName (rstripEol text), facts.map (fun kv => (lower kv.1, kv.2)))) := by
  rw [parseMlsxLine_eq, rstripEol_render, dropLeadSpace_of_stops _ (render_head facts _ hf hne),
    parseFacts_render_any facts _ hf hnd]

/-- the MLST reply form (one leading space) reads like the MLSD form -/
theorem parseMlsxLine_lead_space (l : Str) (h : Stops (fun c => c == ' ') l) :
    parseMlsxLine (' ' :: l) = parseMlsxLine l := by
  have e1 : rstripEol (' ' :: l) = ' ' :: rstripEol l := rstripEol_append_space [] l
  have e2 : dropLeadSpace (rstripEol l) = rstripEol l := by
    apply dropLeadSpace_of_stops
    unfold rstripEol
    intro c r hcr
    -- the first character of a prefix of `l` is the first character of `l`
    have hpre : (l.reverse.dropWhile isEol).reverse <+: l := by
      have := List.dropWhile_suffix (l := l.reverse) isEol
      simpa using List.reverse_prefix.2 this
    rw [hcr] at hpre
    obtain ⟨t, ht⟩ := hpre
    exact h c (r ++ t) (by rw [← ht]; simp)
  unfold parseMlsxLine
  rw [e1, e2]
  rfl

theorem mlsdSize_digits (F : List (Str × Str)) (sz : Str)
    (hsz : (dictGet kSize F).getD ((dictGet kSizd F).getD ['0']) = sz)
    (hne : sz ≠ []) (hd : ∀ c ∈ sz, isDigit c = true) (hlen : sz.length ≤ maxStrDigits) :
    mlsdSize F = .ok (natOfDigits sz) := by
  unfold mlsdSize
  simp only [hsz]
  have hall : sz.all isDigitProp = true := by
    rw [List.all_eq_true]; intro c hc; exact digit_isDigitProp c (hd c hc)
  rw [if_pos ⟨hne, hall⟩, pyInt_digits sz hne hd hlen]
  simp

theorem mlsdTime_absent (F : List (Str × Str)) (k : Str) (h : dictGet k F = none) :
    mlsdTime F k = .ok none := by
  unfold mlsdTime; rw [h]

/-- the name of a listed entry is the last component of the text behind `facts; SP`, minus the
    line terminator and trailing slashes — and nothing else; its facts are the line's facts -/
theorem mlsd_name_core (facts : List (Str × Str)) (name : Str)
    (hf : ∀ kv ∈ facts, WFFact kv) (hne : facts ≠ [])
    (hnd : (facts.map (fun kv => lower kv.1)).Nodup)
    (info : MlsdInfo) (h : parseMlsxLine (renderMlsd facts name) = .ok (some info)) :
    pathName (rstripEol name) = some info.name ∧
      info.facts = facts.map (fun kv => (lower kv.1, kv.2)) := by
  rw [parseMlsxLine_rendered facts name hf hne hnd, mlsxVal] at h
  cases hp : pathName (rstripEol name) with
  | none => rw [hp] at h; cases h
  | some n =>
    rw [hp] at h
    simp only at h
    split at h
    · cases h
    · cases h; exact ⟨rfl, rfl⟩

/-! ### strptime pieces -/

theorem field12_pad2 (lo1 lo2 hi2 n : Nat) (h1 : lo2 ≤ n) (h2 : n ≤ hi2) (h100 : n < 100) :
    field12 lo1 lo2 hi2 (pad2 n) = some n := by
  unfold field12
  rw [allDigits_pad2, natOfDigits_pad2 n h100]
  simp [pad2, h1, h2]

theorem dayField_pad2 (n : Nat) (h1 : 1 ≤ n) (h2 : n ≤ 31) : dayField (pad2 n) = some n :=
  field12_pad2 _ _ _ _ h1 h2 (by omega)
theorem monField_pad2 (n : Nat) (h1 : 1 ≤ n) (h2 : n ≤ 12) : monField (pad2 n) = some n :=
  field12_pad2 _ _ _ _ h1 h2 (by omega)
theorem hourField_pad2 (n : Nat) (h : n < 24) : hourField (pad2 n) = some n :=
  field12_pad2 _ _ _ _ (Nat.zero_le n) (by omega) (by omega)
theorem minField_pad2 (n : Nat) (h : n < 60) : minField (pad2 n) = some n :=
  field12_pad2 _ _ _ _ (Nat.zero_le n) (by omega) (by omega)

theorem wsTokGo_run (cur a rest : Str) (ha : ∀ c ∈ a, isSpace c = false) :
    wsTokGo cur false (a ++ rest) = wsTokGo (a.reverse ++ cur) false rest := by
  induction a generalizing cur with
  | nil => rfl
  | cons x xs ih =>
    simp only [List.cons_append, wsTokGo, ha x (by simp), Bool.false_eq_true, if_false]
    rw [ih _ (fun c hc => ha c (by simp [hc]))]
    simp

theorem wsTokens_single (a : Str) (ha : ∀ c ∈ a, isSpace c = false) (hne : a ≠ []) :
    wsTokens a = some [a] := by
  obtain ⟨a0, as, rfl⟩ := List.exists_cons_of_ne_nil hne
  have := wsTokGo_run [a0] as [] (fun c hc => ha c (by simp [hc]))
  rw [List.append_nil] at this
  simp [wsTokens, ha a0 (by simp), this, wsTokGo]

theorem wsTokens_cons (a rest : Str) (ha : ∀ c ∈ a, isSpace c = false) (hne : a ≠ [])
    (hr : Stops isSpace rest) : wsTokens (a ++ ' ' :: rest) = (wsTokens rest).map (a :: ·) := by
  obtain ⟨a0, as, rfl⟩ := List.exists_cons_of_ne_nil hne
  simp only [List.cons_append, wsTokens, ha a0 (by simp), Bool.false_eq_true, if_false]
  rw [wsTokGo_run [a0] as _ (fun c hc => ha c (by simp [hc]))]
  cases rest with
  | nil => simp [wsTokGo, show isSpace ' ' = true by decide]
  | cons x xs => simp [wsTokGo, show isSpace ' ' = true by decide, hr x xs rfl]

theorem pad2_nonspace (n : Nat) : ∀ c ∈ pad2 n, isSpace c = false :=
  fun c hc => digit_nonspace c (mem_pad2 n c hc)
theorem pad2_not_mem (n : Nat) (x : Char) (hx : isDigit x = false) : x ∉ pad2 n :=
  digits_not_mem _ (mem_pad2 n) x hx
theorem pad4_not_mem (n : Nat) (x : Char) (hx : isDigit x = false) : x ∉ pad4 n :=
  digits_not_mem _ (mem_pad4 n) x hx

theorem dmy_ntDate (e : NtEntry) (hd : 1 ≤ e.day ∧ e.day ≤ 31) (hm : 1 ≤ e.month ∧ e.month ≤ 12)
    (hy : e.yy < 100) : dmy (ntDate e) = some (fullYear e.yy, e.month, e.day) := by
  have hdash : ∀ n, '-' ∉ pad2 n := fun n => pad2_not_mem n '-' (by decide)
  simp only [dmy, ntDate, List.append_assoc, List.cons_append, PathLemmas.splitOn_append_sep _ _ _ (hdash _),
    PathLemmas.splitOn_of_not_mem _ _ (hdash _), dayField_pad2 _ hd.1 hd.2, monField_pad2 _ hm.1 hm.2,
    allDigits_pad2, natOfDigits_pad2 _ hy]
  simp [pad2, fullYear]

theorem ntDate_nonspace (e : NtEntry) : ∀ c ∈ ntDate e, isSpace c = false := by
  simp only [ntDate, List.forall_mem_append, List.forall_mem_cons]
  exact ⟨⟨pad2_nonspace _, by decide, pad2_nonspace _⟩, by decide, pad2_nonspace _⟩

theorem ntClock_nonspace (e : NtEntry) : ∀ c ∈ ntClock e, isSpace c = false := by
  unfold ntClock
  split
  · simp only [List.forall_mem_append, List.forall_mem_cons]
    exact ⟨⟨pad2_nonspace _, by decide, pad2_nonspace _⟩, by split <;> decide⟩
  · simp only [List.forall_mem_append, List.forall_mem_cons]
    exact ⟨pad2_nonspace _, by decide, pad2_nonspace _⟩

theorem dropDaySpace_digit (c : Char) (r : Str) (h : isDigit c = true) :
    dropDaySpace (c :: r) = some (c :: r) := by
  have hne : c ≠ ' ' := by rintro rfl; revert h; decide
  unfold dropDaySpace
  split
  · rename_i heq; simp only [List.cons.injEq] at heq; exact absurd heq.1.symm (fun e => hne e.symm)
  · rename_i heq; simp only [List.cons.injEq] at heq; exact absurd heq.1.symm (fun e => hne e.symm)
  · rfl

theorem ntDate_head (e : NtEntry) : ∃ c r, ntDate e = c :: r ∧ isDigit c = true :=
  ⟨digitChar (e.day / 10), _, rfl, digitChar_isDigit _⟩

theorem ntClock_ne (e : NtEntry) : ntClock e ≠ [] := by
  unfold ntClock; split <;> simp [pad2]

theorem nt_tokens (e : NtEntry) :
    dropDaySpace (ntTimeText e) = some (ntTimeText e) ∧
    wsTokens (ntTimeText e) = some [ntDate e, ntClock e] := by
  obtain ⟨c, r, hcr, hc⟩ := ntDate_head e
  constructor
  · unfold ntTimeText; rw [hcr]; exact dropDaySpace_digit c _ hc
  · unfold ntTimeText
    rw [wsTokens_cons _ _ (ntDate_nonspace e) (by rw [hcr]; simp)
      (stops_of_all _ _ (ntClock_ne e) (ntClock_nonspace e)),
      wsTokens_single _ (ntClock_nonspace e) (ntClock_ne e)]
    rfl

theorem valid_ranges (y m d : Nat) (h : validDate y m d = true) : 1 ≤ d ∧ d ≤ 31 ∧ 1 ≤ m ∧ m ≤ 12 := by
  have := (validDate_iff _ _ _).1 h
  have := (daysInMonth_bounds y m).2
  omega

theorem strpNt24_render (e : NtEntry) (h : WFNtTime e) (h24 : e.twelve = false) :
    strpNt12 (ntTimeText e) = none ∧
    strpNt24 (ntTimeText e) = some ⟨some (fullYear e.yy), e.month, e.day, e.hour, e.minute⟩ := by
  obtain ⟨t1, t2⟩ := nt_tokens e
  obtain ⟨hd1, hd2, hm1, hm2⟩ := valid_ranges _ _ _ h.date
  have hclock : ntClock e = pad2 e.hour ++ ':' :: pad2 e.minute := by simp [ntClock, h24]
  have hcolon : ':' ∉ pad2 e.hour := pad2_not_mem _ ':' (by decide)
  constructor
  · -- nothing is left for `%p` behind the minutes
    have : (pad2 e.minute).dropWhile isDigit = [] := by
      simpa using List.dropWhile_append_of_pos (l₂ := []) (mem_pad2 e.minute)
    simp only [strpNt12, t1, t2, dmy_ntDate e ⟨hd1, hd2⟩ ⟨hm1, hm2⟩ h.yy, hclock,
      partition_append_sep _ _ _ hcolon, if_true, this]
    split <;> simp
  · simp only [strpNt24, t1, t2, dmy_ntDate e ⟨hd1, hd2⟩ ⟨hm1, hm2⟩ h.yy, hclock,
      partition_append_sep _ _ _ hcolon, if_true, hourField_pad2 _ h.hour, minField_pad2 _ h.minute,
      tmValid, h.date]

/-- the two `if`s are written as `strpNt12` computes `%I` and `%p` -/
theorem clock12 (h I : Nat) (hh : h < 24) (hI : I = if h % 12 = 0 then 12 else h % 12) :
    1 ≤ I ∧ I ≤ 12 ∧ (h < 12 → (if (I == 12) = true then 0 else I) = h) ∧
      (¬ h < 12 → (if (I == 12) = true then 12 else I + 12) = h) := by
  subst hI
  by_cases h0 : h % 12 = 0
  · simp only [h0, if_true, beq_self_eq_true]; omega
  · have : ¬ h % 12 = 12 := by omega
    simp only [h0, if_false, beq_iff_eq, this]; omega

theorem strpNt12_render (e : NtEntry) (h : WFNtTime e) (h12 : e.twelve = true) :
    strpNt12 (ntTimeText e) = some ⟨some (fullYear e.yy), e.month, e.day, e.hour, e.minute⟩ := by
  obtain ⟨t1, t2⟩ := nt_tokens e
  obtain ⟨hd1, hd2, hm1, hm2⟩ := valid_ranges _ _ _ h.date
  obtain ⟨i1, i2, iam, ipm⟩ := clock12 e.hour _ h.hour rfl
  have hclock : ntClock e = pad2 (if e.hour % 12 = 0 then 12 else e.hour % 12) ++ ':' ::
      (pad2 e.minute ++ (if e.hour < 12 then ['A', 'M'] else ['P', 'M'])) := by
    simp [ntClock, h12]
  have hcolon : ∀ n, ':' ∉ pad2 n := fun n => pad2_not_mem _ ':' (by decide)
  have hstop : Stops isDigit (if e.hour < 12 then ['A', 'M'] else ['P', 'M']) := by
    split <;> exact stops_cons _ _ _ (by decide)
  simp only [strpNt12, t1, t2, dmy_ntDate e ⟨hd1, hd2⟩ ⟨hm1, hm2⟩ h.yy, hclock,
    partition_append_sep _ _ _ (hcolon _), if_true, takeWhile_append_stop isDigit _ _ (mem_pad2 _) hstop,
    dropWhile_append_stop isDigit _ _ (mem_pad2 _) hstop, minField_pad2 _ h.minute, monField_pad2 _ i1 i2]
  by_cases ham : e.hour < 12
  · simp only [ham, if_true]
    rw [show (['A', 'M'].map fun c : Char => if 65 ≤ c.toNat && c.toNat ≤ 90 then Char.ofNat (c.toNat + 32) else c)
      = ['a', 'm'] by decide]
    simp only [if_true, iam ham, tmValid, h.date]
  · simp only [ham, if_false]
    rw [show (['P', 'M'].map fun c : Char => if 65 ≤ c.toNat && c.toNat ≤ 90 then Char.ofNat (c.toNat + 32) else c)
      = ['p', 'm'] by decide]
    simp only [show ¬ (['p', 'm'] = ['a', 'm']) by decide, if_false, if_true, ipm ham, tmValid, h.date]

theorem fullYear_range (yy : Nat) (h : yy < 100) : 1969 ≤ fullYear yy ∧ fullYear yy ≤ 2068 := by
  unfold fullYear; split <;> omega

theorem finishTime_year (cy y m d hh mi : Nat) (hy : y ≠ 1900) (hv : validDate y m d = true) :
    finishTime cy (some ⟨some y, m, d, hh, mi⟩) = .ok (some (epochOf y m d hh mi 0)) := by
  unfold finishTime substYear
  simp [hy, hv]

theorem decodeNtTime_render (cy : Nat) (e : NtEntry) (h : WFNtTime e) :
    decodeNtTime cy (ntTimeText e) =
      .ok (some (epochOf (fullYear e.yy) e.month e.day e.hour e.minute 0)) := by
  unfold decodeNtTime
  have hyr : fullYear e.yy ≠ 1900 := by have := fullYear_range e.yy h.yy; omega
  cases h12 : e.twelve with
  | true =>
    rw [strpNt12_render e h h12]
    exact finishTime_year cy _ _ _ _ _ hyr h.date
  | false =>
    obtain ⟨h1, h2⟩ := strpNt24_render e h h12
    rw [h1, h2]
    exact finishTime_year cy _ _ _ _ _ hyr h.date

/-! ### RE_WINDOWSNT on a rendered line -/

theorem run1_two_spaces (rest : Str) (hstop : Stops isSpace rest) :
    run1 isSpace (' ' :: ' ' :: rest) = some ([' ', ' '], rest) :=
  run1_append isSpace [' ', ' '] rest (by simp)
    (by intro c hc; simp at hc; rcases hc with rfl | rfl <;> decide) hstop

theorem nameTok_space (name : Str) (hs : Stops isSpace name) (hnl : '\n' ∉ name) :
    nameTok (' ' :: name) = some name := by
  unfold nameTok
  rw [run1_space name hs]
  simp only [dropFinalNl_of_not_mem _ hnl, (has_eq_false_iff _ _).2 hnl]
  simp

theorem renderNt_eq (e : NtEntry) : renderNt e =
    ntDate e ++ (' ' :: ' ' :: (ntClock e ++ (' ' :: ' ' :: (ntSizeStr e ++ (' ' :: e.name))))) := by
  unfold renderNt ntDate ntSizeStr; rfl

theorem run1_space_tok (tok rest : Str) (hne : tok ≠ []) (hns : ∀ c ∈ tok, isSpace c = false) :
    run1 isSpace (' ' :: (tok ++ rest)) = some ([' '], tok ++ rest) :=
  run1_space _ (stops_append _ _ _ hne hns)

theorem run1_tok_space (p : Char → Bool) (tok rest : Str) (hne : tok ≠ []) (hall : ∀ c ∈ tok, p c = true)
    (hp : p ' ' = false) : run1 p (tok ++ ' ' :: rest) = some (tok, ' ' :: rest) :=
  run1_append p tok _ hne hall (stops_cons _ _ _ hp)

theorem reNt_render (e : NtEntry) (h : WFNt e) :
    reNt (renderNt e) = some ⟨ntDate e, ntClock e, e.size, e.name⟩ := by
  rw [renderNt_eq]
  unfold reNt
  have hns : ∀ (a : Str), (∀ c ∈ a, isSpace c = false) → ∀ c ∈ a, (fun c => !isSpace c) c = true := by
    intro a ha c hc; simp [ha c hc]
  have hdate := run1_tok_space _ (ntDate e) (' ' :: (ntClock e ++ ' ' :: ' ' :: (ntSizeStr e ++ ' ' :: e.name)))
    (List.cons_ne_nil _ _) (hns _ (ntDate_nonspace e)) (by decide)
  have hclock := run1_tok_space _ (ntClock e) (' ' :: (ntSizeStr e ++ ' ' :: e.name)) (ntClock_ne e)
    (hns _ (ntClock_nonspace e)) (by decide)
  simp only [hdate, run1_two_spaces _ (stops_append _ _ _ (ntClock_ne e) (ntClock_nonspace e)), hclock]
  cases hs : e.size with
  | none =>
    simp only [ntSizeStr, hs, run1_two_spaces _ (stops_cons _ '<' _ (by decide)), List.cons_append,
      List.nil_append, nameTok_space _ h.name_start h.name_nl, Option.map]
  | some ds =>
    obtain ⟨hne, hdig, _⟩ := h.size ds hs
    obtain ⟨d0, dr, rfl⟩ := List.exists_cons_of_ne_nil hne
    have hlt : d0 ≠ '<' := by
      intro e'; have := hdig d0 (by simp); rw [e'] at this; revert this; decide
    simp only [ntSizeStr, hs, List.cons_append,
      run1_two_spaces _ (stops_cons _ d0 _ (digit_nonspace d0 (hdig d0 (by simp))))]
    split
    · rename_i heq; simp only [List.cons.injEq] at heq; exact absurd heq.1 hlt
    · simp only [← List.cons_append, run1_tok_space isDigit _ _ hne hdig (by decide),
        nameTok_space _ h.name_start h.name_nl, Option.map]

/-! ### RE_LINUX pieces -/

theorem permTok_append (ps sfx rest : Str) (hp : permOk ps = true)
    (hs : sfx = [] ∨ sfx = ['.'] ∨ sfx = ['+']) (hr : Stops (fun c => c == '.' || c == '+') rest) :
    permTok (ps ++ (sfx ++ rest)) = some (ps ++ sfx, rest) := by
  unfold permOk at hp
  simp only [Bool.and_eq_true, beq_iff_eq] at hp
  obtain ⟨hlen, htok⟩ := hp
  match ps, hlen with
  | [a, b, c, d, e, f, g, h, i], _ =>
    unfold permTok at htok ⊢
    simp only [List.cons_append, List.nil_append] at htok ⊢
    split at htok
    · rename_i hcond
      simp only [hcond, if_true]
      rcases hs with rfl | rfl | rfl
      · simp only [List.nil_append]
        cases rest with
        | nil => rfl
        | cons x xs =>
          have := hr x xs rfl
          simp only [Bool.or_eq_false_iff, beq_eq_false_iff_ne] at this
          split
          · rename_i heq; simp only [List.cons.injEq] at heq; exact absurd heq.1 this.1
          · rename_i heq; simp only [List.cons.injEq] at heq; exact absurd heq.1 this.2
          · rfl
      · rfl
      · rfl
    · simp at htok

theorem idTok_append (u rest : Str) (h : WFId u) :
    idTok (u ++ ' ' :: rest) = some (u, ' ' :: rest) := by
  obtain ⟨c, r, d, rfl, hc, hr, hd⟩ := h.shape
  unfold idTok
  simp only [List.cons_append, hc, if_true, List.append_assoc]
  rcases hd with rfl | rfl
  · simp only [List.nil_append, List.append_nil]
    rw [takeWhile_append_stop isIdChar r _ hr (stops_cons _ _ _ (by decide)),
      dropWhile_append_stop isIdChar r _ hr (stops_cons _ _ _ (by decide))]
    rfl
  · simp only [List.cons_append, List.nil_append]
    rw [takeWhile_append_stop isIdChar r _ hr (stops_cons _ _ _ (by decide)),
      dropWhile_append_stop isIdChar r _ hr (stops_cons _ _ _ (by decide))]
    rfl

theorem wfid_stops (u rest : Str) (h : WFId u) : Stops isSpace (u ++ rest) := by
  obtain ⟨c, r, d, rfl, hc, _, _⟩ := h.shape
  apply stops_cons
  simp only [isAlnumAscii, Bool.or_eq_true, Bool.and_eq_true, decide_eq_true_eq] at hc
  exact not_space_of_printable c (by omega) (by omega)

theorem monName_props : ∀ m, m < 13 → 1 ≤ m →
    ((monName m).length = 3 ∧ (monName m).all isWord = true ∧ (monName m).all (fun c => !isSpace c) = true ∧
      monthOf (monName m) = some m) := by decide +kernel

theorem monName_shape (m : Nat) (h1 : 1 ≤ m) (h2 : m ≤ 12) :
    ∃ a b c, monName m = [a, b, c] ∧ isWord a = true ∧ isWord b = true ∧ isWord c = true ∧
      isSpace a = false ∧ isSpace b = false ∧ isSpace c = false ∧ monthOf [a, b, c] = some m := by
  obtain ⟨hl, hw, hs, hm⟩ := monName_props m (by omega) h1
  match hmn : monName m, hl with
  | [a, b, c], _ =>
    rw [hmn] at hw hs hm
    simp only [List.all_cons, List.all_nil, Bool.and_true, Bool.and_eq_true, Bool.not_eq_true'] at hw hs
    exact ⟨a, b, c, rfl, hw.1, hw.2.1, hw.2.2, hs.1, hs.2.1, hs.2.2, hm⟩

theorem renderLTime_props (t : LTime) :
    renderLTime t ≠ [] ∧ (∀ c ∈ renderLTime t, (isWord c || c == ':') = true) ∧
    (∀ c ∈ renderLTime t, isSpace c = false) := by
  cases t with
  | year y =>
    exact ⟨List.cons_ne_nil _ _, fun c hc => digit_word c (mem_pad4 y c hc),
      fun c hc => digit_nonspace c (mem_pad4 y c hc)⟩
  | clock h mi =>
    simp only [renderLTime, List.forall_mem_append, List.forall_mem_cons]
    exact ⟨List.cons_ne_nil _ _, ⟨fun c hc => digit_word c (mem_pad2 h c hc), by decide,
      fun c hc => digit_word c (mem_pad2 mi c hc)⟩, pad2_nonspace _, by decide, pad2_nonspace _⟩

/-- strptime's validation of a year-less date -/
theorem tmValid_none (m d h mi : Nat) :
    tmValid ⟨none, m, d, h, mi⟩ = true ↔ validDate 1900 m d = true ∨ (m = 2 ∧ d = 29) := by
  by_cases hf : m = 2 ∧ d = 29
  · simp [tmValid, hf]
  · have : (m == 2 && d == 29) = false := by simpa using hf
    simp [tmValid, this, hf]

theorem tmValid_noyear (cy m d h mi : Nat) (hv : validDate cy m d = true) :
    tmValid ⟨none, m, d, h, mi⟩ = true := by
  have hcy : 1 ≤ cy ∧ cy ≤ 9999 := by have := (validDate_iff _ _ _).1 hv; omega
  rw [tmValid_none]
  rcases (validDate_iff_1900 cy m d hcy).1 hv with h | h
  · exact Or.inl h
  · exact Or.inr ⟨h.1, h.2.1⟩

theorem wfLTime_ranges (cy month day : Nat) (t : LTime) (h : wfLTime cy month day t) :
    1 ≤ day ∧ day ≤ 31 ∧ 1 ≤ month ∧ month ≤ 12 := by
  cases t with
  | year y => exact valid_ranges _ _ _ h.1
  | clock hh mi => exact valid_ranges _ _ _ h.2.2

theorem decodeLinuxTime_render (cy month day : Nat) (t : LTime) (h : wfLTime cy month day t) :
    decodeLinuxTime cy (linuxTimeText month day t) = .ok (some (ltimeEpoch cy month day t)) := by
  have hr := wfLTime_ranges cy month day t h
  obtain ⟨a, b, c, hmn, _, _, _, hsa, hsb, hsc, hmo⟩ := monName_shape month hr.2.2.1 hr.2.2.2
  obtain ⟨hne, _, hns⟩ := renderLTime_props t
  have htok : wsTokens (linuxTimeText month day t) = some [[a, b, c], pad2 day, renderLTime t] := by
    unfold linuxTimeText
    rw [hmn]
    have hm3 : ∀ x ∈ [a, b, c], isSpace x = false := by
      simp only [List.forall_mem_cons]; exact ⟨hsa, hsb, hsc, fun _ h => nomatch h⟩
    rw [wsTokens_cons _ _ hm3 (List.cons_ne_nil _ _) (stops_append _ _ _ (pad2_ne_nil day) (pad2_nonspace _)),
      wsTokens_cons _ _ (pad2_nonspace _) (pad2_ne_nil day) (stops_of_all _ _ hne hns),
      wsTokens_single _ hns hne]
    rfl
  have hday := dayField_pad2 day hr.1 hr.2.1
  unfold decodeLinuxTime
  cases t with
  | year y =>
    obtain ⟨hv, hy⟩ := h
    have hy4 : y < 10000 := by have := (validDate_iff _ _ _).1 hv; omega
    have : strpBdY (linuxTimeText month day (.year y)) = some ⟨some y, month, day, 0, 0⟩ := by
      simp only [strpBdY, htok, hmo, hday, renderLTime, allDigits_pad4, natOfDigits_pad4 y hy4]
      simp [pad4, tmValid, hv]
    rw [this]
    exact finishTime_year cy _ _ _ _ _ hy hv
  | clock hh mi =>
    obtain ⟨hh24, hmi60, hv⟩ := h
    have h1 : strpBdY (linuxTimeText month day (.clock hh mi)) = none := by
      simp only [strpBdY, htok, hmo, hday, renderLTime]
      simp [pad2]
    have h2 : strpBdHM (linuxTimeText month day (.clock hh mi)) = some ⟨none, month, day, hh, mi⟩ := by
      simp only [strpBdHM, htok, hmo, hday, renderLTime,
        partition_append_sep _ _ _ (pad2_not_mem _ ':' (by decide)), if_true, hourField_pad2 _ hh24,
        minField_pad2 _ hmi60, tmValid_noyear cy month day hh mi hv]
    rw [h1, h2]
    unfold finishTime substYear
    simp [hv, ltimeEpoch]

/-! ### names and link arrows -/

theorem partitionArrow_cons (c : Char) (rest : Str) (h : ¬ (c = '-' ∧ ∃ r, rest = '>' :: r)) :
    partitionArrow (c :: rest) =
      (c :: (partitionArrow rest).1, (partitionArrow rest).2.1, (partitionArrow rest).2.2) := by
  rw [partitionArrow.eq_def]
  split
  · simp at *
  · rename_i heq
    simp only [List.cons.injEq] at heq
    exact absurd ⟨heq.1, _, heq.2⟩ h
  · rename_i heq; simp only [List.cons.injEq] at heq; obtain ⟨rfl, rfl⟩ := heq; rfl

theorem partitionArrow_found (rest : Str) : partitionArrow ('-' :: '>' :: rest) = ([], true, rest) := by
  simp [partitionArrow]

theorem noArrow_cons (c : Char) (n : Str) (h : NoArrow (c :: n)) :
    ¬ (c = '-' ∧ ∃ r, n = '>' :: r) ∧ NoArrow n := by
  by_cases hc : c = '-' ∧ ∃ r, n = '>' :: r
  · obtain ⟨rfl, r, rfl⟩ := hc
    unfold NoArrow at h; rw [partitionArrow_found] at h; simp at h
  · refine ⟨hc, ?_⟩
    unfold NoArrow at h ⊢
    rw [partitionArrow_cons c n hc] at h
    exact h

theorem partitionArrow_noarrow (n : Str) (h : NoArrow n) : partitionArrow n = (n, false, []) := by
  induction n with
  | nil => rfl
  | cons c n ih =>
    obtain ⟨hc, hn⟩ := noArrow_cons c n h
    rw [partitionArrow_cons c n hc, ih hn]

theorem partitionArrow_append (n rest : Str) (h : NoArrow n) :
    partitionArrow (n ++ ' ' :: '-' :: '>' :: rest) = (n ++ [' '], true, rest) := by
  induction n with
  | nil =>
    simp only [List.nil_append]
    rw [partitionArrow_cons ' ' _ (by simp), partitionArrow_found]
  | cons c n ih =>
    obtain ⟨hc, hn⟩ := noArrow_cons c n h
    have hc' : ¬ (c = '-' ∧ ∃ r, n ++ ' ' :: '-' :: '>' :: rest = '>' :: r) := by
      rintro ⟨rfl, r, hr⟩
      cases n with
      | nil => simp at hr
      | cons x xs =>
        simp only [List.cons_append, List.cons.injEq] at hr
        exact hc ⟨rfl, xs, by rw [hr.1]⟩
    rw [List.cons_append, partitionArrow_cons c _ hc', ih hn]
    rfl

theorem strip_append_space (n : Str) (hs : Stripped n) (hne : n ≠ []) : strip (n ++ [' ']) = n := by
  unfold strip lstrip rstrip
  rw [dropWhile_of_stops _ _ (stops_append_of_stops _ _ _ hne hs.1), List.reverse_append]
  show ((' ' :: n.reverse).dropWhile isSpace).reverse = n
  rw [List.dropWhile_cons_of_pos (by decide), dropWhile_of_stops _ _ hs.2, List.reverse_reverse]

theorem nameField_props (e : LinuxEntry) (h : WFLinuxName e) :
    Stops isSpace (nameField e) ∧ '\n' ∉ nameField e := by
  unfold nameField
  cases ht : e.target with
  | none => simp only [List.append_nil]; exact ⟨h.start, h.nl⟩
  | some t =>
    obtain ⟨_, hne⟩ := h.target t ht
    constructor
    · obtain ⟨c, r, hcr⟩ := List.exists_cons_of_ne_nil hne
      rw [hcr, List.cons_append]
      exact stops_cons _ _ _ (h.start c r hcr)
    · simp only [List.mem_append, List.mem_cons, not_or]
      exact ⟨h.nl, ⟨by decide, by decide, by decide, by decide⟩, h.nl_target t ht⟩

theorem decoded_name (e : LinuxEntry) (h : WFLinuxName e) :
    (if (e.ty == 'l') = true then strip (partitionArrow (nameField e)).1 else nameField e) = e.name := by
  unfold nameField
  cases ht : e.target with
  | none =>
    simp only [List.append_nil]
    by_cases hl : e.ty = 'l'
    · obtain ⟨hna, hst⟩ := h.link hl
      simp only [hl, beq_self_eq_true, if_true]
      rw [partitionArrow_noarrow _ hna, strip_stripped _ hst]
    · have : (e.ty == 'l') = false := by simpa using hl
      simp [this]
  | some t =>
    obtain ⟨hl, hne⟩ := h.target t ht
    obtain ⟨hna, hst⟩ := h.link hl
    simp only [hl, beq_self_eq_true, if_true, List.cons_append, List.nil_append]
    rw [partitionArrow_append _ _ hna]
    exact strip_append_space _ hst hne

/-! ### RE_LINUX on a rendered line -/

theorem renderLinux_eq (e : LinuxEntry) : renderLinux e =
    e.ty :: (e.perms ++ (e.suffix ++ (' ' :: (e.links ++ (' ' :: (e.uid ++ (' ' :: (e.gid ++ (' ' ::
    (e.size ++ (' ' :: (monName e.month ++ (' ' :: (pad2 e.day ++ (' ' :: (renderLTime e.time ++
    (' ' :: nameField e))))))))))))))))) := by
  unfold renderLinux nameField; rfl

theorem reLinux_render (cy : Nat) (e : LinuxEntry) (h : WFLinux cy e) :
    reLinux (renderLinux e) = some ⟨e.ty, e.perms ++ e.suffix, e.links, e.uid, e.gid, e.size,
      linuxTimeText e.month e.day e.time, nameField e⟩ := by
  have hr := wfLTime_ranges cy e.month e.day e.time h.time
  obtain ⟨a, b, c, hmn, hwa, hwb, hwc, hsa, hsb, hsc, _⟩ := monName_shape e.month hr.2.2.1 hr.2.2.2
  obtain ⟨hlne, hlw, hlns⟩ := renderLTime_props e.time
  obtain ⟨hnstart, hnnl⟩ := nameField_props e h.name
  have dns : ∀ (s : Str), (∀ c ∈ s, isDigit c = true) → ∀ c ∈ s, isSpace c = false :=
    fun s hs c hc => digit_nonspace c (hs c hc)
  rw [renderLinux_eq]
  unfold reLinux
  simp only [h.ty, Bool.not_true, Bool.false_eq_true, if_false,
    permTok_append _ _ _ h.perms h.suffix (stops_cons _ ' ' _ (by decide)),
    run1_space_tok _ _ h.links.1 (dns _ h.links.2), run1_tok_space isDigit _ _ h.links.1 h.links.2 (by decide),
    run1_space _ (wfid_stops _ _ h.uid), idTok_append _ _ h.uid,
    run1_space _ (wfid_stops _ _ h.gid), idTok_append _ _ h.gid,
    run1_space_tok _ _ h.size.1 (dns _ h.size.2.1), run1_tok_space isDigit _ _ h.size.1 h.size.2.1 (by decide),
    hmn, List.cons_append, List.nil_append, run1_space _ (stops_cons _ _ _ hsa), hwa, hwb, hwc, Bool.and_self,
    run1_space_tok _ _ (pad2_ne_nil _) (pad2_nonspace _),
    run1_tok_space isDigit _ _ (pad2_ne_nil _) (mem_pad2 _) (by decide)]
  simp only [pad2, List.length_cons, List.length_nil, Nat.reduceAdd, Nat.lt_irrefl, if_false, gt_iff_lt,
    List.cons_append, List.nil_append, run1_space_tok _ _ hlne hlns,
    run1_tok_space (fun c => isWord c || c == ':') _ _ hlne hlw (by decide), nameTok_space _ hnstart hnnl,
    linuxTimeText, hmn]

theorem permNames_suffix (ps sfx : Str) (hp : permOk ps = true) : permNames (ps ++ sfx) = permNames ps := by
  unfold permOk at hp
  simp only [Bool.and_eq_true, beq_iff_eq] at hp
  match ps, hp.1 with
  | [a, b, c, d, e, f, g, h, i], _ => simp [permNames]

theorem linux_line_roundtrip_core (cy : Nat) (e : LinuxEntry) (h : WFLinux cy e) :
    parseLine cy (renderLinux e) = .ok (some ⟨e.name, e.ty == 'd' || e.ty == 'l',
      some (natOfDigits e.size),
      some (ltimeEpoch cy e.month e.day e.time),
      some (permNames e.perms), some e.uid, some e.gid, renderLinux e⟩) := by
  unfold parseLine
  rw [reLinux_render cy e h]
  simp only
  unfold decodeLinux
  simp only
  rw [decodeLinuxTime_render cy e.month e.day e.time h.time]
  simp only
  rw [intOfDigits_ok _ h.size.2.2]
  simp only [skipErr, decoded_name e h.name, permNames_suffix _ _ h.perms]

end Fs.FtpLemmas
