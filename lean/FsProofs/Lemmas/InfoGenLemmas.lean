/-
  The two shapes the generated accessors of `class Info` have (`FsModel/Generated/InfoGen.lean`), each proved equal
  to the hand model's once: `_require_namespace`, `get`, then a continuation on the raw value; a `str` method called
  on the raw name.
  A module of their own: Lean names the auxiliary definition of a `match` after the first declaration of the module
  that needs it, and the matchers in the statements `require_then_get` and `time_accessor` of `InfoGenEq` are to be
  named after those two theorems, not after the lemmas here (whose statements contain the same `match`es).
-/
import FsModel.Generated.InfoGen

namespace Fs.InfoGenEq
open Fs Fs.PyStr Fs.Info Fs.InfoGen

/-- `get`: the `try … except KeyError` around `self.raw[namespace].get(key, default)` never lets anything out -/
theorem get_eq (i : Info) (ns key : Str) (d : JVal) :
    InfoGen.get i.raw ns key d = .ok (i.get ns key d) := by
  match hd : dictGet? ns i.raw with
  | none => simp [InfoGen.get, Info.get, pyDictIdx, hd]
  | some v => simp [InfoGen.get, Info.get, pyDictIdx, pyDictGet, hd]

theorem require_namespace_eq (i : Info) (ns : Str) :
    InfoGen._require_namespace i.raw ns = ofIRes (i.requireNamespace ns) := by
  unfold InfoGen._require_namespace Info.requireNamespace Info.hasNamespace pyDictHas
  cases (dictGet? ns i.raw).isSome <;> rfl

theorem require_get_then {α : Type} (i : Info) (ns key : Str) (dflt : JVal) (K : JVal → InfoGen.Res α) (r : IRes α)
    (h : K (i.get ns key dflt) = ofIRes r) :
    (match InfoGen._require_namespace i.raw ns with
      | .err e' => .err e'
      | .ok _ =>
        (match InfoGen.get i.raw ns key dflt with
          | .err e' => .err e'
          | .ok v => K v))
      = ofIRes (do i.requireNamespace ns; r) := by
  rw [require_namespace_eq, get_eq]
  cases i.requireNamespace ns with
  | error e => rfl
  | ok u => exact h

/-- the shape of `suffix`, `suffixes`, `stem`: a `str` method called on the raw name raises AttributeError unless the
name is a `str` -/
theorem name_method_then {α : Type} (i : Info) (meth : String) (K : JVal → Str → InfoGen.Res α) (f : Str → α)
    (h : ∀ s, K (.str s) s = .ok (f s)) (hm : (meth == "count" || meth == "index") = false) :
    (match InfoGen.get i.raw ['b', 'a', 's', 'i', 'c'] ['n', 'a', 'm', 'e'] (Info.JVal.null) with
      | .err e' => .err e'
      | .ok v =>
        (match pyStrMethod meth v with
          | .err e' => .err e'
          | .ok s => K v s))
      = ofIRes (i.nameStr.map f) := by
  rw [get_eq]
  unfold Info.nameStr Info.name
  simp only [kBasic, String.reduceToList]
  cases i.get ['b', 'a', 's', 'i', 'c'] ['n', 'a', 'm', 'e'] with
  | str s => exact h s
  | list l => simp only [pyStrMethod, hm]; rfl
  | _ => rfl

end Fs.InfoGenEq
