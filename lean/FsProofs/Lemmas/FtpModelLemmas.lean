/-
  Lemmas about FTPFS-as-programs (`FsModel.Ftp`) run against the modelled server (`FsModel.FtpServer`):
  what every query and every essential method computes, in terms of `Node.get`.
-/
import FsModel.Ftp
import FsProofs.Lemmas.FtpServerLemmas
import FsProofs.Lemmas.OsLemmas
import FsProofs.Lemmas.Overlay
import FsProofs.Lemmas.TreeLemmas

namespace Fs.FtpModelLemmas
open Fs Fs.Ref Fs.FtpParse Fs.FtpServer Fs.Ftp Fs.FtpLemmas Fs.FtpServerLemmas Fs.TreeLemmas Fs.MemLemmas Fs.OsLemmas
open Fs.BaseWalkSpec (shallow)

@[simp] theorem map_ok (f : α → β) (a : α) : (Res.ok a).map f = .ok (f a) := rfl
@[simp] theorem map_err (f : α → β) (e : Err) : (Res.err e : Res α).map f = .err e := rfl

/-! ### running programs -/

@[simp] theorem run_ret (X : Server) (a : α) (t : Node) : Ftp.run X (.ret a) t = (t, a) := rfl
@[simp] theorem run_command (X : Server) (c : Cmd) (k : Reply → Prog α) (t : Node) :
    Ftp.run X (.cmd c k) t = Ftp.run X (k (X t c).2) (X t c).1 := rfl

theorem run_edit (X : Server) (l : String) (f : Node → Option Node) (k : Bool → Prog α) (t t' : Node)
    (h : f t = some t') : Ftp.run X (.edit l f k) t = Ftp.run X (k true) t' := by
  simp [Ftp.run, h]

theorem run_edit_none (X : Server) (l : String) (f : Node → Option Node) (k : Bool → Prog α) (t : Node)
    (h : f t = none) : Ftp.run X (.edit l f k) t = Ftp.run X (k false) t := by
  simp [Ftp.run, h]

theorem run_bind (X : Server) (p : Prog α) (f : α → Prog β) (t : Node) :
    Ftp.run X (p.bind f) t = Ftp.run X (f (Ftp.run X p t).2) (Ftp.run X p t).1 := by
  induction p generalizing t with
  | ret a => rfl
  | cmd c k ih => simp only [Prog.bind, run_command, ih]
  | edit l g k ih =>
    simp only [Prog.bind, Ftp.run]
    cases g t <;> simp [ih]

theorem run_bind_answers (X : Server) (p : Prog α) (f : α → Prog β) (t : Node) (a : α)
    (h : Ftp.run X p t = (t, a)) : Ftp.run X (p.bind f) t = Ftp.run X (f a) t := by
  rw [run_bind, h]

/-! ### FEAT -/

theorem dictGet_none (k : Str) (d : List (Str × Str)) (h : ∀ kv ∈ d, kv.1 ≠ k) : dictGet k d = none := by
  induction d with
  | nil => rfl
  | cons x rest ih =>
    obtain ⟨k', v'⟩ := x
    have : k' ≠ k := h (k', v') (by simp)
    simp only [dictGet, this, if_false]
    exact ih (fun kv hkv => h kv (by simp [hkv]))

/-- what `_open_ftp` learns from the FEAT reply of a conforming server: exactly the lines it sent -/
theorem run_features (cfg : Profile) (hcf : Conforming cfg) (t : Node) :
    Ftp.run (exec cfg) features t = (t, allFeats cfg) := by
  simp only [features, run_command, exec, run_ret]
  rw [feat_roundtrip_core (allFeats cfg) hcf.feat_keys hcf.feat_text hcf.feat_nodup]

theorem supports_mlst (cfg : Profile) (hcf : Conforming cfg) : (dictGet kMLST (allFeats cfg)).isSome = cfg.mlsd := by
  have hx : dictGet kMLST cfg.feats = none := dictGet_none _ _ (fun kv h => (hcf.feat_extra kv h).1)
  unfold allFeats
  cases cfg.mlsd <;> cases cfg.mfmt <;> simp [dictGet, hx, show kMFMT ≠ kMLST by decide]

theorem supports_mfmt (cfg : Profile) (hcf : Conforming cfg) : (dictGet kMFMT (allFeats cfg)).isSome = cfg.mfmt := by
  have hx : dictGet kMFMT cfg.feats = none := dictGet_none _ _ (fun kv h => (hcf.feat_extra kv h).2)
  unfold allFeats
  cases cfg.mlsd <;> cases cfg.mfmt <;> simp [dictGet, hx, show kMLST ≠ kMFMT by decide]

/-! ### the hypotheses of the refinement -/

/-- a conforming server holding a well-formed tree whose names and sizes the listing formats carry -/
structure Hyp (cfg : Profile) (t : Node) : Prop where
  conf : Conforming cfg
  isDir : t.isDir = true
  wf : t.wf = true
  ok : TreeOk cfg t

/-- the components of a validated path argument -/
structure PathOk (cfg : Profile) (cs : List Name) : Prop where
  clean : ∀ c ∈ cs, cleanName c = true
  name : ∀ c ∈ cs, NameOk cfg c

/-- every entry of a directory of the tree is one the listing formats carry -/
theorem entries_ok {cfg : Profile} {t : Node} (h : Hyp cfg t) {cs : List Name} {es : Ents}
    (hg : t.get cs = some (.dir es)) (kv : Name × Node) (hm : kv ∈ es) :
    NameOk cfg kv.1 ∧ cleanName kv.1 = true ∧ StatesSize cfg kv.2 := by
  have hw := TreeLemmas.entsWf_of_get h.wf hg
  have hl := TreeLemmas.lookup_of_mem (k := kv.1) hw hm
  have hc : t.get (cs ++ [kv.1]) = some kv.2 := by rw [TreeLemmas.get_snoc_dir hg, hl]
  have := h.ok _ _ hc
  exact ⟨this.1 kv.1 (by simp), TreeLemmas.lookup_cleanName _ _ es hw hl, statesSize_of cfg h.conf _ this.2⟩

/-! ### `_read_dir` -/

/-- `_read_dir` of a directory: its entries, in order (on the LIST variant; on the MLSD variant it is only
    reached for a directory without entries) -/
theorem run_readDir {cfg : Profile} {t : Node} (h : Hyp cfg t) {cs : List Name} {es : Ents}
    (hg : t.get cs = some (.dir es)) (hv : cfg.mlsd = false ∨ es = []) :
    Ftp.run (exec cfg) (readDir cfg.cy cs) t = (t, .ok (es.map (entOf cfg))) := by
  have hl : ∀ kv ∈ es, ListOk cfg kv := by
    intro kv hkv
    rcases hv with hv | rfl
    · obtain ⟨hn, _, hs⟩ := entries_ok h hg kv hkv
      exact ⟨hn.2 hv, hn.1.2, hs⟩
    · cases hkv
  obtain ⟨infos, hp, hm⟩ := list_listing cfg h.conf es hl
  simp only [readDir, run_command, exec, stat_some hg, hp, run_ret, hm]
  rw [odOf_nodup _ (by rw [names_entries]; exact TreeLemmas.names_nodup (TreeLemmas.entsWf_of_get h.wf hg))]

/-! ### `getinfo` -/

/-- the `Info` of the node at a path: the root has no name and no size -/
def entAt (cfg : Profile) (cs : List Name) (n : Node) : Ent :=
  if cs = [] then ([], true, 0) else (cs.getLast?.getD [], n.isDir, sizeOf cfg n)

def infoSpec (cfg : Profile) (t : Node) (cs : List Name) : Res Ent :=
  match t.get cs with
  | none => .err .ResourceNotFound
  | some n => .ok (entAt cfg cs n)

theorem pathOk_sub {cfg : Profile} {cs ds : List Name} (h : PathOk cfg cs) (hs : ds ⊆ cs) : PathOk cfg ds :=
  ⟨fun c hc => h.clean c (hs hc), fun c hc => h.name c (hs hc)⟩

theorem ftpErrors_550 : ftpErrors true 550 = .ResourceNotFound := by decide
theorem ftpErrors_501 : ftpErrors true 501 = .ResourceNotFound := by decide

/-- `FTPFS.getinfo` finds exactly what is in the tree (MLST path and LIST path) -/
theorem run_getinfoC {cfg : Profile} {t : Node} (h : Hyp cfg t) : ∀ (fuel : Nat) (cs : List Name),
    cs.length < fuel → PathOk cfg cs →
    Ftp.run (exec cfg) (getinfoC cfg.cy cfg.mlsd fuel cs) t = (t, infoSpec cfg t cs)
  | 0, cs, hf, _ => absurd hf (Nat.not_lt_zero _)
  | fuel + 1, cs, hf, hp => by
    unfold getinfoC
    by_cases hne : cs = []
    · subst hne
      obtain ⟨es, hr⟩ := root_dir h.isDir
      simp [infoSpec, entAt, hr, Node.get]
    · simp only [hne, if_false]
      cases hm : cfg.mlsd with
      | true =>
        simp only [if_true]
        rw [run_bind]
        cases hg : t.get cs with
        | none =>
          simp [mlstInfo, exec, hm, stat_none hg, infoSpec, hg, ftpErrors_550]
        | some n =>
          obtain ⟨i, hi, hie⟩ := mlst_reply cfg h.conf cs n hne hp.clean (fun c hc => (hp.name c hc).1)
            (statesSize_of cfg h.conf n (h.ok cs n hg).2)
          simp only [mlstInfo, run_command, exec, hm, stat_some hg, Bool.not_true, Bool.false_eq_true, if_false, hi, run_ret,
            infoSpec, hg, entAt, hne, mlsxEnt, hie]
      | false =>
        simp only [Bool.false_eq_true, if_false, Prog.bind]
        have hpos : cs.length ≠ 0 := fun h0 => hne (List.eq_nil_of_length_eq_zero h0)
        -- the parent, then its listing
        have hpar : Ftp.run (exec cfg)
            (if cs.dropLast = [] then (Prog.ret (Res.ok ()) : Prog (Res Unit))
             else (getinfoC cfg.cy false fuel cs.dropLast).bind parentIsDir) t =
            (t, match t.get cs.dropLast with
                | some (.dir _) => .ok ()
                | _ => .err .ResourceNotFound) := by
          by_cases hd : cs.dropLast = []
          · obtain ⟨es, hr⟩ := root_dir h.isDir
            simp [hd, hr, Node.get]
          · simp only [hd, if_false]
            have ih := run_getinfoC h fuel cs.dropLast (by simp only [List.length_dropLast]; omega)
              (pathOk_sub hp (List.dropLast_subset _))
            rw [hm] at ih
            rw [run_bind, ih]
            simp only [infoSpec]
            cases hgp : t.get cs.dropLast with
            | none => rfl
            | some n => cases n <;> simp [parentIsDir, entAt, hd, Node.isDir]
        rw [run_bind, hpar]
        have hsplit := get_split t cs hne
        cases hgp : t.get cs.dropLast with
        | none => simp [infoSpec, hsplit, hgp]
        | some n =>
          cases n with
          | file b => simp [infoSpec, hsplit, hgp]
          | dir es =>
            simp only [run_bind, run_readDir h hgp (Or.inl hm), lookupEnt, odGet_entries, infoSpec, hsplit, hgp]
            cases hl : Ents.lookup (cs.getLast?.getD []) es with
            | none => rfl
            | some v => simp [entAt, hne, entOf]

/-! ### the hypotheses survive the writes a method makes before it looks again -/

theorem get_set_cases (d : List Name) (t v : Node) : ∀ (q : List Name) (n : Node), (t.set d v).get q = some n →
    (∃ r, q = d ++ r ∧ v.get r = some n) ∨
    (∃ n', t.get q = some n' ∧ (∀ b, n = .file b → n' = .file b)) := by
  fun_induction Node.set d t v with
  | case1 n0 v => intro q n hq; exact Or.inr ⟨n, hq, fun b hb => hb⟩
  | case2 c es v =>
    intro q n hq
    cases q with
    | nil =>
      simp only [Node.get, Option.some.injEq] at hq
      exact Or.inr ⟨.dir es, rfl, fun b hb => by rw [← hq] at hb; cases hb⟩
    | cons c' qs =>
      by_cases hc : c' = c
      · subst hc
        simp only [Node.get, TreeLemmas.lookup_put_same] at hq
        exact Or.inl ⟨qs, rfl, hq⟩
      · simp only [Node.get, TreeLemmas.lookup_put_other _ _ _ _ hc] at hq
        exact Or.inr ⟨n, by simpa [Node.get] using hq, fun b hb => hb⟩
  | case3 c d2 ds es v ch hl ih =>
    intro q n hq
    cases q with
    | nil =>
      simp only [Node.get, Option.some.injEq] at hq
      exact Or.inr ⟨.dir es, rfl, fun b hb => by rw [← hq] at hb; cases hb⟩
    | cons c' qs =>
      by_cases hc : c' = c
      · subst hc
        simp only [Node.get, TreeLemmas.lookup_put_same] at hq
        rcases ih qs n hq with ⟨r, hr, hv⟩ | ⟨n', hn', hf⟩
        · exact Or.inl ⟨r, by rw [hr]; rfl, hv⟩
        · exact Or.inr ⟨n', by simpa [Node.get, hl] using hn', hf⟩
      · simp only [Node.get, TreeLemmas.lookup_put_other _ _ _ _ hc] at hq
        exact Or.inr ⟨n, by simpa [Node.get] using hq, fun b hb => hb⟩
  | case4 c d2 ds es v hl => intro q n hq; exact Or.inr ⟨n, hq, fun b hb => hb⟩
  | case5 c cs b v => intro q n hq; exact Or.inr ⟨n, hq, fun b hb => hb⟩

theorem treeOk_set {cfg : Profile} {t : Node} (hok : TreeOk cfg t) (d : List Name) (hd : ∀ c ∈ d, NameOk cfg c)
    (v : Node) (hv : TreeOk cfg v) : TreeOk cfg (t.set d v) := by
  intro q n hq
  rcases get_set_cases d t v q n hq with ⟨r, hr, hvr⟩ | ⟨n', hn', hf⟩
  · have := hv r n hvr
    refine ⟨?_, this.2⟩
    intro c hc
    rw [hr] at hc
    rcases List.mem_append.1 hc with h | h
    · exact hd c h
    · exact this.1 c h
  · have := hok q n' hn'
    refine ⟨this.1, ?_⟩
    cases n with
    | dir es => trivial
    | file b => rw [← hf b rfl]; exact this.2

theorem treeOk_file (cfg : Profile) (b : Bytes) (hs : SizeOk (.file b)) : TreeOk cfg (.file b) := by
  intro q n hq
  cases q with
  | nil => simp only [Node.get, Option.some.injEq] at hq; subst hq; exact ⟨by simp, hs⟩
  | cons c r => simp [Node.get] at hq

theorem treeOk_sub {cfg : Profile} {t : Node} (hok : TreeOk cfg t) {a : List Name} {v : Node}
    (hg : t.get a = some v) : TreeOk cfg v := by
  intro q n hq
  have : t.get (a ++ q) = some n := by rw [TreeLemmas.get_append, hg]; exact hq
  have := hok _ _ this
  exact ⟨fun c hc => this.1 c (List.mem_append_right _ hc), this.2⟩

theorem hyp_set {cfg : Profile} {t : Node} (h : Hyp cfg t) (d : List Name) (hp : PathOk cfg d) (v : Node)
    (hvw : v.wf = true) (hv : TreeOk cfg v) : Hyp cfg (t.set d v) :=
  ⟨h.conf, by rw [TreeLemmas.isDir_set]; exact h.isDir, TreeLemmas.set_wf d t v hp.clean hvw h.wf,
   treeOk_set h.ok d hp.name v hv⟩

/-! #### … and the merge of `copy_dir` -/

def EntsOk (cfg : Profile) (es : Ents) : Prop := ∀ kv ∈ es, NameOk cfg kv.1 ∧ TreeOk cfg kv.2

theorem entsOk_nil (cfg : Profile) : EntsOk cfg [] := fun _ h => nomatch h

theorem entsOk_cons {cfg : Profile} {k : Name} {v : Node} {es : Ents} (hk : NameOk cfg k) (hv : TreeOk cfg v)
    (h : EntsOk cfg es) : EntsOk cfg ((k, v) :: es) := by
  intro kv hkv
  rcases List.mem_cons.1 hkv with rfl | hm
  · exact ⟨hk, hv⟩
  · exact h kv hm

theorem treeOk_dir_of_ents {cfg : Profile} {es : Ents} (h : EntsOk cfg es) : TreeOk cfg (.dir es) := by
  intro q n hq
  cases q with
  | nil => simp only [Node.get, Option.some.injEq] at hq; subst hq; exact ⟨by simp, trivial⟩
  | cons k r =>
    simp only [Node.get] at hq
    cases hl : Ents.lookup k es with
    | none => rw [hl] at hq; cases hq
    | some ch =>
      rw [hl] at hq
      obtain ⟨hn, hc⟩ := h (k, ch) (TreeLemmas.lookup_mem hl)
      have := hc r n hq
      refine ⟨?_, this.2⟩
      intro c hcm
      rcases List.mem_cons.1 hcm with rfl | hm
      · exact hn
      · exact this.1 c hm

theorem treeOk_emptyDir (cfg : Profile) : TreeOk cfg (.dir []) := treeOk_dir_of_ents (entsOk_nil cfg)

theorem ents_of_treeOk_dir {cfg : Profile} {es : Ents} (hw : entsWf es = true) (h : TreeOk cfg (.dir es)) :
    EntsOk cfg es := by
  intro kv hkv
  have hl := TreeLemmas.lookup_of_mem (k := kv.1) hw hkv
  have hg : (Node.dir es).get [kv.1] = some kv.2 := by simp [Node.get, hl]
  refine ⟨(h _ _ hg).1 kv.1 (by simp), ?_⟩
  exact treeOk_sub h hg

theorem sizeOk_of_shallow {n n' : Node} (e : shallow n' = shallow n) (h : SizeOk n') : SizeOk n := by
  cases n with
  | dir _ => trivial
  | file b =>
    cases n' with
    | dir _ => cases e
    | file b' => cases e; exact h

/-- every node of the merge is, at its path, a node of the source or of the destination with the same bytes
    (`BaseWalkMerge.ovl_get`) -/
theorem treeOk_merge {cfg : Profile} {es ds m : Ents} (hes : entsWf es = true) (hm : mergeEnts es ds = some m)
    (he : TreeOk cfg (.dir es)) (hd : TreeOk cfg (.dir ds)) : TreeOk cfg (.dir m) := by
  intro q n hq
  have h := BaseWalkMerge.ovl_get BaseWalkMerge.isOvl_merge q es ds m hes hm
  rw [hq] at h
  cases hge : (Node.dir es).get q with
  | some n' =>
    rw [hge] at h
    exact ⟨(he q n' hge).1, sizeOk_of_shallow (Option.some.inj h).symm (he q n' hge).2⟩
  | none =>
    rw [hge] at h
    cases hgd : (Node.dir ds).get q with
    | none => rw [hgd] at h; cases h
    | some n' =>
      rw [hgd] at h
      exact ⟨(hd q n' hgd).1, sizeOk_of_shallow (Option.some.inj h).symm (hd q n' hgd).2⟩

theorem mergeNode_ok {cfg : Profile} : ∀ (v : Node) (o : Option Node) (n : Node),
    v.wf = true → (∀ x, o = some x → x.wf = true) → TreeOk cfg v → (∀ x, o = some x → TreeOk cfg x) →
    mergeNode v o = some n → TreeOk cfg n
  | .file b, o, n, _, _, hv, _, hm => by
    rw [TreeLemmas.mergeNode_file hm]; exact hv
  | .dir es, o, n, hw, _, hv, ho, hm => by
    obtain ⟨ds, m, hds, hm', rfl⟩ := TreeLemmas.mergeNode_dir hm
    rcases hds with ⟨rfl, rfl⟩ | rfl
    · exact treeOk_merge (TreeLemmas.wf_dir.1 hw) hm' hv (treeOk_emptyDir cfg)
    · exact treeOk_merge (TreeLemmas.wf_dir.1 hw) hm' hv (ho _ rfl)

theorem mergeEnts_ok {cfg : Profile} : ∀ (es ds m : Ents),
    entsWf es = true → entsWf ds = true → EntsOk cfg es → EntsOk cfg ds → mergeEnts es ds = some m → EntsOk cfg m :=
  fun es ds m hw hdw he hd hm => ents_of_treeOk_dir (TreeLemmas.mergeEnts_wf es ds m hw hdw hm)
    (treeOk_merge hw hm (treeOk_dir_of_ents he) (treeOk_dir_of_ents hd))

theorem hyp_mergeDir {cfg : Profile} {t t2 : Node} (h : Hyp cfg t) {a b : List Name} (hpb : PathOk cfg b)
    (hm : mergeDir a b t = some t2) : Hyp cfg t2 := by
  unfold mergeDir at hm
  split at hm
  · next es ds hga hgb =>
    obtain ⟨m, hmm, rfl⟩ := Option.map_eq_some_iff.1 hm
    have hes := TreeLemmas.entsWf_of_get h.wf hga
    have hds := TreeLemmas.entsWf_of_get h.wf hgb
    have hmw : (Node.dir m).wf = true := by
      simpa [Node.wf] using TreeLemmas.mergeEnts_wf es ds m hes hds hmm
    have hmok : TreeOk cfg (.dir m) := treeOk_merge hes hmm (treeOk_sub h.ok hga) (treeOk_sub h.ok hgb)
    unfold setAt
    split
    · exact ⟨h.conf, rfl, hmw, hmok⟩
    · exact hyp_set h b hpb _ hmw hmok
  · cases hm

/-! ### the queries built on `getinfo` and `scandir` -/

variable {cfg : Profile} {t : Node}

theorem run_getinfoP (h : Hyp cfg t) (cs : List Name) (hp : PathOk cfg cs) :
    Ftp.run (exec cfg) (getinfoP cfg.cy cfg.mlsd cs) t = (t, infoSpec cfg t cs) :=
  run_getinfoC h _ cs (Nat.lt_succ_self _) hp

/-- of the root, whose `Info` is made up, only that it is a directory is needed -/
theorem entAt_eq (cfg : Profile) (cs : List Name) (n : Node) (hd : cs = [] → n.isDir = true) :
    entAt cfg cs n = (lastName cs, n.isDir, if cs = [] then 0 else sizeOf cfg n) := by
  unfold entAt
  by_cases h : cs = []
  · subst h; simp [hd rfl, lastName]
  · simp [h, lastName]

theorem run_getinfo_ent (h : Hyp cfg t) (cs : List Name) (hp : PathOk cfg cs) :
    Ftp.run (exec cfg) (getinfoP cfg.cy cfg.mlsd cs) t = (t, match t.get cs with
      | none => .err .ResourceNotFound
      | some n => .ok (lastName cs, n.isDir, if cs = [] then 0 else sizeOf cfg n)) := by
  rw [run_getinfoP h cs hp, infoSpec]
  cases hg : t.get cs with
  | none => rfl
  | some n =>
    simp only []
    rw [entAt_eq cfg cs n]
    rintro rfl
    cases hg
    exact h.isDir

theorem run_existsC (h : Hyp cfg t) (cs : List Name) (hp : PathOk cfg cs) :
    Ftp.run (exec cfg) (existsC cfg.cy cfg.mlsd cs) t = (t, .ok (t.get cs).isSome) := by
  simp only [existsC, run_bind, run_getinfoP h cs hp, infoSpec]
  cases hg : t.get cs <;> rfl

theorem run_isdirC (h : Hyp cfg t) (cs : List Name) (hp : PathOk cfg cs) :
    Ftp.run (exec cfg) (isdirC cfg.cy cfg.mlsd cs) t = (t, .ok (isDirAt t cs)) := by
  simp only [isdirC, run_bind, run_getinfo_ent h cs hp, isDirAt]
  cases hg : t.get cs with
  | none => rfl
  | some n => cases n <;> rfl

theorem run_isfileC (h : Hyp cfg t) (cs : List Name) (hp : PathOk cfg cs) :
    Ftp.run (exec cfg) (isfileC cfg.cy cfg.mlsd cs) t = (t, .ok (isFileAt t cs)) := by
  simp only [isfileC, run_bind, run_getinfo_ent h cs hp, isFileAt]
  cases hg : t.get cs with
  | none => rfl
  | some n => cases n <;> rfl

def opendirSpec (t : Node) (cs : List Name) : Res Unit :=
  match t.get cs with
  | none => .err .ResourceNotFound
  | some (.file _) => .err .DirectoryExpected
  | some (.dir _) => .ok ()

theorem run_opendirC (h : Hyp cfg t) (cs : List Name) (hp : PathOk cfg cs) :
    Ftp.run (exec cfg) (opendirC cfg.cy cfg.mlsd cs) t = (t, opendirSpec t cs) := by
  simp only [opendirC, run_bind, run_getinfo_ent h cs hp, opendirSpec]
  cases hg : t.get cs with
  | none => rfl
  | some n => cases n <;> rfl

def scandirSpec (cfg : Profile) (t : Node) (cs : List Name) : Res (List Ent) :=
  match t.get cs with
  | none => .err .ResourceNotFound
  | some (.file _) => .err .DirectoryExpected
  | some (.dir es) => .ok (es.map (entOf cfg))

/-- `FTPFS.scandir` lists exactly the entries of the directory (MLSD path, with its fall-through to LIST for
    a directory without entries and its `501` analysis; LIST path) -/
theorem run_scandirC (h : Hyp cfg t) (cs : List Name) (hp : PathOk cfg cs) :
    Ftp.run (exec cfg) (scandirC cfg.cy cfg.mlsd cs) t = (t, scandirSpec cfg t cs) := by
  unfold scandirC
  have hi := run_getinfo_ent h cs hp
  cases hm : cfg.mlsd with
  | true =>
    rw [hm] at hi
    simp only [if_true, run_bind, run_ret, run_command, exec, hm, Bool.not_true, Bool.false_eq_true, if_false]
    cases hg : t.get cs with
    | none => simp [stat_none hg, isPerm, run_bind, hi, hg, scandirSpec]
    | some n =>
      cases n with
      | file b => simp [stat_some hg, isPerm, run_bind, hi, hg, scandirSpec, Node.isDir]
      | dir es =>
        simp only [stat_some hg, scandirSpec, hg]
        by_cases hes : es = []
        · subst hes
          have := run_readDir h hg (Or.inr rfl)
          simp only [List.map_nil, ne_eq, not_true_eq_false, if_false, this]
        · obtain ⟨infos, hpz, hmz⟩ := mlsd_listing cfg h.conf es fun kv hkv =>
            have ⟨hn, hc, hs⟩ := entries_ok h hg kv hkv
            ⟨wfName_of_clean hc, noEol_of_noCrLf hn.1, hs⟩
          have hne : (es.map fun kv => mlsxLine cfg kv.1 kv.2) ≠ [] := by simpa using hes
          simp only [ne_eq, hne, not_false_eq_true, if_true, hpz, run_ret]
          rw [← hmz]; rfl
  | false =>
    rw [hm] at hi
    simp only [Bool.false_eq_true, if_false, run_bind, hi, scandirSpec]
    cases hg : t.get cs with
    | none => rfl
    | some n =>
      cases n with
      | file b => rfl
      | dir es => simp only [Node.isDir, if_true, run_ret, run_readDir h hg (Or.inl hm)]

def isemptySpec (t : Node) (cs : List Name) : Res Bool :=
  match t.get cs with
  | none => .err .ResourceNotFound
  | some (.file _) => .err .DirectoryExpected
  | some (.dir es) => .ok es.isEmpty

theorem run_isemptyC (h : Hyp cfg t) (cs : List Name) (hp : PathOk cfg cs) :
    Ftp.run (exec cfg) (isemptyC cfg.cy cfg.mlsd cs) t = (t, isemptySpec t cs) := by
  simp only [isemptyC, run_bind, run_scandirC h cs hp, scandirSpec, isemptySpec]
  cases hg : t.get cs with
  | none => rfl
  | some n => cases n <;> simp

/-! ### `makedir` -/

def unitVal : Res Unit → Out
  | .ok () => .ok .unit
  | .err e => .err e

def makedirSpec (t : Node) (cs : List Name) (rc : Bool) : Node × Res Unit :=
  if cs = [] then (t, if rc then .ok () else .err .DirectoryExists)
  else match t.get cs.dropLast with
    | some (.dir _) =>
      (match t.get cs with
       | some (.dir _) => (t, if rc then .ok () else .err .DirectoryExists)
       | some (.file _) => (t, .err (if rc then .DirectoryExpected else .DirectoryExists))
       | none => (t.set cs (.dir []), .ok ()))
    | _ => (t, .err .ResourceNotFound)

theorem unitVal_eq (r : Res Unit) : unitVal r = r.map fun _ => .unit := by cases r <;> rfl

theorem hyp_makedirSpec (h : Hyp cfg t) {cs : List Name} (hp : PathOk cfg cs) (rc : Bool) :
    Hyp cfg (makedirSpec t cs rc).1 := by
  unfold makedirSpec
  split
  · exact h
  · split
    · split
      · exact h
      · exact h
      · exact hyp_set h cs hp _ rfl (treeOk_emptyDir cfg)
    · exact h

theorem isPerm_550 : isPerm 550 = true := by decide

theorem run_makedir (h : Hyp cfg t) (cs : List Name) (hp : PathOk cfg cs) (rc : Bool) (p : Str)
    (hv : Ftp.validate p = .ok cs) :
    Ftp.run (exec cfg) (makedir cfg.cy cfg.mlsd p rc) t = makedirSpec t cs rc := by
  unfold makedir makedirSpec
  have hd := run_isdirC h cs hp
  have he := run_existsC h cs hp
  simp only [hv]
  rcases sit t cs with hr | ⟨hne, hpa, hg⟩ | ⟨b, hne, hpa, hg⟩ | ⟨es, hne, hpa, hl, hg⟩ | ⟨es, n, hne, hpa, hl, hg⟩
  · subst hr
    obtain ⟨res, hroot⟩ := root_dir h.isDir
    have hg0 : t.get [] = some (.dir res) := by rw [hroot]; rfl
    cases rc <;> simp only [↓reduceIte, Bool.false_eq_true, run_ret, run_opendirC h [] hp, opendirSpec, hg0]
  · simp only [hne, if_false, hpa]
    cases rc <;>
      simp only [Bool.false_eq_true, ↓reduceIte, run_bind, run_ret, run_command, exec, Posix.mkdir, hne,
        stat_none hpa, isPerm_550, hd, isDirAt, hg, he, Option.isSome_none]
  · simp only [hne, if_false, hpa]
    cases rc <;>
      simp only [Bool.false_eq_true, ↓reduceIte, run_bind, run_ret, run_command, exec, Posix.mkdir, hne,
        stat_some hpa, isPerm_550, hd, isDirAt, hg, he, Option.isSome_none]
  · simp only [hne, if_false, hpa]
    have h' : Hyp cfg (t.set cs (.dir [])) := hyp_set h cs hp _ rfl (treeOk_emptyDir cfg)
    have hnew : (t.set cs (.dir [])).get cs = some (.dir []) := TreeLemmas.get_set_same cs t _ es hne hpa
    cases rc <;>
      simp only [Bool.false_eq_true, ↓reduceIte, run_bind, run_ret, run_command, exec, Posix.mkdir, hne,
        stat_some hpa, hl, run_opendirC h' cs hp, opendirSpec, hnew, hd, isDirAt, hg]
  · simp only [hne, if_false, hpa]
    cases n with
    | dir ds =>
      cases rc <;>
        simp only [Bool.false_eq_true, ↓reduceIte, run_bind, run_ret, run_command, exec, Posix.mkdir, hne,
          stat_some hpa, hl, isPerm_550, hd, isDirAt, hg, run_opendirC h cs hp, opendirSpec]
    | file b =>
      cases rc <;>
        simp only [Bool.false_eq_true, ↓reduceIte, run_bind, run_ret, run_command, exec, Posix.mkdir, hne,
          stat_some hpa, hl, isPerm_550, hd, isDirAt, hg, he, Option.isSome_some]

/-! ### writing and reading whole files -/

/-- the contract of a whole-file write (`Ref.writeFile`), as a tree and a verdict -/
def writeSpec (t : Node) (cs : List Name) (f : Option Bytes → Bytes) : Node × Res Unit :=
  if cs = [] then (t, .err .FileExpected)
  else match t.get cs.dropLast with
    | some (.dir _) =>
      (match t.get cs with
       | some (.dir _) => (t, .err .FileExpected)
       | some (.file b) => (t.set cs (.file (f (some b))), .ok ())
       | none => (t.set cs (.file (f none)), .ok ()))
    | _ => (t, .err .ResourceNotFound)

theorem isDirAt_root (h : Hyp cfg t) : isDirAt t [] = true := by
  obtain ⟨res, hroot⟩ := root_dir h.isDir
  simp [isDirAt, hroot, Node.get]

theorem pathOk_nil (cfg : Profile) : PathOk cfg [] := ⟨by simp, by simp⟩

theorem exec_stor (cfg : Profile) (t : Node) (cs : List Name) (data : Bytes) :
    exec cfg t (.stor cs 0 data) =
      match (writeSpec t cs fun _ => data).2 with
      | .ok _ => ((writeSpec t cs fun _ => data).1, .ok 226 [])
      | .err _ => (t, .err 550) := by
  unfold writeSpec
  rcases sit t cs with hr | ⟨hne, hpa, hg⟩ | ⟨b, hne, hpa, hg⟩ | ⟨es, hne, hpa, hl, hg⟩ | ⟨es, n, hne, hpa, hl, hg⟩
  · subst hr; simp [exec, Posix.open_, flWb]
  · simp [exec, Posix.open_, stat_none hpa, hne, hpa]
  · simp [exec, Posix.open_, stat_some hpa, hne, hpa]
  · simp [exec, Posix.open_, flWb, stat_some hpa, hne, hpa, hl, hg, TreeLemmas.set_set_same]
  · cases n <;> simp [exec, Posix.open_, flWb, stat_some hpa, hne, hpa, hl, hg, TreeLemmas.set_set_same]

theorem writeSpec_cases (h : Hyp cfg t) (cs : List Name) (f : Option Bytes → Bytes) :
    (∃ x, writeSpec t cs f = (t.set cs (.file (f x)), .ok ()) ∧ isDirAt t cs = false) ∨
    writeSpec t cs f = (t, .err (if isDirAt t cs then .FileExpected else .ResourceNotFound)) := by
  unfold writeSpec
  rcases sit t cs with hr | ⟨hne, hpa, hg⟩ | ⟨b, hne, hpa, hg⟩ | ⟨es, hne, hpa, hl, hg⟩ | ⟨es, n, hne, hpa, hl, hg⟩
  · subst hr; right; simp [isDirAt_root h]
  · right; simp [hne, hpa, isDirAt, hg]
  · right; simp [hne, hpa, isDirAt, hg]
  · left; exact ⟨none, by simp [hne, hpa, hg], by simp [isDirAt, hg]⟩
  · cases n with
    | file b => left; exact ⟨some b, by simp [hne, hpa, hg], by simp [isDirAt, hg]⟩
    | dir ds => right; simp [hne, hpa, isDirAt, hg]

theorem run_storEmpty (h : Hyp cfg t) (cs : List Name) :
    Ftp.run (exec cfg) (storEmpty cs) t =
      ((writeSpec t cs fun _ => []).1, match (writeSpec t cs fun _ => []).2 with
        | .ok () => .ok ()
        | .err _ => .err .ResourceNotFound) := by
  simp only [storEmpty, run_command, exec_stor]
  rcases writeSpec_cases h cs fun _ => [] with ⟨x, hw, -⟩ | hw <;> rw [hw] <;> simp only [run_ret, ftpErrors_550]

/-- `FTPFS.upload` of a whole file = the contract of `writebytes` -/
theorem run_uploadC (h : Hyp cfg t) (cs : List Name) (hp : PathOk cfg cs) (data : Bytes) :
    Ftp.run (exec cfg) (uploadC cfg.cy cfg.mlsd cs data) t = writeSpec t cs fun _ => data := by
  simp only [uploadC, fileCmdError, run_command, exec_stor]
  rcases writeSpec_cases h cs fun _ => data with ⟨x, hw, -⟩ | hw <;> rw [hw]
  · rfl
  · simp only [isPerm_550, Bool.true_and, beq_self_eq_true, if_true, run_bind, run_isdirC h cs hp]
    cases isDirAt t cs <;> simp [ftpErrors_550]

def readSpec (t : Node) (cs : List Name) : Res Bytes :=
  match t.get cs with
  | none => .err .ResourceNotFound
  | some (.dir _) => .err .FileExpected
  | some (.file b) => .ok b

theorem exec_retr (hd : t.isDir = true) (cs : List Name) :
    exec cfg t (.retr cs 0) = (t, match t.get cs with
      | some (.file b) => .data b
      | _ => .err 550) := by
  rcases sit t cs with hr | ⟨hne, hpa, hg⟩ | ⟨b, hne, hpa, hg⟩ | ⟨es, hne, hpa, hl, hg⟩ | ⟨es, n, hne, hpa, hl, hg⟩
  · obtain ⟨res, rfl⟩ := root_dir hd
    subst hr; simp [exec, Posix.open_, flRb, Node.get]
  · simp [exec, Posix.open_, stat_none hpa, hne, hg]
  · simp [exec, Posix.open_, stat_some hpa, hne, hg]
  · simp [exec, Posix.open_, flRb, stat_some hpa, hne, hl, hg]
  · cases n <;> simp [exec, Posix.open_, flRb, stat_some hpa, hne, hl, hg, contentAt]

theorem run_readbytesC (h : Hyp cfg t) (cs : List Name) (hp : PathOk cfg cs) :
    Ftp.run (exec cfg) (readbytesC cfg.cy cfg.mlsd cs) t = (t, readSpec t cs) := by
  simp only [readbytesC, fileCmdError, run_command, exec_retr h.isDir, readSpec]
  rcases hg : t.get cs with _ | ⟨b | es⟩
  · simp [isPerm_550, run_bind, run_isdirC h cs hp, isDirAt, hg, ftpErrors_550]
  · rfl
  · simp [isPerm_550, run_bind, run_isdirC h cs hp, isDirAt, hg]

/-! ### `openbin` -/

def openbinSpec (t : Node) (cs : List Name) (md : Mode) : Node × Res (List Name) :=
  if cs = [] then (t, .err .FileExpected)
  else match t.get cs.dropLast with
    | some (.dir _) =>
      (match t.get cs with
       | some (.dir _) => (t, .err .FileExpected)
       | some (.file _) =>
         if md.exclusive then (t, .err .FileExists)
         else if md.truncate then (t.set cs (.file []), .ok cs) else (t, .ok cs)
       | none => if md.create then (t.set cs (.file []), .ok cs) else (t, .err .ResourceNotFound))
    | _ => (t, .err .ResourceNotFound)

theorem run_openbin (h : Hyp cfg t) (cs : List Name) (hp : PathOk cfg cs) (p mode : Str) (md : Mode)
    (hm : parseBinMode mode = some md) (hv : Ftp.validate p = .ok cs) :
    Ftp.run (exec cfg) (openbin cfg.cy cfg.mlsd p mode) t = openbinSpec t cs md := by
  unfold openbin openbinSpec
  have hw := run_storEmpty h cs
  have hd := run_isdirC h cs.dropLast (pathOk_sub hp (List.dropLast_subset _))
  simp only [hm, hv, run_bind, run_getinfo_ent h cs hp]
  rcases sit t cs with hr | ⟨hne, hpa, hg⟩ | ⟨b, hne, hpa, hg⟩ | ⟨es, hne, hpa, hl, hg⟩ | ⟨es, n, hne, hpa, hl, hg⟩
  · subst hr
    obtain ⟨res, hroot⟩ := root_dir h.isDir
    simp [hroot, Node.get, Node.isDir]
  · cases md.create <;> simp [hg, hne, hpa, run_bind, hd, isDirAt]
  · cases md.create <;> simp [hg, hne, hpa, run_bind, hd, isDirAt]
  · cases md.create <;> simp [hg, hne, hpa, run_bind, hd, isDirAt, hw, writeSpec]
  · cases n with
    | dir ds => simp [hg, hne, hpa, Node.isDir]
    | file b =>
      cases md.exclusive <;> cases md.truncate <;>
        simp [hg, hne, hpa, Node.isDir, run_bind, hw, writeSpec]

/-! ### `create`, `setinfo`, `remove`, `removedir` -/

def createSpec (t : Node) (cs : List Name) (wipe : Bool) : Node × Res Bool :=
  if !wipe && (t.get cs).isSome then (t, .ok false)
  else ((writeSpec t cs fun _ => []).1, match (writeSpec t cs fun _ => []).2 with
    | .ok () => .ok true
    | .err e => .err e)

theorem run_existsUnless (h : Hyp cfg t) (b : List Name) (hp : PathOk cfg b) (o : Bool) :
    Ftp.run (exec cfg) (if o then (Prog.ret (Res.ok false) : Prog (Res Bool)) else existsC cfg.cy cfg.mlsd b) t =
      (t, .ok (!o && (t.get b).isSome)) := by
  cases o <;> simp [run_existsC h b hp]

theorem run_existsOr (h : Hyp cfg t) (b : List Name) (hp : PathOk cfg b) (c : Bool) :
    Ftp.run (exec cfg) (if c then (Prog.ret (Res.ok true) : Prog (Res Bool)) else existsC cfg.cy cfg.mlsd b) t =
      (t, .ok (c || (t.get b).isSome)) := by
  cases c <;> simp [run_existsC h b hp]

theorem run_create (h : Hyp cfg t) (cs : List Name) (hp : PathOk cfg cs) (p : Str) (wipe : Bool)
    (hv : Ftp.validate p = .ok cs) :
    Ftp.run (exec cfg) (create cfg.cy cfg.mlsd p wipe) t = createSpec t cs wipe := by
  simp only [create, createSpec, hv, run_bind, run_existsUnless h cs hp]
  cases (!wipe && (t.get cs).isSome)
  · simp only [Bool.false_eq_true, if_false, run_bind, run_isdirC h cs hp]
    rcases writeSpec_cases h cs fun _ => [] with ⟨x, hw, hd⟩ | hw
    · simp only [hd, run_bind, run_storEmpty h cs, hw, run_ret]
    · cases hd : isDirAt t cs <;> simp only [hd, run_bind, run_storEmpty h cs, hw, run_ret] <;> rfl
  · rfl

def setinfoSpec (t : Node) (cs : List Name) : Res Unit :=
  if (t.get cs).isSome then .ok () else .err .ResourceNotFound

theorem run_setinfo (h : Hyp cfg t) (cs : List Name) (hp : PathOk cfg cs) (p : Str) (mf : Bool)
    (hmf : mf = cfg.mfmt) (hv : Ftp.validate p = .ok cs) :
    Ftp.run (exec cfg) (setinfo cfg.cy cfg.mlsd mf p) t = (t, setinfoSpec t cs) := by
  unfold setinfo setinfoSpec
  have he := run_existsC h cs hp
  subst hmf
  simp only [hv]
  cases hmf : cfg.mfmt with
  | false =>
    simp only [Bool.false_eq_true, if_false, run_bind, he]
    cases (t.get cs).isSome <;> rfl
  | true =>
    simp only [if_true, run_command, exec, hmf, Bool.not_true, Bool.false_eq_true, if_false]
    cases hg : t.get cs with
    | none => simp [stat_none hg, isPerm_550, run_bind, he, hg]
    | some n => cases n <;> simp [stat_some hg, isPerm_550, run_bind, he, hg]

def removeSpec (t : Node) (cs : List Name) : Node × Res Unit :=
  if cs = [] then (t, .err .FileExpected)
  else match t.get cs with
    | none => (t, .err .ResourceNotFound)
    | some (.dir _) => (t, .err .FileExpected)
    | some (.file _) => (t.del cs, .ok ())

theorem run_removeC (h : Hyp cfg t) (cs : List Name) (hp : PathOk cfg cs) :
    Ftp.run (exec cfg) (removeC cfg.cy cfg.mlsd cs) t = removeSpec t cs := by
  unfold removeC removeSpec
  simp only [run_bind, run_isdirC h cs hp]
  by_cases hne : cs = []
  · subst hne; simp only [isDirAt_root h, if_true, run_ret]
  · simp only [hne, if_false, isDirAt]
    cases hg : t.get cs with
    | none => simp [exec, Posix.unlink, stat_none hg, ftpErrors_550]
    | some n => cases n <;> simp [exec, Posix.unlink, stat_some hg]

def removedirSpec (t : Node) (cs : List Name) : Node × Res Unit :=
  if cs = [] then (t, .err .RemoveRootError)
  else match t.get cs with
    | none => (t, .err .ResourceNotFound)
    | some (.file _) => (t, .err .DirectoryExpected)
    | some (.dir es) => if es.isEmpty then (t.del cs, .ok ()) else (t, .err .DirectoryNotEmpty)

theorem run_removedirC (h : Hyp cfg t) (cs : List Name) (hp : PathOk cfg cs) :
    Ftp.run (exec cfg) (removedirC cfg.cy cfg.mlsd cs) t = removedirSpec t cs := by
  unfold removedirC removedirSpec
  have hf := run_isfileC h cs hp
  have hem := run_isemptyC h cs hp
  by_cases hne : cs = []
  · simp [hne]
  · simp only [hne, if_false, run_command, exec]
    cases hg : t.get cs with
    | none =>
      simp [Posix.rmdir, stat_none hg, isPerm_550, run_bind, hf, isFileAt, hg,
        hem, isemptySpec]
    | some n =>
      cases n with
      | file b =>
        simp [Posix.rmdir, stat_some hg, isPerm_550, run_bind, hf, isFileAt, hg]
      | dir es =>
        cases hes : es.isEmpty <;>
          simp [Posix.rmdir, stat_some hg, hne, hes, isPerm_550, run_bind, hf, isFileAt, hg,
            hem, isemptySpec]

/-! ### `appendbytes`, `touch`, `removetree` -/

theorem exec_appe_file (cfg : Profile) {t : Node} {cs : List Name} {b : Bytes} (hne : cs ≠ [])
    (hg : t.get cs = some (.file b)) (data : Bytes) :
    exec cfg t (.appe cs data) = (t.set cs (.file (b ++ data)), .ok 226 []) := by
  obtain ⟨es, hpa, hl⟩ := lookup_of_get hne hg
  simp [exec, Posix.open_, flAb, stat_some hpa, hne, hl, contentAt, hg]

theorem run_appendbytes (h : Hyp cfg t) (cs : List Name) (hp : PathOk cfg cs) (p : Str) (data : Bytes)
    (hv : Ftp.validate p = .ok cs) :
    Ftp.run (exec cfg) (appendbytes cfg.cy cfg.mlsd p data) t = writeSpec t cs fun o => o.getD [] ++ data := by
  unfold appendbytes
  rw [run_bind, run_openbin h cs hp p _ _ QueryLemmas.mode_ab hv]
  unfold openbinSpec writeSpec
  rcases sit t cs with hr | ⟨hne, hpa, hg⟩ | ⟨b, hne, hpa, hg⟩ | ⟨es, hne, hpa, hl, hg⟩ | ⟨es, n, hne, hpa, hl, hg⟩
  · subst hr; simp
  · simp [hne, hpa]
  · simp [hne, hpa]
  · have hnew : (t.set cs (.file [])).get cs = some (.file []) := TreeLemmas.get_set_same cs t _ es hne hpa
    simp [hne, hpa, hg, exec_appe_file cfg hne hnew, TreeLemmas.set_set_same]
  · cases n with
    | dir ds => simp [hne, hpa, hg]
    | file b => simp [hne, hpa, hg, exec_appe_file cfg hne hg]

def touchSpec (t : Node) (cs : List Name) : Node × Res Unit :=
  if (t.get cs).isSome then (t, .ok ()) else writeSpec t cs fun _ => []

theorem run_touch (h : Hyp cfg t) (cs : List Name) (hp : PathOk cfg cs) (p : Str) (mf : Bool)
    (hmf : mf = cfg.mfmt) (hv : Ftp.validate p = .ok cs) :
    Ftp.run (exec cfg) (touch cfg.cy cfg.mlsd mf p) t = touchSpec t cs := by
  unfold touch touchSpec
  rw [run_bind, run_create h cs hp p false hv]
  unfold createSpec
  cases hg : (t.get cs).isSome with
  | true => simp [run_setinfo h cs hp p mf hmf hv, setinfoSpec, hg]
  | false =>
    simp only [Bool.not_false, Bool.and_false, Bool.false_eq_true, if_false]
    cases hw : (writeSpec t cs fun _ => []).2 with
    | ok u => cases u; simp; rw [← hw]
    | err e => simp; rw [← hw]

def removetreeSpec (t : Node) (cs : List Name) : Node × Res Unit :=
  if cs = [] then (.dir [], .ok ())
  else match t.get cs with
    | none => (t, .err .ResourceNotFound)
    | some (.file _) => (t, .err .DirectoryExpected)
    | some (.dir _) => (t.del cs, .ok ())

theorem run_removetree (h : Hyp cfg t) (cs : List Name) (hp : PathOk cfg cs) (p : Str)
    (hv : Ftp.validate p = .ok cs) :
    Ftp.run (exec cfg) (removetree cfg.cy cfg.mlsd p) t = removetreeSpec t cs := by
  unfold removetree removetreeSpec
  simp only [hv, run_bind, run_scandirC h cs hp, scandirSpec]
  by_cases hne : cs = []
  · subst hne
    obtain ⟨res, hroot⟩ := root_dir h.isDir
    simp [hroot, Node.get, Ftp.run, setAt]
  · simp only [hne, if_false]
    cases hg : t.get cs with
    | none => rfl
    | some n =>
      cases n with
      | file b => rfl
      | dir es =>
        have h' : Hyp cfg (t.set cs (.dir [])) := hyp_set h cs hp _ rfl (treeOk_emptyDir cfg)
        obtain ⟨pes, hpa⟩ := TreeLemmas.get_parent_dir hne hg
        have hnew : (t.set cs (.dir [])).get cs = some (.dir []) := TreeLemmas.get_set_same cs t _ pes hne hpa
        simp only [Ftp.run, setAt, hne, if_false, run_removedirC h' cs hp, removedirSpec, hnew, List.isEmpty_nil,
          if_true, del_set]

end Fs.FtpModelLemmas
