/-
  `Ref.step1` as data.  A one-path operation LOOKS at three things — the node at its path (of a directory: the
  entry names), the type of the parent, whether a file blocks the path; and, of the path itself, whether it is
  the root and its last name — and ACTS at one place: it answers, or sets / deletes / makes the missing
  directories at that path (`act1`, `applyAct`, `step1_act`).  `act1_sane` says of every act why it is in order:
  a failure's class is in `adm1`, a change to the tree is one of the effects `Eff1` with its preconditions.

  `Alike t cs t' cs'` says that two situations show an operation the same.  Every locality statement about
  `step1` has two halves (`step1_of_alike`): the situations are alike, so the operation chooses the same `Act`;
  and that act does to the one tree what corresponds to what it does to the other, which is where a layer's tree
  algebra enters.  `adm1` looks at the same things (`adm1_of_alike`).

  Four namespaces, each that of the modules that go on from the declarations: `Act`, `act1`, `Alike` and what
  follows are in `Fs.MultiFsLemmas`; `Eff1`, `eff1`, `eff_writeFile` in `Fs.TreeLemmas`, where StepEffects puts
  `Eff2` beside them; the memberships in `adm1` in `Fs.QueryLemmas`, for `eff2` of StepEffects; `rootSpecial` is
  the wrappers' notion (`Fs.WrapLemmas`), needed here for `act1_root_dir`.
-/
import FsModel.Ref
import FsModel.RefAdm
import FsProofs.Lemmas.TreeLemmas

/-- the three operations that treat the ROOT of a filesystem differently from any other
directory (a wrapper has to handle them itself, and `WrapFS` does) -/
def Fs.WrapLemmas.rootSpecial : Fs.Ref.Op → Bool
  | .getinfo _ | .removedir _ | .removetree _ => true
  | _ => false

namespace Fs.QueryLemmas
open Fs Fs.Ref

section
variable {t : Node} {cs : List Name}

theorem kindAt_of_none (h : t.get cs = none) : kindAt t cs = none := by
  rw [kindAt, h]

theorem kindAt_of_file {b : Bytes} (h : t.get cs = some (.file b)) : kindAt t cs = some false := by
  rw [kindAt, h]

theorem kindAt_of_dir {es : Ents} (h : t.get cs = some (.dir es)) : kindAt t cs = some true := by
  rw [kindAt, h]

theorem kindAt_nil_ne_none : kindAt t [] ≠ none := by
  cases t <;> simp [kindAt, Node.get]

theorem kindAt_ne_none (h : (t.get cs).isSome = true) : kindAt t cs ≠ none := by
  unfold kindAt
  split <;> simp_all

theorem kindAt_ne_dir (h : ∀ es, t.get cs ≠ some (.dir es)) : kindAt t cs ≠ some true := by
  unfold kindAt
  split <;> simp_all

theorem notFound_mem_admDirArg (h : t.get cs = none) : .ResourceNotFound ∈ admDirArg t cs := by
  simp [admDirArg, kindAt_of_none h]

theorem dirExpected_mem_admDirArg {b : Bytes} (h : t.get cs = some (.file b)) :
    .DirectoryExpected ∈ admDirArg t cs := by
  simp [admDirArg, kindAt_of_file h]

theorem notFound_mem_admFileArg (h : t.get cs = none) : .ResourceNotFound ∈ admFileArg t cs := by
  simp [admFileArg, kindAt_of_none h]

theorem fileExpected_mem_admFileArg {es : Ents} (h : t.get cs = some (.dir es)) :
    .FileExpected ∈ admFileArg t cs := by
  simp [admFileArg, kindAt_of_dir h]

theorem fileExpected_mem_admFileTarget {es : Ents} (h : t.get cs = some (.dir es)) :
    .FileExpected ∈ admFileTarget t cs := by
  simp [admFileTarget, kindAt_of_dir h]

theorem fileExpected_mem_admFileTarget_nil : .FileExpected ∈ admFileTarget t [] := by
  simp [admFileTarget]

theorem notFound_mem_admFileTarget (hne : cs ≠ []) (h : ∀ es, t.get (parentOf cs) ≠ some (.dir es)) :
    .ResourceNotFound ∈ admFileTarget t cs := by
  simp [admFileTarget, hne, kindAt_ne_dir h]

end

end Fs.QueryLemmas

namespace Fs.TreeLemmas
open Fs Fs.Ref

/-- operations that (over)write one file -/
def isWrite : Op → Prop
  | .writebytes _ _ | .appendbytes _ _ | .create _ _ | .touch _ | .openbin _ _ => True
  | _ => False

/-- every possible effect of a one-path operation on the state -/
inductive Eff1 (s : State) (cs : List Name) (op : Op) : State × Out → Prop
  | same (o : Out) : Eff1 s cs op (s, o)
  | setFile (b : Bytes) (v : Val) (es : Ents) : cs ≠ [] → s.root.get cs.dropLast = some (.dir es) →
      (∀ ds, s.root.get cs ≠ some (.dir ds)) → isWrite op →
      Eff1 s cs op (upd s (s.root.set cs (.file b)) v)
  | mkdir (es : Ents) : cs ≠ [] → s.root.get cs.dropLast = some (.dir es) → s.root.get cs = none →
      (∃ p r, op = .makedir p r) → Eff1 s cs op (upd s (s.root.set cs (.dir [])))
  | mkdirs : s.root.get cs = none → blockedByFile s.root [] cs = false →
      (∃ p r, op = .makedirs p r) → Eff1 s cs op (upd s (mkdirs [] cs s.root))
  | delFile (b : Bytes) : cs ≠ [] → s.root.get cs = some (.file b) → (∃ p, op = .remove p) →
      Eff1 s cs op (upd s (s.root.del cs))
  | delEmpty : cs ≠ [] → s.root.get cs = some (.dir []) → (∃ p, op = .removedir p) →
      Eff1 s cs op (upd s (s.root.del cs))
  | delTree (es : Ents) : cs ≠ [] → s.root.get cs = some (.dir es) → (∃ p, op = .removetree p) →
      Eff1 s cs op (upd s (s.root.del cs))
  | clear : cs = [] → (∃ p, op = .removetree p) → Eff1 s cs op (upd s (.dir []))

end Fs.TreeLemmas

namespace Fs.MultiFsLemmas
open Fs Fs.Ref

/-- what `step1` does to the tree at the path -/
inductive Act where
  | fail (e : Err)
  | done (v : Val)
  | set (n : Node) (v : Val)
  | del (v : Val)
  | mkdirs (v : Val)
  | clear

def applyAct (s : State) (cs : List Name) : Act → State × Out
  | .fail e => fail s e
  | .done v => done s v
  | .set n v => upd s (s.root.set cs n) v
  | .del v => upd s (s.root.del cs) v
  | .mkdirs v => upd s (mkdirs [] cs s.root) v
  | .clear => upd s (.dir [])

/-- `writeFile` as data (`pk`: the parent is a directory / a file / missing) -/
def wfAct (cs : List Name) (g : Option Node) (pk : Option Bool) (f : Option Bytes → Bytes) (v : Val) : Act :=
  if cs = [] then .fail .FileExpected
  else match pk with
    | none => .fail .ResourceNotFound
    | some false => .fail .ResourceNotFound
    | some true =>
      match g with
      | some (.dir _) => .fail .FileExpected
      | some (.file b) => .set (.file (f (some b))) v
      | none => .set (.file (f none)) v

/-- `step1` as data: `g` the node at the path, `pk` the type of the parent, `bl` whether a file blocks it -/
def act1 (cs : List Name) (g : Option Node) (pk : Option Bool) (bl : Bool) : Op → Act
  | .exists_ _ => .done (.bool g.isSome)
  | .isdir _ => .done (.bool (match g with | some (.dir _) => true | _ => false))
  | .isfile _ => .done (.bool (match g with | some (.file _) => true | _ => false))
  | .listdir _ => match g with
    | none => .fail .ResourceNotFound
    | some (.file _) => .fail .DirectoryExpected
    | some (.dir es) => .done (.names (Ents.names es))
  | .isempty _ => match g with
    | none => .fail .ResourceNotFound
    | some (.file _) => .fail .DirectoryExpected
    | some (.dir es) => .done (.bool es.isEmpty)
  | .getsize _ => match g with
    | none => .fail .ResourceNotFound
    | some (.file b) => .done (.nat b.length)
    | some (.dir _) => .done (.nat 0)
  | .gettype _ => match g with
    | none => .fail .ResourceNotFound
    | some (.file _) => .done (.nat 2)
    | some (.dir _) => .done (.nat 1)
  | .getinfo _ => match g with
    | none => .fail .ResourceNotFound
    | some (.file b) => .done (.info (lastName cs) false b.length)
    | some (.dir _) => .done (.info (lastName cs) true 0)
  | .readbytes _ => match g with
    | none => .fail .ResourceNotFound
    | some (.dir _) => .fail .FileExpected
    | some (.file b) => .done (.bytes b)
  | .makedir _ recreate =>
    if cs = [] then (if recreate then .done .unit else .fail .DirectoryExists)
    else match pk with
      | none => .fail .ResourceNotFound
      | some false => .fail .ResourceNotFound
      | some true =>
        match g with
        | some (.dir _) => if recreate then .done .unit else .fail .DirectoryExists
        | some (.file _) => if recreate then .fail .DirectoryExpected else .fail .DirectoryExists
        | none => .set (.dir []) .unit
  | .makedirs _ recreate =>
    if bl then .fail .DirectoryExpected
    else match g with
      | some (.dir _) => if recreate then .done .unit else .fail .DirectoryExists
      | some (.file _) => if recreate then .fail .DirectoryExpected else .fail .DirectoryExists
      | none => .mkdirs .unit
  | .writebytes _ data => wfAct cs g pk (fun _ => data) .unit
  | .appendbytes _ data => wfAct cs g pk (fun o => (o.getD []) ++ data) .unit
  | .create _ wipe =>
    if !wipe && g.isSome then .done (.bool false) else wfAct cs g pk (fun _ => []) (.bool true)
  | .touch _ => if g.isSome then .done .unit else wfAct cs g pk (fun _ => []) .unit
  | .settimes _ => if g.isSome then .done .unit else .fail .ResourceNotFound
  | .openbin _ mode =>
    match parseBinMode mode with
    | none => .fail .ValueError
    | some m =>
      if cs = [] then .fail .FileExpected
      else match pk with
        | none => .fail .ResourceNotFound
        | some false => .fail .ResourceNotFound
        | some true =>
          match g with
          | some (.dir _) => .fail .FileExpected
          | some (.file _) =>
            if m.exclusive then .fail .FileExists
            else if m.truncate then .set (.file []) .unit
            else .done .unit
          | none => if m.create then .set (.file []) .unit else .fail .ResourceNotFound
  | .remove _ =>
    if cs = [] then .fail .FileExpected
    else match g with
      | none => .fail .ResourceNotFound
      | some (.dir _) => .fail .FileExpected
      | some (.file _) => .del .unit
  | .removedir _ =>
    if cs = [] then .fail .RemoveRootError
    else match g with
      | none => .fail .ResourceNotFound
      | some (.file _) => .fail .DirectoryExpected
      | some (.dir es) => if es.isEmpty then .del .unit else .fail .DirectoryNotEmpty
  | .removetree _ =>
    if cs = [] then .clear
    else match g with
      | none => .fail .ResourceNotFound
      | some (.file _) => .fail .DirectoryExpected
      | some (.dir _) => .del .unit
  | _ => .done .unit

/-- the type of the parent node -/
def parentKind (t : Node) (cs : List Name) : Option Bool := (t.get (parentOf cs)).map Node.isDir

theorem writeFile_act (s : State) (cs : List Name) (f : Option Bytes → Bytes) (v : Val) :
    writeFile s cs f v = applyAct s cs (wfAct cs (s.root.get cs) (parentKind s.root cs) f v) := by
  simp only [writeFile, wfAct, parentKind]
  split
  · rfl
  · rcases s.root.get (parentOf cs) with _ | _ | _ <;> try rfl
    rcases s.root.get cs with _ | _ | _ <;> rfl

/-- **`step1` looks at three things and acts at one place** -/
theorem step1_act (s : State) (cs : List Name) (op : Op) :
    step1 s cs op =
      applyAct s cs (act1 cs (s.root.get cs) (parentKind s.root cs) (blockedByFile s.root [] cs) op) := by
  cases op
  case writebytes | appendbytes => simp only [step1, act1]; exact writeFile_act s cs _ _
  case create | touch =>
    simp only [step1, act1]
    split
    · rfl
    · exact writeFile_act s cs _ _
  case makedir p r =>
    simp only [step1, act1, parentKind]
    split
    · split <;> rfl
    · rcases s.root.get (parentOf cs) with _ | _ | _ <;> try rfl
      rcases s.root.get cs with _ | _ | _ <;> try rfl
      all_goals (cases r <;> rfl)
  case openbin p m =>
    simp only [step1, act1, parentKind]
    rcases parseBinMode m with _ | md
    · rfl
    · simp only []
      split
      · rfl
      · rcases s.root.get (parentOf cs) with _ | _ | _ <;> try rfl
        rcases s.root.get cs with _ | _ | _ <;> try rfl
        · cases md.create <;> rfl
        · cases md.exclusive <;> cases md.truncate <;> rfl
  case makedirs p r =>
    simp only [step1, act1]
    split
    · rfl
    · rcases s.root.get cs with _ | _ | _ <;> try rfl
      all_goals (cases r <;> rfl)
  case remove | removetree =>
    simp only [step1, act1]
    split
    · rfl
    · rcases s.root.get cs with _ | _ | _ <;> rfl
  case removedir =>
    simp only [step1, act1]
    split
    · rfl
    · rcases s.root.get cs with _ | _ | es <;> try rfl
      cases es <;> rfl
  -- the remaining operations look at the node only (or at nothing)
  all_goals
    simp only [step1, act1]
    try (rcases s.root.get cs with _ | _ | _ <;> rfl)

section
open TreeLemmas QueryLemmas

def Act.sane (s : State) (cs : List Name) (op : Op) : Act → Prop
  | .fail e => e ≠ .OperationFailed ∧ (s.root.isDir = true → e ∈ adm1 s.root cs op)
  | .done _ => True
  | .clear => cs = [] ∧ ∃ p, op = .removetree p
  | .mkdirs v => (∃ p r, op = .makedirs p r) ∧ Eff1 s cs op (applyAct s cs (.mkdirs v))
  | a => Eff1 s cs op (applyAct s cs a)

theorem eff_of_sane {s : State} {cs : List Name} {op : Op} {a : Act} (h : a.sane s cs op) :
    Eff1 s cs op (applyAct s cs a) := by
  cases a with
  | fail e => exact .same _
  | done v => exact .same _
  | clear => exact .clear h.1 h.2
  | mkdirs v => exact h.2
  | set n v => exact h
  | del v => exact h

theorem wfAct_sane (s : State) (cs : List Name) {op : Op} (hw : isWrite op)
    (hadm : ∀ e, e ∈ admFileTarget s.root cs → e ∈ adm1 s.root cs op) (f : Option Bytes → Bytes) (v : Val) :
    (wfAct cs (s.root.get cs) (parentKind s.root cs) f v).sane s cs op := by
  unfold wfAct parentKind
  split
  · next h0 => subst h0; exact ⟨nofun, fun _ => hadm _ fileExpected_mem_admFileTarget_nil⟩
  · next hne =>
    rcases hp : s.root.get (parentOf cs) with _ | _ | es
    · exact ⟨nofun, fun _ => hadm _ (notFound_mem_admFileTarget hne (by simp [hp]))⟩
    · exact ⟨nofun, fun _ => hadm _ (notFound_mem_admFileTarget hne (by simp [hp]))⟩
    · rcases hg : s.root.get cs with _ | _ | _
      · exact .setFile _ v es hne hp (by simp [hg]) hw
      · exact .setFile _ v es hne hp (by simp [hg]) hw
      · exact ⟨nofun, fun _ => hadm _ (fileExpected_mem_admFileTarget hg)⟩

/-- the one walk through `act1` from which `eff1`, `step1_truthful` and `step1_not_loose` are read -/
theorem act1_sane (s : State) (cs : List Name) (op : Op) :
    (act1 cs (s.root.get cs) (parentKind s.root cs) (blockedByFile s.root [] cs) op).sane s cs op := by
  cases op
  case writebytes | appendbytes => simp only [act1]; exact wfAct_sane s cs (by trivial) (fun _ h => by exact h) _ _
  case create | touch =>
    simp only [act1]
    split
    · trivial
    · exact wfAct_sane s cs (by trivial) (fun _ h => by exact h) _ _
  case listdir | isempty =>
    simp only [act1]
    rcases hg : s.root.get cs with _ | _ | _
    · exact ⟨nofun, fun _ => notFound_mem_admDirArg hg⟩
    · exact ⟨nofun, fun _ => dirExpected_mem_admDirArg hg⟩
    · trivial
  case getsize | gettype | getinfo | settimes =>
    simp only [act1]
    rcases hg : s.root.get cs with _ | _ | _
    · exact ⟨nofun, fun _ => by simp [adm1, kindAt_of_none hg]⟩
    · trivial
    · trivial
  case readbytes =>
    simp only [act1]
    rcases hg : s.root.get cs with _ | _ | _
    · exact ⟨nofun, fun _ => notFound_mem_admFileArg hg⟩
    · trivial
    · exact ⟨nofun, fun _ => fileExpected_mem_admFileArg hg⟩
  case makedir p r =>
    simp only [act1, parentKind]
    split
    · next h0 =>
      cases r
      · exact ⟨nofun, fun _ => by dsimp only [adm1]; simp [h0, kindAt_nil_ne_none]⟩
      · trivial
    · next hne =>
      rcases hp : s.root.get (parentOf cs) with _ | _ | es
      · exact ⟨nofun, fun _ => by dsimp only [adm1]; simp [hne, kindAt_of_none hp]⟩
      · exact ⟨nofun, fun _ => by dsimp only [adm1]; simp [blocked_parent_file hne hp]⟩
      · rcases hg : s.root.get cs with _ | _ | _
        · exact .mkdir es hne hp hg ⟨_, _, rfl⟩
        · cases r <;> exact ⟨nofun, fun _ => by dsimp only [adm1]; simp [kindAt_of_file hg]⟩
        · cases r
          · exact ⟨nofun, fun _ => by dsimp only [adm1]; simp [kindAt_of_dir hg]⟩
          · trivial
  case makedirs p r =>
    simp only [act1]
    rcases hb : blockedByFile s.root [] cs with _ | _
    · rcases hg : s.root.get cs with _ | _ | _
      · exact ⟨⟨_, _, rfl⟩, .mkdirs hg hb ⟨_, _, rfl⟩⟩
      · cases r <;> exact ⟨nofun, fun _ => by dsimp only [adm1]; simp [kindAt_of_file hg]⟩
      · cases r
        · exact ⟨nofun, fun _ => by dsimp only [adm1]; simp [kindAt_of_dir hg]⟩
        · trivial
    · exact ⟨nofun, fun _ => by dsimp only [adm1]; simp [hb]⟩
  case openbin p m =>
    simp only [act1, parentKind]
    rcases hm : parseBinMode m with _ | md
    · exact ⟨nofun, fun _ => by dsimp only [adm1]; simp [hm]⟩
    · simp only []
      split
      · next h0 => exact ⟨nofun, fun _ => by dsimp only [adm1]; simp [hm, h0, fileExpected_mem_admFileTarget_nil]⟩
      · next hne =>
        have hnf : ∀ {t : Node}, (∀ es, t.get (parentOf cs) ≠ some (.dir es)) →
            Err.ResourceNotFound ∈ adm1 t cs (.openbin p m) := fun h => by
          dsimp only [adm1]; simp [hm, notFound_mem_admFileTarget hne h]
        rcases hp : s.root.get (parentOf cs) with _ | _ | es
        · exact ⟨nofun, fun _ => hnf (by simp [hp])⟩
        · exact ⟨nofun, fun _ => hnf (by simp [hp])⟩
        · rcases hg : s.root.get cs with _ | _ | _
          · cases hcr : md.create
            · exact ⟨nofun, fun _ => by dsimp only [adm1]; simp [hm, hcr, kindAt_of_none hg]⟩
            · exact .setFile _ _ es hne hp (by simp [hg]) trivial
          · cases hx : md.exclusive
            · cases md.truncate
              · trivial
              · exact .setFile _ _ es hne hp (by simp [hg]) trivial
            · exact ⟨nofun, fun _ => by dsimp only [adm1]; simp [hm, hx, kindAt_of_file hg]⟩
          · exact ⟨nofun, fun _ => by dsimp only [adm1]; simp [hm, fileExpected_mem_admFileTarget hg]⟩
  case remove p =>
    simp only [act1]
    split
    · next h0 =>
      subst h0
      refine ⟨nofun, fun hd => ?_⟩
      rcases hr : s.root with _ | es
      · rw [hr] at hd; cases hd
      · dsimp only [adm1]; simp [fileExpected_mem_admFileArg (t := .dir es) (cs := []) rfl]
    · next hne =>
      rcases hg : s.root.get cs with _ | b | _
      · exact ⟨nofun, fun _ => by dsimp only [adm1]; simp [notFound_mem_admFileArg hg]⟩
      · exact .delFile b hne hg ⟨_, rfl⟩
      · exact ⟨nofun, fun _ => by dsimp only [adm1]; simp [fileExpected_mem_admFileArg hg]⟩
  case removedir p =>
    simp only [act1]
    split
    · next h0 => exact ⟨nofun, fun _ => by dsimp only [adm1]; simp [h0]⟩
    · next hne =>
      rcases hg : s.root.get cs with _ | _ | es
      · exact ⟨nofun, fun _ => by dsimp only [adm1]; simp [notFound_mem_admDirArg hg]⟩
      · exact ⟨nofun, fun _ => by dsimp only [adm1]; simp [dirExpected_mem_admDirArg hg]⟩
      · cases es
        · exact .delEmpty hne hg ⟨_, rfl⟩
        · exact ⟨nofun, fun _ => by dsimp only [adm1]; simp [hg]⟩
  case removetree p =>
    simp only [act1]
    split
    · next h0 => exact ⟨h0, _, rfl⟩
    · next hne =>
      rcases hg : s.root.get cs with _ | _ | es
      · exact ⟨nofun, fun _ => notFound_mem_admDirArg hg⟩
      · exact ⟨nofun, fun _ => dirExpected_mem_admDirArg hg⟩
      · exact .delTree es hne hg ⟨_, rfl⟩
  all_goals trivial

theorem _root_.Fs.TreeLemmas.eff_writeFile (s : State) (cs : List Name) (f : Option Bytes → Bytes) (v : Val) :
    Eff1 s cs (.writebytes [] []) (writeFile s cs f v) := by
  rw [writeFile_act]
  exact eff_of_sane (wfAct_sane s cs (op := .writebytes [] []) trivial (fun _ h => h) f v)

theorem _root_.Fs.TreeLemmas.eff1 (s : State) (cs : List Name) (op : Op) : Eff1 s cs op (step1 s cs op) := by
  rw [step1_act]
  exact eff_of_sane (act1_sane s cs op)

theorem step1_not_loose (s : State) (cs : List Name) (op : Op) : (step1 s cs op).2 ≠ .err .OperationFailed := by
  rw [step1_act]
  have := act1_sane s cs op
  generalize act1 cs (s.root.get cs) (parentKind s.root cs) (blockedByFile s.root [] cs) op = a at this ⊢
  cases a with
  | fail e => exact fun h => this.1 (by cases h; rfl)
  | _ => nofun

end

/-- the node at a path as a one-path operation sees it: of a directory only the entry names -/
inductive Seen where
  | none
  | file (b : Bytes)
  | dir (names : List Name)

def see : Option Node → Seen
  | none => .none
  | some (.file b) => .file b
  | some (.dir es) => .dir (Ents.names es)

theorem see_eq_cases {o o' : Option Node} (h : see o = see o') :
    o = o' ∨ ∃ es es', o = some (.dir es) ∧ o' = some (.dir es') ∧ Ents.names es = Ents.names es' := by
  rcases o with _ | ⟨b | es⟩ <;> rcases o' with _ | ⟨b' | es'⟩ <;> try cases h
  · exact Or.inl rfl
  · exact Or.inl rfl
  · exact Or.inr ⟨es, es', rfl, rfl, Seen.dir.inj h⟩

theorem kind_of_see {o o' : Option Node} (h : see o = see o') : o.map Node.isDir = o'.map Node.isDir := by
  rcases see_eq_cases h with rfl | ⟨es, es', rfl, rfl, _⟩ <;> rfl

theorem blocked_of_kinds {t t' : Node} : ∀ (cs pre : List Name),
    (∀ q, q <+: pre ++ cs → (t.get q).map Node.isDir = (t'.get q).map Node.isDir) →
    blockedByFile t pre cs = blockedByFile t' pre cs := by
  intro cs
  induction cs with
  | nil => intro pre _; rfl
  | cons c cs ih =>
    intro pre h
    rw [blockedByFile, blockedByFile, ih (pre ++ [c]) (by simpa using h)]
    have := h pre (List.prefix_append _ _)
    generalize t.get pre = a at this ⊢
    generalize t'.get pre = b at this ⊢
    rcases a with _ | _ | _ <;> rcases b with _ | _ | _ <;> first | rfl | cases this

theorem blocked_alike {t t' : Node} (cs pre : List Name)
    (h : ∀ q, q <+: pre ++ cs → see (t.get q) = see (t'.get q)) : blockedByFile t pre cs = blockedByFile t' pre cs :=
  blocked_of_kinds cs pre fun q hq => kind_of_see (h q hq)

theorem act1_see {g g' : Option Node} (h : see g = see g') (cs : List Name) (pk : Option Bool) (bl : Bool) (op : Op) :
    act1 cs g pk bl op = act1 cs g' pk bl op := by
  rcases see_eq_cases h with rfl | ⟨es, es', rfl, rfl, hn⟩
  · rfl
  · have he : es.isEmpty = es'.isEmpty := by cases es <;> cases es' <;> first | rfl | cases hn
    cases op
    case listdir => simp only [act1, hn]
    case isempty | removedir => simp only [act1, he]
    all_goals rfl

/-- **the path `cs` of `t` and the path `cs'` of `t'` look alike** to a one-path operation: this is all `step1` and
`adm1` look at (`act1_of_alike`, `adm1_of_alike`) -/
structure Alike (t : Node) (cs : List Name) (t' : Node) (cs' : List Name) : Prop where
  node : see (t.get cs) = see (t'.get cs')
  parent : parentKind t cs = parentKind t' cs'
  blocked : blockedByFile t [] cs = blockedByFile t' [] cs'
  root : cs = [] ↔ cs' = []
  last : lastName cs = lastName cs'

theorem act1_of_alike {t t' : Node} {cs cs' : List Name} (h : Alike t cs t' cs') (op : Op) :
    act1 cs (t.get cs) (parentKind t cs) (blockedByFile t [] cs) op =
      act1 cs' (t'.get cs') (parentKind t' cs') (blockedByFile t' [] cs') op := by
  rw [act1_see h.node, h.parent, h.blocked]
  -- of the path itself: whether it is the root, and the last name
  generalize t'.get cs' = g; generalize parentKind t' cs' = pk; generalize blockedByFile t' [] cs' = bl
  have hl := h.last
  rcases cs with _ | ⟨a, as⟩ <;> rcases cs' with _ | ⟨b, bs⟩
  · rfl
  · cases h.root.1 rfl
  · cases h.root.2 rfl
  · cases op
    case getinfo => simp only [act1, hl]
    all_goals rfl

/-- `Ref.kindAt` (RefAdm) and `ArchiveLemmas.kindAt` (TreeLemmas; the right-hand side is its body) are one function -/
theorem kindAt_eq (t : Node) (cs : List Name) : kindAt t cs = (t.get cs).map Node.isDir := by
  unfold kindAt; rcases t.get cs with _ | _ | _ <;> rfl

/-- `hop`: `removedir` also asks whether there are entries -/
theorem adm1_of_kinds {t t' : Node} {cs cs' : List Name} (hk : kindAt t cs = kindAt t' cs')
    (hkp : kindAt t (parentOf cs) = kindAt t' (parentOf cs'))
    (hb : blockedByFile t [] cs = blockedByFile t' [] cs') (hr : cs = [] ↔ cs' = []) (op : Op)
    (hop : ∀ p, op ≠ .removedir p) : adm1 t cs op = adm1 t' cs' op := by
  have hr : (cs = []) = (cs' = []) := propext hr
  cases op
  case removedir p => exact absurd rfl (hop p)
  all_goals simp only [adm1, admDirArg, admFileArg, admFileTarget, ne_eq, hk, hkp, hb, hr]

theorem adm1_of_alike {t t' : Node} {cs cs' : List Name} (h : Alike t cs t' cs') (op : Op) :
    adm1 t cs op = adm1 t' cs' op := by
  have hk : kindAt t cs = kindAt t' cs' := by rw [kindAt_eq, kindAt_eq, kind_of_see h.node]
  have hkp : kindAt t (parentOf cs) = kindAt t' (parentOf cs') := by rw [kindAt_eq, kindAt_eq]; exact h.parent
  by_cases hrd : ∃ p, op = .removedir p
  · obtain ⟨p, rfl⟩ := hrd
    simp only [adm1, admDirArg, hk, h.blocked, propext h.root]
    congr 1
    rcases see_eq_cases h.node with h | ⟨es, es', h1, h2, h3⟩
    · rw [h]
    · rw [h1, h2]
      cases es <;> cases es' <;> first | rfl | cases h3
  · exact adm1_of_kinds hk hkp h.blocked h.root op fun p hp => hrd ⟨p, hp⟩

/-- **locality, in general**: where an operation is shown the same it does the same act; what is left to
say is how that act on the one tree relates to it on the other -/
theorem step1_of_alike {s s' : State} {cs cs' : List Name} {op : Op} {R : State × Out → State × Out → Prop}
    (h : Alike s.root cs s'.root cs')
    (hact : ∀ a, a.sane s' cs' op → R (applyAct s cs a) (applyAct s' cs' a)) :
    R (step1 s cs op) (step1 s' cs' op) := by
  rw [step1_act, step1_act, act1_of_alike h]
  exact hact _ (act1_sane ..)

def Act.quiet : Act → Prop
  | .fail _ | .done _ => True
  | _ => False

theorem applyAct_quiet {a : Act} (h : a.quiet) (s s' : State) (cs cs' : List Name) :
    (applyAct s cs a).1 = s ∧ (applyAct s cs a).2 = (applyAct s' cs' a).2 := by
  cases a <;> first | exact ⟨rfl, rfl⟩ | cases h

/-- a directory inside a directory is treated like a root directory (nothing is done to either), except by
`getinfo` (name), `removedir`, `removetree` -/
theorem act1_root_dir {P : List Name} (hP : P ≠ []) (es : Ents) (op : Op) (hop : WrapLemmas.rootSpecial op = false) :
    act1 P (some (.dir es)) (some true) false op = act1 [] (some (.dir es)) (some true) false op ∧
    (act1 [] (some (.dir es)) (some true) false op).quiet := by
  obtain ⟨a, as, rfl⟩ := List.exists_cons_of_ne_nil hP
  cases op <;> first | exact ⟨rfl, trivial⟩ | skip
  case getinfo | removedir | removetree => cases hop
  case makedir p r | makedirs p r | create p r => cases r <;> exact ⟨rfl, trivial⟩
  case openbin p m => simp only [act1]; cases parseBinMode m <;> exact ⟨rfl, trivial⟩

end Fs.MultiFsLemmas
