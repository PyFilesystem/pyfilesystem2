/-
  The front of a call: what turns it away before the tree is looked at.  `refusal vp op` is that error for a
  validation function `vp` (`Ref.validate` for the reference on an open filesystem; `Mem.vpath s`, which also
  holds `check()`, for MemoryFS and OSFS, open or closed): the mode of `openbin` is read before its path, then
  the paths in order.  `front` splits the reference's step accordingly.  A wrapper delegates the paths before
  anything reads a mode: its front is `firstErr` alone.
  Namespace `Fs.QueryLemmas`, that of StepLemmas, from whose equations `front` is put together.
-/
import FsProofs.Lemmas.StepLemmas

namespace Fs.QueryLemmas
open Fs Fs.Ref Fs.Path

def firstErr (vp : Str → Res (List Name)) : List Str → Option Err
  | [] => none
  | p :: ps => match vp p with
    | .err e => some e
    | .ok _ => firstErr vp ps

def refusal (vp : Str → Res (List Name)) : Op → Option Err
  | .openbin p m => if (parseBinMode m).isNone then some .ValueError else firstErr vp [p]
  | op => firstErr vp op.paths

variable {vp : Str → Res (List Name)}

theorem firstErr_cases (vp : Str → Res (List Name)) :
    ∀ ps, (∀ p ∈ ps, ∃ cs, vp p = .ok cs) ∨ ∃ e, firstErr vp ps = some e
  | [] => .inl nofun
  | p :: ps => by
    rw [firstErr]
    cases hv : vp p with
    | err e => exact .inr ⟨e, rfl⟩
    | ok cs =>
      refine (firstErr_cases vp ps).imp_left fun h q hq => ?_
      rcases List.mem_cons.1 hq with rfl | hq
      · exact ⟨cs, hv⟩
      · exact h q hq

theorem firstErr_mem {e : Err} : ∀ {ps}, firstErr vp ps = some e → ∃ p ∈ ps, vp p = .err e
  | [], h => nomatch h
  | p :: ps, h => by
    rw [firstErr] at h
    cases hv : vp p with
    | err e' => rw [hv] at h; cases h; exact ⟨p, List.mem_cons_self, hv⟩
    | ok cs =>
      rw [hv] at h
      obtain ⟨q, hq, he⟩ := firstErr_mem h
      exact ⟨q, List.mem_cons_of_mem _ hq, he⟩

theorem refusal_of_paths {op : Op} (hno : ∀ q m, op ≠ .openbin q m) : refusal vp op = firstErr vp op.paths := by
  unfold refusal
  split
  · exact absurd rfl (hno _ _)
  · rfl

theorem refusal_openbin (p m : Str) :
    refusal vp (.openbin p m) = match parseBinMode m with
      | none => some .ValueError
      | some _ => match vp p with | .err e => some e | .ok _ => none := by
  show (if (parseBinMode m).isNone then some .ValueError else firstErr vp [p]) = _
  cases parseBinMode m
  · rfl
  · simp only [firstErr]
    cases vp p <;> rfl

theorem refusal_one {op : Op} {p : Str} (hp : op.paths = [p]) (hno : ∀ q m, op ≠ .openbin q m) :
    refusal vp op = match vp p with | .err e => some e | .ok _ => none := by
  rw [refusal_of_paths hno, hp]
  simp only [firstErr]

theorem refusal_two {op : Op} {p q : Str} (hp : op.paths = [p, q]) :
    refusal vp op = match vp p with
      | .err e => some e
      | .ok _ => match vp q with | .err e => some e | .ok _ => none := by
  rw [refusal_of_paths (by rintro x m rfl; cases hp), hp]
  simp only [firstErr]

theorem parse_of_admitted {p m : Str} (h : refusal vp (.openbin p m) = none) : ∃ md, parseBinMode m = some md := by
  rw [refusal_openbin] at h
  cases hm : parseBinMode m with
  | none => rw [hm] at h; cases h
  | some md => exact ⟨md, rfl⟩

theorem refusal_some {op : Op} {e : Err} (h : refusal vp op = some e) :
    (∃ p m, op = .openbin p m ∧ parseBinMode m = none ∧ e = .ValueError) ∨
    (∃ p, op.paths = [p] ∧ vp p = .err e ∧ ∀ q m, op = .openbin q m → ∃ md, parseBinMode m = some md) ∨
    (∃ p q, op.paths = [p, q] ∧ (vp p = .err e ∨ ((∃ a, vp p = .ok a) ∧ vp q = .err e))) := by
  rcases op_cases op with rfl | ⟨p, m, rfl⟩ | ⟨p, hp, hno⟩ | ⟨p, q, hp⟩
  · cases h
  · rw [refusal_openbin] at h
    cases hm : parseBinMode m with
    | none => rw [hm] at h; cases h; exact .inl ⟨p, m, rfl, hm, rfl⟩
    | some md =>
      rw [hm] at h
      cases hv : vp p <;> rw [hv] at h <;> cases h
      exact .inr (.inl ⟨p, rfl, hv, fun _ _ e => by cases e; exact ⟨md, hm⟩⟩)
  · rw [refusal_one hp hno] at h
    cases hv : vp p <;> rw [hv] at h <;> cases h
    exact .inr (.inl ⟨p, hp, hv, fun q m e => absurd e (hno q m)⟩)
  · rw [refusal_two hp] at h
    refine .inr (.inr ⟨p, q, hp, ?_⟩)
    cases hva : vp p <;> rw [hva] at h
    · cases hvb : vp q <;> rw [hvb] at h <;> cases h
      exact .inr ⟨⟨_, rfl⟩, rfl⟩
    · cases h; exact .inl rfl

/-- the case of a closed filesystem, where every path is turned away -/
theorem refusal_of_all_err (he : ∀ p, ∃ e, vp p = .err e) {op : Op} (hop : op ≠ .close) :
    ∃ e, refusal vp op = some e := by
  rcases op_cases op with rfl | ⟨p, m, rfl⟩ | ⟨p, hp, hno⟩ | ⟨p, q, hp⟩
  · exact absurd rfl hop
  · obtain ⟨e, h⟩ := he p
    rw [refusal_openbin, h]
    cases parseBinMode m <;> exact ⟨_, rfl⟩
  · obtain ⟨e, h⟩ := he p
    exact ⟨e, by rw [refusal_one hp hno, h]⟩
  · obtain ⟨e, h⟩ := he p
    exact ⟨e, by rw [refusal_two hp, h]⟩

/-- the reference's step on an open filesystem, by what its front does with the call -/
inductive Front (s : State) (op : Op) : Prop
  | close : op = .close → Front s op
  | refused (e : Err) : refusal validate op = some e → step s op = fail s e → e ∈ adm s op → Front s op
  | one (p : Str) (cs : List Name) : op.paths = [p] → refusal validate op = none → validate p = .ok cs →
      step s op = step1 s cs op → adm s op = adm1 s.root cs op → Front s op
  | two (p q : Str) (a b : List Name) : op.paths = [p, q] → validate p = .ok a → validate q = .ok b →
      step s op = step2 s a b op → adm s op = adm2 s.root a b op → Front s op

theorem front (s : State) (op : Op) (hc : s.closed = false) : Front s op := by
  rcases op_cases op with rfl | ⟨p, m, rfl⟩ | ⟨p, hp, hno⟩ | ⟨p, q, hp⟩
  · exact .close rfl
  · have hr := refusal_openbin (vp := validate) p m
    have hs := step_openbin s p m hc
    have ha := adm_openbin s p m hc
    cases hm : parseBinMode m with
    | none =>
      rw [hm] at hr hs
      refine .refused _ hr hs ?_
      rw [ha]
      cases validate p
      · simp only [adm1, hm]; exact .head _
      · rw [hm]; exact .head _
    | some md =>
      rw [hm] at hr hs
      cases hv : validate p with
      | err e => rw [hv] at hr hs ha; exact .refused e hr hs (by rw [ha, hm]; exact .head _)
      | ok cs => rw [hv] at hr hs ha; exact .one p cs rfl hr hv hs ha
  · have hr := refusal_one (vp := validate) hp hno
    have hs := step_one s op p hc hp hno
    have ha := adm_one s op p hc hp hno
    cases hv : validate p with
    | err e => rw [hv] at hr hs ha; exact .refused e hr hs (by rw [ha]; exact .head _)
    | ok cs => rw [hv] at hr hs ha; exact .one p cs hp hr hv hs ha
  · have hr := refusal_two (vp := validate) hp
    have hs := step_two s op p q hc hp
    have ha := adm_two s op p q hc hp
    cases hva : validate p with
    | err e =>
      rw [hva] at hr hs ha
      exact .refused e hr hs (by rw [ha]; cases validate q <;> exact .head _)
    | ok a =>
      cases hvb : validate q with
      | err e => rw [hva, hvb] at hr hs ha; exact .refused e hr hs (by rw [ha]; exact .head _)
      | ok b => rw [hva, hvb] at hr hs ha; exact .two p q a b hp hva hvb hs ha

theorem refused {s : State} {op : Op} {e : Err} (hc : s.closed = false) (h : refusal validate op = some e) :
    step s op = fail s e ∧ e ∈ adm s op := by
  cases front s op hc with
  | close hop => subst hop; cases h
  | refused e' hr hs hm => cases hr.symm.trans h; exact ⟨hs, hm⟩
  | one p cs _ hr _ _ _ => cases hr.symm.trans h
  | two p q a b hp ha hb _ _ => rw [refusal_two hp, ha, hb] at h; cases h

end Fs.QueryLemmas
