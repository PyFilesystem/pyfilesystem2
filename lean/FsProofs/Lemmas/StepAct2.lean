/-
  What `step1` needs of the node at its path when it does not read entry names (`act1_shallow`: a file's bytes
  or "a directory"; that is all an overlay shows of a shadowed node), and `Ref.step2` of `move` / `copy` as data
  (`act2`, `step2_act`): the two nodes read shallowly, the type of the destination's parent, at most a file set at
  the destination and the source deleted.
  Namespace `Fs.MultiFsLemmas`, that of `act1` in StepAct, which this goes on from.
-/
import FsProofs.Lemmas.StepAct

namespace Fs.MultiFsLemmas
open Fs Fs.Ref

/-- what can be observed of a node without its entries: a file's bytes / "a directory" -/
def shallow : Node → Option Bytes
  | .file b => some b
  | .dir _ => none

theorem shallow_dir {n : Node} (h : n.isDir = true) : shallow n = none := by
  cases n with
  | file _ => cases h
  | dir _ => rfl

theorem kind_of_shallow {g g' : Option Node} (h : g.map shallow = g'.map shallow) :
    g.map Node.isDir = g'.map Node.isDir := by
  rcases g with _ | _ | _ <;> rcases g' with _ | _ | _ <;> first | rfl | cases h

/-- the operations that read the entry NAMES of the directory at their path -/
def readsNames : Op → Bool
  | .listdir _ | .isempty _ | .removedir _ => true
  | _ => false

theorem act1_shallow {g g' : Option Node} (h : g.map shallow = g'.map shallow) (cs : List Name) (pk : Option Bool)
    (bl : Bool) (op : Op) (hop : readsNames op = false) : act1 cs g pk bl op = act1 cs g' pk bl op := by
  rcases g with _ | ⟨b | es⟩ <;> rcases g' with _ | ⟨b' | es'⟩ <;> try cases h
  · rfl
  · rfl
  · cases op <;> first | rfl | cases hop

/-- the operations whose reference outcome can be the loose mid-way failure / the known deviation -/
def bulk : Op → Bool
  | .movedir _ _ _ | .copydir _ _ _ => true
  | _ => false

inductive Act2 where
  | fail (e : Err)
  | done (v : Val)
  | copy (b : Bytes)
  | move (b : Bytes)

def applyAct2 (st : State) (s d : List Name) : Act2 → State × Out
  | .fail e => fail st e
  | .done v => done st v
  | .copy b => upd st (st.root.set d (.file b))
  | .move b => upd st ((st.root.set d (.file b)).del s)

/-- the destination tests `move` and `copy` share -/
def dstAct (d : List Name) (gd : Option (Option Bytes)) (pkd : Option Bool) (a : Act2) : Act2 :=
  if d = [] then .fail .FileExpected
  else match pkd with
    | none => .fail .ResourceNotFound
    | some false => .fail .ResourceNotFound
    | some true => if gd = some none then .fail .FileExpected else a

/-- `step2` of `move` / `copy` as data: `gs`, `gd` the two nodes, shallowly; `pkd` the type of the destination's
parent -/
def act2 (s d : List Name) (gs gd : Option (Option Bytes)) (pkd : Option Bool) : Op → Act2
  | .move _ _ ow =>
    match gs with
    | none => .fail .ResourceNotFound
    | some none => .fail .FileExpected
    | some (some b) =>
      if !ow && gd.isSome then .fail .DestinationExists
      else if s = d then .done .unit
      else dstAct d gd pkd (.move b)
  | .copy _ _ ow =>
    if !ow && gd.isSome then .fail .DestinationExists
    else if s = d then .fail .IllegalDestination
    else match gs with
    | none => .fail .ResourceNotFound
    | some none => .fail .FileExpected
    | some (some b) => dstAct d gd pkd (.copy b)
  | _ => .done .unit

theorem step2_act (st : State) (s d : List Name) (op : Op) (hb : bulk op = false) :
    step2 st s d op =
      applyAct2 st s d (act2 s d ((st.root.get s).map shallow) ((st.root.get d).map shallow) (parentKind st.root d) op) := by
  cases op <;> simp only [bulk, Bool.true_eq_false] at hb <;> try rfl
  case move p q ow =>
    simp only [step2, act2, dstAct, parentKind]
    rcases st.root.get s with _ | _ | _ <;> try rfl
    simp only [Option.map_some, shallow, Option.isSome_map]
    split
    · rfl
    · split
      · rfl
      · split
        · rfl
        · rcases st.root.get (parentOf d) with _ | _ | _ <;> try rfl
          rcases st.root.get d with _ | _ | _ <;> rfl
  case copy p q ow =>
    simp only [step2, act2, dstAct, parentKind, Option.isSome_map]
    split
    · rfl
    · split
      · rfl
      · rcases st.root.get s with _ | _ | _ <;> try rfl
        simp only [Option.map_some, shallow]
        split
        · rfl
        · rcases st.root.get (parentOf d) with _ | _ | _ <;> try rfl
          rcases st.root.get d with _ | _ | _ <;> rfl

end Fs.MultiFsLemmas
