/-
  Trees: entry lists (`Ents.lookup/put/erase`), `Node.get/set/del` (the last two through the recursion they share,
  `alterAt`), well-formedness, `mkdirs`, `blockedByFile`, `mergeEnts`, `setAt`.  Nothing here speaks of a step or of a
  path string.  Two parts near the end are facts about trees alone that declare into the namespace of the module
  that goes on from them: `Fs.MountTree` (`Diverge`; writing at one path commutes with altering at a divergent one)
  and `Fs.ArchiveLemmas` (`kindAt`, the type of what is at a path, under `set` of a leaf and under `mkdirs`).  The last
  part is `Fs.TreeLemmas` again and comes after them because it uses the `kindAt` facts; the mutual induction under
  `mergeEnts_nil` declares into `Fs.MemLemmas`, where `mergeNode_none` is a stated result.
-/
import FsModel.Tree
import FsModel.Ref

namespace Fs.TreeLemmas
open Fs Fs.Ref

/-! ### entry lists -/

theorem lookup_put_same (c : Name) (n : Node) (es : Ents) :
    Ents.lookup c (Ents.put c n es) = some n := by
  induction es with
  | nil => simp [Ents.put, Ents.lookup]
  | cons e es ih =>
    obtain ⟨k, v⟩ := e
    by_cases h : k = c <;> simp [Ents.put, Ents.lookup, h, ih]

theorem lookup_put_other (c k : Name) (n : Node) (es : Ents) (h : k ≠ c) :
    Ents.lookup k (Ents.put c n es) = Ents.lookup k es := by
  induction es with
  | nil => simp [Ents.put, Ents.lookup, Ne.symm h]
  | cons e es ih =>
    obtain ⟨k', v⟩ := e
    by_cases h' : k' = c
    · subst h'
      simp [Ents.put, Ents.lookup, Ne.symm h]
    · by_cases h'' : k' = k
      · subst h''
        simp [Ents.put, Ents.lookup, h']
      · simp [Ents.put, Ents.lookup, h', h'', ih]

theorem lookup_erase_other (c k : Name) (es : Ents) (h : k ≠ c) :
    Ents.lookup k (Ents.erase c es) = Ents.lookup k es := by
  induction es with
  | nil => simp [Ents.erase]
  | cons e es ih =>
    obtain ⟨k', v⟩ := e
    by_cases h' : k' = c
    · subst h'
      simp [Ents.erase, Ents.lookup, Ne.symm h]
    · by_cases h'' : k' = k
      · subst h''
        simp [Ents.erase, Ents.lookup, h']
      · simp [Ents.erase, Ents.lookup, h', h'', ih]

theorem put_lookup_self (c : Name) (n : Node) (es : Ents) (h : Ents.lookup c es = some n) :
    Ents.put c n es = es := by
  induction es with
  | nil => simp [Ents.lookup] at h
  | cons e es ih =>
    obtain ⟨k, v⟩ := e
    by_cases h' : k = c
    · simp [Ents.lookup, h'] at h
      simp [Ents.put, h', h]
    · simp [Ents.lookup, h'] at h
      simp [Ents.put, h', ih h]

theorem lookup_erase_same (c : Name) (es : Ents) (h : entsWf es = true) :
    Ents.lookup c (Ents.erase c es) = none := by
  induction es with
  | nil => simp [Ents.erase, Ents.lookup]
  | cons e es ih =>
    obtain ⟨k, v⟩ := e
    simp only [entsWf, Bool.and_eq_true] at h
    by_cases h' : k = c
    · subst h'
      simpa [Ents.erase] using h.1.1.2
    · simp [Ents.erase, Ents.lookup, h', ih h.2]

theorem lookup_wf (c : Name) (n : Node) (es : Ents) (h : entsWf es = true)
    (hl : Ents.lookup c es = some n) : n.wf = true := by
  induction es with
  | nil => simp [Ents.lookup] at hl
  | cons e es ih =>
    obtain ⟨k, v⟩ := e
    simp only [entsWf, Bool.and_eq_true] at h
    by_cases h' : k = c
    · simp [Ents.lookup, h'] at hl
      subst hl
      exact h.1.2
    · simp [Ents.lookup, h'] at hl
      exact ih h.2 hl

theorem entsWf_put (c : Name) (n : Node) (es : Ents) (hc : cleanName c = true) (hn : n.wf = true)
    (h : entsWf es = true) : entsWf (Ents.put c n es) = true := by
  induction es with
  | nil => simp [Ents.put, entsWf, hc, hn, Ents.lookup]
  | cons e es ih =>
    obtain ⟨k, v⟩ := e
    simp only [entsWf, Bool.and_eq_true] at h
    by_cases h' : k = c
    · simp [Ents.put, h', entsWf, hn, h.2]
      subst h'
      exact ⟨h.1.1.1, by simpa using h.1.1.2⟩
    · simp only [Ents.put, h', if_false, entsWf, Bool.and_eq_true]
      rw [lookup_put_other _ _ _ _ h']
      exact ⟨⟨h.1.1, h.1.2⟩, ih h.2⟩

theorem entsWf_erase (c : Name) (es : Ents) (h : entsWf es = true) :
    entsWf (Ents.erase c es) = true := by
  induction es with
  | nil => simp [Ents.erase, entsWf]
  | cons e es ih =>
    obtain ⟨k, v⟩ := e
    simp only [entsWf, Bool.and_eq_true] at h
    by_cases h' : k = c
    · simp [Ents.erase, h', h.2]
    · simp only [Ents.erase, h', if_false, entsWf, Bool.and_eq_true]
      rw [lookup_erase_other _ _ _ h']
      exact ⟨⟨h.1.1, h.1.2⟩, ih h.2⟩

theorem lookup_cons (c k : Name) (v : Node) (es : Ents) :
    Ents.lookup c ((k, v) :: es) = if k = c then some v else Ents.lookup c es := rfl

theorem lookup_put (c k : Name) (n : Node) (es : Ents) :
    Ents.lookup k (Ents.put c n es) = if k = c then some n else Ents.lookup k es := by
  split
  · next h => rw [h, lookup_put_same]
  · next h => exact lookup_put_other c k n es h

theorem put_put_same (c : Name) (v w : Node) (es : Ents) :
    Ents.put c w (Ents.put c v es) = Ents.put c w es := by
  induction es with
  | nil => simp [Ents.put]
  | cons e es ih =>
    obtain ⟨k, x⟩ := e
    by_cases h : k = c <;> simp [Ents.put, h, ih]

theorem entsWf_cons {k : Name} {v : Node} {es : Ents} :
    entsWf ((k, v) :: es) = true ↔
      cleanName k = true ∧ Ents.lookup k es = none ∧ v.wf = true ∧ entsWf es = true := by
  simp [entsWf, and_assoc]

theorem wf_dir {es : Ents} : (Node.dir es).wf = true ↔ entsWf es = true := by
  rw [Node.wf]

theorem lookup_cleanName (c : Name) (n : Node) (es : Ents) (h : entsWf es = true)
    (hl : Ents.lookup c es = some n) : cleanName c = true := by
  induction es with
  | nil => cases hl
  | cons e es ih =>
    obtain ⟨k, v⟩ := e
    rw [entsWf_cons] at h
    rw [lookup_cons] at hl
    split at hl
    · next hk => exact hk ▸ h.1
    · exact ih h.2.2.2 hl

theorem entsWf_put_of_mem (c : Name) (n : Node) (es : Ents) (h : entsWf es = true) (hn : n.wf = true)
    (hs : (Ents.lookup c es).isSome = true) : entsWf (Ents.put c n es) = true := by
  obtain ⟨x, hx⟩ := Option.isSome_iff_exists.1 hs
  exact entsWf_put c n es (lookup_cleanName c x es h hx) hn h

/-! ### get / set / del -/

theorem get_append (p r : List Name) (t : Node) :
    t.get (p ++ r) = (t.get p).bind (Node.get r) := by
  induction p generalizing t with
  | nil => simp [Node.get]
  | cons c p ih =>
    cases t with
    | file b => simp [Node.get]
    | dir es =>
      simp only [List.cons_append, Node.get]
      cases Ents.lookup c es with
      | none => simp
      | some ch => simp [ih]

theorem get_cons_file (c : Name) (cs : List Name) (b : Bytes) : (Node.file b).get (c :: cs) = none := by
  simp [Node.get]

theorem get_nil (t : Node) : t.get [] = some t := by
  cases t <;> rfl

theorem get_cons_dir (c : Name) (cs : List Name) (es : Ents) :
    (Node.dir es).get (c :: cs) = (Ents.lookup c es).bind (Node.get cs) := by
  rw [Node.get]
  cases Ents.lookup c es <;> rfl

theorem get_snoc_dir {t : Node} {cs : List Name} {es : Ents} (h : t.get cs = some (.dir es))
    (c : Name) : t.get (cs ++ [c]) = Ents.lookup c es := by
  rw [get_append, h, Option.bind_some, get_cons_dir]
  cases Ents.lookup c es with
  | none => rfl
  | some ch => exact get_nil ch

theorem get_wf (p : List Name) (t n : Node) (h : t.wf = true) (hg : t.get p = some n) :
    n.wf = true := by
  induction p generalizing t with
  | nil => simp [Node.get] at hg; subst hg; exact h
  | cons c p ih =>
    cases t with
    | file b => simp [Node.get] at hg
    | dir es =>
      simp only [Node.get] at hg
      cases hl : Ents.lookup c es with
      | none => simp [hl] at hg
      | some ch =>
        rw [hl] at hg
        exact ih ch (lookup_wf _ _ _ (by simpa [Node.wf] using h) hl) hg

/-- a proper prefix of an existing path is a directory -/
theorem get_prefix_dir (p : List Name) (c : Name) (r : List Name) (t n : Node)
    (h : t.get (p ++ c :: r) = some n) : ∃ es, t.get p = some (.dir es) := by
  rw [get_append] at h
  cases hp : t.get p with
  | none => simp [hp] at h
  | some x =>
    cases x with
    | file b => simp [hp, Node.get] at h
    | dir es => exact ⟨es, rfl⟩

theorem get_prefix_some (p r : List Name) (t n : Node)
    (h : t.get (p ++ r) = some n) : ∃ x, t.get p = some x := by
  rw [get_append] at h
  cases hp : t.get p with
  | none => simp [hp] at h
  | some x => exact ⟨x, rfl⟩

theorem prefix_ne_split {a q : List Name} (h : a <+: q) (hne : a ≠ q) :
    ∃ c r, q = a ++ c :: r := by
  obtain ⟨r, rfl⟩ := h
  cases r with
  | nil => simp at hne
  | cons c r => exact ⟨c, r, rfl⟩

theorem get_proper_prefix_dir {a q : List Name} {t n : Node} (h : a <+: q) (hne : a ≠ q)
    (hq : t.get q = some n) : ∃ es, t.get a = some (.dir es) := by
  obtain ⟨c, r, rfl⟩ := prefix_ne_split h hne
  exact get_prefix_dir _ _ _ _ _ hq

theorem get_parent_dir {cs : List Name} {t n : Node} (hne : cs ≠ []) (h : t.get cs = some n) :
    ∃ es, t.get cs.dropLast = some (.dir es) := by
  have : cs = cs.dropLast ++ [cs.getLast hne] := (List.dropLast_concat_getLast hne).symm
  rw [this] at h
  exact get_prefix_dir _ _ _ _ _ h

theorem ne_nil_of_file {t : Node} {q : List Name} {b : Bytes} (hd : t.isDir = true)
    (h : t.get q = some (.file b)) : q ≠ [] := by
  rintro rfl
  cases h
  cases hd

theorem lookup_mem {c : Name} {es : Ents} {n : Node} (h : Ents.lookup c es = some n) : (c, n) ∈ es := by
  induction es with
  | nil => cases h
  | cons e es ih =>
    obtain ⟨k, v⟩ := e
    rw [lookup_cons] at h
    split at h
    · next hk => cases h; subst hk; exact List.mem_cons_self
    · exact List.mem_cons_of_mem _ (ih h)

theorem lookup_of_mem {k : Name} {v : Node} {es : Ents} (hwf : entsWf es = true) (h : (k, v) ∈ es) :
    Ents.lookup k es = some v := by
  induction es with
  | nil => cases h
  | cons e es ih =>
    obtain ⟨k', v'⟩ := e
    obtain ⟨_, hk', _, hes⟩ := entsWf_cons.1 hwf
    rw [lookup_cons]
    rcases List.mem_cons.1 h with heq | h
    · cases heq; exact if_pos rfl
    · have hl := ih hes h
      rw [if_neg (by intro e; subst e; rw [hk'] at hl; cases hl), hl]

theorem entsWf_mem {es : Ents} (h : entsWf es = true) {k : Name} {v : Node} (hm : (k, v) ∈ es) :
    cleanName k = true ∧ v.wf = true :=
  ⟨lookup_cleanName k v es h (lookup_of_mem h hm), lookup_wf k v es h (lookup_of_mem h hm)⟩

theorem get_cons_self (k : Name) (v : Node) (es : Ents) (cs : List Name) :
    (Node.dir ((k, v) :: es)).get (k :: cs) = v.get cs := by
  rw [get_cons_dir, lookup_cons, if_pos rfl]; rfl

theorem get_cons_skip {k : Name} {es : Ents} (hk : Ents.lookup k es = none) (v : Node) {r : List Name}
    {n : Node} (hr : r ≠ []) (hg : (Node.dir es).get r = some n) :
    (Node.dir ((k, v) :: es)).get r = some n := by
  cases r with
  | nil => exact absurd rfl hr
  | cons c cs =>
    rw [get_cons_dir] at hg ⊢
    rw [lookup_cons, if_neg]
    · exact hg
    · intro e; subst e; rw [hk] at hg; cases hg

theorem cleanName_of_get {t : Node} (h : t.wf = true) {cs : List Name} {n : Node} (hg : t.get cs = some n) :
    ∀ c ∈ cs, cleanName c = true := by
  induction cs generalizing t with
  | nil => exact fun _ hc => nomatch hc
  | cons c cs ih =>
    cases t with
    | file d => cases hg
    | dir es =>
      rw [get_cons_dir] at hg
      cases hl : Ents.lookup c es with
      | none => rw [hl] at hg; cases hg
      | some ch =>
        rw [hl] at hg
        exact List.forall_mem_cons.2 ⟨lookup_cleanName c ch es (wf_dir.1 h) hl,
          ih (lookup_wf c ch es (wf_dir.1 h) hl) hg⟩

theorem entsWf_of_get {t : Node} (h : t.wf = true) {cs : List Name} {es : Ents}
    (hg : t.get cs = some (.dir es)) : entsWf es = true :=
  wf_dir.1 (get_wf cs t _ h hg)

theorem lookup_count {c : Name} {es : Ents} {ch : Node} (h : Ents.lookup c es = some ch) :
    ch.count ≤ entsCount es := by
  induction es with
  | nil => cases h
  | cons e es ih =>
    obtain ⟨k, v⟩ := e
    rw [lookup_cons] at h
    rw [entsCount]
    split at h
    · cases h; exact Nat.le_add_right _ _
    · exact Nat.le_trans (ih h) (Nat.le_add_left _ _)

theorem get_count {t : Node} {p : List Name} {n : Node} (h : t.get p = some n) : n.count ≤ t.count := by
  induction p generalizing t with
  | nil => rw [get_nil] at h; cases h; exact Nat.le_refl _
  | cons c cs ih =>
    cases t with
    | file b => cases h
    | dir es =>
      rw [get_cons_dir] at h
      cases hl : Ents.lookup c es with
      | none => rw [hl] at h; cases h
      | some ch =>
        rw [hl] at h
        rw [Node.count]
        exact Nat.le_trans (ih h) (Nat.le_trans (lookup_count hl) (Nat.le_add_left _ _))

theorem mem_names_iff (c : Name) (es : Ents) : c ∈ Ents.names es ↔ Ents.lookup c es ≠ none := by
  induction es with
  | nil => exact ⟨fun h => (nomatch h), fun h => absurd rfl h⟩
  | cons e es ih =>
    obtain ⟨k, v⟩ := e
    rw [lookup_cons, Ents.names, List.map_cons, List.mem_cons]
    split
    · next hk => exact ⟨fun _ => Option.some_ne_none v, fun _ => Or.inl hk.symm⟩
    · next hk => exact ⟨fun h => ih.1 (h.resolve_left fun e => hk e.symm), fun h => Or.inr (ih.2 h)⟩

theorem names_nodup {es : Ents} (h : entsWf es = true) : (Ents.names es).Nodup := by
  induction es with
  | nil => exact List.nodup_nil
  | cons e es ih =>
    obtain ⟨k, v⟩ := e
    obtain ⟨_, h2, _, h4⟩ := entsWf_cons.1 h
    exact List.nodup_cons.2 ⟨fun hm => (mem_names_iff k es).1 hm h2, ih h4⟩

/-- the recursion `Node.set` and `Node.del` share: `f` rewrites the entry list of the parent of `cs` -/
def alterAt (f : Name → Ents → Ents) : List Name → Node → Node
  | [], n => n
  | [c], .dir es => .dir (f c es)
  | c :: d :: cs, .dir es => match Ents.lookup c es with
    | some ch => .dir (Ents.put c (alterAt f (d :: cs) ch) es)
    | none => .dir es
  | _ :: _, .file b => .file b

theorem set_eq_alterAt (cs : List Name) (t v : Node) :
    t.set cs v = alterAt (fun c => Ents.put c v) cs t := by
  fun_induction Node.set cs t v <;> simp [alterAt, *]

theorem del_eq_alterAt (cs : List Name) (t : Node) : t.del cs = alterAt Ents.erase cs t := by
  fun_induction Node.del cs t <;> simp [alterAt, *]

theorem isDir_alterAt (f : Name → Ents → Ents) (cs : List Name) (t : Node) :
    (alterAt f cs t).isDir = t.isDir := by
  fun_induction alterAt f cs t <;> rfl

/-- `h`: on the way to `cs` only directories change -/
theorem get_alterAt {f : Name → Ents → Ents}
    (hf : ∀ c k es, k ≠ c → Ents.lookup k (f c es) = Ents.lookup k es) (cs q : List Name) (t : Node)
    (hn : ¬ cs <+: q) (h : q <+: cs → ∀ es, t.get q ≠ some (.dir es)) :
    (alterAt f cs t).get q = t.get q := by
  fun_induction alterAt f cs t generalizing q with
  | case1 n => exact absurd List.nil_prefix hn
  | case2 c es =>
    cases q with
    | nil => exact absurd rfl (h List.nil_prefix es)
    | cons c' qs =>
      have hne : c' ≠ c := fun e => hn (e ▸ List.cons_prefix_cons.2 ⟨rfl, List.nil_prefix⟩)
      simp only [Node.get, hf _ _ _ hne]
  | case3 c d cs es ch hl ih =>
    cases q with
    | nil => exact absurd rfl (h List.nil_prefix es)
    | cons c' qs =>
      by_cases hne : c' = c
      · subst hne
        simp only [Node.get, lookup_put_same, hl]
        refine ih qs (fun hp => hn (List.cons_prefix_cons.2 ⟨rfl, hp⟩)) (fun hp ds => ?_)
        have := h (List.cons_prefix_cons.2 ⟨rfl, hp⟩) ds
        simpa only [Node.get, hl] using this
      · simp only [Node.get, lookup_put_other _ _ _ _ hne]
  | case4 c d cs es hl => rfl
  | case5 c cs b => rfl

theorem alterAt_wf {f : Name → Ents → Ents} (cs : List Name) (t : Node)
    (hw : ∀ c ∈ cs, ∀ es, entsWf es = true → entsWf (f c es) = true) (ht : t.wf = true) :
    (alterAt f cs t).wf = true := by
  fun_induction alterAt f cs t with
  | case1 n => exact ht
  | case2 c es => exact hw c (by simp) es ht
  | case3 c d cs es ch hl ih =>
    exact entsWf_put_of_mem c _ es ht
      (ih (fun x hx => hw x (List.mem_cons_of_mem _ hx)) (lookup_wf _ _ _ ht hl)) (by simp [hl])
  | case4 c d cs es hl => exact ht
  | case5 c cs b => exact ht

theorem isDir_set (cs : List Name) (t v : Node) : (t.set cs v).isDir = t.isDir := by
  rw [set_eq_alterAt, isDir_alterAt]

theorem isDir_del (cs : List Name) (t : Node) : (t.del cs).isDir = t.isDir := by
  rw [del_eq_alterAt, isDir_alterAt]

theorem set_wf (cs : List Name) (t v : Node) (hc : ∀ c ∈ cs, cleanName c = true)
    (hv : v.wf = true) (ht : t.wf = true) : (t.set cs v).wf = true := by
  rw [set_eq_alterAt]
  exact alterAt_wf cs t (fun c hm es h => entsWf_put c v es (hc c hm) hv h) ht

theorem del_wf (cs : List Name) (t : Node) (ht : t.wf = true) : (t.del cs).wf = true := by
  rw [del_eq_alterAt]
  exact alterAt_wf cs t (fun c _ es h => entsWf_erase c es h) ht

theorem get_set_disjoint (cs q : List Name) (t v : Node) (h1 : ¬ cs <+: q) (h2 : ¬ q <+: cs) :
    (t.set cs v).get q = t.get q := by
  rw [set_eq_alterAt]
  exact get_alterAt (fun c k es h => lookup_put_other c k v es h) cs q t h1 (fun h => absurd h h2)

theorem get_del_disjoint (cs q : List Name) (t : Node) (h1 : ¬ cs <+: q) (h2 : ¬ q <+: cs) :
    (t.del cs).get q = t.get q := by
  rw [del_eq_alterAt]
  exact get_alterAt lookup_erase_other cs q t h1 (fun h => absurd h h2)

theorem get_set_file (cs q : List Name) (t v : Node) (b : Bytes)
    (hq : t.get q = some (.file b)) (hn : ¬ cs <+: q) :
    (t.set cs v).get q = some (.file b) := by
  rw [set_eq_alterAt, ← hq]
  exact get_alterAt (fun c k es h => lookup_put_other c k v es h) cs q t hn (fun _ es => by simp [hq])

theorem get_del_file (cs q : List Name) (t : Node) (b : Bytes)
    (hq : t.get q = some (.file b)) (hn : ¬ cs <+: q) :
    (t.del cs).get q = some (.file b) := by
  rw [del_eq_alterAt, ← hq]
  exact get_alterAt lookup_erase_other cs q t hn (fun _ es => by simp [hq])

/-- what was written is what is read back (when the parent directory exists) -/
theorem get_set_append (cs r : List Name) (t v : Node) (es : Ents) (hne : cs ≠ [])
    (hp : t.get cs.dropLast = some (.dir es)) :
    (t.set cs v).get (cs ++ r) = v.get r := by
  fun_induction Node.set cs t v generalizing es with
  | case1 n v => exact absurd rfl hne
  | case2 c es' v => simp [Node.get, lookup_put_same]
  | case3 c d cs es' v ch hl ih =>
    rw [List.dropLast_cons_cons] at hp
    simp only [Node.get, hl] at hp
    simp only [List.cons_append, Node.get, lookup_put_same]
    exact ih es (by simp) hp
  | case4 c d cs es' v hl =>
    rw [List.dropLast_cons_cons] at hp
    simp [Node.get, hl] at hp
  | case5 c cs b v =>
    cases cs with
    | nil => simp [Node.get] at hp
    | cons d cs => rw [List.dropLast_cons_cons] at hp; simp [Node.get] at hp

theorem get_set_same (cs : List Name) (t v : Node) (es : Ents) (hne : cs ≠ [])
    (hp : t.get cs.dropLast = some (.dir es)) : (t.set cs v).get cs = some v := by
  have := get_set_append cs [] t v es hne hp
  simpa [Node.get] using this

theorem set_set_same (cs : List Name) (t v w : Node) : (t.set cs v).set cs w = t.set cs w := by
  fun_induction Node.set cs t v with
  | case2 c es v => simp only [Node.set, put_put_same]
  | case3 c d cs es v ch hl ih => simp only [Node.set, lookup_put_same, hl, ih, put_put_same]
  | case4 c d cs es v hl => simp only [Node.set, hl]
  | _ => rfl

theorem erase_put (c : Name) (v : Node) (es : Ents) : Ents.erase c (Ents.put c v es) = Ents.erase c es := by
  induction es with
  | nil => simp [Ents.put, Ents.erase]
  | cons e es ih =>
    obtain ⟨k, w⟩ := e
    by_cases h : k = c <;> simp [Ents.put, Ents.erase, h, ih]

theorem del_set (cs : List Name) (t v : Node) : (t.set cs v).del cs = t.del cs := by
  fun_induction Node.set cs t v with
  | case1 n v => rfl
  | case2 c es v => simp [Node.del, erase_put]
  | case3 c d cs es v ch hl ih => simp only [Node.del, lookup_put_same, hl, ih, put_put_same]
  | case4 c d cs es v hl => rfl
  | case5 c cs b v => rfl

theorem set_self (cs : List Name) (t n : Node) (h : t.get cs = some n) : t.set cs n = t := by
  fun_induction Node.set cs t n with
  | case2 c es v =>
    rw [get_cons_dir] at h
    cases hl : Ents.lookup c es with
    | none => rw [hl] at h; cases h
    | some ch =>
      rw [hl, Option.bind_some, get_nil] at h
      rw [put_lookup_self c v es (hl.trans h)]
  | case3 c d cs es v ch hl ih =>
    rw [get_cons_dir, hl] at h
    rw [ih h, put_lookup_self c ch es hl]
  | _ => rfl

/-- nothing is left at or below a deleted path (unique names needed) -/
theorem get_del_append (cs r : List Name) (t : Node) (hne : cs ≠ []) (hwf : t.wf = true) :
    (t.del cs).get (cs ++ r) = none := by
  fun_induction Node.del cs t with
  | case1 n => exact absurd rfl hne
  | case2 c es =>
    simp only [Node.wf] at hwf
    simp [Node.get, lookup_erase_same _ _ hwf]
  | case3 c d cs es ch hl ih =>
    simp only [Node.wf] at hwf
    simp only [List.cons_append, Node.get, lookup_put_same]
    exact ih (by simp) (lookup_wf _ _ _ hwf hl)
  | case4 c d cs es hl => simp [Node.get, hl]
  | case5 c cs b => simp [Node.get]

theorem isPrefix_iff (a b : List Name) : isPrefix a b = true ↔ a <+: b := by
  induction a generalizing b with
  | nil => simp [isPrefix]
  | cons x a ih =>
    cases b with
    | nil => simp [isPrefix]
    | cons y b => simp [isPrefix, List.cons_prefix_cons, ih]

theorem isPrefix_false_iff {a b : List Name} : isPrefix a b = false ↔ ¬ a <+: b := by
  rw [← isPrefix_iff]; simp

/-! ### mkdirs -/

/-- all `mkdirs` ever does: it sets an empty directory where nothing is, at `pre` extended by a prefix of its path -/
theorem mkdirs_induct {P : Node → Prop} : ∀ (cs pre : List Name) (t : Node),
    (∀ (u : Node) (q : List Name), q <+: cs → q ≠ [] → u.get (pre ++ q) = none → P u →
      P (u.set (pre ++ q) (.dir []))) →
    P t → P (mkdirs pre cs t)
  | [], _, _, _, h => h
  | c :: cs, pre, t, hset, h => by
    have hc : ∀ q, q <+: cs → c :: q <+: c :: cs := fun q => (List.prefix_cons_inj c).2
    rw [mkdirs]
    refine mkdirs_induct cs (pre ++ [c]) _ (fun u q hq _ => ?_) ?_
    · rw [List.append_assoc]; exact hset u (c :: q) (hc q hq) (List.cons_ne_nil _ _)
    · split
      · next hnone => exact hset t [c] (hc [] List.nil_prefix) (List.cons_ne_nil _ _) hnone h
      · exact h

theorem isDir_mkdirs (pre cs : List Name) (t : Node) : (mkdirs pre cs t).isDir = t.isDir :=
  mkdirs_induct (P := fun u => u.isDir = t.isDir) cs pre t (fun u q _ _ _ h => (isDir_set _ u _).trans h) rfl

theorem mkdirs_wf (pre cs : List Name) (t : Node) (hc : ∀ c ∈ pre ++ cs, cleanName c = true)
    (ht : t.wf = true) : (mkdirs pre cs t).wf = true :=
  mkdirs_induct cs pre t (fun u q hq _ _ h =>
    set_wf _ u _ (fun c hm => hc c (((List.prefix_append_right_inj pre).2 hq).subset hm)) rfl h) ht

theorem not_prefix_of_none {t n : Node} {p q : List Name} (hq : t.get q = some n) (hp : t.get p = none) :
    ¬ p <+: q := by
  rintro ⟨r, rfl⟩
  rw [get_append, hp] at hq
  cases hq

/-- walking through directories that exist creates nothing -/
theorem mkdirs_skip (pre sub cs : List Name) (t x : Node) (h : t.get (pre ++ sub) = some x) :
    mkdirs pre (sub ++ cs) t = mkdirs (pre ++ sub) cs t := by
  induction sub generalizing pre with
  | nil => simp
  | cons c sub ih =>
    have h' : t.get ((pre ++ [c]) ++ sub) = some x := by simpa using h
    obtain ⟨y, hy⟩ := get_prefix_some (pre ++ [c]) sub t x h'
    simp only [List.cons_append, mkdirs, hy]
    rw [ih (pre ++ [c]) h']
    simp

/-- `mkdirs` never disturbs a file -/
theorem mkdirs_file (pre cs q : List Name) (t : Node) (b : Bytes)
    (hq : t.get q = some (.file b)) : (mkdirs pre cs t).get q = some (.file b) :=
  mkdirs_induct (P := fun u => u.get q = some (.file b)) cs pre t
    (fun u p _ _ hn h => get_set_file _ q u _ b h (not_prefix_of_none h hn)) hq

/-- `mkdirs` leaves alone whatever exists off the path it creates -/
theorem mkdirs_keep (cs pre q : List Name) (t n : Node) (hq : t.get q = some n) (hnp : ¬ q <+: pre ++ cs) :
    (mkdirs pre cs t).get q = some n :=
  mkdirs_induct (P := fun u => u.get q = some n) cs pre t
    (fun u p hp _ hn h => (get_set_disjoint _ q u _ (not_prefix_of_none h hn) fun hqp =>
      hnp (hqp.trans ((List.prefix_append_right_inj pre).2 hp))).trans h) hq

theorem blocked_of_none (t : Node) (p cs : List Name) (h : t.get p = none) :
    blockedByFile t p cs = false := by
  induction cs generalizing p with
  | nil => simp [blockedByFile]
  | cons c cs ih =>
    simp only [blockedByFile, h, Bool.false_or]
    split
    · rfl
    · apply ih; rw [get_append, h]; rfl

theorem blocked_of_empty_dir (t : Node) (p cs : List Name) (h : t.get p = some (.dir [])) :
    blockedByFile t p cs = false := by
  cases cs with
  | nil => simp [blockedByFile]
  | cons c cs =>
    simp only [blockedByFile, h, Bool.false_or]
    split
    · rfl
    · apply blocked_of_none; rw [get_append, h]; simp [Node.get, Ents.lookup]

def isFileAt (t : Node) (q : List Name) : Bool :=
  match t.get q with
  | some (.file _) => true
  | _ => false

def isDirAt (t : Node) (q : List Name) : Bool :=
  match t.get q with
  | some (.dir _) => true
  | _ => false

theorem isFileAt_false_of_none {t : Node} {q : List Name} (h : t.get q = none) : isFileAt t q = false := by
  simp [isFileAt, h]

theorem isFileAt_false_of_dir {t : Node} {q : List Name} {es : Ents} (h : t.get q = some (.dir es)) :
    isFileAt t q = false := by
  simp [isFileAt, h]

theorem isFileAt_of_file {t : Node} {q : List Name} {b : Bytes} (h : t.get q = some (.file b)) :
    isFileAt t q = true := by
  simp [isFileAt, h]

theorem blocked_append (t : Node) (pre a b : List Name) :
    blockedByFile t pre (a ++ b) = (blockedByFile t pre a || blockedByFile t (pre ++ a) b) := by
  induction a generalizing pre with
  | nil => simp [blockedByFile]
  | cons c a ih =>
    simp only [List.cons_append, blockedByFile]
    rw [ih (pre ++ [c]), show pre ++ c :: a = pre ++ [c] ++ a by simp]
    cases a with
    | nil => cases b <;> simp [blockedByFile]
    | cons d a => simp [Bool.or_assoc]

theorem blocked_snoc (t : Node) (pre cs : List Name) (c : Name) :
    blockedByFile t pre (cs ++ [c]) = (blockedByFile t pre cs || isFileAt t (pre ++ cs)) := by
  rw [blocked_append]
  simp only [blockedByFile, isFileAt, if_true, Bool.or_false]
  cases t.get (pre ++ cs) with
  | none => rfl
  | some n => cases n <;> rfl

theorem blocked_split (t : Node) (cs : List Name) (hne : cs ≠ []) :
    blockedByFile t [] cs = (blockedByFile t [] cs.dropLast || isFileAt t cs.dropLast) := by
  have := blocked_snoc t [] cs.dropLast (cs.getLast hne)
  rwa [List.dropLast_concat_getLast hne] at this

theorem not_blocked_of_get (t x : Node) (pre cs : List Name) (h : t.get (pre ++ cs) = some x) :
    blockedByFile t pre cs = false := by
  induction cs generalizing pre with
  | nil => simp [blockedByFile]
  | cons c cs ih =>
    obtain ⟨es, he⟩ := get_prefix_dir _ _ _ _ _ h
    have e : pre ++ c :: cs = pre ++ [c] ++ cs := by simp
    rw [e] at h
    simp [blockedByFile, he, ih _ h]

theorem blocked_parent_dir {t : Node} {cs : List Name} {es : Ents} (hne : cs ≠ [])
    (hp : t.get cs.dropLast = some (.dir es)) : blockedByFile t [] cs = false := by
  rw [blocked_split t cs hne, not_blocked_of_get t _ [] cs.dropLast hp, isFileAt_false_of_dir hp, Bool.or_false]

theorem blocked_parent_file {t : Node} {cs : List Name} {b : Bytes} (hne : cs ≠ [])
    (hp : t.get cs.dropLast = some (.file b)) : blockedByFile t [] cs = true := by
  rw [blocked_split t cs hne, isFileAt_of_file hp, Bool.or_true]

theorem blocked_parent_none {t : Node} {cs : List Name} (hne : cs ≠ [])
    (hp : t.get cs.dropLast = none) : blockedByFile t [] cs = blockedByFile t [] cs.dropLast := by
  rw [blocked_split t cs hne, isFileAt_false_of_none hp]
  simp

/-- after `mkdirs` the whole path is a directory, unless a file is in the way -/
theorem mkdirs_get (pre cs : List Name) (t : Node) (es : Ents)
    (h1 : t.get pre = some (.dir es)) (h2 : blockedByFile t pre cs = false)
    (h3 : ∀ b, t.get (pre ++ cs) ≠ some (.file b)) :
    ∃ es', (mkdirs pre cs t).get (pre ++ cs) = some (.dir es') := by
  induction cs generalizing pre t es with
  | nil => exact ⟨es, by simpa [mkdirs] using h1⟩
  | cons c cs ih =>
    simp only [mkdirs]
    have e : pre ++ c :: cs = (pre ++ [c]) ++ cs := by simp
    rw [e]
    cases hh : t.get (pre ++ [c]) with
    | none =>
      simp only
      have hd : (pre ++ [c]).dropLast = pre := by simp
      have hs : (t.set (pre ++ [c]) (.dir [])).get (pre ++ [c]) = some (.dir []) :=
        get_set_same _ _ _ es (by simp) (by rw [hd]; exact h1)
      refine ih (pre ++ [c]) _ [] hs (blocked_of_empty_dir _ _ _ hs) ?_
      intro b
      rw [get_append, hs]
      cases cs <;> simp [Node.get, Ents.lookup]
    | some x =>
      simp only
      have hx : ∃ es', x = .dir es' := by
        cases x with
        | dir es' => exact ⟨es', rfl⟩
        | file b =>
          exfalso
          cases cs with
          | nil => exact h3 b (by simpa using hh)
          | cons d cs =>
            simp [blockedByFile, hh] at h2
      obtain ⟨es', rfl⟩ := hx
      refine ih (pre ++ [c]) t es' hh ?_ ?_
      · cases cs with
        | nil => simp [blockedByFile]
        | cons d cs => simpa [blockedByFile, h1] using h2
      · intro b; rw [← e]; exact h3 b

/-! ### merge -/

theorem mergeNode_file {b : Bytes} {o : Option Node} {n : Node}
    (h : mergeNode (.file b) o = some n) : n = .file b := by
  rcases o with _ | _ | _ <;> simp [mergeNode] at h <;> exact h.symm

theorem mergeNode_dir {es : Ents} {o : Option Node} {n : Node} (h : mergeNode (.dir es) o = some n) :
    ∃ ds m, (o = none ∧ ds = [] ∨ o = some (.dir ds)) ∧ mergeEnts es ds = some m ∧ n = .dir m := by
  rcases o with _ | _ | ds <;> simp only [mergeNode, Option.map_eq_some_iff, reduceCtorEq] at h
  · obtain ⟨m, hm, rfl⟩ := h; exact ⟨[], m, .inl ⟨rfl, rfl⟩, hm, rfl⟩
  · obtain ⟨m, hm, rfl⟩ := h; exact ⟨ds, m, .inr rfl, hm, rfl⟩

mutual
theorem mergeNode_wf : ∀ (v : Node) (o : Option Node) (n : Node),
    v.wf = true → (∀ x, o = some x → x.wf = true) → mergeNode v o = some n → n.wf = true
  | .file b, o, n, _, _, hm => by
    rw [mergeNode_file hm]; rfl
  | .dir es, o, n, hw, ho, hm => by
    obtain ⟨ds, m, hds, hm', rfl⟩ := mergeNode_dir hm
    refine mergeEnts_wf es ds m hw ?_ hm'
    rcases hds with ⟨-, rfl⟩ | rfl
    · rfl
    · exact ho _ rfl
theorem mergeEnts_wf : ∀ (es ds m : Ents),
    entsWf es = true → entsWf ds = true → mergeEnts es ds = some m → entsWf m = true
  | [], ds, m, _, hd, hm => by
    simp [mergeEnts] at hm; subst hm; exact hd
  | (k, v) :: es, ds, m, hw, hd, hm => by
    simp only [entsWf, Bool.and_eq_true] at hw
    simp only [mergeEnts] at hm
    cases hn : mergeNode v (Ents.lookup k ds) with
    | none => simp [hn] at hm
    | some n =>
      simp only [hn] at hm
      have hnw := mergeNode_wf v _ n hw.1.2 (fun x hx => lookup_wf _ _ _ hd hx) hn
      exact mergeEnts_wf es _ m hw.2 (entsWf_put _ _ _ hw.1.1.1 hnw hd) hm
end

section
open Fs.PathSpec

theorem cleanName_iff {c : Name} : cleanName c = true ↔ CleanComp c ∧ '\x00' ∉ c := by
  simp only [cleanName, CleanComp, dot, dotdot, Bool.and_eq_true, bne_iff_ne, ne_eq, Bool.not_eq_true',
    List.contains_eq_mem, decide_eq_false_iff_not, and_assoc]

theorem clean_of_cleanName {cs : List Name} (h : ∀ c ∈ cs, cleanName c = true) : Clean cs :=
  fun c hc => (cleanName_iff.1 (h c hc)).1

end

theorem isDir_setAt (t : Node) (b : List Name) (m : Ents) : (setAt t b (.dir m)).isDir = t.isDir ∨
    (setAt t b (.dir m)).isDir = true := by
  unfold setAt; split
  · exact Or.inr rfl
  · exact Or.inl (isDir_set _ _ _)

theorem isDir_setAt_dir (t : Node) (b : List Name) (m : Ents) (h : t.isDir = true) :
    (setAt t b (.dir m)).isDir = true := by
  unfold setAt; split
  · rfl
  · rw [isDir_set, h]

theorem setAt_wf (t : Node) (b : List Name) (m : Ents) (hb : ∀ c ∈ b, cleanName c = true)
    (ht : t.wf = true) (hm : entsWf m = true) : (setAt t b (.dir m)).wf = true := by
  unfold setAt; split
  · simpa [Node.wf] using hm
  · exact set_wf _ _ _ hb (by simpa [Node.wf] using hm) ht

/-- a file cannot sit strictly below a path that is not a directory -/
theorem not_prefix_of_not_dir {t : Node} {cs q : List Name} {b : Bytes}
    (hq : t.get q = some (.file b)) (hne : q ≠ cs) (hnd : ∀ ds, t.get cs ≠ some (.dir ds)) :
    ¬ cs <+: q := by
  intro hp
  obtain ⟨es, he⟩ := get_proper_prefix_dir hp (Ne.symm hne) hq
  exact hnd es he

theorem get_setAt_file (t : Node) (bp q : List Name) (m : Ents) (b : Bytes)
    (hq : t.get q = some (.file b)) (hn : ¬ bp <+: q) :
    (setAt t bp (.dir m)).get q = some (.file b) := by
  unfold setAt; split
  · next h => subst h; exact absurd List.nil_prefix hn
  · exact get_set_file _ _ _ _ _ hq hn

theorem get_setAt {t u : Node} {sub : List Name} (h : t.get sub = some u) (x : Node) (r : List Name) :
    (setAt t sub x).get (sub ++ r) = x.get r := by
  unfold setAt
  split
  · next h' => subst h'; rfl
  · next h' =>
    obtain ⟨ps, hp⟩ := get_parent_dir h' h
    exact get_set_append sub r t _ ps h' hp

theorem get_setAt_append (t : Node) (b r : List Name) (m ds : Ents)
    (hb : t.get b = some (.dir ds)) : (setAt t b (.dir m)).get (b ++ r) = (Node.dir m).get r :=
  get_setAt hb _ r

/-- a file below the source directory, read relative to the source -/
theorem get_rel {t : Node} {a r : List Name} {es : Ents} {data : Bytes}
    (ha : t.get a = some (.dir es)) (hf : t.get (a ++ r) = some (.file data)) :
    (Node.dir es).get r = some (.file data) := by
  rw [get_append, ha] at hf; exact hf

theorem not_prefix_append {a b r : List Name} (h1 : ¬ a <+: b) (h2 : ¬ b <+: a) :
    ¬ b <+: a ++ r := by
  intro h
  rcases List.prefix_or_prefix_of_prefix (List.prefix_append a r) h with h | h
  · exact h1 h
  · exact h2 h

theorem not_prefix_of_ne (dir : List Name) (k k' : Name) (a b : List Name) (h : k ≠ k') :
    ¬ (dir ++ k :: a) <+: (dir ++ k' :: b) :=
  fun hp => h (List.cons_prefix_cons.1 ((List.prefix_append_right_inj dir).1 hp)).1

theorem root_dir_of_not_blocked {t : Node} {b : List Name} (hne : b ≠ [])
    (h : blockedByFile t [] b = false) : ∃ es, t.get [] = some (.dir es) := by
  cases b with
  | nil => exact absurd rfl hne
  | cons c cs =>
    cases t with
    | dir es => exact ⟨es, rfl⟩
    | file d => simp [blockedByFile, Node.get] at h

-- two abbreviations nothing uses: the one-path and the two-path case of `StepEffects.StepCase`, by validating the
-- paths (with `QueryLemmas.mapM_one` / `mapM_two` of StepLemmas in scope)
local macro "one_tac" p:ident hc:ident : tactic => `(tactic|
  (cases hv : validate $p with
   | err e => exact .fail e (by simp) (by simp [step, $hc:ident, Op.paths, mapM_one, hv, Ref.fail])
   | ok cs => exact .one $p cs $hc rfl hv (by simp [step, $hc:ident, Op.paths, mapM_one, hv])))

local macro "two_tac" p:ident q:ident hc:ident : tactic => `(tactic|
  (cases hv : validate $p with
   | err e => exact .fail e (by simp) (by simp [step, $hc:ident, Op.paths, mapM_two, hv, Ref.fail])
   | ok a =>
     cases hw : validate $q with
     | err e => exact .fail e (by simp) (by simp [step, $hc:ident, Op.paths, mapM_two, hv, hw, Ref.fail])
     | ok b => exact .two $p $q a b $hc rfl hv hw (by simp [step, $hc:ident, Op.paths, mapM_two, hv, hw])))

end Fs.TreeLemmas

/-! ### writing at one path commutes with altering at a divergent one -/

namespace Fs.MountTree
open Fs Fs.Ref Fs.TreeLemmas

/-! ### entry lists -/

theorem put_comm (c m : Name) (x y : Node) (es : Ents) (hne : c ≠ m) (hc : (Ents.lookup c es).isSome = true) :
    Ents.put m y (Ents.put c x es) = Ents.put c x (Ents.put m y es) := by
  induction es with
  | nil => simp [Ents.lookup] at hc
  | cons e es ih =>
    obtain ⟨k, v⟩ := e
    by_cases hk : k = c
    · subst hk
      have : ¬ k = m := hne
      simp [Ents.put, this]
    · by_cases hm : k = m
      · subst hm
        simp [Ents.put, hk]
      · have hc' : (Ents.lookup c es).isSome = true := by simpa [Ents.lookup, hk] using hc
        simp [Ents.put, hk, hm, ih hc']

theorem erase_put_comm (c m : Name) (x : Node) (es : Ents) (hne : c ≠ m) :
    Ents.erase m (Ents.put c x es) = Ents.put c x (Ents.erase m es) := by
  induction es with
  | nil =>
    have : ¬ c = m := hne
    simp [Ents.put, Ents.erase, this]
  | cons e es ih =>
    obtain ⟨k, v⟩ := e
    by_cases hk : k = c
    · subst hk
      have : ¬ k = m := hne
      simp [Ents.put, Ents.erase, this]
    · by_cases hm : k = m
      · subst hm
        simp [Ents.put, Ents.erase, hk]
      · simp [Ents.put, Ents.erase, hk, hm, ih]

theorem names_put_present (c : Name) (x : Node) (es : Ents) (hc : (Ents.lookup c es).isSome = true) :
    Ents.names (Ents.put c x es) = Ents.names es := by
  induction es with
  | nil => simp [Ents.lookup] at hc
  | cons e es ih =>
    obtain ⟨k, v⟩ := e
    by_cases hk : k = c
    · subst hk; simp [Ents.put, Ents.names]
    · have hc' : (Ents.lookup c es).isSome = true := by simpa [Ents.lookup, hk] using hc
      have := ih hc'
      simp only [Ents.names] at this
      simp [Ents.put, Ents.names, hk, this]

theorem ne_nil_of_lookup {c : Name} {es : Ents} (hc : (Ents.lookup c es).isSome = true) : es ≠ [] := by
  intro h; subst h; simp [Ents.lookup] at hc

/-! ### divergent paths -/

/-- neither path is a prefix of the other -/
def Diverge (a b : List Name) : Prop := ¬ a <+: b ∧ ¬ b <+: a

theorem Diverge.symm {a b : List Name} (h : Diverge a b) : Diverge b a := ⟨h.2, h.1⟩

theorem Diverge.ne_nil_left {a b : List Name} (h : Diverge a b) : a ≠ [] := by
  intro e; subst e; exact h.1 List.nil_prefix

theorem Diverge.ne_nil_right {a b : List Name} (h : Diverge a b) : b ≠ [] := h.symm.ne_nil_left

theorem Diverge.tail {c : Name} {a b : List Name} (h : Diverge (c :: a) (c :: b)) : Diverge a b :=
  ⟨fun hh => h.1 (List.cons_prefix_cons.2 ⟨rfl, hh⟩), fun hh => h.2 (List.cons_prefix_cons.2 ⟨rfl, hh⟩)⟩

/-- a path that is not at/below `mp` either diverges from it or is a proper ancestor -/
theorem not_below_cases {mp cs : List Name} (h : ¬ mp <+: cs) : Diverge cs mp ∨ (cs <+: mp ∧ cs ≠ mp) := by
  by_cases h2 : cs <+: mp
  · right; refine ⟨h2, ?_⟩; intro e; subst e; exact h (List.prefix_refl _)
  · left; exact ⟨h2, h⟩

theorem set_cons_of_lookup {c : Name} {cs : List Name} {es : Ents} {ch : Node} (v : Node)
    (hl : Ents.lookup c es = some ch) (hne : cs ≠ []) :
    (Node.dir es).set (c :: cs) v = .dir (Ents.put c (ch.set cs v) es) := by
  cases cs with
  | nil => exact absurd rfl hne
  | cons d r => simp [Node.set, hl]

/-- `set` at the head entry `c` of a directory, whatever the rest of the path: some entry list
obtained by a `put` at `c`, or nothing -/
theorem set_head_shape (c : Name) (cs : List Name) (es : Ents) (v : Node) :
    (Node.dir es).set (c :: cs) v = .dir es ∨ ∃ X, (Node.dir es).set (c :: cs) v = .dir (Ents.put c X es) := by
  cases cs with
  | nil => right; exact ⟨v, rfl⟩
  | cons d r =>
    cases hl : Ents.lookup c es with
    | none => left; simp [Node.set, hl]
    | some ch => right; exact ⟨ch.set (d :: r) v, by simp [Node.set, hl]⟩

/-- Writing at `a` (which exists) commutes with any alteration at a divergent `b`.  What is asked of
`f` is what `Ents.put c y` and `Ents.erase` share: other names are left alone, and a `put` at another,
present name passes through. -/
theorem set_alterAt_comm {f : Name → Ents → Ents}
    (hfl : ∀ c k es, k ≠ c → Ents.lookup k (f c es) = Ents.lookup k es)
    (hfp : ∀ c k X es, k ≠ c → (Ents.lookup k es).isSome = true →
      f c (Ents.put k X es) = Ents.put k X (f c es)) :
    ∀ (a b : List Name) (t x : Node), Diverge a b → (t.get a).isSome = true →
      alterAt f b (t.set a x) = (alterAt f b t).set a x := by
  intro a
  induction a with
  | nil => intro b t x h; exact absurd rfl h.ne_nil_left
  | cons c a' ih =>
    intro b t x h hg
    cases b with
    | nil => exact absurd rfl h.ne_nil_right
    | cons m b' =>
      cases t with
      | file d => simp [Node.get] at hg
      | dir es =>
        cases hl : Ents.lookup c es with
        | none => simp [Node.get, hl] at hg
        | some ch =>
          by_cases hcm : c = m
          · subst hcm
            have hd := h.tail
            obtain ⟨d, r, rfl⟩ := List.exists_cons_of_ne_nil hd.ne_nil_right
            have hg' : (ch.get a').isSome = true := by simpa [Node.get, hl] using hg
            rw [set_cons_of_lookup x hl hd.ne_nil_left]
            simp only [alterAt, lookup_put_same, hl]
            rw [set_cons_of_lookup x (lookup_put_same c _ es) hd.ne_nil_left, put_put_same, put_put_same,
              ih _ ch x hd hg']
          · -- different heads: `set` is a `put` at `c`, in `es` and in every list where `c` still holds `ch`
            obtain ⟨X, hX1, hX2⟩ : ∃ X, (Node.dir es).set (c :: a') x = .dir (Ents.put c X es) ∧
                ∀ es', Ents.lookup c es' = some ch → (Node.dir es').set (c :: a') x = .dir (Ents.put c X es') := by
              cases a' with
              | nil => exact ⟨x, rfl, fun _ _ => rfl⟩
              | cons d r => exact ⟨ch.set (d :: r) x, by simp [Node.set, hl], fun es' h' => by simp [Node.set, h']⟩
            have hc : (Ents.lookup c es).isSome = true := by simp [hl]
            rw [hX1]
            cases b' with
            | nil =>
              simp only [alterAt]
              rw [hX2 _ (by rw [hfl _ _ _ hcm]; exact hl), hfp m c X es hcm hc]
            | cons d r =>
              simp only [alterAt, lookup_put_other c m X es (Ne.symm hcm)]
              cases hm : Ents.lookup m es with
              | none => exact hX1.symm
              | some ch2 =>
                dsimp only
                rw [hX2 _ (by rw [lookup_put_other _ _ _ _ hcm]; exact hl), put_comm c m X _ es hcm hc]

/-- writing at `a` (which exists) and at a divergent `b` commute -/
theorem set_set_comm : ∀ (a b : List Name) (t x y : Node), Diverge a b → (t.get a).isSome = true →
    (t.set a x).set b y = (t.set b y).set a x := by
  intro a b t x y h hg
  rw [set_eq_alterAt b (t.set a x) y, set_eq_alterAt b t y]
  exact set_alterAt_comm (fun c k es hk => lookup_put_other c k y es hk)
    (fun c k X es hk hs => put_comm k c X y es hk hs) a b t x h hg

/-- writing at `a` (which exists) commutes with deleting at a divergent `b` -/
theorem del_set_comm : ∀ (a b : List Name) (t x : Node), Diverge a b → (t.get a).isSome = true →
    (t.set a x).del b = (t.del b).set a x := by
  intro a b t x h hg
  rw [del_eq_alterAt b (t.set a x), del_eq_alterAt b t]
  exact set_alterAt_comm lookup_erase_other (fun c k X es hk _ => erase_put_comm k c X es hk) a b t x h hg


end Fs.MountTree

/-! ### the kind of what is at a path, under `set` of a leaf and under `mkdirs` -/

namespace Fs.ArchiveLemmas
open Fs Fs.TreeLemmas

/-- the resource type at a component path: `some true` = directory, `some false` = file (`Ref.kindAt` of RefAdm is
the same function, written as a `match`: `MultiFsLemmas.kindAt_eq` in StepAct) -/
def kindAt (t : Node) (cs : List Name) : Option Bool := (t.get cs).map Node.isDir

theorem kindAt_eq_none {t : Node} {cs : List Name} : kindAt t cs = none ↔ t.get cs = none := by
  rw [kindAt]
  cases t.get cs with
  | none => exact ⟨fun _ => rfl, fun _ => rfl⟩
  | some n => exact ⟨nofun, nofun⟩

/-- a node without children -/
def Leaf (v : Node) : Prop := ∀ c cs, v.get (c :: cs) = none

theorem leaf_file (b : Bytes) : Leaf (.file b) := fun _ _ => rfl
theorem leaf_emptyDir : Leaf (.dir []) := fun _ _ => rfl

theorem kindAt_nil (t : Node) : kindAt t [] = some t.isDir := by rw [kindAt, get_nil]; rfl

theorem kindAt_cons_put (c c' : Name) (x : Node) (es : Ents) (r : List Name) :
    kindAt (.dir (Ents.put c x es)) (c' :: r) = if c' = c then kindAt x r else kindAt (.dir es) (c' :: r) := by
  simp only [kindAt, get_cons_dir, lookup_put]
  split <;> rfl

theorem kindAt_cons_of_lookup {c : Name} {es : Ents} {o : Option Node} (h : Ents.lookup c es = o)
    (r : List Name) : kindAt (.dir es) (c :: r) = o.bind (kindAt · r) := by
  rw [kindAt, get_cons_dir, h]
  cases o <;> rfl

theorem kindAt_set {T : Node} {cs : List Name} {v : Node} (hne : cs ≠ []) (habs : T.get cs = none)
    (hv : Leaf v) (r : List Name) :
    kindAt (T.set cs v) r =
      if r = cs ∧ kindAt T cs.dropLast = some true then some v.isDir else kindAt T r := by
  fun_induction Node.set cs T v generalizing r with
  | case1 n x => exact absurd rfl hne
  | case2 c es v =>
    have hl : Ents.lookup c es = none := by
      cases hl : Ents.lookup c es with
      | none => rfl
      | some ch => rw [get_cons_dir, hl] at habs; cases habs
    cases r with
    | nil => rw [if_neg (fun h => nomatch h.1)]; rfl
    | cons c' r' =>
      rw [kindAt_cons_put]
      by_cases hc : c' = c
      · subst hc
        rw [if_pos rfl]
        cases r' with
        | nil => rw [if_pos ⟨rfl, rfl⟩, kindAt_nil]
        | cons x xs => rw [if_neg (fun h => nomatch h.1), kindAt, hv x xs, kindAt_cons_of_lookup hl]; rfl
      · rw [if_neg hc, if_neg (fun h => hc (List.cons.inj h.1).1)]
  | case3 c d cs es v ch hl ih =>
    rw [get_cons_dir, hl] at habs
    cases r with
    | nil => rw [if_neg (fun h => nomatch h.1)]; rfl
    | cons c' r' =>
      rw [kindAt_cons_put]
      by_cases hc : c' = c
      · subst hc
        have hk := kindAt_cons_of_lookup hl
        rw [if_pos rfl, ih (List.cons_ne_nil _ _) habs hv, List.dropLast_cons_cons, hk, hk]
        simp only [List.cons.injEq, true_and, Option.bind_some]
      · rw [if_neg hc, if_neg (fun h => hc (List.cons.inj h.1).1)]
  | case4 c d cs es v hl =>
    -- no such entry: nothing is set, and the parent does not exist
    rw [if_neg]
    rintro ⟨_, h⟩
    rw [List.dropLast_cons_cons, kindAt_cons_of_lookup hl] at h
    cases h
  | case5 c cs b x =>
    rw [if_neg]
    rintro ⟨_, h⟩
    cases cs <;> cases h

theorem kindAt_mkdirs_other {T : Node} (pre cs r : List Name) (hr : ∀ q, q <+: cs → r ≠ pre ++ q) :
    kindAt (Ref.mkdirs pre cs T) r = kindAt T r :=
  mkdirs_induct (P := fun u => kindAt u r = kindAt T r) cs pre T (fun u q hq hne hn h => by
    rw [kindAt_set (by simp [hne]) hn leaf_emptyDir, if_neg fun e => hr q hq e.1]; exact h) rfl

end Fs.ArchiveLemmas

namespace Fs.TreeLemmas
open Fs Fs.Ref

theorem split_last (cs : List Name) (hne : cs ≠ []) :
    cs.dropLast ++ [cs.getLast?.getD []] = cs := by
  rw [List.getLast?_eq_some_getLast hne]
  exact List.dropLast_concat_getLast hne

theorem last_mem (cs : List Name) (hne : cs ≠ []) : cs.getLast?.getD [] ∈ cs := by
  rw [List.getLast?_eq_some_getLast hne]
  exact List.getLast_mem hne

theorem last_ne_nil (cs : List Name) (hne : cs ≠ []) (hcl : ∀ c ∈ cs, cleanName c = true) :
    cs.getLast?.getD [] ≠ [] :=
  (cleanName_iff.1 (hcl _ (last_mem cs hne))).1.1

/-- the node at a non-root path, through the entry list of its parent directory -/
theorem get_split (t : Node) (cs : List Name) (hne : cs ≠ []) :
    t.get cs = match t.get cs.dropLast with
      | some (.dir es) => Ents.lookup (cs.getLast?.getD []) es
      | _ => none := by
  conv => lhs; rw [← split_last cs hne]
  cases h : t.get cs.dropLast with
  | none => rw [get_append, h]; rfl
  | some n =>
    cases n with
    | file b => rw [get_append, h]; rfl
    | dir es => exact get_snoc_dir h _

theorem lookup_of_get {t : Node} {cs : List Name} {n : Node} (hne : cs ≠ []) (hg : t.get cs = some n) :
    ∃ es, t.get cs.dropLast = some (.dir es) ∧ Ents.lookup (cs.getLast?.getD []) es = some n := by
  obtain ⟨es, hpa⟩ := get_parent_dir hne hg
  refine ⟨es, hpa, ?_⟩
  have := get_split t cs hne
  simp only [hpa] at this
  rw [← this]; exact hg

theorem lookup_nil (es : Ents) (hw : entsWf es = true) : Ents.lookup [] es = none := by
  cases h : Ents.lookup [] es with
  | none => rfl
  | some n => exact absurd (lookup_cleanName [] n es hw h) (by decide)

theorem root_dir {t : Node} (hd : t.isDir = true) : ∃ es, t = .dir es := by
  cases t with
  | dir es => exact ⟨es, rfl⟩
  | file b => simp [Node.isDir] at hd

theorem mkdirs_snoc_none (pre cs : List Name) (c : Name) (t : Node)
    (h : (mkdirs pre cs t).get (pre ++ cs ++ [c]) = none) :
    mkdirs pre (cs ++ [c]) t = (mkdirs pre cs t).set (pre ++ cs ++ [c]) (.dir []) := by
  induction cs generalizing pre t with
  | nil =>
    simp only [mkdirs, List.append_nil, List.nil_append] at h ⊢
    simp [h]
  | cons d cs ih =>
    simp only [List.cons_append, mkdirs] at h ⊢
    have e : pre ++ d :: cs ++ [c] = pre ++ [d] ++ cs ++ [c] := by simp
    rw [e] at h ⊢
    exact ih _ _ h

theorem mkdirs_id (pre cs : List Name) (t x : Node) (h : t.get (pre ++ cs) = some x) :
    mkdirs pre cs t = t := by
  have := mkdirs_skip pre cs [] t x h
  rwa [List.append_nil] at this

theorem mkdirs_parent {t : Node} {cs : List Name} (hd : t.isDir = true) (hne : cs ≠ [])
    (hbl : blockedByFile t [] cs = false) :
    ∃ es, (mkdirs [] cs.dropLast t).get cs.dropLast = some (.dir es) := by
  obtain ⟨res, rfl⟩ := root_dir hd
  rw [blocked_split _ cs hne, Bool.or_eq_false_iff] at hbl
  refine mkdirs_get [] cs.dropLast _ res rfl hbl.1 fun b hb => ?_
  rw [isFileAt_of_file (q := cs.dropLast) hb] at hbl
  exact Bool.noConfusion hbl.2

theorem mkdirs_dropLast_get_none {t : Node} {cs : List Name} (hne : cs ≠ []) (hg : t.get cs = none) :
    (mkdirs [] cs.dropLast t).get cs = none := by
  rw [← ArchiveLemmas.kindAt_eq_none] at hg ⊢
  rw [ArchiveLemmas.kindAt_mkdirs_other [] cs.dropLast cs fun q hq e => ?_]
  · exact hg
  · have h1 := hq.length_le
    have h2 : 0 < cs.length := List.length_pos_iff.2 hne
    rw [List.length_dropLast, ← List.nil_append q, ← e] at h1
    omega

theorem mkdirs_last (t : Node) (cs : List Name) (hne : cs ≠ []) (hg : t.get cs = none) :
    mkdirs [] cs t = (mkdirs [] cs.dropLast t).set cs (.dir []) := by
  have := mkdirs_snoc_none [] cs.dropLast (cs.getLast?.getD []) t
    (by simpa [split_last cs hne] using mkdirs_dropLast_get_none hne hg)
  simpa [split_last cs hne] using this

theorem mkdirs_get_new {t : Node} {cs : List Name} (hd : t.isDir = true)
    (hbl : blockedByFile t [] cs = false) (hg : t.get cs = none) :
    (mkdirs [] cs t).get cs = some (.dir []) := by
  have hne : cs ≠ [] := by rintro rfl; cases hg
  obtain ⟨es, hpar⟩ := mkdirs_parent hd hne hbl
  rw [mkdirs_last t cs hne hg]
  exact get_set_same cs _ _ es hne hpar

theorem put_fresh (k : Name) (v : Node) (ds : Ents) (h : Ents.lookup k ds = none) :
    Ents.put k v ds = ds ++ [(k, v)] := by
  induction ds with
  | nil => rfl
  | cons e ds ih =>
    obtain ⟨k', w⟩ := e
    by_cases hk : k' = k
    · simp [Ents.lookup, hk] at h
    · simp only [Ents.lookup, hk, if_false] at h
      simp [Ents.put, hk, ih h]

theorem lookup_append_fresh (k k' : Name) (v : Node) (ds : Ents) (hne : k ≠ k') :
    Ents.lookup k' (ds ++ [(k, v)]) = Ents.lookup k' ds := by
  induction ds with
  | nil => simp [Ents.lookup, hne]
  | cons e ds ih =>
    obtain ⟨k'', w⟩ := e
    by_cases hk : k'' = k' <;> simp [Ents.lookup, hk, ih]

end Fs.TreeLemmas

namespace Fs.MemLemmas
open Fs Fs.Ref Fs.TreeLemmas

mutual
theorem mergeNode_none : ∀ (v : Node), v.wf = true → mergeNode v none = some v
  | .file b, _ => by simp [mergeNode]
  | .dir es, hw => by
    simp only [Node.wf] at hw
    simp [mergeNode, mergeEnts_fresh es [] hw (fun _ _ => rfl)]
theorem mergeEnts_fresh : ∀ (es ds : Ents), entsWf es = true →
    (∀ k, (Ents.lookup k es).isSome = true → Ents.lookup k ds = none) →
    mergeEnts es ds = some (ds ++ es)
  | [], ds, _, _ => by simp [mergeEnts]
  | (k, v) :: es, ds, hw, hf => by
    simp only [entsWf, Bool.and_eq_true] at hw
    have hk : Ents.lookup k ds = none := hf k (by simp [Ents.lookup])
    simp only [mergeEnts, hk, mergeNode_none v hw.1.2, put_fresh k v ds hk]
    rw [mergeEnts_fresh es (ds ++ [(k, v)]) hw.2]
    · simp
    · intro k' hk'
      have hne : k ≠ k' := by
        rintro rfl
        have := hw.1.1.2
        simp_all
      rw [lookup_append_fresh k k' v ds hne]
      apply hf
      simp [Ents.lookup, hne, hk']
end

end Fs.MemLemmas

namespace Fs.TreeLemmas
open Fs Fs.Ref

theorem mergeEnts_nil {es : Ents} (hw : entsWf es = true) : mergeEnts es [] = some es :=
  MemLemmas.mergeEnts_fresh es [] hw (fun _ _ => rfl)

end Fs.TreeLemmas
