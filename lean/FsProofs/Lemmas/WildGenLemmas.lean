/-
  Helper lemmas for `FsProofs/WildGenEq.lean` (and `GlobGenEq.lean`): nothing here mentions the generated
  definitions.  The index-driven scanner of `wildcard._translate` is related to the structural recursion of
  the hand model: `bracketEnd`/`relEnd` (indices) vs `Wild.scanClass`; `pyWhile_scanStep` (inner loop),
  `pyWhile_lexStep` (an outer loop that does a `PatTokens.lex` step per round).
  Loop lemmas are hypothesis-style (`∀ s, f s = step s`); `bumpR_eq`, `scan_code`, `bracketText_code`, `toTR_any`
  and `toTR_matchAny` are stated over the text in which `puregen.py` renders a Python construct, and follow that
  rendering.
-/
import FsModel.PyRe
import FsProofs.Lemmas.PyStrLemmas
import FsProofs.Lemmas.PyLoop
import FsProofs.Lemmas.GlobLemmas

namespace Fs.WildGenLemmas
open Fs Fs.PyStr Fs.PyLoop Fs.PyRe Fs.PyStrLemmas Fs.PathGenLemmas Fs.WildSpec Fs.GlobLemmas
open Fs.RegexParseLemmas Fs.PatTokens Fs.Regex

/-! ### the bracket scan by indices (what the code does) vs. `Wild.scanClass` (what the hand model does) -/

/-- number of characters before the first `]` -/
def tw (s : Str) : Nat := (s.takeWhile (· != ']')).length

theorem tw_le (s : Str) : tw s ≤ s.length := by
  induction s with
  | nil => simp [tw]
  | cons c r ih =>
    simp only [tw, List.takeWhile_cons] at ih ⊢
    split <;> simp <;> omega

theorem findClose_eq_tw (s : Str) : findClose s = if tw s < s.length then some (tw s) else none := by
  induction s with
  | nil => rfl
  | cons c r ih =>
    by_cases hc : c = ']'
    · subst hc; simp [findClose, tw]
    · simp only [findClose, hc, if_false, ih, tw, List.takeWhile_cons, bne_iff_ne, ne_eq, not_false_eq_true,
        if_true, List.length_cons]
      by_cases h : (List.takeWhile (fun x => x != ']') r).length < r.length
      · simp [h]
      · simp [h]

/-- `j` after `if j < n and pattern[j] == c: j = j + 1` -/
def bump (pat : Str) (c : Char) (j : Nat) : Nat := if pat[j]? = some c then j + 1 else j

/-- `j` after `while j < n and pattern[j] != "]": j = j + 1` -/
def scanTo (pat : Str) (j : Nat) : Nat := j + tw (pat.drop j)

/-- `j` after the whole bracket scan that starts at `i` (the position after `[`) -/
def bracketEnd (pat : Str) (i : Nat) : Nat := scanTo pat (bump pat ']' (bump pat '!' i))

/-- the same on the text after `[` -/
def relEnd (cs : Str) : Nat :=
  let k1 := if cs.head? = some '!' then 1 else 0
  let k2 := if (cs.drop k1).head? = some ']' then k1 + 1 else k1
  k2 + tw (cs.drop k2)

theorem bracketEnd_eq (pat : Str) (i : Nat) : bracketEnd pat i = i + relEnd (pat.drop i) := by
  simp only [bracketEnd, relEnd, scanTo, bump, List.head?_drop, List.drop_drop]
  by_cases h1 : pat[i]? = some '!'
  · simp only [h1, if_true]
    by_cases h2 : pat[i + 1]? = some ']'
    · simp [h2, Nat.add_assoc]
    · simp [h2]; omega
  · simp only [h1, if_false, Nat.add_zero]
    by_cases h2 : pat[i]? = some ']'
    · simp [h2]; omega
    · simp [h2]

theorem scanClass_eq_relEnd (cs : Str) :
    Wild.scanClass cs =
      if relEnd cs < cs.length then some (cs.take (relEnd cs), cs.drop (relEnd cs + 1)) else none := by
  have key : ∀ (neg : Bool) (b : Str), (neg = false → b.head? ≠ some '!') →
      Wild.scanClass (stuffOf neg b) =
        if relEnd (stuffOf neg b) < (stuffOf neg b).length then
          some ((stuffOf neg b).take (relEnd (stuffOf neg b)), (stuffOf neg b).drop (relEnd (stuffOf neg b) + 1))
        else none := by
    intro neg b h
    rw [scanClass_stuffOf neg b h]
    cases b with
    | nil => cases neg <;> rfl
    | cons c r =>
      -- the index scan stops at the same `]` as `closeIdx`: the first one after the first character of the body
      have hk : relEnd (stuffOf neg (c :: r)) = tw r + 1 + (stuffOf neg []).length := by
        have : neg = false → c ≠ '!' := fun hn => by simpa using h hn
        -- `[!c…` or `[c…`, `c` a `]` or not: in each of the four, the two tests of `relEnd` are decided; the rest is
        -- arithmetic
        cases neg <;> by_cases hc : c = ']' <;> simp_all [relEnd, stuffOf, tw] <;> omega
      rw [hk]
      simp only [closeIdx, findClose_eq_tw]
      by_cases ht : tw r < r.length <;> cases neg <;> simp [stuffOf, ht] <;> omega
  exact stuffOf_eq cs ▸ key (negOf cs) (bodyOf cs) (bodyOf_head cs)

theorem bracketEnd_ge (pat : Str) (i : Nat) : i ≤ bracketEnd pat i := by
  rw [bracketEnd_eq]; omega

/-- `Wild.scanClass` in the indices of the code: its `stuff` is the slice `pattern[i:j]` the code takes -/
theorem scanClass_drop (pat : Str) (i : Nat) :
    Wild.scanClass (pat.drop i) =
      if bracketEnd pat i < pat.length then
        some ((pat.take (bracketEnd pat i)).drop i, pat.drop (bracketEnd pat i + 1))
      else none := by
  rw [scanClass_eq_relEnd, bracketEnd_eq]
  have hl : (pat.drop i).length = pat.length - i := List.length_drop
  by_cases hk : relEnd (pat.drop i) < (pat.drop i).length
  · have hk' : i + relEnd (pat.drop i) < pat.length := by omega
    rw [if_pos hk, if_pos hk', List.drop_take, List.drop_drop]
    congr 3 <;> omega
  · have hk' : ¬ i + relEnd (pat.drop i) < pat.length := by omega
    rw [if_neg hk, if_neg hk']

/-- `if j < n and pattern[j] == c: j = j + 1` as the translator renders it (a joined `if` with an effectful test) -/
theorem bumpR_eq (pat : Str) (c : Char) (j : Nat) :
    (if decide (j < pat.length) = true then
        (match pyStrIdx pat (Int.ofNat j) with
         | .err e' => Res.err e'
         | .ok t => if (t == [c]) = true then Res.ok (j + 1) else Res.ok j)
      else Res.ok j) = Res.ok (bump pat c j) := by
  rw [pyStrIdx_ofNat]
  by_cases hj : j < pat.length
  · simp only [hj, decide_true, if_true, List.getElem?_eq_getElem hj, bump]
    by_cases hc : pat[j] = c
    · simp [hc]
    · simp [hc]
  · simp [hj, bump]

theorem getElem?_of_lt (pat : Str) (i : Nat) (h : i < pat.length) : ∃ c, pat[i]? = some c :=
  ⟨pat[i], List.getElem?_eq_getElem h⟩

/-! ### the inner `while j < n and pattern[j] != "]": j = j + 1` -/

def scanStep (pat : Str) (j : Nat) : Flow Nat Empty :=
  match pat[j]? with
  | none => .brk j
  | some c => if c = ']' then .brk j else .next (j + 1)

theorem drop_eq_cons_of_getElem? {α} (l : List α) (j : Nat) (c : α) (h : l[j]? = some c) :
    l.drop j = c :: l.drop (j + 1) := by
  obtain ⟨hj, rfl⟩ := List.getElem?_eq_some_iff.1 h
  exact List.drop_eq_getElem_cons hj

theorem pyWhile_scanStep (pat : Str) (g : Nat → Flow Nat Empty) (hg : ∀ j, g j = scanStep pat j)
    (fuel j : Nat) (h : pat.length - j < fuel) :
    pyWhile fuel j g = .done (scanTo pat j) := by
  refine pyWhile_rule g (pat.length - ·) (fun j o => o = .done (scanTo pat j)) (fun j => ?_) fuel j h
  rw [hg, scanStep]
  cases hc : pat[j]? with
  | none =>
    simp [scanTo, tw, List.drop_eq_nil_of_le (List.getElem?_eq_none_iff.1 hc)]
  | some c =>
    have hd := drop_eq_cons_of_getElem? pat j c hc
    have hj : j < pat.length := (List.getElem?_eq_some_iff.1 hc).1
    by_cases hcc : c = ']'
    · subst hcc; simp [scanTo, tw, hd]
    · simp only [hcc, if_false]
      refine ⟨by omega, ?_⟩
      simp [scanTo, tw, hd, hcc]; omega

/-- the bracket scan of both `_translate`s as the translator renders it, followed by anything `K` -/
theorem scan_code {σ : Type} (pat : Str) (i : Nat) (K : Nat → Flow σ Empty) :
    (match (if decide (i < pat.length) = true then
          (match pyStrIdx pat (Int.ofNat i) with
           | .err e' => Res.err e'
           | .ok t => if (t == ['!']) = true then Res.ok (i + 1) else Res.ok i)
        else Res.ok i : Res Nat) with
     | .err e' => Flow.exc e'
     | .ok j =>
       match (if decide (j < pat.length) = true then
            (match pyStrIdx pat (Int.ofNat j) with
             | .err e' => Res.err e'
             | .ok t => if (t == [']']) = true then Res.ok (j + 1) else Res.ok j)
          else Res.ok j : Res Nat) with
       | .err e' => Flow.exc e'
       | .ok j =>
         match pyWhile (σ := Nat) (ρ := Empty) (pat.length + 1) j (fun j =>
              if decide (j < pat.length) = true then
                (match pyStrIdx pat (Int.ofNat j) with
                 | .err e' => Flow.exc e'
                 | .ok t => if (t != [']']) = true then Flow.next (j + 1) else Flow.brk j)
              else Flow.brk j) with
         | .done j => K j
         | .ret r' => nomatch r'
         | .exc e' => Flow.exc e') = K (bracketEnd pat i) := by
  split
  · next e' heq => cases (bumpR_eq pat '!' i).symm.trans heq
  · next j1 heq =>
    cases (bumpR_eq pat '!' i).symm.trans heq
    split
    · next e' heq => cases (bumpR_eq pat ']' _).symm.trans heq
    · next j2 heq =>
      cases (bumpR_eq pat ']' _).symm.trans heq
      rw [pyWhile_scanStep pat _ ?_ _ _ (by omega)]
      · rfl
      · intro j
        simp only [scanStep, pyStrIdx_ofNat]
        by_cases hj : j < pat.length
        · simp only [hj, decide_true, if_true, List.getElem?_eq_getElem hj]
          by_cases hdd : pat[j] = ']' <;> simp [hdd]
        · simp [hj]

/-! ### the outer loop of `wildcard._translate` -/

def wstep (pat : Str) (s : Nat × List Str) : Flow (Nat × List Str) Empty :=
  match pat[s.1]? with
  | none => .brk s
  | some c =>
    if c = '*' then .next (s.1 + 1, s.2 ++ [['[', '^', '/', ']', '*']])
    else if c = '?' then .next (s.1 + 1, s.2 ++ [['.']])
    else if c = '[' then
      (if bracketEnd pat (s.1 + 1) < pat.length then
        .next (bracketEnd pat (s.1 + 1) + 1,
          s.2 ++ [Wild.classText ['^'] ((pat.take (bracketEnd pat (s.1 + 1))).drop (s.1 + 1))])
       else .next (s.1 + 1, s.2 ++ [['\\', '[']]))
    else .next (s.1 + 1, s.2 ++ [Wild.reEscape c])

/-- `emit` may look at the text after the first character of the token, and raise; the loop goes on at `j` -/
def emitTo (emit : Str → Tok → TR Str) (pat : Str) (s : Nat × List Str) (t : Tok) (j : Nat) :
    Flow (Nat × List Str) Empty :=
  match emit (pat.drop (s.1 + 1)) t with
  | .err e => .exc (errOfTErr e)
  | .ok x => .next (j, s.2 ++ [x])

/-- one round of a `_translate` loop -/
def lexStep (emit : Str → Tok → TR Str) (pat : Str) (s : Nat × List Str) : Flow (Nat × List Str) Empty :=
  match pat[s.1]? with
  | none => .brk s
  | some c => emitTo emit pat s (lex c (pat.drop (s.1 + 1))).1 (s.1 + 1 + (lex c (pat.drop (s.1 + 1))).2)

/-- the loop, started with the pieces `res`, yields the text `r` after them (or raises what `r` raises) -/
def lout (res : List Str) (r : TR Str) (w : LoopOut (Nat × List Str) Empty) : Prop :=
  match r with
  | .ok t => ∃ i' res', w = .done (i', res') ∧ res'.flatten = res.flatten ++ t
  | .err e => w = .exc (errOfTErr e)

theorem lout_tappend (res : List Str) (a : Str) (r : TR Str) (w : LoopOut (Nat × List Str) Empty)
    (h : lout (res ++ [a]) r w) : lout res (Glob.tappend a r) w := by
  cases r with
  | err e => exact h
  | ok t =>
    obtain ⟨i', res', e1, e2⟩ := h
    exact ⟨i', res', e1, by rw [e2]; simp [List.flatten_append]⟩

/-- a loop that does `lexStep emit` computes every recursion over the pattern that does `emit` at each `lex` step;
`|pat| - i + 1` rounds suffice -/
theorem pyWhile_lexStep (emit : Str → Tok → TR Str) (F : Str → Nat → TR Str)
    (hnil : ∀ k, F [] k = .ok []) (hskip : ∀ c cs k, F (c :: cs) (k + 1) = F cs k)
    (hlex : ∀ c cs, F (c :: cs) 0 = match emit cs (lex c cs).1 with
      | .err e => .err e
      | .ok x => Glob.tappend x (F cs (lex c cs).2))
    (pat : Str) (f : Nat × List Str → Flow (Nat × List Str) Empty) (hf : ∀ s, f s = lexStep emit pat s)
    (fuel i : Nat) (res : List Str) (h : pat.length - i < fuel) :
    lout res (F (pat.drop i) 0) (pyWhile fuel (i, res) f) := by
  refine pyWhile_rule f (pat.length - ·.1) (fun s => lout s.2 (F (pat.drop s.1) 0)) (fun s => ?_) fuel (i, res) h
  rw [hf, lexStep]
  cases hc : pat[s.1]? with
  | none => rw [List.drop_eq_nil_of_le (List.getElem?_eq_none_iff.1 hc), hnil]; exact ⟨s.1, s.2, rfl, by simp⟩
  | some c =>
    have hi : s.1 < pat.length := (List.getElem?_eq_some_iff.1 hc).1
    rw [drop_eq_cons_of_getElem? pat s.1 c hc, hlex]
    dsimp only [emitTo]
    cases emit _ _ with
    | err e => rfl
    | ok x =>
      refine ⟨by omega, fun o ho => ?_⟩
      rw [skip_eq_drop F (fun k => by rw [hnil, hnil]) hskip, List.drop_drop]
      exact lout_tappend _ _ _ _ ho

/-- a `lexStep` round in the indices of the code (`bracketEnd` is `j` after the bracket scan) -/
theorem lexStep_eq (emit : Str → Tok → TR Str) (pat : Str) (s : Nat × List Str) :
    lexStep emit pat s =
      match pat[s.1]? with
      | none => .brk s
      | some c =>
        if c = '*' then emitTo emit pat s .star (s.1 + 1)
        else if c = '?' then emitTo emit pat s .any (s.1 + 1)
        else if c = '[' then
          (if bracketEnd pat (s.1 + 1) < pat.length then
            emitTo emit pat s (clsTok ((pat.take (bracketEnd pat (s.1 + 1))).drop (s.1 + 1)))
              (bracketEnd pat (s.1 + 1) + 1)
           else emitTo emit pat s (.lit '[') (s.1 + 1))
        else emitTo emit pat s (.lit c) (s.1 + 1) := by
  rw [lexStep]
  cases pat[s.1]? with
  | none => rfl
  | some c =>
    dsimp only
    rcases lex_cases c (pat.drop (s.1 + 1)) with ⟨rfl, h⟩ | ⟨rfl, h⟩ | ⟨rfl, hs, h⟩ | ⟨stuff, rest, rfl, hs, h⟩ |
      ⟨h1, h2, h3, h⟩ <;> rw [h]
    · rfl
    · rfl
    · -- `[` that no `]` closes: the index scan runs to the end of the pattern
      rw [scanClass_drop] at hs
      split at hs
      · cases hs
      · next hk => simp [hk]
    · -- a bracket expression: `stuff` is the slice up to `bracketEnd`, and the token ends one past it
      rw [scanClass_drop] at hs
      split at hs
      · next hk =>
        cases hs
        have := bracketEnd_ge pat (s.1 + 1)
        have hl : s.1 + 1 + (((pat.take (bracketEnd pat (s.1 + 1))).drop (s.1 + 1)).length + 1) =
            bracketEnd pat (s.1 + 1) + 1 := by
          rw [List.length_drop, List.length_take]; omega
        rw [hl]; simp [hk]
      · cases hs
    · simp [h1, h2, h3]

theorem wstep_eq_lexStep (pat : Str) (s : Nat × List Str) :
    wstep pat s = lexStep (fun _ t => .ok (tokText false t)) pat s := by
  rw [lexStep_eq]
  simp only [emitTo, tokText_clsTok]
  rfl

theorem pyWhile_wstep (pat : Str) (f : Nat × List Str → Flow (Nat × List Str) Empty)
    (hf : ∀ s, f s = wstep pat s) (fuel i : Nat) (res : List Str) (h : pat.length - i < fuel) :
    ∃ i' res', pyWhile fuel (i, res) f = .done (i', res') ∧
      res'.flatten = res.flatten ++ Wild.textGo (pat.drop i) 0 :=
  pyWhile_lexStep (fun _ t => .ok (tokText false t)) (fun s k => .ok (Wild.textGo s k)) (fun _ => rfl) (fun _ _ _ => rfl)
    (fun c cs => congrArg TR.ok (wild_textGo_lex c cs))
    pat f (fun s => (hf s).trans (wstep_eq_lexStep pat s)) fuel i res h

theorem escBackslash_eq (s : Str) : Wild.escBackslash s = pyReplace s '\\' ['\\', '\\'] := rfl

theorem pyReplace_ne_nil (s : Str) (h : s ≠ []) : ∃ c r, pyReplace s '\\' ['\\', '\\'] = c :: r := by
  cases s with
  | nil => contradiction
  | cons x xs =>
    by_cases hx : x = '\\'
    · exact ⟨'\\', _, by simp [pyReplace, hx]; rfl⟩
    · exact ⟨x, _, by simp [pyReplace, hx]; rfl⟩

/-- the raw text of a bracket expression that was found is not empty -/
theorem stuff_ne_nil (pat : Str) (i : Nat) (h : bracketEnd pat i < pat.length) :
    List.drop i (List.take (bracketEnd pat i) pat) ≠ [] := by
  have := (scanClass_stuffOk _ _ _ ((scanClass_drop pat i).trans (if_pos h))).1
  intro e; rw [e] at this; exact this rfl

/-- what both `_translate`s do once the bracket scan from `i` (the index after `[`) has stopped, as the translator
renders it (`stuff[0]` is looked at twice: `[!` becomes `[^`, a leading `^` is escaped).  `stuff` is a variable with
the equation `hs`, and the callers `generalize` it in their goal first: Lean would otherwise evaluate it at every
`match` when it compares those of this statement with those of the generated code. -/
theorem bracketText_code (pre pat : Str) (i : Nat) (res : List Str) (stuff : Str)
    (hs : stuff = pyReplace (List.drop i (List.take (bracketEnd pat i) pat)) '\\' ['\\', '\\']) :
    (if decide (bracketEnd pat i ≥ pat.length) = true then Flow.next (i, res ++ [['\\', '[']])
     else
      match pyStrIdx stuff (0 : Int) with
      | .err e' => Flow.exc e'
      | .ok t =>
        if (t == ['!']) = true then
          Flow.next (bracketEnd pat i + 1, res ++ [(pre ++ ['[']) ++ (['^'] ++ List.drop 1 stuff) ++ [']']])
        else
          match pyStrIdx stuff (0 : Int) with
          | .err e' => Flow.exc e'
          | .ok t' =>
            if (t' == ['^']) = true then
              Flow.next (bracketEnd pat i + 1, res ++ [(pre ++ ['[']) ++ (['\\'] ++ stuff) ++ [']']])
            else Flow.next (bracketEnd pat i + 1, res ++ [(pre ++ ['[']) ++ stuff ++ [']']])) =
      (if bracketEnd pat i < pat.length then
        Flow.next (bracketEnd pat i + 1,
          res ++ [pre ++ Wild.classText ['^'] (List.drop i (List.take (bracketEnd pat i) pat))])
       else Flow.next (i, res ++ [['\\', '[']]) : Flow (Nat × List Str) Empty) := by
  subst hs
  by_cases hk : bracketEnd pat i < pat.length
  · have hge : ¬ bracketEnd pat i ≥ pat.length := by omega
    simp only [hk, hge, decide_false, if_true, Bool.false_eq_true, if_false]
    obtain ⟨c, r, hst⟩ := pyReplace_ne_nil _ (stuff_ne_nil pat i hk)
    simp only [Wild.classText, escBackslash_eq, hst, pyStrIdx_cons_zero]
    by_cases hc1 : c = '!'
    · subst hc1; simp
    · by_cases hc2 : c = '^'
      · subst hc2; simp
      · simp [hc1, hc2]
  · have hge : bracketEnd pat i ≥ pat.length := by omega
    simp [hk, hge]

theorem toTR_pyReCompile (t : Str) (ic : Bool) : toTR (pyReCompile t ic) = Regex.parse t ic := by
  simp only [pyReCompile]
  cases Regex.parse t ic with
  | ok r => rfl
  | err e => cases e <;> rfl

/-- one round of `any(g(p) for p in ps)` -/
def anyStep (g : Str → Res Bool) (p : Str) (_s : Unit) : Flow Unit Bool :=
  match g p with
  | .err e => .exc e
  | .ok b => if b then .ret true else .next ()

/-- `any(g(p) for p in ps)`, where `g p` is `m p` in the vocabulary of the hand model -/
theorem toTR_any (g : Str → Res Bool) (m : Str → TR Bool) (hg : ∀ p, toTR (g p) = m p)
    (f : Str → Unit → Flow Unit Bool) (hf : ∀ p s, f p s = anyStep g p s) (ps : List Str) :
    toTR (match (match pyFor ps () f with
            | .done _ => Res.ok false
            | .ret r => .ok r
            | .exc e => .err e) with
     | .err e => Res.err e
     | .ok r => Res.ok r) = Wild.anyMatch m ps := by
  induction ps with
  | nil => rfl
  | cons p ps ih =>
    rw [pyFor, hf, anyStep, Wild.anyMatch, ← hg]
    cases g p with
    | err e => rfl
    | ok b =>
      cases b with
      | true => rfl
      | false => exact ih

/-- `match_any` / `imatch_any` of `wildcard` and of `glob`: `True` for no patterns, else `any(g(p) for p in ps)` -/
theorem toTR_matchAny (g : Str → Res Bool) (m : Str → TR Bool) (hg : ∀ p, toTR (g p) = m p)
    (f : Str → Unit → Flow Unit Bool) (hf : ∀ p s, f p s = anyStep g p s) (ps : List Str) :
    toTR (if ps.isEmpty then .ok true else
      match (match pyFor ps () f with
            | .done _ => Res.ok false
            | .ret r => .ok r
            | .exc e => .err e) with
      | .err e => Res.err e
      | .ok r => Res.ok r) = if ps.isEmpty then .ok true else Wild.anyMatch m ps := by
  cases ps.isEmpty with
  | true => rfl
  | false => exact toTR_any g m hg f hf ps

end Fs.WildGenLemmas
