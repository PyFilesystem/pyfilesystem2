/-
  `parseItems` on the pieces of text the translators emit.  `pi_*`: one step of `parseItems` on a kind of text;
  `pw_*`: on a piece `wildcard._translate` emits; `pg_*`: on a piece `glob._translate` / `_translate_glob` emits.
  The notions the round trip is built on: `NoQ r` (the text `r` does not start with a quantifier, so what stands in
  front of it is read as it is), `ParsesTo T r res` (what `parseItems` does with the text `T` in front of `r`, fuel
  counted), `Piece fT res` (`fT` is a text that `ParsesTo res` in front of every `NoQ` text).
  Last, `Piece` for the text of `_translate_glob`: the pieces of `component.split("**")` and all components, as
  instances of the walk `join_rel` / `comps_rel` of GlobLemmas.
  Declares into `Fs.RegexParseLemmas`, the namespace the two `RegexParse*` files share.
-/
import FsProofs.Lemmas.RegexParseLemmas

namespace Fs.RegexParseLemmas
open Fs Fs.Regex Fs.WildSpec Fs.GlobLemmas Fs.PatTokens

/-! ### one step of `parseItems` per kind of piece -/

/-- the next character is not a quantifier -/
def NoQ (r : Str) : Prop := ∀ c t, r = c :: t → isQuant c = false

theorem quantify_noq (a : Atom) (r : Str) (h : NoQ r) : quantify a r = .ok (.one a, r) := by
  cases r with
  | nil => rfl
  | cons q t =>
    have := h q t rfl
    simp [quantify, this]

theorem pi_nil (f : Nat) (acc : List Item) : parseItems (f + 1) [] acc = .ok acc.reverse := by
  rw [parseItems]

theorem pi_endZ (f : Nat) (r : Str) (acc : List Item) :
    parseItems (f + 1) ('\\' :: 'Z' :: r) acc = parseItems f r (.endZ :: acc) := by
  rw [parseItems]; simp

theorem pi_bol (f : Nat) (r : Str) (acc : List Item) :
    parseItems (f + 1) ('^' :: r) acc = parseItems f r (.bol :: acc) := by
  rw [parseItems]

theorem pi_esc (f : Nat) (c : Char) (r : Str) (acc : List Item) (hc : isSpecial c = true) (hr : NoQ r) :
    parseItems (f + 1) ('\\' :: c :: r) acc = parseItems f r (.one (.chr ⟨c, true⟩) :: acc) := by
  obtain ⟨h1, h2⟩ := special_not_alnum c hc
  rw [parseItems]
  have hz : (c == 'Z') = false := by simpa using h2
  simp only [hz, Bool.false_eq_true, if_false, h1, quantify_noq _ r hr]

theorem pi_lit_q (f : Nat) (c : Char) (r : Str) (acc : List Item) (hc : isSpecial c = false) :
    parseItems (f + 1) (c :: r) acc =
      (match quantify (.chr ⟨c, false⟩) r with
       | .err e => .err e
       | .ok (it, r') => parseItems f r' (it :: acc)) := by
  obtain ⟨h1, h2, h3, h4, h5, h6, h7, h8, h9, h10, _, _⟩ := notSpecial_facts c hc
  rw [parseItems]
  · have e1 : (c == '(') = false := by simpa using h6
    have e2 : (c == ')') = false := by simpa using h7
    have e3 : (c == '|') = false := by simpa using h8
    have e4 : (c == '{') = false := by simpa using h9
    simp only [h10, e1, e2, e3, e4, Bool.false_eq_true, if_false, Bool.or_self]
    cases quantify (Atom.chr ⟨c, false⟩) r <;> rfl
  -- the last equation of `parseItems` asks that `c` opens none of the cases before it (`^ $ \ . [ (`): `h1`–`h6`
  all_goals (intros; simp_all)

theorem pi_dot_q (f : Nat) (r : Str) (acc : List Item) :
    parseItems (f + 1) ('.' :: r) acc =
      (match quantify .any r with
       | .err e => .err e
       | .ok (it, r') => parseItems f r' (it :: acc)) := by
  rw [parseItems]
  cases quantify Atom.any r <;> rfl

theorem pi_dot (f : Nat) (r : Str) (acc : List Item) (hr : NoQ r) :
    parseItems (f + 1) ('.' :: r) acc = parseItems f r (.one .any :: acc) := by
  rw [pi_dot_q, quantify_noq _ r hr]

theorem pi_lit (f : Nat) (c : Char) (r : Str) (acc : List Item) (hc : isSpecial c = false) (hr : NoQ r) :
    parseItems (f + 1) (c :: r) acc = parseItems f r (.one (.chr ⟨c, false⟩) :: acc) := by
  rw [pi_lit_q f c r acc hc, quantify_noq _ r hr]

theorem pi_set (f : Nat) (r : Str) (acc : List Item) :
    parseItems (f + 1) ('[' :: r) acc =
      (match classParse r with
       | .err e => .err e
       | .ok (a, r1) =>
         match quantify a r1 with
         | .err e => .err e
         | .ok (it, r') => parseItems f r' (it :: acc)) := by
  by_cases h : ∃ b, r = '^' :: b
  · obtain ⟨b, rfl⟩ := h
    rw [parseItems, classParse_neg]
    cases parseSetLoop (b.length + 1) b [] with
    | err e => rfl
    | ok p => rfl
  · have h' : ∀ b, r ≠ '^' :: b := fun b e => h ⟨b, e⟩
    rw [parseItems, classParse_pos r h']
    · cases parseSetLoop (r.length + 1) r [] with
      | err e => rfl
      | ok p => rfl
    · intro b e; exact h' b e

theorem quantify_quant (a : Atom) (q : Char) (r : Str) (hq : isQuant q = true) (h : NoQ r) :
    quantify a (q :: r) =
      .ok (if q == '*' then .star a false else if q == '+' then .plus a false else .opt a false, r) := by
  cases r with
  | nil => simp only [quantify, hq, if_true]
  | cons c t =>
    have hc := h c t rfl
    simp only [isQuant, Bool.or_eq_false_iff, beq_eq_false_iff_ne, ne_eq] at hc
    obtain ⟨⟨h1, h2⟩, h3⟩ := hc
    simp only [quantify, hq, if_true]
    split
    · next r' heq => simp at heq; exact absurd heq.1 h3
    · next heq => simp at heq; exact absurd heq.1 h2
    · rfl

theorem noq_cons (c : Char) (t : Str) (h : isQuant c = false) : NoQ (c :: t) := by
  intro c' t' e; cases e; exact h

theorem noq_nil : NoQ [] := by intro c t e; cases e

/-- `[^/]` as a bracket expression of the parser -/
theorem classParse_notSlash (r : Str) : classParse ('^' :: '/' :: ']' :: r) = .ok (Wild.notSlash, r) := by
  rw [classParse_neg]
  have := parseSet_raw ['/'] false (('/' :: ']' :: r).length + 1) [] r (by simp) (by simp) (by simp) (by simp)
  simp only [rawText, Wild.rawChar, LChar.toPy] at this
  simp only [List.length_cons] at this ⊢
  simp at this
  rw [this]
  rfl

theorem pw_star (m : Nat) (r : Str) (acc : List Item) (hr : NoQ r) :
    parseItems (m + 1) ("[^/]*".toList ++ r) acc = parseItems m r (.star Wild.notSlash false :: acc) := by
  show parseItems (m + 1) ('[' :: '^' :: '/' :: ']' :: '*' :: r) acc = _
  rw [pi_set, classParse_notSlash]
  simp only [quantify_quant _ '*' r (by decide) hr]
  rfl

theorem pw_lit (m : Nat) (c : Char) (r : Str) (acc : List Item) (hr : NoQ r) :
    parseItems (m + 1) (Wild.reEscape c ++ r) acc = parseItems m r (.one (.chr (LChar.lit c)) :: acc) := by
  by_cases hc : isSpecial c = true
  · simp only [Wild.reEscape, LChar.lit, LChar.toPy, hc, if_true, List.cons_append, List.nil_append]
    exact pi_esc m c r acc hc hr
  · have hc' : isSpecial c = false := by simpa using hc
    simp only [Wild.reEscape, LChar.lit, LChar.toPy, hc', Bool.false_eq_true, if_false, List.cons_append,
      List.nil_append]
    exact pi_lit m c r acc hc' hr

/-- a bracket expression of `wildcard._translate` -/
theorem pw_class (m : Nat) (stuff r : Str) (acc : List Item) (hs : StuffOk stuff) (hr : NoQ r) :
    parseItems (m + 1) (Wild.classText ['^'] stuff ++ r) acc =
      (match Wild.classAtom stuff with
       | .ok a => parseItems m r (.one a :: acc)
       | .err e => .err e) := by
  rw [classText_eq]
  simp only [List.cons_append]
  rw [pi_set, classParse_text stuff r hs]
  cases Wild.classAtom stuff with
  | err e => rfl
  | ok a => simp only [quantify_noq a r hr]

theorem noq_append_of_head (a : Str) (c : Char) (t r : Str) (ha : a = c :: t) (hc : isQuant c = false) :
    NoQ (a ++ r) := by
  subst ha; exact noq_cons c (t ++ r) hc

theorem reEscape_head (c : Char) : ∃ d t, Wild.reEscape c = d :: t ∧ isQuant d = false := by
  by_cases hc : isSpecial c = true
  · exact ⟨'\\', [c], by simp [Wild.reEscape, LChar.lit, LChar.toPy, hc], by decide⟩
  · have hc' : isSpecial c = false := by simpa using hc
    exact ⟨c, [], by simp [Wild.reEscape, LChar.lit, LChar.toPy, hc'], (notSpecial_facts c hc').2.2.2.2.2.2.2.2.2.1⟩

theorem classText_head (neg stuff : Str) : ∃ t, Wild.classText neg stuff = '[' :: t := by
  simp [Wild.classText]

/-- what the parser does with the text `T` of a piece of the hand model that yields `res` -/
def ParsesTo (T : Str) (r : Str) (res : TR (List Item)) : Prop :=
  match res with
  | .ok items => items.length ≤ T.length ∧
      ∀ m acc, parseItems (m + items.length) (T ++ r) acc = parseItems m r (items.reverse ++ acc)
  | .err e => ∀ m acc, T.length < m → parseItems m (T ++ r) acc = .err e

theorem parsesTo_nil (r : Str) : ParsesTo [] r (.ok []) := by
  refine ⟨by simp, ?_⟩
  intro m acc; simp

/-- two texts one after the other -/
theorem parsesTo_append (T1 T2 r : Str) (res1 res2 : TR (List Item))
    (h1 : ParsesTo T1 (T2 ++ r) res1) (h2 : ParsesTo T2 r res2) :
    ParsesTo (T1 ++ T2) r (seqRes res1 res2) := by
  cases res1 with
  | err e =>
    intro m acc hm
    rw [List.append_assoc]
    exact h1 m acc (by simp at hm; omega)
  | ok i1 =>
    obtain ⟨hl1, h1⟩ := h1
    cases res2 with
    | ok i2 =>
      obtain ⟨hl2, h2⟩ := h2
      refine ⟨by simp; omega, ?_⟩
      intro m acc
      simp only [List.length_append]
      rw [List.append_assoc, show m + (i1.length + i2.length) = (m + i2.length) + i1.length by omega, h1, h2]
      simp
    | err e =>
      intro m acc hm
      have hm' : m = (m - i1.length) + i1.length ∧ T2.length < m - i1.length := by
        simp at hm; omega
      rw [hm'.1, List.append_assoc, h1]
      exact h2 _ _ hm'.2

/-- a text that the parser reads as `res`, whatever follows (as long as it does not start with a quantifier) -/
def Piece (fT : TR Str) (res : TR (List Item)) : Prop :=
  ∀ r, NoQ r → ∃ T, fT = .ok T ∧ NoQ (T ++ r) ∧ ParsesTo T r res

theorem piece_nil : Piece (.ok []) (.ok []) := fun r hr => ⟨[], rfl, hr, parsesTo_nil r⟩

/-- pieces compose: the second one is what follows the first -/
theorem Piece.append {f1 f2 : TR Str} {r1 r2 : TR (List Item)} (h1 : Piece f1 r1) (h2 : Piece f2 r2) :
    Piece (seqRes f1 f2) (seqRes r1 r2) := by
  intro r hr
  obtain ⟨T2, rfl, hn2, hp2⟩ := h2 r hr
  obtain ⟨T1, rfl, hn1, hp1⟩ := h1 (T2 ++ r) hn2
  exact ⟨T1 ++ T2, rfl, by rwa [List.append_assoc], parsesTo_append _ _ _ _ _ hp1 hp2⟩

theorem piece_one (c : Char) (t : Str) (i : Item) (hc : isQuant c = false)
    (h : ∀ r, NoQ r → ∀ m acc, parseItems (m + 1) (c :: t ++ r) acc = parseItems m r (i :: acc)) :
    Piece (.ok (c :: t)) (.ok [i]) :=
  fun r hr => ⟨_, rfl, noq_cons c _ hc, by simp, h r hr⟩

theorem piece_endZ {fT : TR Str} {res : TR (List Item)} (h : Piece fT res) (acc : List Item) :
    ∃ T, fT = .ok T ∧ ∀ f, T.length + 2 < f →
      parseItems f (T ++ "\\Z".toList) acc = res.map fun is => acc.reverse ++ is ++ [.endZ] := by
  obtain ⟨T, hT, _, hp⟩ := h "\\Z".toList (noq_cons '\\' ['Z'] (by decide))
  refine ⟨T, hT, fun f hf => ?_⟩
  cases res with
  | err e => exact hp f acc (by omega)
  | ok is =>
    obtain ⟨hlen, hp⟩ := hp
    obtain ⟨m, rfl⟩ : ∃ m, f = (m + 1 + 1) + is.length := ⟨f - is.length - 2, by omega⟩
    rw [hp]
    show parseItems (m + 1 + 1) ('\\' :: 'Z' :: []) _ = _
    rw [pi_endZ, pi_nil]
    simp [TR.map]

theorem parseInline_ms (rest : Str) : parseInline ("(?ms)".toList ++ rest) = .ok (['m', 's'], rest) := by
  show parseInline ('(' :: '?' :: 'm' :: 's' :: ')' :: rest) = _
  simp [parseInline, List.takeWhile]

/-! ### the pieces of `glob._translate` / `_translate_glob` -/

theorem pg_notSlash (m : Nat) (r : Str) (acc : List Item) (hr : NoQ r) :
    parseItems (m + 1) ("[^/]".toList ++ r) acc = parseItems m r (.one Wild.notSlash :: acc) := by
  show parseItems (m + 1) ('[' :: '^' :: '/' :: ']' :: r) acc = _
  rw [pi_set, classParse_notSlash]
  simp only [quantify_noq _ r hr]

theorem pg_slash (m : Nat) (r : Str) (acc : List Item) (hr : NoQ r) :
    parseItems (m + 1) ('/' :: r) acc = parseItems m r (.one Glob.slash :: acc) :=
  pi_lit m '/' r acc (by decide) hr

theorem pg_optslash (m : Nat) (r : Str) (acc : List Item) (hr : NoQ r) :
    parseItems (m + 1) ('/' :: '?' :: r) acc = parseItems m r (Glob.optSlash :: acc) := by
  rw [pi_lit_q m '/' _ acc (by decide), quantify_quant _ '?' r (by decide) hr]
  rfl

theorem pg_anyrun (m : Nat) (r : Str) (acc : List Item) (hr : NoQ r) :
    parseItems (m + 1) ('.' :: '*' :: r) acc = parseItems m r (Glob.anyRun :: acc) := by
  rw [pi_dot_q, quantify_quant _ '*' r (by decide) hr]
  rfl

theorem pg_lookahead (m : Nat) (r : Str) (acc : List Item) (hr : NoQ r) :
    parseItems (m + 1) ("(?!/)".toList ++ r) acc = parseItems m r (.notAhead Glob.slash :: acc) := by
  show parseItems (m + 1) ('(' :: '?' :: '!' :: '/' :: ')' :: r) acc = _
  rw [parseItems]
  have hp : parseAtom ('/' :: ')' :: r) = .ok (.chr ⟨'/', false⟩, ')' :: r) := by
    simp [parseAtom, isQuant]
  simp only [hp]
  cases r with
  | nil => rfl
  | cons q t =>
    have := hr q t rfl
    simp only [this, Bool.false_eq_true, if_false]
    rfl

theorem parseAtom_set (r : Str) : parseAtom ('[' :: r) = classParse r := rfl

theorem parseGroupBody_level (f : Nat) (r : Str) :
    parseGroupBody (f + 3) ("/[^/]+)".toList ++ r) [] = .ok (Glob.levelGroup, r) := by
  show parseGroupBody (f + 3) ('/' :: '[' :: '^' :: '/' :: ']' :: '+' :: ')' :: r) [] = _
  have hp : parseAtom ('/' :: '[' :: '^' :: '/' :: ']' :: '+' :: ')' :: r) =
      .ok (.chr ⟨'/', false⟩, '[' :: '^' :: '/' :: ']' :: '+' :: ')' :: r) := by
    simp [parseAtom, isQuant]
  rw [parseGroupBody]
  · simp only [hp]
    rw [parseGroupBody]
    · rw [parseAtom_set, classParse_notSlash]
      simp only []
      rw [parseGroupBody]
      rfl
    · intro r' h; cases h
  · intro r' h; cases h

theorem pg_group (m : Nat) (r : Str) (acc : List Item) (hr : NoQ r) :
    parseItems (m + 1) ("(?:/[^/]+)*".toList ++ r) acc = parseItems m r (.starGroup Glob.levelGroup :: acc) := by
  show parseItems (m + 1) ('(' :: '?' :: ':' :: ("/[^/]+)".toList ++ ('*' :: r))) acc = _
  rw [parseItems]
  have hl : ("/[^/]+)".toList ++ '*' :: r).length + 1 = (r.length + 6) + 3 := by simp
  rw [hl, parseGroupBody_level]
  dsimp only
  cases r with
  | nil => rfl
  | cons q t =>
    have := hr q t rfl
    simp only [this, Bool.false_eq_true, if_false]

theorem class_piece (stuff : Str) (hs : StuffOk stuff) :
    Piece (.ok (Wild.classText ['^'] stuff)) ((Wild.classAtom stuff).map fun a => [.one a]) := by
  intro r hr
  obtain ⟨t, ht⟩ := classText_head ['^'] stuff
  refine ⟨_, rfl, ht ▸ noq_cons '[' _ (by decide), ?_⟩
  cases ha : Wild.classAtom stuff with
  | err e =>
    intro m acc hm
    cases m with
    | zero => simp at hm
    | succ m' => rw [pw_class m' stuff r acc hs hr, ha]
  | ok a => exact ⟨by rw [ht]; simp, fun m acc => (pw_class m stuff r acc hs hr).trans (by rw [ha]; rfl)⟩

theorem piece_lookahead : Piece (.ok "(?!/)".toList) (.ok [.notAhead Glob.slash]) :=
  piece_one '(' _ _ (by decide) fun r hr m acc => pg_lookahead m r acc hr

theorem tok_piece (g : Bool) (t : Tok) (ht : TokOk t) : Piece (.ok (tokText g t)) (tokItems g t) := by
  cases t with
  | star => exact piece_one '[' _ _ (by decide) fun r hr m acc => pw_star m r acc hr
  | any =>
    cases g
    · exact piece_one '.' [] _ (by decide) fun r hr m acc => pi_dot m r acc hr
    · exact piece_one '[' _ _ (by decide) fun r hr m acc => pg_notSlash m r acc hr
  | lit c =>
    obtain ⟨d, t, hd, hq⟩ := reEscape_head c
    show Piece (.ok (Wild.reEscape c)) _
    exact hd ▸ piece_one d t _ hq fun r hr m acc => hd ▸ pw_lit m c r acc hr
  | cls neg body =>
    obtain ⟨stuff, hs, rfl, rfl⟩ := ht
    have hc := class_piece stuff hs
    rw [classAtom_clsTok] at hc
    simp only [tokText, tokItems, stuffOf_eq]
    cases g
    · cases hr' : Wild.rawItems (bodyOf stuff) (!negOf stuff) <;> rw [hr'] at hc <;> exact hc
    · have := piece_lookahead.append hc
      cases hr' : Wild.rawItems (bodyOf stuff) (!negOf stuff) <;> rw [hr'] at this <;> exact this

theorem tokens_piece (g : Bool) (toks : List Tok) (hok : ∀ t ∈ toks, TokOk t) :
    Piece (.ok (toks.flatMap (tokText g))) (seqItems g toks) := by
  induction toks with
  | nil => exact piece_nil
  | cons t toks ih =>
    exact (tok_piece g t (hok t List.mem_cons_self)).append (ih fun t ht => hok t (List.mem_cons_of_mem _ ht))

theorem wild_piece (s : Str) (k : Nat) : Piece (.ok (Wild.textGo s k)) (Wild.go s k) := by
  rw [wild_textGo_eq, wild_go_seq]
  exact tokens_piece false _ (tokenize_ok s k)

theorem wild_parse_go (s : Str) : ∀ (k : Nat) (r : Str) (acc : List Item), NoQ r →
    (match Wild.go s k with
     | .ok items => ∀ m, parseItems (m + items.length) (Wild.textGo s k ++ r) acc =
         parseItems m r (items.reverse ++ acc)
     | .err e => ∀ m, (Wild.textGo s k).length < m → parseItems m (Wild.textGo s k ++ r) acc = .err e) := by
  intro k r acc hr
  obtain ⟨_, e, _, h⟩ := wild_piece s k r hr
  cases e
  revert h
  cases Wild.go s k with
  | ok items => exact fun h m => h.2 m acc
  | err e => exact fun h m hm => h m acc hm

theorem glob_piece (s : Str) (k : Nat) (hs : Glob.hasSS s = false) : Piece (Glob.textGo s k) (Glob.go s k) := by
  rw [glob_textGo_eq s k hs, glob_go_seq s k hs]
  exact tokens_piece true _ (tokenize_ok s k)

theorem glob_parse_go (s : Str) : ∀ (k : Nat) (r : Str), Glob.hasSS s = false → NoQ r →
    ∃ T, Glob.textGo s k = .ok T ∧ NoQ (T ++ r) ∧ ParsesTo T r (Glob.go s k) :=
  fun k r hs hr => glob_piece s k hs r hr

/-! ### a component of the glob pattern -/

theorem piece_translate (p : Str) (h : Glob.hasSS p = false) : Piece (Glob.translateText p) (Glob.translate p) :=
  glob_piece p 0 h

theorem piece_slash : Piece (.ok ['/']) (.ok [.one Glob.slash]) :=
  piece_one '/' [] _ (by decide) fun r hr m acc => pg_slash m r acc hr

theorem piece_optSlash : Piece (.ok "/?".toList) (.ok [Glob.optSlash]) :=
  piece_one '/' ['?'] _ (by decide) fun r hr m acc => pg_optslash m r acc hr

theorem piece_anyRun : Piece (.ok ".*".toList) (.ok [Glob.anyRun]) :=
  piece_one '.' ['*'] _ (by decide) fun r hr m acc => pg_anyrun m r acc hr

/-- `".*/?".join(texts)` / `joinItems [anyRun, optSlash]` over pieces without `**` -/
theorem piece_join (L : List Str) (hL : L ≠ []) (h : ∀ p ∈ L, Glob.hasSS p = false) :
    Piece ((Glob.mapM' Glob.translateText L).map fun l => Glob.joinStr ".*/?".toList l)
      ((Glob.mapM' Glob.translate L).map fun l => Glob.joinItems [Glob.anyRun, Glob.optSlash] l) :=
  join_rel Piece Piece.append piece_nil piece_translate piece_anyRun piece_optSlash L h

theorem piece_comps (L : List Str) :
    Piece ((Glob.mapM' Glob.compText L).map List.flatten) ((Glob.mapM' Glob.compItems L).map List.flatten) :=
  comps_rel Piece Piece.append piece_nil piece_translate piece_anyRun piece_optSlash piece_slash
    (piece_one '(' _ _ (by decide) fun r hr m acc => pg_group m r acc hr) L

theorem parseInline_s (rest : Str) : parseInline ("(?s)".toList ++ rest) = .ok (['s'], rest) := by
  show parseInline ('(' :: '?' :: 's' :: ')' :: rest) = _
  simp [parseInline, List.takeWhile]

end Fs.RegexParseLemmas
