/-
  Commutation / unfolding lemmas for the tree-level description of `copy_dir` (BaseWalkSpec): writes at
  incomparable paths, the first of which exists, commute (`MountTree.set_set_comm` in TreeLemmas), hence so does
  processing pending directories at incomparable paths (`recQ_comm`); `modAt` unfolds one level into a queue of the
  children (`modAt_unfold_some`).
-/
import FsProofs.Lemmas.BaseWalkSpec
import FsProofs.Lemmas.WrapLemmas

namespace Fs.BaseWalkComm
open Fs Fs.Ref Fs.BaseWalkSpec Fs.TreeLemmas

/-! ### antichain bookkeeping -/

theorem inc_symm {p q : List Name} (h : Inc p q) : Inc q p := ⟨h.2, h.1⟩

theorem inc_child_left {r q : List Name} (k : Name) (h : Inc r q) : Inc (r ++ [k]) q := by
  refine ⟨fun hp => h.1 (List.IsPrefix.trans (List.prefix_append r [k]) hp), fun hq => ?_⟩
  rcases List.prefix_concat_iff.1 hq with e | hq'
  · exact h.1 (e ▸ List.prefix_append r [k])
  · exact h.2 hq'

theorem inc_siblings (r : List Name) {k k' : Name} (h : k ≠ k') : Inc (r ++ [k]) (r ++ [k']) :=
  ⟨not_prefix_of_ne r k k' [] [] h, not_prefix_of_ne r k' k [] [] h.symm⟩

theorem mem_kids_iff_mem {es : Ents} {k : Name} : k ∈ kids es ↔ ∃ e, (k, Node.dir e) ∈ es := by
  induction es with
  | nil => simp [kids]
  | cons x es ih =>
    obtain ⟨c, v⟩ := x
    cases v with
    | file b => simp [kids, ih]
    | dir e' =>
      simp only [kids, List.mem_cons, ih, Prod.mk.injEq, Node.dir.injEq]
      constructor
      · rintro (rfl | ⟨e, h⟩)
        · exact ⟨e', Or.inl ⟨rfl, rfl⟩⟩
        · exact ⟨e, Or.inr h⟩
      · rintro ⟨e, ⟨rfl, _⟩ | h⟩
        · exact Or.inl rfl
        · exact Or.inr ⟨e, h⟩

theorem mem_kids {es : Ents} {k : Name} (hw : entsWf es = true) :
    k ∈ kids es ↔ ∃ e, Ents.lookup k es = some (.dir e) := by
  rw [mem_kids_iff_mem]
  exact ⟨fun ⟨e, h⟩ => ⟨e, TreeLemmas.lookup_of_mem hw h⟩, fun ⟨e, h⟩ => ⟨e, TreeLemmas.lookup_mem h⟩⟩

theorem kids_sublist_names : ∀ es : Ents, (kids es).Sublist (Ents.names es)
  | [] => List.Sublist.slnil
  | (_, .file _) :: es => (kids_sublist_names es).cons _
  | (_, .dir _) :: es => (kids_sublist_names es).cons_cons _

theorem kids_nodup (es : Ents) (h : entsWf es = true) : (kids es).Nodup :=
  (TreeLemmas.names_nodup h).sublist (kids_sublist_names es)

-- `hq` is not needed: `MountTree.set_set_comm` asks for the first path only
set_option linter.unusedVariables false in
theorem set_set_comm (p q : List Name) (t x y : Node) (h : Inc p q)
    (hp : (t.get p).isSome) (hq : (t.get q).isSome) :
    (t.set p x).set q y = (t.set q y).set p x :=
  MountTree.set_set_comm p q t x y h hp

theorem setAt_setAt_comm (p q : List Name) (t x y : Node) (h : Inc p q) (hp : (t.get p).isSome) :
    setAt (setAt t p x) q y = setAt (setAt t q y) p x := by
  simp only [WrapLemmas.setAt_ne (MountTree.Diverge.ne_nil_left h), WrapLemmas.setAt_ne (MountTree.Diverge.ne_nil_right h)]
  exact MountTree.set_set_comm p q t x y h hp

/-! ### `modAt` at incomparable paths -/

theorem modAt_eq_some {ph : Phase} {S D D1 : Node} {p : List Name} (hm : modAt ph S D p = some D1) :
    ∃ sn dn m, S.get p = some sn ∧ D.get p = some dn ∧ recNode ph sn dn = some m ∧ D1 = setAt D p m := by
  unfold modAt at hm
  split at hm
  · next sn dn hs hd =>
    cases hr : recNode ph sn dn with
    | none => simp [hr] at hm
    | some m =>
      simp only [hr, Option.map_some, Option.some.injEq] at hm
      exact ⟨sn, dn, m, hs, hd, hr, hm.symm⟩
  · cases hm

theorem modAt_of {ph : Phase} {S D : Node} {p : List Name} {sn dn : Node} (hs : S.get p = some sn)
    (hd : D.get p = some dn) : modAt ph S D p = (recNode ph sn dn).map (setAt D p) := by
  simp [modAt, hs, hd]

theorem modAt_none_dst {ph : Phase} {S D : Node} {p : List Name} (hd : D.get p = none) :
    modAt ph S D p = none := by
  unfold modAt
  split
  · next h1 h2 => rw [hd] at h2; cases h2
  · rfl

theorem modAt_after (ph : Phase) (S D : Node) (p q : List Name) (h : Inc p q) {m : Node}
    (hp : (D.get p).isSome) :
    modAt ph S (setAt D p m) q = (modAt ph S D q).map (fun D2 => setAt D2 p m) := by
  unfold modAt
  rw [WrapLemmas.get_setAt_diverge p q D m h.1 h.2]
  rcases S.get q with _ | sn
  · rfl
  rcases hdq : D.get q with _ | dn
  · rfl
  simp only [Option.map_map]
  rcases recNode ph sn dn with _ | mq
  · rfl
  · exact congrArg some (setAt_setAt_comm p q D m mq h hp)

theorem modAt_comm (ph : Phase) (S D : Node) (p q : List Name) (h : Inc p q) :
    (modAt ph S D p).bind (fun D1 => modAt ph S D1 q) =
      (modAt ph S D q).bind (fun D1 => modAt ph S D1 p) := by
  have h' := inc_symm h
  rcases hA : modAt ph S D p with _ | D1 <;> rcases hB : modAt ph S D q with _ | D2 <;>
    simp only [Option.bind_none, Option.bind_some]
  · obtain ⟨_, dq, mq, _, hdq, _, rfl⟩ := modAt_eq_some hB
    rw [modAt_after ph S D q p h' (by rw [hdq]; rfl), hA]
    rfl
  · obtain ⟨_, dp, mp, _, hdp, _, rfl⟩ := modAt_eq_some hA
    rw [modAt_after ph S D p q h (by rw [hdp]; rfl), hB]
    rfl
  · obtain ⟨_, dp, mp, _, hdp, _, rfl⟩ := modAt_eq_some hA
    obtain ⟨_, dq, mq, _, hdq, _, hD2⟩ := modAt_eq_some hB
    rw [modAt_after ph S D p q h (by rw [hdp]; rfl), hB, hD2,
      modAt_after ph S D q p h' (by rw [hdq]; rfl), hA]
    exact congrArg some (setAt_setAt_comm q p D mq mp h' (by rw [hdq]; rfl))

/-! ### queues -/

theorem recQ_append (ph : Phase) (S : Node) (Q1 Q2 : List (List Name)) (D : Node) :
    recQ ph S (Q1 ++ Q2) D = (recQ ph S Q1 D).bind (recQ ph S Q2) := by
  induction Q1 generalizing D with
  | nil => simp [recQ]
  | cons r Q1 ih =>
    simp only [List.cons_append, recQ]
    cases hm : modAt ph S D r with
    | none => rfl
    | some D1 => simp [ih]

/-- one pending directory moves past a queue of directories incomparable to it -/
theorem modAt_recQ_comm (ph : Phase) (S : Node) (p : List Name) (Q : List (List Name)) (D : Node)
    (h : ∀ q ∈ Q, Inc p q) :
    (modAt ph S D p).bind (recQ ph S Q) = (recQ ph S Q D).bind (fun D1 => modAt ph S D1 p) := by
  induction Q generalizing D with
  | nil => simp [recQ]
  | cons q Q ih =>
    have hq : Inc p q := h q (by simp)
    have hQ : ∀ q ∈ Q, Inc p q := fun x hx => h x (by simp [hx])
    simp only [recQ]
    calc (modAt ph S D p).bind (fun D1 => (modAt ph S D1 q).bind (recQ ph S Q))
        = ((modAt ph S D p).bind (fun D1 => modAt ph S D1 q)).bind (recQ ph S Q) := by
          rw [Option.bind_assoc]
      _ = ((modAt ph S D q).bind (fun D1 => modAt ph S D1 p)).bind (recQ ph S Q) := by
          rw [modAt_comm ph S D p q hq]
      _ = (modAt ph S D q).bind (fun D1 => (modAt ph S D1 p).bind (recQ ph S Q)) := by
          rw [Option.bind_assoc]
      _ = (modAt ph S D q).bind (fun D1 => (recQ ph S Q D1).bind (fun D2 => modAt ph S D2 p)) := by
          congr 1; funext D1; exact ih D1 hQ
      _ = ((modAt ph S D q).bind (recQ ph S Q)).bind (fun D1 => modAt ph S D1 p) := by
          rw [Option.bind_assoc]

theorem recQ_comm (ph : Phase) (S : Node) (Q1 Q2 : List (List Name)) (D : Node)
    (h : ∀ p ∈ Q1, ∀ q ∈ Q2, Inc p q) :
    recQ ph S (Q1 ++ Q2) D = recQ ph S (Q2 ++ Q1) D := by
  induction Q1 generalizing D with
  | nil => simp
  | cons p Q1 ih =>
    have hp : ∀ q ∈ Q2, Inc p q := h p (by simp)
    have hQ : ∀ p ∈ Q1, ∀ q ∈ Q2, Inc p q := fun x hx => h x (by simp [hx])
    calc recQ ph S (p :: Q1 ++ Q2) D
        = (modAt ph S D p).bind (recQ ph S (Q1 ++ Q2)) := by simp [recQ]
      _ = (modAt ph S D p).bind (fun D1 => (recQ ph S Q2 D1).bind (recQ ph S Q1)) := by
          congr 1; funext D1; rw [ih D1 hQ, recQ_append]
      _ = ((modAt ph S D p).bind (recQ ph S Q2)).bind (recQ ph S Q1) := by
          rw [Option.bind_assoc]
      _ = ((recQ ph S Q2 D).bind (fun D1 => modAt ph S D1 p)).bind (recQ ph S Q1) := by
          rw [modAt_recQ_comm ph S p Q2 D hp]
      _ = (recQ ph S Q2 D).bind (fun D1 => (modAt ph S D1 p).bind (recQ ph S Q1)) := by
          rw [Option.bind_assoc]
      _ = (recQ ph S Q2 D).bind (recQ ph S (p :: Q1)) := by
          congr 1
      _ = recQ ph S (Q2 ++ p :: Q1) D := by rw [recQ_append]

/-! ### one-level unfolding of `modAt` -/

theorem setAt_child {D u : Node} {r : List Name} (h : D.get r = some u) (dcur : Ents) (k : Name) (m : Node) :
    setAt (setAt D r (.dir dcur)) (r ++ [k]) m = setAt D r (.dir (Ents.put k m dcur)) := by
  rw [WrapLemmas.setAt_setAt_sub h (.dir dcur) m [k]]
  simp [setAt, Node.set]

/-- the sub-directories of a suffix `es'` of the source entries, as a queue of pending directories -/
theorem recKids_recQ (ph : Phase) (S D : Node) (r : List Name) (es : Ents) (u : Node)
    (hw : entsWf es = true) (hs : S.get r = some (.dir es)) (hd : D.get r = some u) :
    ∀ (es' pre dcur : Ents), es = pre ++ es' →
      recQ ph S ((kids es').map (fun k => r ++ [k])) (setAt D r (.dir dcur)) =
        (recKids ph es' dcur).map (fun m => setAt D r (.dir m)) := by
  intro es'
  induction es' with
  | nil => intro pre dcur _; simp [kids, recQ, recKids]
  | cons x es' ih =>
    intro pre dcur he
    obtain ⟨k, v⟩ := x
    have he' : es = (pre ++ [(k, v)]) ++ es' := by simp [he]
    cases v with
    | file b =>
      simp only [kids, recKids]
      exact ih _ dcur he'
    | dir e =>
      have hlk : Ents.lookup k es = some (.dir e) := TreeLemmas.lookup_of_mem hw (by rw [he]; simp)
      have hsk : S.get (r ++ [k]) = some (.dir e) := (get_snoc_dir hs k).trans hlk
      have hdk : (setAt D r (.dir dcur)).get (r ++ [k]) = Ents.lookup k dcur :=
        get_snoc_dir (WrapLemmas.get_setAt_self hd (.dir dcur)) k
      simp only [kids, List.map_cons, recQ]
      rw [recKids]
      cases hl : Ents.lookup k dcur with
      | none =>
        rw [hl] at hdk
        simp [modAt_none_dst hdk]
      | some dn =>
        rw [hl] at hdk
        rw [modAt_of hsk hdk]
        dsimp only
        cases hr : recNode ph (.dir e) dn with
        | none => simp
        | some m =>
          simp only [Option.map_some, Option.bind_some]
          rw [setAt_child hd dcur k m]
          exact ih _ _ he'

theorem modAt_unfold_some (ph : Phase) (S D : Node) (r : List Name) (es ds d1 : Ents)
    (hS : S.wf = true) (hs : S.get r = some (.dir es)) (hd : D.get r = some (.dir ds))
    (hl : lvl ph es ds = some d1) :
    modAt ph S D r = recQ ph S ((kids es).map (fun k => r ++ [k])) (setAt D r (.dir d1)) := by
  rw [recKids_recQ ph S D r es (.dir ds) (entsWf_of_get hS hs) hs hd es [] d1 (by simp), modAt_of hs hd]
  simp only [recNode, hl, Option.map_map]
  rfl

end Fs.BaseWalkComm
