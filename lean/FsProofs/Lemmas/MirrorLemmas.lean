/-
  Lemmas for the mirror part of C19 (namespace `Fs.Copy`, like CopyDirLemmas): what one `_mirror` step, and then
  `_mirror` below a directory, leaves under every name; from these, by induction on the path, idempotence, exactness
  with the default walker, and that a second run with `copy_if_newer` copies nothing.
-/
import FsProofs.Lemmas.CopyDirLemmas

namespace Fs.Copy
open Fs

/-- what the two components of a `_mirror` loop state (destination directory, rest of the `dst`
dictionary) hold under one name -/
def lookup2 (k : Name) (st : CEnts × CEnts) : Option CNode × Option CNode := (lookup k st.1, lookup k st.2)

/-- a loop over the source entries whose body touches only the entry's own name, and there only
as a function of what the state holds under that name -/
theorem foldl_local (body : CEnts × CEnts → Name × CNode → CEnts × CEnts)
    (F : Name → CNode → Option CNode × Option CNode → Option CNode × Option CNode)
    (hother : ∀ st x k, k ≠ x.1 → lookup2 k (body st x) = lookup2 k st)
    (hself : ∀ st x, lookup2 x.1 (body st x) = F x.1 x.2 (lookup2 x.1 st)) :
    ∀ (xs : CEnts), entsWf xs = true → ∀ (st : CEnts × CEnts) (k : Name),
      lookup2 k (xs.foldl body st) = match lookup k xs with
        | none => lookup2 k st
        | some v => F k v (lookup2 k st) := by
  intro xs
  induction xs with
  | nil => intro _ st k; rfl
  | cons x rest ih =>
    obtain ⟨a, v⟩ := x
    intro hwf st k
    obtain ⟨ha, _, hrest⟩ := entsWf_cons hwf
    rw [List.foldl_cons, ih hrest, lookup]
    by_cases hk : a = k
    · subst hk; rw [ha, if_pos rfl]; exact hself st (a, v)
    · rw [if_neg hk, hother st (a, v) k (fun e => hk e.symm)]

theorem lookup_foldl_erase (k : Name) (dict : CEnts) : ∀ (cur : CEnts),
    lookup k (dict.foldl (fun cur x => erase x.1 cur) cur) =
      if (lookup k dict).isSome then none else lookup k cur := by
  induction dict with
  | nil => intro cur; rfl
  | cons x rest ih =>
    obtain ⟨a, v⟩ := x
    intro cur
    rw [List.foldl_cons, ih (erase a cur), lookup]
    by_cases hk : a = k
    · subst hk; rw [if_pos rfl, lookup_erase_same]; simp
    · rw [if_neg hk, lookup_erase_other (fun e => hk e.symm)]

section
variable (e : Env) (o : MOpts) (w : Walker) (abs : List Name) (depth : Nat) (st : CEnts × CEnts)

/-- the file a successful copy leaves at the destination -/
def copiedFile (b : Bytes) (m : Option Int) : CNode := .file b (newTime e o.preserve m)

theorem mirrorFile_self (k : Name) (b : Bytes) (m : Option Int) :
    lookup2 k (mirrorFile e o st k b m) =
      (if fileCopied o b m (lookup k st.2) then some (copiedFile e o b m) else lookup k st.1, none) := by
  unfold mirrorFile copiedFile
  cases lookup k st.2 with
  | none => simp only [lookup2, lookup_put_same, lookup_erase_same, fileCopied, if_true]
  | some x =>
    cases x with
    | dir _ => simp only [lookup2, lookup_put_same, lookup_erase_same, fileCopied, if_true]
    | file b' m' =>
      simp only [fileCopied]
      by_cases hc : (o.copyIfNewer && !compare b m b' m') = true
      · simp [hc, lookup2, lookup_erase_same]
      · simp [hc, lookup2, lookup_put_same, lookup_erase_same]

theorem mirrorFile_other (a : Name) (b : Bytes) (m : Option Int)
    (k : Name) (hk : k ≠ a) : lookup2 k (mirrorFile e o st a b m) = lookup2 k st := by
  unfold mirrorFile
  cases lookup a st.2 with
  | none => simp only [lookup2, lookup_put_other hk, lookup_erase_other hk]
  | some x =>
    cases x with
    | dir _ => simp only [lookup2, lookup_put_other hk, lookup_erase_other hk]
    | file b' m' =>
      simp only []
      split <;> simp only [lookup2, lookup_put_other hk, lookup_erase_other hk]

theorem mirrorDirEntry_self (k : Name) :
    lookup2 k (mirrorDirEntry st k) =
      (match lookup k st.2 with | some (.dir _) => lookup k st.1 | _ => some (.dir []), none) := by
  unfold mirrorDirEntry
  cases hd : lookup k st.2 with
  | none => simp only [lookup2, lookup_put_same, hd]
  | some x => cases x <;> simp only [lookup2, lookup_put_same, lookup_erase_same]

theorem mirrorDirEntry_other (a : Name) (k : Name) (hk : k ≠ a) :
    lookup2 k (mirrorDirEntry st a) = lookup2 k st := by
  unfold mirrorDirEntry
  cases lookup a st.2 with
  | none => simp only [lookup2, lookup_put_other hk]
  | some x => cases x <;> simp only [lookup2, lookup_put_other hk, lookup_erase_other hk]

/-- what one `_mirror` step leaves under name `k` in a directory whose source entries are `es` and
whose destination listing was `ds` -/
def stepSpec (es ds : CEnts) (k : Name) : Option CNode :=
  match lookup k es with
  | none => none
  | some (.file b m) =>
    if w.fileOk abs k then
      (if fileCopied o b m (lookup k ds) then some (copiedFile e o b m) else lookup k ds)
    else none
  | some (.dir _) => if w.dirOk abs k then some (.dir (childEnts (lookup k ds))) else none

/-- how an iteration of the files loop (`filesF`) or of the directories loop (`dirsF`) for the entry
`(k, v)` changes what the state holds under `k` -/
def filesF (k : Name) :
    CNode → Option CNode × Option CNode → Option CNode × Option CNode
  | .file b m, p =>
    if w.fileOk abs k then (if fileCopied o b m p.2 then some (copiedFile e o b m) else p.1, none) else p
  | .dir _, p => p

def dirsF (k : Name) :
    CNode → Option CNode × Option CNode → Option CNode × Option CNode
  | .dir _, p => if w.dirOk abs k then (match p.2 with | some (.dir _) => p.1 | _ => some (.dir []), none) else p
  | .file _ _, p => p

theorem filesBody_other
    (x : Name × CNode) (k : Name) (hk : k ≠ x.1) : lookup2 k (filesBody e o w abs st x) = lookup2 k st := by
  unfold filesBody
  split
  · split
    · exact mirrorFile_other e o st x.1 _ _ k hk
    · rfl
  · rfl

theorem filesBody_self
    (x : Name × CNode) :
    lookup2 x.1 (filesBody e o w abs st x) = filesF e o w abs x.1 x.2 (lookup2 x.1 st) := by
  obtain ⟨a, v⟩ := x
  cases v with
  | dir _ => rfl
  | file b m =>
    simp only [filesBody, filesF]
    split
    · exact mirrorFile_self e o st a b m
    · rfl

theorem dirsBody_other
    (x : Name × CNode) (k : Name) (hk : k ≠ x.1) : lookup2 k (dirsBody w abs st x) = lookup2 k st := by
  unfold dirsBody
  split
  · split
    · exact mirrorDirEntry_other st x.1 k hk
    · rfl
  · rfl

theorem dirsBody_self (x : Name × CNode) :
    lookup2 x.1 (dirsBody w abs st x) = dirsF w abs x.1 x.2 (lookup2 x.1 st) := by
  obtain ⟨a, v⟩ := x
  cases v with
  | file _ _ => rfl
  | dir _ =>
    simp only [dirsBody, dirsF]
    split
    · exact mirrorDirEntry_self st a
    · rfl

theorem mirrorStep_lookup (es ds : CEnts)
    (hwf : entsWf es = true) (k : Name) :
    lookup k (mirrorStep e o w abs es ds) = stepSpec e o w abs es ds k := by
  unfold mirrorStep
  rw [lookup_foldl_erase]
  -- read both components of the state after the two loops through `lookup2`
  change (if (lookup2 k _).2.isSome then none else (lookup2 k _).1) = _
  rw [foldl_local _ _ (dirsBody_other w abs) (dirsBody_self w abs) es hwf,
    foldl_local _ _ (filesBody_other e o w abs) (filesBody_self e o w abs) es hwf]
  have hgone : ∀ d : Option CNode, (if d.isSome then none else d) = none := fun d => by cases d <;> rfl
  unfold stepSpec
  cases lookup k es with
  | none => exact hgone (lookup k ds)
  | some v =>
    cases v with
    | file b m =>
      by_cases hf : w.fileOk abs k = true
      · simp only [dirsF, filesF, lookup2, hf, if_true]; rfl
      · simp only [dirsF, filesF, lookup2, hf]; exact hgone (lookup k ds)
    | dir sub =>
      by_cases hd : w.dirOk abs k = true
      · simp only [dirsF, filesF, lookup2, hd, if_true]
        cases lookup k ds with
        | none => rfl
        | some x => cases x <;> rfl
      · simp only [dirsF, filesF, lookup2, hd]; exact hgone (lookup k ds)

theorem mirrorSubs_lookup :
    ∀ (es : CEnts), entsWf es = true → ∀ (cur : CEnts) (k : Name),
    lookup k (mirrorSubs e o w abs depth es cur) =
      match lookup k es with
      | some (.dir sub) =>
        if w.dirOk abs k && w.scan (depth + 1) then
          some (.dir (mirrorNode e o w (abs ++ [k]) (depth + 1) (.dir sub) (childEnts (lookup k cur))))
        else lookup k cur
      | _ => lookup k cur := by
  intro es
  induction es with
  | nil => intro _ cur k; rfl
  | cons x rest ih =>
    obtain ⟨a, v⟩ := x
    intro hwf cur k
    obtain ⟨ha, _, hrest⟩ := entsWf_cons hwf
    cases v with
    | file _ _ =>
      rw [mirrorSubs, ih hrest, lookup]
      by_cases hk : a = k
      · subst hk; rw [ha, if_pos rfl]
      · rw [if_neg hk]
    | dir sub =>
      rw [mirrorSubs, lookup]
      by_cases hsel : (w.dirOk abs a && w.scan (depth + 1)) = true
      · rw [if_pos hsel, ih hrest]
        by_cases hk : a = k
        · subst hk; rw [ha, if_pos rfl, lookup_put_same]; exact (if_pos hsel).symm
        · rw [if_neg hk, lookup_put_other (fun e => hk e.symm)]
      · rw [if_neg hsel, ih hrest]
        by_cases hk : a = k
        · subst hk; rw [ha, if_pos rfl]; exact (if_neg hsel).symm
        · rw [if_neg hk]

/-- what `_mirror` leaves under name `k` of a directory (source entries `es`, destination listing `ds`) -/
theorem mirrorNode_lookup (es ds : CEnts)
    (hwf : entsWf es = true) (k : Name) :
    lookup k (mirrorNode e o w abs depth (.dir es) ds) =
      match lookup k es with
      | some (.dir sub) =>
        if w.dirOk abs k && w.scan (depth + 1) then
          some (.dir (mirrorNode e o w (abs ++ [k]) (depth + 1) (.dir sub) (childEnts (lookup k ds))))
        else stepSpec e o w abs es ds k
      | _ => stepSpec e o w abs es ds k := by
  rw [mirrorNode, mirrorSubs_lookup e o w abs depth es hwf, mirrorStep_lookup e o w abs es ds hwf]
  cases hl : lookup k es with
  | none => rfl
  | some v =>
    cases v with
    | file b m => rfl
    | dir sub =>
      simp only []
      split
      · rename_i hsel
        rw [Bool.and_eq_true] at hsel
        simp only [stepSpec, hl, hsel.1, if_true, childEnts]
      · rfl

/-! ### exactness and idempotence, by induction on the path -/

variable {e o w abs} in
theorem stepSpec_idem {es ds ds' : CEnts} {k : Name}
    (h : lookup k ds' = stepSpec e o w abs es ds k) :
    stepSpec e o w abs es ds' k = stepSpec e o w abs es ds k := by
  revert h
  unfold stepSpec
  cases lookup k es with
  | none => exact fun _ => rfl
  | some v =>
    cases v with
    | file b m =>
      simp only []
      intro h
      by_cases hf : w.fileOk abs k = true
      · rw [if_pos hf] at h
        rw [if_pos hf, if_pos hf, h]
        by_cases hc : fileCopied o b m (lookup k ds) = true
        · rw [if_pos hc, ite_self]
        · rw [if_neg hc, if_neg hc]
      · rw [if_neg hf, if_neg hf]
    | dir sub =>
      simp only []
      intro h
      by_cases hd : w.dirOk abs k = true
      · rw [if_pos hd] at h
        rw [if_pos hd, if_pos hd, h]; rfl
      · rw [if_neg hd, if_neg hd]

theorem mirror_idempotent_aux :
    ∀ (q : List Name) (es ds : CEnts) (abs : List Name) (depth : Nat), entsWf es = true →
    view ((CNode.dir (mirrorNode e o w abs depth (.dir es) (mirrorNode e o w abs depth (.dir es) ds))).get q)
      = view ((CNode.dir (mirrorNode e o w abs depth (.dir es) ds)).get q) := by
  intro q
  induction q with
  | nil => intro _ _ _ _ _; rfl
  | cons k r ih =>
    intro es ds abs depth hwf
    have h1 := mirrorNode_lookup e o w abs depth es ds hwf k
    have h2 := mirrorNode_lookup e o w abs depth es (mirrorNode e o w abs depth (.dir es) ds) hwf k
    rw [get_cons_dir, get_cons_dir]
    cases hl : lookup k es with
    | none =>
      rw [hl] at h1 h2
      rw [h2, h1, stepSpec_idem h1]
    | some v =>
      rw [hl] at h1 h2
      cases v with
      | file b m => rw [h2, h1, stepSpec_idem h1]
      | dir sub =>
        simp only [] at h1 h2
        by_cases hsel : (w.dirOk abs k && w.scan (depth + 1)) = true
        · -- scanned: the second run works on the listing the first run left in the sub-directory
          rw [if_pos hsel] at h1 h2
          rw [h1] at h2
          rw [h2, h1]
          exact ih sub _ _ _ (wf_of_lookup hwf hl)
        · rw [if_neg hsel] at h1 h2
          rw [h2, h1, stepSpec_idem h1]

theorem fileCopied_always {o : MOpts} (h : o.copyIfNewer = false) (b : Bytes) (m : Option Int)
    (d : Option CNode) : fileCopied o b m d = true := by
  unfold fileCopied
  split
  · rw [h]; rfl
  · rfl

theorem get_childEnts (d : Option CNode) (c : Name) (r : List Name) :
    (CNode.dir (childEnts d)).get (c :: r) = d.bind (CNode.get (c :: r)) := by
  cases d with
  | none => rfl
  | some x => cases x <;> rfl

/-- `mirror` with the default walker, path by path: the destination shows the source's resource as a copy
would leave it — or, where both sides have a file that `copy_if_newer` decides not to copy, the
destination's own file -/
theorem mirror_all_get :
    ∀ (q : List Name) (es ds : CEnts) (abs : List Name) (depth : Nat), entsWf es = true →
    view ((CNode.dir (mirrorNode e o Walker.all abs depth (.dir es) ds)).get q)
        = copyView e o.preserve (view ((CNode.dir es).get q)) ∨
      ∃ b m b' m', (CNode.dir es).get q = some (.file b m) ∧ (CNode.dir ds).get q = some (.file b' m') ∧
        fileCopied o b m (some (.file b' m')) = false ∧
        (CNode.dir (mirrorNode e o Walker.all abs depth (.dir es) ds)).get q = some (.file b' m') := by
  intro q
  induction q with
  | nil => intro _ _ _ _ _; exact Or.inl rfl
  | cons k r ih =>
    intro es ds abs depth hwf
    rw [get_cons_dir, get_cons_dir, get_cons_dir, mirrorNode_lookup (hwf := hwf)]
    cases hl : lookup k es with
    | none => left; simp only [stepSpec, hl]; rfl
    | some v =>
      cases v with
      | file b m =>
        simp only [stepSpec, hl, Walker.all, if_true, copiedFile]
        by_cases hc : fileCopied o b m (lookup k ds) = true
        · left; rw [if_pos hc]; cases r <;> rfl
        · rw [if_neg hc]
          -- not copied: the destination has a file there, and it stays
          cases hd : lookup k ds with
          | none => rw [hd] at hc; exact absurd rfl hc
          | some x =>
            cases x with
            | dir _ => rw [hd] at hc; exact absurd rfl hc
            | file b' m' =>
              rw [hd] at hc
              cases r with
              | nil => exact Or.inr ⟨b, m, b', m', rfl, rfl, Bool.not_eq_true _ ▸ hc, rfl⟩
              | cons c r' => exact Or.inl rfl
      | dir sub =>
        simp only [Walker.all, Walker.scan, Bool.and_self, if_true, Option.bind_some]
        rcases ih sub (childEnts (lookup k ds)) (abs ++ [k]) (depth + 1) (wf_of_lookup hwf hl) with h | ⟨b, m, b', m', h1, h2, h3, h4⟩
        · exact Or.inl h
        · cases r with
          | nil => cases h1
          | cons c r' => exact Or.inr ⟨b, m, b', m', h1, get_childEnts _ c r' ▸ h2, h3, h4⟩

theorem noTime_copyView (e : Env) (pt : Bool) (v : View) : (copyView e pt v).noTime = v.noTime := by
  cases v <;> rfl

/-! ### the second run of `mirror(copy_if_newer=True)` -/

theorem timesKnown_of_mem {e : Env} {o : MOpts} {es : CEnts} (ht : timesKnownEnts e o es = true)
    {k : Name} {v : CNode} (h : (k, v) ∈ es) : timesKnown e o v = true := by
  induction es with
  | nil => simp at h
  | cons x xs ih =>
    obtain ⟨a, b⟩ := x
    simp only [timesKnownEnts, Bool.and_eq_true] at ht
    rcases List.mem_cons.1 h with h | h
    · cases h; exact ht.1
    · exact ih ht.2 h

/-- a file just copied is not copied again: its size is the source's and its time is the source's
(preserved) or "now", which is not older than the source's -/
theorem fileCopied_after_copy (b : Bytes) (m : Option Int)
    (hc : o.copyIfNewer = true) (hd : e.dstTimes = true) (ht : timesKnown e o (.file b m) = true) :
    fileCopied o b m (some (copiedFile e o b m)) = false := by
  cases m with
  | none => simp [timesKnown] at ht
  | some t =>
    simp only [timesKnown, Bool.or_eq_true, decide_eq_true_eq] at ht
    simp only [fileCopied, copiedFile, hc, Bool.true_and, Bool.not_not, compare, newTime, hd, if_true,
      bne_self_eq_false, Bool.false_or]
    by_cases hp : o.preserve = true
    · simp [hp, newerThan]
    · have hle : t ≤ e.now := by rcases ht with h | h; exact absurd h hp; exact h
      simp only [hp]
      simp [newerThan]; omega

theorem fileCopied_after_step (b : Bytes) (m : Option Int)
    (hc : o.copyIfNewer = true) (hd : e.dstTimes = true) (ht : timesKnown e o (.file b m) = true)
    (d : Option CNode) :
    fileCopied o b m (if fileCopied o b m d then some (copiedFile e o b m) else d) = false := by
  by_cases h : fileCopied o b m d = true
  · rw [if_pos h]; exact fileCopied_after_copy e o b m hc hd ht
  · rw [if_neg h]; exact Bool.not_eq_true _ ▸ h

end

mutual
theorem secondRun_node (e : Env) (o : MOpts) (w : Walker)
    (hc : o.copyIfNewer = true) (hd : e.dstTimes = true) :
    ∀ (n : CNode) (abs : List Name) (depth : Nat) (ds : CEnts), n.wf = true → timesKnown e o n = true →
      copiedNode e o w abs depth n (mirrorNode e o w abs depth n ds) = []
  | .file _ _, _, _, _, _, _ => rfl
  | .dir es, abs, depth, ds, hwf, ht => by
    rw [copiedNode, secondRun_subs e o w hc hd es es abs depth ds hwf ht (fun x hx => hx), List.append_nil]
    unfold copiedHere
    rw [List.filterMap_eq_nil_iff]
    intro x hx
    obtain ⟨k, v⟩ := x
    cases v with
    | dir _ => rfl
    | file b m =>
      have hl := lookup_of_mem hwf hx
      have hstep := mirrorNode_lookup e o w abs depth es ds hwf k
      simp only [hl, stepSpec] at hstep
      simp only []
      by_cases hf : w.fileOk abs k = true
      · rw [if_pos hf] at hstep
        rw [hstep, fileCopied_after_step e o b m hc hd (timesKnown_of_mem ht hx)]
        simp
      · simp [hf]

/-- the recursion runs over a suffix `es'` of the entries while `mirrorStep` and `mirrorNode` keep the whole list
`es`, hence the two lists and `∀ x ∈ es', x ∈ es` -/
theorem secondRun_subs (e : Env) (o : MOpts) (w : Walker)
    (hc : o.copyIfNewer = true) (hd : e.dstTimes = true) :
    ∀ (es' es : CEnts) (abs : List Name) (depth : Nat) (ds : CEnts), entsWf es = true → timesKnownEnts e o es = true →
      (∀ x ∈ es', x ∈ es) →
      copiedSubs e o w abs depth es'
        (mirrorStep e o w abs es (mirrorNode e o w abs depth (.dir es) ds)) = []
  | [], _, _, _, _, _, _, _ => rfl
  | (k, v) :: rest, es, abs, depth, ds, hwf, ht, hsub => by
    have hrest := secondRun_subs e o w hc hd rest es abs depth ds hwf ht
      (fun x hx => hsub x (List.mem_cons_of_mem _ hx))
    cases v with
    | file _ _ => exact hrest
    | dir sub =>
      rw [copiedSubs, hrest, List.append_nil]
      have hmem := hsub (k, .dir sub) (List.mem_cons_self ..)
      have hl := lookup_of_mem hwf hmem
      split
      · rename_i hsel
        -- the second step finds the sub-directory as the first run left it
        have hchild : childEnts (lookup k (mirrorStep e o w abs es (mirrorNode e o w abs depth (.dir es) ds)))
            = mirrorNode e o w (abs ++ [k]) (depth + 1) (.dir sub) (childEnts (lookup k ds)) := by
          rw [mirrorStep_lookup (hwf := hwf)]
          simp only [stepSpec, hl, (Bool.and_eq_true _ _ ▸ hsel).1, if_true]
          rw [mirrorNode_lookup (hwf := hwf), hl]
          simp only [hsel, if_true, childEnts]
        rw [hchild, secondRun_node e o w hc hd (.dir sub) (abs ++ [k]) (depth + 1) _ (wf_of_lookup hwf hl)
          (timesKnown_of_mem ht hmem)]
        rfl
      · rfl
end

end Fs.Copy
