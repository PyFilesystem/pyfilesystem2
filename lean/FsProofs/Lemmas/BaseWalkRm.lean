/-
  The depth-first walker of `FS.removetree` (`BaseWalk.rmWalk` / `rmEntries`) over the primitives of `Ref.step`
  empties the directory it is given, so `FS.removetree` on a path that validates is the reference's.
-/
import FsProofs.Lemmas.BaseWalkPrim

namespace Fs.BaseWalkRm
open Fs Fs.Ref Fs.BaseWalk Fs.TreeLemmas Fs.WrapLemmas Fs.BaseWalkPrim

/-- the primitives of the reference semantics -/
abbrev PR : Prim State := primOfStep Ref.step

/-- an open state whose tree is a well-formed directory (= `MultiFsLemmas.Good`, defined downstream) -/
structure GoodS (t : State) : Prop where
  opn : t.closed = false
  dir : t.root.isDir = true
  wf : t.root.wf = true

theorem goodS_setAt {t : State} (G : GoodS t) {cs : List Name} (hcs : CleanN cs) (m : Ents) (hm : entsWf m = true) :
    GoodS { t with root := setAt t.root cs (.dir m) } :=
  ⟨G.opn, TreeLemmas.isDir_setAt_dir _ _ _ G.dir, TreeLemmas.setAt_wf _ _ _ hcs G.wf hm⟩

theorem goodS_step {t : State} (G : GoodS t) (op : Op) (hop : op ≠ .close) : GoodS (Ref.step t op).1 :=
  ⟨(QueryLemmas.step_closed_same t op hop).trans G.opn, QueryLemmas.step_root_isDir t op G.dir,
   QueryLemmas.step_wf t op G.wf⟩

/-- removing the first entry of the directory at `cs` -/
theorem del_head {T : Node} {cs : List Name} {k : Name} {x : Node} {rest : Ents}
    (h : T.get cs = some (.dir ((k, x) :: rest))) : T.del (cs ++ [k]) = setAt T cs (.dir rest) := by
  rw [del_sub h [k] (by simp)]
  simp [Node.del, Ents.erase]

/-- replacing the first entry of the directory at `cs` -/
theorem setAt_head {T : Node} {cs : List Name} {k : Name} {v x : Node} {rest : Ents}
    (h : T.get cs = some (.dir ((k, v) :: rest))) :
    setAt T (cs ++ [k]) x = setAt T cs (.dir ((k, x) :: rest)) := by
  rw [setAt_ne (by simp), set_sub h [k] (by simp)]
  simp [Node.set, Ents.put]

theorem get_head {T : Node} {cs : List Name} {k : Name} {v : Node} {rest : Ents}
    (h : T.get cs = some (.dir ((k, v) :: rest))) : T.get (cs ++ [k]) = some v := by
  rw [get_sub h]; simp [Node.get, Ents.lookup]

theorem validatepath_ref {t : State} (G : GoodS t) {p : Str} {cs : List Name} (hv : validate p = .ok cs) :
    PR.validatepath t p = (t, .ok (absOf cs)) := by
  show validateOf Ref.step t p = _
  rw [validateOf_ref t G.opn, hv]

theorem scandir_ref {t : State} (G : GoodS t) {cs : List Name} (hcs : CleanN cs) :
    PR.scandir t (absOf cs) = (t, match t.root.get cs with
      | none => .err .ResourceNotFound
      | some (.file _) => .err .DirectoryExpected
      | some (.dir es) => .ok (infos es)) :=
  scanOf_ref t G.opn G.wf hcs

/-- the result of emptying the directory at `cs` -/
def emptied (t : State) (cs : List Name) : State := { t with root := setAt t.root cs (.dir []) }

/-- one directory of the depth-first walk, given that the walk of any sub-directory (with `fuel`) empties it -/
theorem rmEntries_ref (fuel : Nat)
    (IH : ∀ (t : State) (cs : List Name) (es : Ents), GoodS t → CleanN cs → t.root.get cs = some (.dir es) →
      (Node.dir es).count ≤ fuel → rmWalk PR fuel (absOf cs) t = (emptied t cs, .ok .unit)) :
    ∀ (es : Ents) (t : State) (cs : List Name), GoodS t → CleanN cs → t.root.get cs = some (.dir es) →
      (∀ e ∈ es, e.2.count ≤ fuel) →
      rmEntries PR (rmWalk PR fuel) (absOf cs) (infos es) t = (emptied t cs, .ok .unit)
  | [], t, cs, _, _, hg, _ => by
    simp only [infos, List.map_nil, rmEntries, emptied]
    rw [setAt_self _ _ _ hg]
  | (k, v) :: rest, t, cs, G, hcs, hg, hfu => by
    have hw := TreeLemmas.entsWf_of_get G.wf hg
    have hk : cleanName k = true := lookup_cleanName k v _ hw (by simp [Ents.lookup])
    have hck : CleanN (cs ++ [k]) := cleanN_snoc hcs hk
    have hwr : entsWf rest = true := by
      simp only [entsWf, Bool.and_eq_true] at hw; exact hw.2
    have hgk := get_head hg
    -- the state after the entry is gone
    have Gr : GoodS { t with root := setAt t.root cs (.dir rest) } := goodS_setAt G hcs rest hwr
    have hgr : (setAt t.root cs (.dir rest)).get cs = some (.dir rest) := get_setAt_self hg _
    have ih := rmEntries_ref fuel IH rest { t with root := setAt t.root cs (.dir rest) } cs Gr hcs hgr
      (fun e he => hfu e (by simp [he]))
    have hfin : emptied { t with root := setAt t.root cs (.dir rest) } cs = emptied t cs := by
      simp [emptied, setAt_setAt]
    cases v with
    | file b =>
      simp only [infos, List.map_cons, infoOf, rmEntries, Bool.false_eq_true, if_false]
      rw [combine_absOf hcs hk]
      have hrm : PR.remove t (absOf (cs ++ [k])) = ({ t with root := setAt t.root cs (.dir rest) }, .ok .unit) := by
        show Ref.step t (.remove (absOf (cs ++ [k]))) = _
        rw [ref_one t G.opn _ hck rfl]
        simp [step1, hgk, upd, del_head hg]
      rw [hrm]
      simp only
      rw [← hfin]; exact ih
    | dir ev =>
      simp only [infos, List.map_cons, infoOf, rmEntries, if_true]
      rw [combine_absOf hcs hk]
      have hcnt : (Node.dir ev).count ≤ fuel := hfu (k, .dir ev) (by simp)
      rw [IH t (cs ++ [k]) ev G hck hgk hcnt]
      simp only
      -- the emptied sub-directory, seen from `cs`
      have he : (emptied t (cs ++ [k])).root = setAt t.root cs (.dir ((k, .dir []) :: rest)) := by
        simp [emptied, setAt_head hg]
      have hge : (emptied t (cs ++ [k])).root.get cs = some (.dir ((k, .dir []) :: rest)) := by
        rw [he]; exact get_setAt_self hg _
      have hrd : PR.removedir (emptied t (cs ++ [k])) (absOf (cs ++ [k])) =
          ({ t with root := setAt t.root cs (.dir rest) }, .ok .unit) := by
        show Ref.step (emptied t (cs ++ [k])) (.removedir (absOf (cs ++ [k]))) = _
        rw [ref_one (emptied t (cs ++ [k])) G.opn _ hck rfl]
        simp only [step1, List.append_eq_nil_iff, List.cons_ne_self, and_false, if_false, get_head hge,
          List.isEmpty_nil, if_true, upd, del_head hge]
        rw [he, setAt_setAt]
        rfl
      rw [hrd]
      simp only
      rw [← hfin]; exact ih

theorem rmWalk_ref : ∀ (fuel : Nat) (t : State) (cs : List Name) (es : Ents), GoodS t → CleanN cs →
    t.root.get cs = some (.dir es) → (Node.dir es).count ≤ fuel →
    rmWalk PR fuel (absOf cs) t = (emptied t cs, .ok .unit)
  | 0, _, _, es, _, _, _, hf => by simp [Node.count] at hf
  | fuel + 1, t, cs, es, G, hcs, hg, hf => by
    rw [rmWalk, scandir_ref G hcs, hg]
    simp only
    refine rmEntries_ref fuel (fun t' cs' es' G' hc' hg' hf' => rmWalk_ref fuel t' cs' es' G' hc' hg' hf') es t cs G hcs hg ?_
    intro e he
    have : e.2.count ≤ entsCount es :=
      TreeLemmas.lookup_count (TreeLemmas.lookup_of_mem (TreeLemmas.entsWf_of_get G.wf hg) (k := e.1) he)
    simp only [Node.count] at hf
    omega

/-- the size of what lies at `cs` (0 when nothing does) -/
def subCount (t : Node) (cs : List Name) : Nat :=
  match t.get cs with
  | some n => n.count
  | none => 0

/-- `FS.removetree` as coded, over the primitives of the reference, on a path that validates: the
reference's `removetree` (error class included) -/
theorem removetree_ref_valid (fuel : Nat) (t : State) (G : GoodS t) (p : Str) (cs : List Name)
    (hv : validate p = .ok cs) (hf : subCount t.root cs < fuel) :
    removetree PR fuel t p = Ref.step t (.removetree p) := by
  have hcs : CleanN cs := TreeLemmas.validate_clean p cs hv
  rw [QueryLemmas.step_admitted G.opn rfl hv (by nofun)]
  simp only [removetree, validatepath_ref G hv, removetreeBody]
  obtain ⟨f, rfl⟩ : ∃ f, fuel = f + 1 := ⟨fuel - 1, by omega⟩
  cases hg : t.root.get cs with
  | none =>
    have hne : cs ≠ [] := ne_nil_of_get_none hg
    simp [rmWalk, scandir_ref G hcs, step1, hg, hne, fail]
  | some n =>
    cases n with
    | file b =>
      have hne : cs ≠ [] := TreeLemmas.ne_nil_of_file G.dir hg
      simp [rmWalk, scandir_ref G hcs, step1, hg, hne, fail]
    | dir es =>
      have hcnt : (Node.dir es).count ≤ f := by
        simp only [subCount, hg] at hf; omega
      rw [rmWalk_ref (f + 1) t cs es G hcs hg (by omega)]
      simp only
      by_cases hne : cs = []
      · subst hne
        simp [absOf_nil, emptied, setAt, step1, upd]
      · have h1 : absOf cs ≠ ['/'] := fun e => hne ((absOf_eq_root hcs).1 e)
        simp only [h1, if_false]
        show Ref.step (emptied t cs) (.removedir p) = _
        rw [QueryLemmas.step_admitted (s := emptied t cs) G.opn rfl hv (by nofun)]
        have hge : (t.root.set cs (.dir [])).get cs = some (.dir []) := by
          have := get_setAt_self hg (.dir []); rwa [setAt_ne hne] at this
        simp only [step1, hne, if_false, hg, upd, emptied, setAt_ne hne, TreeLemmas.del_set, hge,
          List.isEmpty_nil, if_true]

end Fs.BaseWalkRm
