/-
  MemoryFS as coded (`FsModel/Mem.lean`), method by method, against `Ref.step1` / `Ref.step2`; the
  proofs split on the situation of the path in the tree (`sit`); `copy` is `writebytes` after `open(src, "rb")`.
-/
import FsModel.Mem
import FsProofs.Lemmas.TreeLemmas
import FsProofs.Lemmas.QueryLemmas
import FsProofs.Lemmas.Refusal

namespace Fs.MemLemmas
open Fs Fs.Ref Fs.TreeLemmas

/-! ### basics -/

theorem vpath_open (s : State) (p : Str) (hc : s.closed = false) : Mem.vpath s p = validate p := by
  simp [Mem.vpath, hc]

theorem vpath_err {s : State} {p : Str} {e : Err} (h : Mem.vpath s p = .err e) :
    (s.closed = true ∧ e = .FilesystemClosed) ∨ (s.closed = false ∧ validate p = .err e) := by
  unfold Mem.vpath at h
  cases hc : s.closed
  · rw [hc] at h; exact Or.inr ⟨rfl, h⟩
  · rw [hc] at h; cases h; exact Or.inl ⟨rfl, rfl⟩

/-! ### one call, operation by operation -/

/-- the situations of a component path in a tree -/
inductive Sit (t : Node) (cs : List Name) : Prop
  | root : cs = [] → Sit t cs
  | noParent : cs ≠ [] → t.get cs.dropLast = none → t.get cs = none → Sit t cs
  | fileParent (b : Bytes) : cs ≠ [] → t.get cs.dropLast = some (.file b) → t.get cs = none → Sit t cs
  | missing (es : Ents) : cs ≠ [] → t.get cs.dropLast = some (.dir es) →
      Ents.lookup (cs.getLast?.getD []) es = none → t.get cs = none → Sit t cs
  | present (es : Ents) (n : Node) : cs ≠ [] → t.get cs.dropLast = some (.dir es) →
      Ents.lookup (cs.getLast?.getD []) es = some n → t.get cs = some n → Sit t cs

theorem sit (t : Node) (cs : List Name) : Sit t cs := by
  by_cases hne : cs = []
  · exact .root hne
  · have hg := get_split t cs hne
    cases hp : t.get cs.dropLast with
    | none => simp only [hp] at hg; exact .noParent hne hp hg
    | some n =>
      cases n with
      | file b => simp only [hp] at hg; exact .fileParent b hne hp hg
      | dir es =>
        simp only [hp] at hg
        cases hl : Ents.lookup (cs.getLast?.getD []) es with
        | none => rw [hl] at hg; exact .missing es hne hp hl hg
        | some n => rw [hl] at hg; exact .present es n hne hp hl hg

theorem parse_facts (mode : Str) (m : Mode) (h : parseBinMode mode = some m) :
    (m.exclusive = true → m.create = true) ∧ (m.truncate = true → m.create = true) := by
  obtain ⟨-, -, -, -, rfl⟩ := QueryLemmas.parse_some mode m h
  exact (by decide : ∀ a w x : Bool,
    (x = true → (a || w || x) = true) ∧ ((w || x) = true → (a || w || x) = true)) _ _ _

/-- the code agrees with the reference: same result, or both fail and the code's class is one
of the listed (truthful) ones -/
def Agree (A : List Err) (s : State) (m r : State × Out) : Prop :=
  m = r ∨ ∃ e e', m = (s, .err e) ∧ r.2 = .err e' ∧ e ∈ A

/-- the three-part comparison of `m` with the reference's `r`, by cases on `r`: the second case is `Agree`'s -/
theorem refines_cases {A : List Err} {s : State} {m r : State × Out} (h1 : m.2.isOk = r.2.isOk)
    (h2 : r.2.isOk = true → m = r) (h3 : ∀ e, m.2 = .err e → e ∈ A ∧ m.1 = s) :
    (r.2.isOk = true ∧ m = r) ∨ ∃ e e', m = (s, .err e) ∧ r.2 = .err e' ∧ e ∈ A := by
  cases hr : r.2 with
  | ok v => exact .inl ⟨rfl, h2 (by rw [hr]; rfl)⟩
  | err e' =>
    rw [hr] at h1
    obtain ⟨s1, o⟩ := m
    cases o with
    | ok v => cases h1
    | err e => obtain ⟨he, rfl⟩ := h3 e rfl; exact .inr ⟨e, e', rfl, rfl, he⟩

theorem agree_of_fails {A : List Err} {s : State} {m r : State × Out} (e : Err) (hm : m = (s, .err e))
    (hr : r.2.isOk = false) (he : e ∈ A) : Agree A s m r := by
  cases h : r.2 with
  | ok v => rw [h] at hr; cases hr
  | err e' => exact Or.inr ⟨e, e', hm, h, he⟩

section
variable (s : State) (p : Str) (cs : List Name) (hc : s.closed = false) (hv : validate p = .ok cs)
  (hd : s.root.isDir = true) (hwf : s.root.wf = true)
include hc hv

theorem mem_listdir_eq :
    Mem.listdir s p = match s.root.get cs with
      | none => .err .ResourceNotFound
      | some (.file _) => .err .DirectoryExpected
      | some (.dir es) => .ok (Ents.names es) := by
  simp only [Mem.listdir, vpath_open _ _ hc, hv]
  cases h : s.root.get cs with
  | none => rfl
  | some n => cases n <;> rfl

theorem mem_getinfo_eq :
    Mem.getinfo s p = match s.root.get cs with
      | none => .err .ResourceNotFound
      | some (.dir _) => .ok (lastName cs, true, 0)
      | some (.file b) => .ok (lastName cs, false, b.length) := by
  simp only [Mem.getinfo, vpath_open _ _ hc, hv]
  cases h : s.root.get cs with
  | none => rfl
  | some n => cases n <;> rfl

theorem mem_exists_eq : Mem.exists_ s p = .ok (s.root.get cs).isSome := by
  simp only [Mem.exists_, mem_getinfo_eq s p cs hc hv]
  cases h : s.root.get cs with
  | none => rfl
  | some n => cases n <;> rfl

theorem mem_getinfo : Mem.step s (.getinfo p) = step1 s cs (.getinfo p) := by
  simp only [Mem.step, mem_getinfo_eq s p cs hc hv, step1]
  cases h : s.root.get cs with
  | none => rfl
  | some n => cases n <;> rfl

theorem mem_settimes : Mem.step s (.settimes p) = step1 s cs (.settimes p) := by
  simp [Mem.step, Mem.setinfo, vpath_open _ _ hc, hv, step1]

theorem mem_makedir (r : Bool) : Mem.step s (.makedir p r) = step1 s cs (.makedir p r) := by
  simp only [Mem.step, Mem.makedir, vpath_open _ _ hc, hv, step1, Mem.splitc, parentOf]
  rcases sit s.root cs with h | ⟨hne, hp, hg⟩ | ⟨b, hne, hp, hg⟩ | ⟨es, hne, hp, hl, hg⟩ | ⟨es, n, hne, hp, hl, hg⟩
  · simp [h]
  · simp [hne, hp]
  · simp [hne, hp]
  · simp [hne, hp, hg, hl]
  · cases n <;> cases r <;> simp [hne, hp, hg, hl]

theorem mem_removetree : Mem.step s (.removetree p) = step1 s cs (.removetree p) := by
  simp only [Mem.step, Mem.removetree, vpath_open _ _ hc, hv, step1, Mem.splitc, Mem.contains, Mem.isDirAt]
  rcases sit s.root cs with h | ⟨hne, hp, hg⟩ | ⟨b, hne, hp, hg⟩ | ⟨es, hne, hp, hl, hg⟩ | ⟨es, n, hne, hp, hl, hg⟩
  · simp [h]
  · simp [hne, hp, hg]
  · simp [hne, hp, hg]
  · simp [hne, hp, hg, hl]
  · cases n <;> simp [hne, hp, hg, hl]

theorem mem_removedir : Mem.step s (.removedir p) = step1 s cs (.removedir p) := by
  simp only [Mem.step, Mem.removedir, Mem.isempty, mem_listdir_eq s p cs hc hv, Mem.removetree,
    vpath_open _ _ hc, hv, step1, Mem.splitc, Mem.contains, Mem.isDirAt]
  rcases sit s.root cs with h | ⟨hne, hp, hg⟩ | ⟨b, hne, hp, hg⟩ | ⟨es, hne, hp, hl, hg⟩ | ⟨es, n, hne, hp, hl, hg⟩
  · simp [h]
  · simp [hne, hg]
  · simp [hne, hg]
  · simp [hne, hg]
  · rcases n with b | ds
    · simp [hne, hg]
    · cases ds <;> simp [hne, hp, hg, hl, Ents.names]

theorem mem_writebytes (d : Bytes) : Mem.step s (.writebytes p d) = step1 s cs (.writebytes p d) := by
  have hcl := validate_clean p cs hv
  simp only [Mem.step, Mem.writebytes, Mem.openbin, QueryLemmas.mode_wb, vpath_open _ _ hc, hv, step1, Mem.splitc,
    writeFile, parentOf]
  rcases sit s.root cs with h | ⟨hne, hp, hg⟩ | ⟨b, hne, hp, hg⟩ | ⟨es, hne, hp, hl, hg⟩ | ⟨es, n, hne, hp, hl, hg⟩
  · subst h
    simp
  · simp [last_ne_nil cs hne hcl, hne, hp]
  · simp [last_ne_nil cs hne hcl, hne, hp]
  · simp [last_ne_nil cs hne hcl, hne, hp, hg, hl, upd, set_set_same]
  · cases n <;> simp [last_ne_nil cs hne hcl, hne, hp, hg, hl, upd, set_set_same]

theorem mem_appendbytes (d : Bytes) : Mem.step s (.appendbytes p d) = step1 s cs (.appendbytes p d) := by
  have hcl := validate_clean p cs hv
  simp only [Mem.step, Mem.appendbytes, Mem.openbin, QueryLemmas.mode_ab, vpath_open _ _ hc, hv, step1, Mem.splitc,
    writeFile, parentOf]
  rcases sit s.root cs with h | ⟨hne, hp, hg⟩ | ⟨b, hne, hp, hg⟩ | ⟨es, hne, hp, hl, hg⟩ | ⟨es, n, hne, hp, hl, hg⟩
  · subst h
    simp
  · simp [last_ne_nil cs hne hcl, hne, hp]
  · simp [last_ne_nil cs hne hcl, hne, hp]
  · simp [last_ne_nil cs hne hcl, hne, hp, hg, hl, upd, set_set_same, get_set_same cs s.root _ es hne hp]
  · cases n <;> simp [last_ne_nil cs hne hcl, hne, hp, hg, hl, upd]

theorem mem_create (w : Bool) : Mem.step s (.create p w) = step1 s cs (.create p w) := by
  have hcl := validate_clean p cs hv
  simp only [Mem.step, Mem.create, mem_exists_eq s p cs hc hv, Mem.openbin, QueryLemmas.mode_wb, vpath_open _ _ hc, hv,
    step1, Mem.splitc, writeFile, parentOf]
  rcases sit s.root cs with h | ⟨hne, hp, hg⟩ | ⟨b, hne, hp, hg⟩ | ⟨es, hne, hp, hl, hg⟩ | ⟨es, n, hne, hp, hl, hg⟩
  · subst h
    cases w <;> simp [Node.get]
  · cases w <;> simp [last_ne_nil cs hne hcl, hne, hp, hg]
  · cases w <;> simp [last_ne_nil cs hne hcl, hne, hp, hg]
  · cases w <;> simp [last_ne_nil cs hne hcl, hne, hp, hg, hl, upd, done]
  · cases n <;> cases w <;> simp [last_ne_nil cs hne hcl, hne, hp, hg, hl, upd, done]

theorem mem_touch : Mem.step s (.touch p) = step1 s cs (.touch p) := by
  have hcl := validate_clean p cs hv
  simp only [Mem.step, Mem.touch, Mem.create, mem_exists_eq s p cs hc hv, Mem.openbin, QueryLemmas.mode_wb, Mem.setinfo,
    vpath_open _ _ hc, hv, step1, Mem.splitc, writeFile, parentOf]
  rcases sit s.root cs with h | ⟨hne, hp, hg⟩ | ⟨b, hne, hp, hg⟩ | ⟨es, hne, hp, hl, hg⟩ | ⟨es, n, hne, hp, hl, hg⟩
  · subst h
    simp [Node.get, done, vpath_open _ _ hc, hv]
  · simp [last_ne_nil cs hne hcl, hne, hp, hg, fail]
  · simp [last_ne_nil cs hne hcl, hne, hp, hg, fail]
  · simp [last_ne_nil cs hne hcl, hne, hp, hg, hl, upd, done]
  · simp [hg, done, vpath_open _ _ hc, hv]

theorem mem_openbin (mode : Str) (m : Mode) (hm : parseBinMode mode = some m) :
    Agree (adm1 s.root cs (.openbin p mode)) s (Mem.step s (.openbin p mode))
      (step1 s cs (.openbin p mode)) := by
  have hcl := validate_clean p cs hv
  obtain ⟨hf1, hf2⟩ := parse_facts mode m hm
  simp only [Mem.step, Mem.openbin, hm, vpath_open _ _ hc, hv, step1, Mem.splitc, parentOf]
  rcases sit s.root cs with h | ⟨hne, hp, hg⟩ | ⟨b, hne, hp, hg⟩ | ⟨es, hne, hp, hl, hg⟩ | ⟨es, n, hne, hp, hl, hg⟩
  · subst h
    left; simp
  · left; simp [last_ne_nil cs hne hcl, hne, hp]
  · left; simp [last_ne_nil cs hne hcl, hne, hp]
  · left
    cases hcr : m.create <;> simp [last_ne_nil cs hne hcl, hne, hp, hg, hl, upd, done]
  · obtain ⟨rd, wr, cr, tr, ex, ap⟩ := m
    simp only at hf1 hf2
    rcases n with b | ds
    · left
      -- the rows with `exclusive` or `truncate` but without `create` go by `hf1`, `hf2` (`parse_facts`)
      cases cr <;> cases ex <;> cases tr <;> simp_all [last_ne_nil cs hne hcl, upd, done, fail]
    · cases ex
      · left
        cases cr <;> simp_all [last_ne_nil cs hne hcl, fail]
      · have hcr : cr = true := hf1 rfl
        subst hcr
        -- exclusive `openbin` of a directory: code FileExists, reference FileExpected
        exact agree_of_fails .FileExists (by simp [last_ne_nil cs hne hcl, hp, hl, fail])
          (by simp [hne, hp, hg, fail, Res.isOk]) (by simp [adm1, hm, kindAt, hg])

include hd

/-- `open(path, "rb")`, the source check of `readbytes` and `copy` -/
theorem openbin_rb :
    Mem.openbin s p ['r', 'b'] = (s, match s.root.get cs with
      | none => .err .ResourceNotFound
      | some (.dir _) => .err .FileExpected
      | some (.file _) => .ok cs) := by
  have hcl := validate_clean p cs hv
  simp only [Mem.openbin, QueryLemmas.mode_rb, vpath_open _ _ hc, hv, Mem.splitc]
  rcases sit s.root cs with h | ⟨hne, hp, hg⟩ | ⟨b, hne, hp, hg⟩ | ⟨es, hne, hp, hl, hg⟩ | ⟨es, n, hne, hp, hl, hg⟩
  · subst h
    obtain ⟨es, hr⟩ := root_dir hd
    simp [hr, Node.get]
  · simp [last_ne_nil cs hne hcl, hp, hg]
  · simp [last_ne_nil cs hne hcl, hp, hg]
  · simp [last_ne_nil cs hne hcl, hp, hg, hl]
  · cases n <;> simp [last_ne_nil cs hne hcl, hp, hg, hl]

theorem mem_readbytes : Mem.step s (.readbytes p) = step1 s cs (.readbytes p) := by
  simp only [Mem.step, Mem.readbytes, openbin_rb s p cs hc hv hd, step1]
  rcases hg : s.root.get cs with _ | _ | _ <;> simp [hg, done]

include hwf

theorem mem_remove :
    Agree (adm1 s.root cs (.remove p)) s (Mem.step s (.remove p)) (step1 s cs (.remove p)) := by
  have hcl := validate_clean p cs hv
  simp only [Mem.step, Mem.remove, vpath_open _ _ hc, hv, step1, Mem.splitc, Mem.contains, Mem.isDirAt]
  rcases sit s.root cs with h | ⟨hne, hp, hg⟩ | ⟨b, hne, hp, hg⟩ | ⟨es, hne, hp, hl, hg⟩ | ⟨es, n, hne, hp, hl, hg⟩
  · subst h
    obtain ⟨es, hr⟩ := root_dir hd
    have hl := lookup_nil es (by simpa [hr, Node.wf] using hwf)
    -- `remove("/")`: code ResourceNotFound, reference FileExpected
    exact agree_of_fails .ResourceNotFound (by simp [hr, Node.get, hl, fail]) (by simp [fail, Res.isOk])
      (by simp [adm1, admFileArg])
  · left; simp [hne, hp, hg]
  · left; simp [hne, hp, hg]
  · left; simp [hne, hp, hg, hl]
  · left; cases n <;> simp [hne, hp, hg, hl]

end

/-! ### makedirs: the missing intermediate directories -/

theorem snoc_induction {α : Type} {P : List α → Prop} (h0 : P [])
    (hs : ∀ l a, P l → P (l ++ [a])) : ∀ l, P l := by
  have key : ∀ r : List α, P r.reverse := by
    intro r
    induction r with
    | nil => exact h0
    | cons a r ih => rw [List.reverse_cons]; exact hs _ _ ih
  intro l
  have := key l.reverse
  rwa [List.reverse_reverse] at this

/-- the prefixes of `cs`, longest first (the argument of the walk in `get_intermediate_dirs`) -/
def prefixesRev (cs : List Name) : List (List Name) :=
  (List.range (cs.length + 1)).reverse.map fun i => cs.take i

theorem prefixesRev_nil : prefixesRev [] = [[]] := by decide

theorem prefixesRev_snoc (cs : List Name) (c : Name) :
    prefixesRev (cs ++ [c]) = (cs ++ [c]) :: prefixesRev cs := by
  unfold prefixesRev
  have : (cs ++ [c]).length + 1 = (cs.length + 1) + 1 := by simp
  rw [this, List.range_succ, List.reverse_append]
  simp only [List.reverse_cons, List.reverse_nil, List.nil_append, List.cons_append, List.map_cons]
  congr 1
  · have : cs.length + 1 = (cs ++ [c]).length := by simp
    rw [this, List.take_length]
  · apply List.map_congr_left
    intro i hi
    simp only [List.mem_reverse, List.mem_range] at hi
    exact List.take_append_of_le_length (by omega)

theorem go_nil (s : State) (acc : List (List Name)) : Mem.intermediateDirs.go s [] acc = .ok acc := by
  simp [Mem.intermediateDirs.go]

theorem go_cons_none (s : State) (pre : List Name) (rest acc : List (List Name))
    (h : s.root.get pre = none) :
    Mem.intermediateDirs.go s (pre :: rest) acc = Mem.intermediateDirs.go s rest (pre :: acc) := by
  simp [Mem.intermediateDirs.go, h]

theorem go_cons_dir (s : State) (pre : List Name) (rest acc : List (List Name)) (es : Ents)
    (h : s.root.get pre = some (.dir es)) :
    Mem.intermediateDirs.go s (pre :: rest) acc = .ok acc := by
  simp [Mem.intermediateDirs.go, h]

theorem go_cons_file (s : State) (pre : List Name) (rest acc : List (List Name)) (b : Bytes)
    (h : s.root.get pre = some (.file b)) :
    Mem.intermediateDirs.go s (pre :: rest) acc = .err .DirectoryExpected := by
  simp [Mem.intermediateDirs.go, h]

theorem go_acc (s : State) (L acc : List (List Name)) :
    Mem.intermediateDirs.go s L acc = (Mem.intermediateDirs.go s L []).map (· ++ acc) := by
  induction L generalizing acc with
  | nil => simp [go_nil, Res.map]
  | cons pre rest ih =>
    cases h : s.root.get pre with
    | none =>
      rw [go_cons_none s pre rest acc h, go_cons_none s pre rest [] h, ih (pre :: acc), ih [pre]]
      cases Mem.intermediateDirs.go s rest [] <;> simp [Res.map]
    | some n =>
      cases n with
      | file b => rw [go_cons_file s pre rest acc b h, go_cons_file s pre rest [] b h]; rfl
      | dir es => rw [go_cons_dir s pre rest acc es h, go_cons_dir s pre rest [] es h]; rfl

/-- the walk of `get_intermediate_dirs` on the prefixes of `cs` -/
def goPrefixes (s : State) (cs : List Name) : Res (List (List Name)) :=
  Mem.intermediateDirs.go s (prefixesRev cs) []

theorem intermediateDirs_eq (s : State) (cs : List Name) :
    Mem.intermediateDirs s cs = (goPrefixes s cs).map List.dropLast := by
  unfold Mem.intermediateDirs goPrefixes prefixesRev
  cases Mem.intermediateDirs.go s _ [] <;> rfl

theorem goPrefixes_nil (s : State) (es : Ents) (h : s.root = .dir es) : goPrefixes s [] = .ok [] := by
  rw [goPrefixes, prefixesRev_nil, go_cons_dir s [] [] [] es (by simp [h, Node.get])]

theorem goPrefixes_snoc_none (s : State) (cs : List Name) (c : Name) (h : s.root.get (cs ++ [c]) = none) :
    goPrefixes s (cs ++ [c]) = (goPrefixes s cs).map (· ++ [cs ++ [c]]) := by
  rw [goPrefixes, prefixesRev_snoc, go_cons_none _ _ _ _ h, go_acc]; rfl

theorem goPrefixes_snoc_dir (s : State) (cs : List Name) (c : Name) (es : Ents)
    (h : s.root.get (cs ++ [c]) = some (.dir es)) : goPrefixes s (cs ++ [c]) = .ok [] := by
  rw [goPrefixes, prefixesRev_snoc, go_cons_dir _ _ _ _ es h]

theorem goPrefixes_snoc_file (s : State) (cs : List Name) (c : Name) (b : Bytes)
    (h : s.root.get (cs ++ [c]) = some (.file b)) : goPrefixes s (cs ++ [c]) = .err .DirectoryExpected := by
  rw [goPrefixes, prefixesRev_snoc, go_cons_file _ _ _ _ b h]

/-! ### what the walk returns -/

theorem goPrefixes_spec (s : State) (hd : s.root.isDir = true) : ∀ cs : List Name,
    ((blockedByFile s.root [] cs = true ∨ isFileAt s.root cs = true) →
      goPrefixes s cs = .err .DirectoryExpected) ∧
    (∀ es, s.root.get cs = some (.dir es) → goPrefixes s cs = .ok []) ∧
    (blockedByFile s.root [] cs = false → s.root.get cs = none →
      ∃ l, goPrefixes s cs = .ok (l ++ [cs]) ∧
        l.foldl (fun t d => t.set d (.dir [])) s.root = mkdirs [] cs.dropLast s.root) := by
  obtain ⟨res, hr⟩ := root_dir hd
  apply snoc_induction
  · refine ⟨?_, ?_, ?_⟩
    · simp [blockedByFile, isFileAt, hr, Node.get]
    · intro es _; exact goPrefixes_nil s res hr
    · intro _ h; simp [Node.get] at h
  · intro cs' c ⟨iha, ihb, ihc⟩
    have hsnoc := blocked_snoc s.root [] cs' c
    simp only [List.nil_append] at hsnoc
    refine ⟨?_, ?_, ?_⟩
    · intro h
      cases hg : s.root.get (cs' ++ [c]) with
      | none =>
        rw [goPrefixes_snoc_none s cs' c hg, iha ?_]
        · rfl
        · rw [hsnoc, isFileAt_false_of_none hg] at h
          simpa using h
      | some n =>
        cases n with
        | file b => exact goPrefixes_snoc_file s cs' c b hg
        | dir es =>
          exfalso
          obtain ⟨es', he⟩ := get_prefix_dir cs' c [] s.root _ hg
          have hb := not_blocked_of_get s.root _ [] cs' (by simpa using he)
          rw [hsnoc, hb, isFileAt_false_of_dir he, isFileAt_false_of_dir hg] at h
          simp at h
    · intro es hg; exact goPrefixes_snoc_dir s cs' c es hg
    · intro hbl hg
      rw [hsnoc, Bool.or_eq_false_iff] at hbl
      obtain ⟨hbl', hnf⟩ := hbl
      rw [goPrefixes_snoc_none s cs' c hg, List.dropLast_concat]
      cases hg' : s.root.get cs' with
      | none =>
        obtain ⟨l', h1, h2⟩ := ihc hbl' hg'
        refine ⟨l' ++ [cs'], ?_, ?_⟩
        · rw [h1]; rfl
        · rw [List.foldl_append, h2, mkdirs_last s.root cs' (by rintro rfl; cases hg') hg']; rfl
      | some n =>
        cases n with
        | file b => rw [isFileAt_of_file hg'] at hnf; cases hnf
        | dir es' =>
          refine ⟨[], ?_, ?_⟩
          · rw [ihb es' hg']; rfl
          · rw [mkdirs_id [] cs' s.root _ (by simpa using hg')]; rfl

section
variable (s : State) (p : Str) (cs : List Name) (hc : s.closed = false) (hv : validate p = .ok cs)
  (hd : s.root.isDir = true)
include hc hv hd

theorem makedirs_blocked (r : Bool)
    (hb : blockedByFile s.root [] cs = true ∨ isFileAt s.root cs = true) :
    Mem.makedirs s p r = fail s .DirectoryExpected := by
  simp [Mem.makedirs, hc, hv, intermediateDirs_eq, (goPrefixes_spec s hd cs).1 hb, Res.map]

theorem makedirs_dir (r : Bool) (es : Ents) (hg : s.root.get cs = some (.dir es)) :
    Mem.makedirs s p r = if r then done s else fail s .DirectoryExists := by
  obtain ⟨root, closed⟩ := s
  simp only at hc hg hd
  subst hc
  have hw := (goPrefixes_spec ⟨root, false⟩ hd cs).2.1 es hg
  have hc0 : (⟨root, false⟩ : State).closed = false := rfl
  simp only [Mem.makedirs, hv, intermediateDirs_eq, hw, Res.map,
    List.dropLast_nil, List.foldl_nil, Bool.false_eq_true, if_false]
  have hmk : Mem.makedir ⟨root, false⟩ p false = fail ⟨root, false⟩ .DirectoryExists := by
    simp only [Mem.makedir, vpath_open ⟨root, false⟩ p hc0, hv, Mem.splitc]
    rcases sit root cs with h | ⟨hne, hp, hg'⟩ | ⟨b, hne, hp, hg'⟩ | ⟨es', hne, hp, hl, hg'⟩ | ⟨es', n, hne, hp, hl, hg'⟩
    · simp [h]
    · rw [hg] at hg'; cases hg'
    · rw [hg] at hg'; cases hg'
    · rw [hg] at hg'; cases hg'
    · simp [hne, hp, hl]
  rw [hmk]
  cases r
  · simp [fail]
  · simp [fail, Mem.opendirCheck, mem_getinfo_eq ⟨root, false⟩ p cs hc0 hv, hg, done]

theorem makedirs_new (r : Bool) (hbl : blockedByFile s.root [] cs = false)
    (hg : s.root.get cs = none) :
    Mem.makedirs s p r = upd s (mkdirs [] cs s.root) := by
  obtain ⟨l, h1, h2⟩ := (goPrefixes_spec s hd cs).2.2 hbl hg
  have hne : cs ≠ [] := by rintro rfl; cases hg
  obtain ⟨es', hpar⟩ := mkdirs_parent hd hne hbl
  have h3 := mkdirs_last s.root cs hne hg
  have hnone := mkdirs_dropLast_get_none hne hg
  have hlk : Ents.lookup (cs.getLast?.getD []) es' = none := by
    have := get_split (mkdirs [] cs.dropLast s.root) cs hne
    rw [hnone, hpar] at this
    exact this.symm
  simp only [Mem.makedirs, hc, hv, intermediateDirs_eq, h1, Res.map, List.dropLast_concat, h2,
    Bool.false_eq_true, if_false]
  simp only [Mem.makedir, Mem.vpath, hc, hv, Mem.splitc, hne, hpar, hlk, if_false, Bool.false_eq_true,
    upd, done, h3]

theorem mem_makedirs (r : Bool) :
    Agree (adm1 s.root cs (.makedirs p r)) s (Mem.step s (.makedirs p r))
      (step1 s cs (.makedirs p r)) := by
  simp only [Mem.step, step1]
  cases hbl : blockedByFile s.root [] cs
  · cases hg : s.root.get cs with
    | none => left; rw [makedirs_new s p cs hc hv hd r hbl hg]; simp
    | some n =>
      cases n with
      | file b =>
        rw [makedirs_blocked s p cs hc hv hd r (Or.inr (isFileAt_of_file hg))]
        cases r
        · -- `makedirs(recreate=False)` on a file: code DirectoryExpected, reference DirectoryExists
          exact agree_of_fails .DirectoryExpected rfl (by simp [fail, Res.isOk]) (by simp [adm1, kindAt, hg])
        · left; simp
      | dir es => left; rw [makedirs_dir s p cs hc hv hd r es hg]; cases r <;> simp
  · left; rw [makedirs_blocked s p cs hc hv hd r (Or.inl hbl)]; simp

end

section
variable (s : State) (sp dp : Str) (a b : List Name) (hc : s.closed = false)
  (hva : validate sp = .ok a) (hvb : validate dp = .ok b)
  (hd : s.root.isDir = true) (hwf : s.root.wf = true)
include hc hva hvb

theorem mem_movedir (c : Bool) (hk : ¬ (b <+: a ∧ a ≠ b)) :
    Mem.step s (.movedir sp dp c) = step2 s a b (.movedir sp dp c) := by
  simp only [Mem.step, Mem.movedir, vpath_open _ _ hc, hva, hvb, Mem.splitc, Mem.contains]
  by_cases hab : a = b
  · simp [hab, step2]
  · by_cases hpre : isPrefix a b = true
    · simp [hab, hpre, step2]
    · have hnab : ¬ a <+: b := fun h => hpre ((isPrefix_iff a b).2 h)
      have hnba : ¬ b <+: a := fun h => hk ⟨h, hab⟩
      have hane : a ≠ [] := by rintro rfl; exact hnab List.nil_prefix
      have hbne : b ≠ [] := by rintro rfl; exact hnba List.nil_prefix
      simp only [hab, hpre, if_false, Bool.false_eq_true]
      rcases sit s.root a with h | ⟨hne, hp, hg⟩ | ⟨x, hne, hp, hg⟩ | ⟨es, hne, hp, hl, hg⟩ | ⟨es, n, hne, hp, hl, hg⟩
      · exact absurd h hane
      · simp [step2, hab, hpre, hp, hg]
      · simp [step2, hab, hpre, hp, hg]
      · simp [step2, hab, hpre, hp, hg, hl]
      · rcases n with data | ds
        · simp [step2, hab, hpre, hp, hg, hl]
        · rw [QueryLemmas.step2_movedir_diverge s sp dp a b c ds hnab hnba hg]
          rcases sit s.root b with h' | ⟨hne', hp', hg'⟩ | ⟨x', hne', hp', hg'⟩ | ⟨es', hne', hp', hl', hg'⟩ | ⟨es', n', hne', hp', hl', hg'⟩
          · exact absurd h' hbne
          · cases c <;> simp [hp, hg, hl, hbne, hp', hg', parentOf]
          · cases c <;> simp [hp, hg, hl, hbne, hp', hg', parentOf]
          · cases c <;> simp [hp, hg, hl, hbne, hp', hg', hl', parentOf]
          · simp only [hp, hg, hl, hbne, hp', hg', hl', Mem.baseMovedir, vpath_open _ _ hc, hva, hvb, hab, hpre,
              Mem.makedir, Mem.splitc]
            rcases n' with data' | ds'
            · simp [fail]
            · simp only [Option.isSome_some, Bool.or_true, if_true, Option.isNone_some, Bool.and_false,
                Bool.false_eq_true, if_false, Bool.not_true, done, hg']
              cases hm : mergeEnts ds ds' with
              | none => simp
              | some m => simp [setAt, hbne]

include hd

/-- `copy` past its guards is `writebytes` of the source's bytes, on both sides -/
theorem mem_copy (o : Bool) :
    Mem.step s (.copy sp dp o) = step2 s a b (.copy sp dp o) := by
  simp only [Mem.step, Mem.copy, vpath_open _ _ hc, hva, hvb, openbin_rb s sp a hc hva hd]
  by_cases h1 : (!o && (s.root.get b).isSome) = true
  · simp [step2, h1]
  · by_cases hab : a = b
    · simp [step2, h1, hab]
    · rw [if_neg h1, if_neg hab]
      rcases hg : s.root.get a with _ | data | ds
      · simp [step2, h1, hab, hg]
      · simp only [hg]
        exact (mem_writebytes s dp b hc hvb data).trans
          (QueryLemmas.step2_copy_write s a b sp dp o data hg hab (by simpa using h1)).symm
      · simp [step2, h1, hab, hg]

include hwf

theorem mem_move (o : Bool) :
    Agree (adm2 s.root a b (.move sp dp o)) s (Mem.step s (.move sp dp o))
      (step2 s a b (.move sp dp o)) := by
  have hcla := validate_clean sp a hva
  have hclb := validate_clean dp b hvb
  obtain ⟨res, hr⟩ := root_dir hd
  have hln := lookup_nil res (by simpa [hr, Node.wf] using hwf)
  have hroot : s.root.get [] = some (.dir res) := by simp [hr, Node.get]
  simp only [Mem.step, Mem.move, vpath_open _ _ hc, hva, hvb, step2, Mem.splitc, Mem.contains, parentOf]
  rcases sit s.root a with h | ⟨hne, hp, hg⟩ | ⟨x, hne, hp, hg⟩ | ⟨es, hne, hp, hl, hg⟩ | ⟨es, n, hne, hp, hl, hg⟩
  · subst h
    -- `move` with the root as source: code ResourceNotFound, reference FileExpected
    exact agree_of_fails .ResourceNotFound (by simp [hroot, hln, fail]) (by simp [hroot, fail, Res.isOk])
      (by simp [adm2, admFileArg])
  · left; simp [hp, hg]
  · left; simp [hp, hg]
  · left; simp [hp, hg, hl]
  · rcases n with data | ds
    · have hab : s.root.get b = none → a ≠ b := by rintro h rfl; rw [hg] at h; cases h
      rcases sit s.root b with h' | ⟨hne', hp', hg'⟩ | ⟨x', hne', hp', hg'⟩ | ⟨es', hne', hp', hl', hg'⟩ | ⟨es', n', hne', hp', hl', hg'⟩
      · subst h'
        cases o
        · -- `move` of a file onto the root, no overwrite: code FileExpected, reference DestinationExists
          exact agree_of_fails .FileExpected (by simp [hne, hp, hg, hl, hroot, hln, fail])
            (by simp [hg, hroot, fail, Res.isOk]) (by simp [adm2, admFileTarget, hne])
        · left
          simp [hne, hp, hg, hl, hroot, hln, fail]
      · left; simp [hp, hg, hl, hne', hp', hg', hab hg']
      · left; simp [hp, hg, hl, hne', hp', hg', hab hg']
      · left; simp [hp, hg, hl, hne', hp', hg', hl', hab hg', last_ne_nil b hne' hclb]
      · left
        by_cases hab : a = b
        · subst hab
          cases o <;> simp [hp, hg, hl, fail, done]
        · cases o <;> cases n' <;>
            simp [hp, hg, hl, hne', hp', hg', hl', hab, last_ne_nil b hne' hclb]
    · left; simp [hp, hg, hl]

theorem mem_copydir (c : Bool) :
    Mem.step s (.copydir sp dp c) = step2 s a b (.copydir sp dp c) := by
  simp only [Mem.step, Mem.copydir, vpath_open _ _ hc, hva, hvb, step2]
  by_cases hpre : isPrefix a b = true
  · simp [hpre]
  · simp only [hpre, if_false, Bool.false_eq_true]
    cases hgb : s.root.get b with
    | none =>
      cases c
      · simp
      · simp only [Bool.not_true, Bool.false_and, Bool.false_eq_true, if_false]
        cases hga : s.root.get a with
        | none => rfl
        | some n =>
          cases n with
          | file x => rfl
          | dir es =>
            simp only
            cases hbl : blockedByFile s.root [] b
            · have hes := entsWf_of_get hwf hga
              have hbne : b ≠ [] := by rintro rfl; simp [Node.get] at hgb
              rw [makedirs_new s dp b hc hvb hd true hbl hgb]
              simp [upd, mkdirs_get_new hd hbl hgb, mergeEnts_nil hes, setAt, hbne]
            · rw [makedirs_blocked s dp b hc hvb hd true (Or.inl hbl)]
              simp [fail]
    | some n =>
      cases n with
      | file x =>
        simp only [Option.isNone_some, Bool.and_false, Bool.false_eq_true, if_false]
        cases hga : s.root.get a with
        | none => rfl
        | some n =>
          cases n with
          | file y => rfl
          | dir es =>
            simp only
            rw [makedirs_blocked s dp b hc hvb hd true (Or.inr (isFileAt_of_file hgb))]
            simp [fail]
      | dir ds =>
        simp only [Option.isNone_some, Bool.and_false, Bool.false_eq_true, if_false]
        cases hga : s.root.get a with
        | none => rfl
        | some n =>
          cases n with
          | file y => rfl
          | dir es =>
            simp only
            rw [makedirs_dir s dp b hc hvb hd true ds hgb]
            simp only [if_true, done, hgb]
            cases mergeEnts es ds <;> rfl

end

theorem liftRes_err {α : Type} {s : State} {r : Res α} {e : Err} (f : α → Val) (h : r = .err e) :
    Mem.liftRes s r f = fail s e := by
  rw [h]; rfl

section
variable {s : State} {p : Str} {e : Err} (hv : Mem.vpath s p = .err e)
include hv

theorem getinfo_refused : Mem.getinfo s p = .err e := by unfold Mem.getinfo; rw [hv]
theorem listdir_refused : Mem.listdir s p = .err e := by unfold Mem.listdir; rw [hv]
theorem isempty_refused : Mem.isempty s p = .err e := by unfold Mem.isempty; rw [listdir_refused hv]
theorem makedir_refused (r : Bool) : Mem.makedir s p r = fail s e := by unfold Mem.makedir; rw [hv]
theorem setinfo_refused : Mem.setinfo s p = fail s e := by unfold Mem.setinfo; rw [hv]
theorem remove_refused : Mem.remove s p = fail s e := by unfold Mem.remove; rw [hv]
theorem removetree_refused : Mem.removetree s p = fail s e := by unfold Mem.removetree; rw [hv]
theorem removedir_refused : Mem.removedir s p = fail s e := by unfold Mem.removedir; rw [hv]

theorem openbin_refused {mode : Str} {m : Mode} (hm : parseBinMode mode = some m) :
    Mem.openbin s p mode = (s, .err e) := by
  unfold Mem.openbin; rw [hm, hv]

theorem readbytes_refused : Mem.readbytes s p = fail s e := by
  unfold Mem.readbytes; rw [openbin_refused hv QueryLemmas.mode_rb]
theorem writebytes_refused (d : Bytes) : Mem.writebytes s p d = fail s e := by
  unfold Mem.writebytes; rw [openbin_refused hv QueryLemmas.mode_wb]
theorem appendbytes_refused (d : Bytes) : Mem.appendbytes s p d = fail s e := by
  unfold Mem.appendbytes; rw [openbin_refused hv QueryLemmas.mode_ab]

theorem makedirs_refused (r : Bool) : Mem.makedirs s p r = fail s e := by
  unfold Mem.makedirs
  rcases vpath_err hv with ⟨hc, rfl⟩ | ⟨hc, hv'⟩
  · rw [hc]; rfl
  · rw [hc, hv']; rfl

section
variable (hnf : e ≠ .ResourceNotFound)
include hnf

-- `simp` takes the last alternative of the `match` (not ResourceNotFound) because `hnf` is in scope
theorem exists_refused : Mem.exists_ s p = .err e := by
  simp only [Mem.exists_, getinfo_refused hv]
theorem isdir_refused : Mem.isdir s p = .err e := by
  simp only [Mem.isdir, getinfo_refused hv]
theorem isfile_refused : Mem.isfile s p = .err e := by
  simp only [Mem.isfile, getinfo_refused hv]

theorem create_refused (w : Bool) : Mem.create s p w = fail s e := by
  unfold Mem.create; rw [openbin_refused hv QueryLemmas.mode_wb, exists_refused hv hnf]; cases w <;> rfl
theorem touch_refused : Mem.touch s p = fail s e := by
  unfold Mem.touch; rw [create_refused hv hnf]; rfl

end
end

theorem vpath_err_ne {s : State} {p : Str} {e : Err} (h : Mem.vpath s p = .err e) : e ≠ .ResourceNotFound := by
  rcases vpath_err h with ⟨_, rfl⟩ | ⟨_, hv⟩
  · nofun
  · exact QueryLemmas.validate_err_ne hv

theorem vpath_open_fun {s : State} (hc : s.closed = false) : Mem.vpath s = validate :=
  funext fun p => vpath_open s p hc

open QueryLemmas in
theorem mem_step_refused (s : State) (op : Op) (e : Err) (h : refusal (Mem.vpath s) op = some e) :
    Mem.step s op = fail s e := by
  rcases refusal_some h with ⟨p, m, rfl, hm, rfl⟩ | ⟨p, hp, hv, hmd⟩ | ⟨p, q, hp, hv⟩
  · show (match Mem.openbin s p m with | (s1, .err e) => fail s1 e | (s1, .ok _) => done s1) = _
    unfold Mem.openbin; rw [hm]
  · have hnf := vpath_err_ne hv
    cases op with
    | move | copy | movedir | copydir | close => cases hp
    | openbin q m =>
      cases hp
      obtain ⟨md, hm⟩ := hmd _ _ rfl
      show (match Mem.openbin s p m with | (s1, .err e) => fail s1 e | (s1, .ok _) => done s1) = _
      rw [openbin_refused hv hm]
    | exists_ => cases hp; exact liftRes_err _ (exists_refused hv hnf)
    | isdir => cases hp; exact liftRes_err _ (isdir_refused hv hnf)
    | isfile => cases hp; exact liftRes_err _ (isfile_refused hv hnf)
    | listdir => cases hp; exact liftRes_err _ (listdir_refused hv)
    | isempty => cases hp; exact liftRes_err _ (isempty_refused hv)
    | getsize => cases hp; exact liftRes_err _ (getinfo_refused hv)
    | gettype => cases hp; exact liftRes_err _ (getinfo_refused hv)
    | getinfo => cases hp; exact liftRes_err _ (getinfo_refused hv)
    | readbytes => cases hp; exact readbytes_refused hv
    | makedir _ r => cases hp; exact makedir_refused hv r
    | makedirs _ r => cases hp; exact makedirs_refused hv r
    | writebytes _ d => cases hp; exact writebytes_refused hv d
    | appendbytes _ d => cases hp; exact appendbytes_refused hv d
    | create _ w => cases hp; exact create_refused hv hnf w
    | touch => cases hp; exact touch_refused hv hnf
    | settimes => cases hp; exact setinfo_refused hv
    | remove => cases hp; exact remove_refused hv
    | removedir => cases hp; exact removedir_refused hv
    | removetree => cases hp; exact removetree_refused hv
  · cases op with
    | move | copy | movedir | copydir =>
      cases hp
      rcases hv with hv | ⟨⟨a, ha⟩, hv⟩
      · simp only [Mem.step, Mem.move, Mem.copy, Mem.movedir, Mem.copydir, hv]
      · simp only [Mem.step, Mem.move, Mem.copy, Mem.movedir, Mem.copydir, ha, hv]
    | _ => cases hp

end Fs.MemLemmas
