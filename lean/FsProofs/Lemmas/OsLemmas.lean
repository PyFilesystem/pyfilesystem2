/-
  Helper lemmas for `FsProofs/OsRefines.lean`: the POSIX model (`FsModel/Posix.lean`) expressed
  through `Node.get` / `blockedByFile`, the facts about the GENERATED errno table that the proofs
  use (`tbl`: one kernel evaluation of the table as generated), and OSFS (`FsModel/Os.lean`) method
  by method against `Mem` (where the two coincide) or directly against `Ref.step1/step2`.
-/
import FsModel.Os
import FsProofs.Lemmas.TreeLemmas
import FsProofs.Lemmas.QueryLemmas
import FsProofs.Lemmas.MemLemmas

namespace Fs.OsLemmas
open Fs Fs.Ref Fs.Posix Fs.TreeLemmas Fs.MemLemmas

/-! ### path resolution, through `Node.get` -/

theorem stat_aux (t : Node) : ∀ (cs pre : List Name) (n : Node), t.get pre = some n →
    Posix.stat n cs = match n.get cs with
      | some m => .ok m
      | none => .error (if blockedByFile t pre cs then .ENOTDIR else .ENOENT) := by
  intro cs
  induction cs with
  | nil => intro pre n _; simp [Posix.stat, Node.get]
  | cons c cs ih =>
    intro pre n hn
    cases n with
    | file b => simp [Posix.stat, Node.get, blockedByFile, hn]
    | dir es =>
      cases hl : Ents.lookup c es with
      | none =>
        have hnone : t.get (pre ++ [c]) = none := by
          rw [get_append, hn]; simp [Node.get, hl]
        simp only [Posix.stat, Node.get, hl, blockedByFile, hn, Bool.false_or]
        split
        · simp
        · simp [blocked_of_none t _ cs hnone]
      | some ch =>
        have hch : t.get (pre ++ [c]) = some ch := by
          rw [get_append, hn]; simp [Node.get, hl]
        simp only [Posix.stat, Node.get, hl, blockedByFile, hn, Bool.false_or]
        rw [ih (pre ++ [c]) ch hch]
        cases cs with
        | nil => simp [Node.get]
        | cons d ds => simp

/-- `stat` = `Node.get`, with the errno read off `blockedByFile` -/
theorem stat_eq (t : Node) (cs : List Name) :
    Posix.stat t cs = match t.get cs with
      | some m => .ok m
      | none => .error (if blockedByFile t [] cs then .ENOTDIR else .ENOENT) :=
  stat_aux t cs [] t rfl

theorem stat_some {t : Node} {cs : List Name} {n : Node} (h : t.get cs = some n) :
    Posix.stat t cs = .ok n := by rw [stat_eq, h]

theorem stat_none {t : Node} {cs : List Name} (h : t.get cs = none) :
    Posix.stat t cs = .error (if blockedByFile t [] cs then .ENOTDIR else .ENOENT) := by
  rw [stat_eq, h]

theorem pathExists_eq (t : Node) (cs : List Name) : Posix.pathExists t cs = (t.get cs).isSome := by
  unfold Posix.pathExists
  rw [stat_eq]
  cases t.get cs <;> rfl

theorem pathIsdir_eq (t : Node) (cs : List Name) :
    Posix.pathIsdir t cs = (match t.get cs with | some (.dir _) => true | _ => false) := by
  unfold Posix.pathIsdir
  rw [stat_eq]
  cases h : t.get cs with
  | none => rfl
  | some n => cases n <;> rfl

/-! ### `blockedByFile` in the situations of a path -/

theorem blocked_parent_dir {t : Node} {cs : List Name} {es : Ents} (hne : cs ≠ [])
    (hp : t.get cs.dropLast = some (.dir es)) : blockedByFile t [] cs = false :=
  TreeLemmas.blocked_parent_dir hne hp

theorem blocked_present {t : Node} {cs : List Name} {n : Node} (h : t.get cs = some n) :
    blockedByFile t [] cs = false :=
  not_blocked_of_get t n [] cs (by simpa using h)

theorem get_none_of_blocked {t : Node} {cs : List Name} (hb : blockedByFile t [] cs = true) : t.get cs = none := by
  cases hg : t.get cs with
  | none => rfl
  | some n => rw [blocked_present hg] at hb; cases hb

/-! ### the GENERATED table, as far as the model can exercise it

`TableFacts`: the flavour of the wrapper at each call site (`fs/osfs.py`), and the class each flavour gives
(`fs/error_tools.py`) to the errnos the POSIX model can return. -/

section
open Fs.Os

theorem conv_of_site {m c : String} {d : Bool} (h : siteFlavour m c = some d) (e : Errno) :
    conv m c e = convert d e := by
  unfold conv; rw [h]

theorem conv_unwrapped {m c : String} (h : siteFlavour m c = none) (e : Errno) : conv m c e = .Leak := by
  unfold conv; rw [h]

structure TableFacts : Prop where
  site_getinfo : siteFlavour "getinfo" "os.stat" = some false
  site_gettype : siteFlavour "gettype" "os.stat" = some false
  site_listdir : siteFlavour "listdir" "os.listdir" = some true
  site_scandir : siteFlavour "_scandir" "scandir" = some true
  site_makedir : siteFlavour "makedir" "os.mkdir" = some true
  site_openbin : siteFlavour "openbin" "io.open" = some false
  site_open : siteFlavour "open" "io.open" = some false
  site_remove : siteFlavour "remove" "os.remove" = some false
  site_removedir : siteFlavour "removedir" "os.rmdir" = some true
  site_removetree : siteFlavour "removetree" "self._remove_contents" = some true
  site_copy2 : siteFlavour "copy" "shutil.copy2" = none
  file_ENOENT : convert false .ENOENT = .ResourceNotFound
  file_ENOTDIR : convert false .ENOTDIR = .ResourceNotFound
  file_EEXIST : convert false .EEXIST = .FileExists
  file_EISDIR : convert false .EISDIR = .FileExpected
  dir_ENOENT : convert true .ENOENT = .ResourceNotFound
  dir_ENOTDIR : convert true .ENOTDIR = .DirectoryExpected
  dir_EEXIST : convert true .EEXIST = .DirectoryExists
  dir_ENOTEMPTY : convert true .ENOTEMPTY = .DirectoryNotEmpty

theorem tbl : TableFacts := by
  -- the structure is the conjunction of its fields; that is decided
  refine (fun ⟨h1, h2, h3, h4, h5, h6, h7, h8, h9, h10, h11, h12, h13, h14, h15, h16, h17, h18, h19⟩ =>
    ⟨h1, h2, h3, h4, h5, h6, h7, h8, h9, h10, h11, h12, h13, h14, h15, h16, h17, h18, h19⟩ :
    _ ∧ _ ∧ _ ∧ _ ∧ _ ∧ _ ∧ _ ∧ _ ∧ _ ∧ _ ∧ _ ∧ _ ∧ _ ∧ _ ∧ _ ∧ _ ∧ _ ∧ _ ∧ _ → TableFacts) ?_
  decide +kernel

theorem tbl_openbin_EEXIST : conv "openbin" "io.open" .EEXIST = .FileExists :=
  (conv_of_site tbl.site_openbin _).trans tbl.file_EEXIST
theorem tbl_open_ENOENT : conv "open" "io.open" .ENOENT = .ResourceNotFound :=
  (conv_of_site tbl.site_open _).trans tbl.file_ENOENT
theorem tbl_open_ENOTDIR : conv "open" "io.open" .ENOTDIR = .ResourceNotFound :=
  (conv_of_site tbl.site_open _).trans tbl.file_ENOTDIR
theorem tbl_open_EEXIST : conv "open" "io.open" .EEXIST = .FileExists :=
  (conv_of_site tbl.site_open _).trans tbl.file_EEXIST
theorem tbl_open_EISDIR : conv "open" "io.open" .EISDIR = .FileExpected :=
  (conv_of_site tbl.site_open _).trans tbl.file_EISDIR

/-- `conv` commutes with the errno choice of `stat_eq` -/
theorem conv_ite (m c : String) (b : Bool) (x y : Errno) :
    conv m c (if b = true then x else y) = if b = true then conv m c x else conv m c y := by
  cases b <;> rfl

end

/-! ### OSFS methods on validated components, through `Node.get` -/

section
open Fs.Os

theorem getinfoC_eq (s : State) (cs : List Name) :
    Os.getinfoC s cs = match s.root.get cs with
      | none => .err .ResourceNotFound
      | some (.dir _) => .ok (lastName cs, true, 0)
      | some (.file b) => .ok (lastName cs, false, b.length) := by
  unfold Os.getinfoC
  rw [stat_eq]
  cases h : s.root.get cs with
  | none => cases blockedByFile s.root [] cs <;> simp [conv_of_site tbl.site_getinfo, tbl.file_ENOENT, tbl.file_ENOTDIR]
  | some n => cases n <;> rfl

theorem gettypeC_eq (s : State) (cs : List Name) :
    Os.gettypeC s cs = match s.root.get cs with
      | none => .err .ResourceNotFound
      | some (.dir _) => .ok 1
      | some (.file _) => .ok 2 := by
  unfold Os.gettypeC
  rw [stat_eq]
  cases h : s.root.get cs with
  | none => cases blockedByFile s.root [] cs <;> simp [conv_of_site tbl.site_gettype, tbl.file_ENOENT, tbl.file_ENOTDIR]
  | some n => cases n <;> rfl

theorem existsC_eq (s : State) (cs : List Name) : Os.existsC s cs = .ok (s.root.get cs).isSome := by
  unfold Os.existsC
  rw [getinfoC_eq]
  cases h : s.root.get cs with
  | none => rfl
  | some n => cases n <;> rfl

theorem isdirC_eq (s : State) (cs : List Name) :
    Os.isdirC s cs = .ok (match s.root.get cs with | some (.dir _) => true | _ => false) := by
  unfold Os.isdirC
  rw [getinfoC_eq]
  cases h : s.root.get cs with
  | none => rfl
  | some n => cases n <;> rfl

theorem opendirCheckC_eq (s : State) (cs : List Name) :
    Os.opendirCheckC s cs = match s.root.get cs with
      | none => .err .ResourceNotFound
      | some (.dir _) => .ok ()
      | some (.file _) => .err .DirectoryExpected := by
  unfold Os.opendirCheckC
  rw [getinfoC_eq]
  cases h : s.root.get cs with
  | none => rfl
  | some n => cases n <;> rfl

/-! ### the methods that coincide with MemoryFS's (as functions) -/

theorem getinfo_eq_mem (s : State) (p : Str) : Os.getinfo s p = Mem.getinfo s p := by
  unfold Os.getinfo Mem.getinfo Os.vpath
  cases Mem.vpath s p with
  | err e => rfl
  | ok cs =>
    simp only [getinfoC_eq]
    cases h : s.root.get cs with
    | none => rfl
    | some n => cases n <;> rfl

theorem exists_eq_mem (s : State) (p : Str) : Os.exists_ s p = Mem.exists_ s p := by
  unfold Os.exists_ Mem.exists_
  rw [getinfo_eq_mem]
  rfl

theorem isdir_eq_mem (s : State) (p : Str) : Os.isdir s p = Mem.isdir s p := by
  unfold Os.isdir Mem.isdir
  rw [getinfo_eq_mem]
  rfl

theorem isfile_eq_mem (s : State) (p : Str) : Os.isfile s p = Mem.isfile s p := by
  unfold Os.isfile Mem.isfile
  rw [getinfo_eq_mem]
  rfl

theorem opendirCheck_eq_mem (s : State) (p : Str) : Os.opendirCheck s p = Mem.opendirCheck s p := by
  unfold Os.opendirCheck Mem.opendirCheck Mem.getinfo Os.vpath
  cases Mem.vpath s p with
  | err e => rfl
  | ok cs =>
    simp only [opendirCheckC_eq]
    cases h : s.root.get cs with
    | none => rfl
    | some n => cases n <;> rfl

theorem setinfo_eq_mem (s : State) (p : Str) : Os.setinfo s p = Mem.setinfo s p := by
  unfold Os.setinfo Mem.setinfo Os.vpath
  cases Mem.vpath s p with
  | err e => rfl
  | ok cs =>
    simp only [pathExists_eq, Posix.utime]
    cases h : s.root.get cs with
    | none => simp
    | some n => simp [stat_some h]

/-- the type number `OSFS.gettype` reports is the one the base class derives from `getinfo` -/
theorem gettype_eq_mem (s : State) (p : Str) :
    Mem.liftRes s (Os.gettype s p) Val.nat =
      Mem.liftRes s (Mem.getinfo s p) (fun (x : Name × Bool × Nat) => Val.nat (if x.2.1 then 1 else 2)) := by
  unfold Os.gettype Mem.getinfo Os.vpath
  cases Mem.vpath s p with
  | err e => rfl
  | ok cs =>
    simp only [gettypeC_eq]
    cases h : s.root.get cs with
    | none => rfl
    | some n => cases n <;> rfl

end

/-! ### `io.open` flags vs `fs.mode.Mode` -/

section
open Fs.Os

theorem contains_platformBin (mode : Str) (c : Char) (hc : c ≠ 't') (hb : c ≠ 'b') :
    (platformBin mode).contains c = mode.contains c := by
  unfold platformBin
  have h1 : (mode.filter (· != 't')).contains c = mode.contains c := by
    rw [Bool.eq_iff_iff]
    simp [List.mem_filter, hc]
  simp only []
  split
  · exact h1
  · rw [Bool.eq_iff_iff] at h1 ⊢
    simp only [List.contains_iff_mem] at h1 ⊢
    simp [List.mem_append, hb, h1]

def FlagsRel (m : Mode) (fl : OFlags) : Prop :=
  fl.creat = m.create ∧ fl.excl = m.exclusive ∧ fl.trunc = (m.truncate && !m.exclusive)

/-- since `Mode.validate` has `io.open`'s two rules, `io.open` accepts every (binary) mode string
`Mode.validate_bin` accepts, with the `open(2)` flags that `fs.mode.Mode` computes -/
theorem ioOpenFlags_of_parse (mode : Str) (m : Mode) (hm : parseBinMode mode = some m) :
    ioOpenFlags (platformBin mode) =
      some ⟨m.reading, m.writing, m.create, m.exclusive, m.truncate && !m.exclusive, m.appending⟩ := by
  obtain ⟨hall, ht, hnd, hone, rfl⟩ := QueryLemmas.parse_some mode m hm
  have cr := contains_platformBin mode 'r' (by decide) (by decide)
  have cw := contains_platformBin mode 'w' (by decide) (by decide)
  have cx := contains_platformBin mode 'x' (by decide) (by decide)
  have ca := contains_platformBin mode 'a' (by decide) (by decide)
  have cp := contains_platformBin mode '+' (by decide) (by decide)
  have hnt : ∀ c ∈ mode, c ≠ 't' := by
    rintro c hc rfl
    rw [List.contains_iff_mem.2 hc] at ht; cases ht
  have hfil : mode.filter (· != 't') = mode :=
    List.filter_eq_self.mpr fun c hc => bne_iff_ne.2 (hnt c hc)
  have hmem : ∀ c ∈ mode, ['r', 'w', 'x', 'a', 'b', '+'].contains c = true := by
    intro c hc
    have h1 : modeValidChars.contains c = true := List.all_eq_true.1 hall c hc
    have h2 : (c == 't') = false := beq_false_of_ne (hnt c hc)
    simpa only [modeValidChars, List.contains_cons, h2, Bool.false_or] using h1
  have hA : (platformBin mode).all (fun c => ['r', 'w', 'x', 'a', 'b', '+'].contains c) = true := by
    rw [List.all_eq_true]
    intro c hc
    unfold platformBin at hc
    simp only [hfil] at hc
    split at hc
    · exact hmem c hc
    · rcases List.mem_append.1 hc with h | h
      · exact hmem c h
      · rw [List.mem_singleton.1 h]; decide
  have hN : (platformBin mode).Nodup := by
    unfold platformBin
    simp only [hfil]
    split
    · exact hnd
    · rename_i hb
      rw [List.nodup_append]
      refine ⟨hnd, by simp, ?_⟩
      intro a ha b hb'
      rw [List.mem_singleton.1 hb']
      rintro rfl
      exact hb (List.contains_iff_mem.2 ha)
  unfold ioOpenFlags
  simp only [hA, hN, List.filter, cr, cw, cx, ca, cp, Bool.not_true, Bool.false_eq_true, if_false,
    decide_true] at hone ⊢
  -- a truth table over which of `r w x a +` occur
  generalize mode.contains 'r' = r at hone ⊢
  generalize mode.contains 'w' = w at hone ⊢
  generalize mode.contains 'x' = x at hone ⊢
  generalize mode.contains 'a' = a at hone ⊢
  generalize mode.contains '+' = p
  revert r w x a p
  decide

theorem flags_rel (mode : Str) (m : Mode) (fl : OFlags) (hm : parseBinMode mode = some m)
    (hf : ioOpenFlags (platformBin mode) = some fl) : FlagsRel m fl := by
  rw [ioOpenFlags_of_parse mode m hm] at hf
  cases hf
  exact ⟨rfl, rfl, rfl⟩

theorem io_ok_of_parse (mode : Str) (m : Mode) (hm : parseBinMode mode = some m) :
    (ioOpenFlags (platformBin mode)).isSome = true := by
  rw [ioOpenFlags_of_parse mode m hm]; rfl

theorem flags_rb : ioOpenFlags (platformBin ['r', 'b']) = some ⟨true, false, false, false, false, false⟩ :=
  ioOpenFlags_of_parse _ _ QueryLemmas.mode_rb
theorem flags_wb : ioOpenFlags (platformBin ['w', 'b']) = some ⟨false, true, true, false, true, false⟩ :=
  ioOpenFlags_of_parse _ _ QueryLemmas.mode_wb

theorem openC_eq_mem (meth : String) (hmeth : siteFlavour meth "io.open" = some false) (s : State) (p : Str)
    (cs : List Name) (hc : s.closed = false) (hv : validate p = .ok cs) (mode : Str) (m : Mode)
    (hm : parseBinMode mode = some m) :
    Os.openC meth s cs mode = Mem.openbin s p mode := by
  have hcl := TreeLemmas.validate_clean p cs hv
  obtain ⟨hf1, hf2⟩ := parse_facts mode m hm
  have t1 := (conv_of_site hmeth _).trans tbl.file_ENOENT
  have t2 := (conv_of_site hmeth _).trans tbl.file_ENOTDIR
  have t3 := (conv_of_site hmeth _).trans tbl.file_EEXIST
  have t4 := (conv_of_site hmeth _).trans tbl.file_EISDIR
  -- `s` is taken apart so that `{ s with root := s.root }`, which `open_` without effect yields, is `s`
  obtain ⟨root, closed⟩ := s
  simp only at hc
  subst hc
  have hc : (⟨root, false⟩ : State).closed = false := rfl
  simp only [Os.openC, Mem.openbin, hm, ioOpenFlags_of_parse mode m hm, vpath_open _ _ hc, hv, Mem.splitc,
    Posix.open_, stat_eq]
  rcases sit root cs with h | ⟨hne, hp, hg⟩ | ⟨b, hne, hp, hg⟩ | ⟨es, hne, hp, hl, hg⟩ | ⟨es, n, hne, hp, hl, hg⟩
  · subst h; simp
  · cases blockedByFile root [] cs.dropLast <;> simp [last_ne_nil cs hne hcl, hne, hp, t1, t2]
  · simp [last_ne_nil cs hne hcl, hne, hp, t2]
  · cases hcr : m.create <;> simp [last_ne_nil cs hne hcl, hne, hp, hl, t1]
  · obtain ⟨rd, wr, cr, tr, ex, ap⟩ := m
    simp only at hf1 hf2
    rcases n with b | ds
    · -- the rows with `exclusive` or `truncate` but without `create` go by `hf1`, `hf2` (`parse_facts`)
      cases cr <;> cases ex <;> cases tr <;> simp_all [last_ne_nil cs hne hcl]
    · cases cr <;> cases ex <;> simp_all [last_ne_nil cs hne hcl]

theorem vpath_ok {s : State} {p : Str} {cs : List Name} (h : Mem.vpath s p = .ok cs) :
    s.closed = false ∧ validate p = .ok cs := by
  unfold Mem.vpath at h
  split at h
  · cases h
  · rename_i hc; exact ⟨by simpa using hc, h⟩

theorem open_eq_mem (meth : String) (hmeth : siteFlavour meth "io.open" = some false) (s : State) (p mode : Str) :
    (match parseBinMode mode with
      | none => (s, Res.err Err.ValueError)
      | some _ => match Os.vpath s p with
        | .err e => (s, .err e)
        | .ok cs => Os.openC meth s cs mode) = Mem.openbin s p mode := by
  cases hm : parseBinMode mode with
  | none => simp [Mem.openbin, hm]
  | some m =>
    simp only [Os.vpath]
    cases hvp : Mem.vpath s p with
    | err e => simp [Mem.openbin, hm, hvp]
    | ok cs =>
      obtain ⟨hc, hv⟩ := vpath_ok hvp
      exact openC_eq_mem meth hmeth s p cs hc hv mode m hm

/-- `io.open` accepts the (binary) mode string `Mode.validate_bin` accepted -/
def ioModeOk (mode : Str) : Prop := (ioOpenFlags (platformBin mode)).isSome = true

-- `hio` follows from `io_ok_of_parse` where it matters and is not used
set_option linter.unusedVariables false in
theorem openAny_eq_mem (meth : String) (hmeth : meth = "openbin" ∨ meth = "open") (s : State) (p mode : Str)
    (hio : ioModeOk mode) :
    (match parseBinMode mode with
      | none => (s, Res.err Err.ValueError)
      | some _ => match Os.vpath s p with
        | .err e => (s, .err e)
        | .ok cs => Os.openC meth s cs mode) = Mem.openbin s p mode := by
  rcases hmeth with rfl | rfl
  · exact open_eq_mem _ tbl.site_openbin s p mode
  · exact open_eq_mem _ tbl.site_open s p mode

theorem openbin_eq_mem (s : State) (p mode : Str) : Os.openbin s p mode = Mem.openbin s p mode :=
  open_eq_mem "openbin" tbl.site_openbin s p mode

theorem openf_eq_mem (s : State) (p mode : Str) : Os.openf s p mode = Mem.openbin s p mode :=
  open_eq_mem "open" tbl.site_open s p mode

/-! ### the default methods built on `getinfo` / `open` / `setinfo` coincide with MemoryFS's -/

theorem readbytes_eq_mem (s : State) (p : Str) : Os.readbytes s p = Mem.readbytes s p := by
  unfold Os.readbytes Mem.readbytes
  rw [openf_eq_mem]
  rfl

theorem writebytes_eq_mem (s : State) (p : Str) (d : Bytes) : Os.writebytes s p d = Mem.writebytes s p d := by
  unfold Os.writebytes Mem.writebytes
  rw [openf_eq_mem]
  rfl

theorem appendbytes_eq_mem (s : State) (p : Str) (d : Bytes) : Os.appendbytes s p d = Mem.appendbytes s p d := by
  unfold Os.appendbytes Mem.appendbytes
  rw [openf_eq_mem]
  rfl

theorem create_eq_mem (s : State) (p : Str) (w : Bool) : Os.create s p w = Mem.create s p w := by
  unfold Os.create Mem.create
  rw [openf_eq_mem, exists_eq_mem]
  rfl

theorem touch_eq_mem (s : State) (p : Str) : Os.touch s p = Mem.touch s p := by
  unfold Os.touch Mem.touch
  rw [create_eq_mem]
  simp only [setinfo_eq_mem]
  rfl

end

/-! ### whole steps that coincide with MemoryFS's -/

section
open Fs.Os

def sameAsMem : Op → Prop
  | .exists_ _ | .isdir _ | .isfile _ | .getsize _ | .gettype _ | .getinfo _ | .settimes _ | .readbytes _
  | .writebytes _ _ | .appendbytes _ _ | .create _ _ | .touch _ | .openbin _ _ => True
  | _ => False

theorem step_eq_mem (s : State) (op : Op) (h : sameAsMem op) : Os.step s op = Mem.step s op := by
  cases op with
  | exists_ p => exact congrArg (Mem.liftRes s · .bool) (exists_eq_mem s p)
  | isdir p => exact congrArg (Mem.liftRes s · .bool) (isdir_eq_mem s p)
  | isfile p => exact congrArg (Mem.liftRes s · .bool) (isfile_eq_mem s p)
  | getsize p | getinfo p =>
    show Mem.liftRes s (Os.getinfo s p) _ = Mem.liftRes s (Mem.getinfo s p) _
    rw [getinfo_eq_mem]
  | gettype p => exact gettype_eq_mem s p
  | settimes p => exact setinfo_eq_mem s p
  | readbytes p => exact readbytes_eq_mem s p
  | writebytes p d => exact writebytes_eq_mem s p d
  | appendbytes p d => exact appendbytes_eq_mem s p d
  | create p w => exact create_eq_mem s p w
  | touch p => exact touch_eq_mem s p
  | openbin p m =>
    exact congrArg (fun r : State × Res (List Name) => match r with
      | (s1, .err e) => fail s1 e
      | (s1, .ok _) => done s1) (openbin_eq_mem s p m)
  | _ => exact h.elim

end

section
open Fs.Os

theorem os_makedirs_refused {s : State} {p : Str} {e : Err} (hv : Mem.vpath s p = .err e) (r : Bool) :
    Os.makedirs s p r = fail s e := by
  unfold Os.makedirs
  rcases vpath_err hv with ⟨hc, rfl⟩ | ⟨hc, hv'⟩
  · rw [hc]; rfl
  · rw [hc, hv']; rfl

end

open QueryLemmas in
theorem os_step_refused (s : State) (op : Op) (e : Err) (h : refusal (Mem.vpath s) op = some e) :
    Os.step s op = fail s e := by
  by_cases hi : sameAsMem op
  · rw [step_eq_mem s op hi]; exact mem_step_refused s op e h
  · rcases refusal_some h with ⟨p, m, rfl, -, -⟩ | ⟨p, hp, hv, -⟩ | ⟨p, q, hp, hv⟩
    · exact absurd trivial hi
    · cases op with
      | listdir => cases hp; exact liftRes_err _ (by unfold Os.listdir Os.vpath; rw [hv])
      | isempty => cases hp; exact liftRes_err _ (by unfold Os.isempty Os.scandir Os.vpath; rw [hv])
      | makedir _ r => cases hp; show Os.makedir s p r = _; unfold Os.makedir Os.vpath; rw [hv]
      | makedirs _ r => cases hp; exact os_makedirs_refused hv r
      | remove => cases hp; show Os.remove s p = _; unfold Os.remove Os.vpath; rw [hv]
      | removedir => cases hp; show Os.removedir s p = _; unfold Os.removedir Os.vpath; rw [hv]
      | removetree => cases hp; show Os.removetree s p = _; unfold Os.removetree Os.vpath; rw [hv]
      | move | copy | movedir | copydir | close => cases hp
      | _ => exact absurd trivial hi
    · cases op with
      | move | copy | movedir | copydir =>
        cases hp
        rcases hv with hv | ⟨⟨a, ha⟩, hv⟩
        · simp only [Os.step, Os.move, Os.copy, Os.movedir, Os.copydir, Os.vpath, hv]
        · simp only [Os.step, Os.move, Os.copy, Os.movedir, Os.copydir, Os.vpath, ha, hv]
      | _ => cases hp

/-! ### the methods OSFS implements differently, against the reference -/

section
open Fs.Os

theorem agree_err (A : List Err) (s : State) (e e' : Err) (he : e ∈ A) :
    Agree A s (fail s e) (fail s e') :=
  agree_of_fails e rfl rfl he

mutual
theorem removeContents_ok : ∀ (n : Node), n.isDir = true → Posix.removeContents n = .ok ()
  | .file _, h => by simp [Node.isDir] at h
  | .dir es, _ => by simp [Posix.removeContents, removeEnts_ok es]
theorem removeEnts_ok : ∀ (es : Ents), Posix.removeEnts es = .ok ()
  | [] => by simp [Posix.removeEnts]
  | (_, .dir ds) :: es => by
    simp [Posix.removeEnts, Node.isDir, removeContents_ok (.dir ds) rfl, removeEnts_ok es]
  | (_, .file _) :: es => by simp [Posix.removeEnts, Node.isDir, removeEnts_ok es]
end

theorem removetree_dir (s : State) (p : Str) (cs : List Name) (hc : s.closed = false) (hv : validate p = .ok cs)
    (es : Ents) (hne : cs ≠ []) (hg : s.root.get cs = some (.dir es)) :
    Os.removetree s p = upd s (s.root.del cs) := by
  obtain ⟨pes, hp⟩ := get_parent_dir hne hg
  have hs : (s.root.set cs (.dir [])).get cs = some (.dir []) := get_set_same cs _ _ pes hne hp
  simp [Os.removetree, Os.vpath, vpath_open _ _ hc, hv, Posix.pathIslink, stat_eq, hg,
    removeContents_ok (.dir es) rfl, hne, setAt, Posix.rmdir, hs, del_set, upd]

/-- the one-path calls OSFS makes inside a `convert_os_errors(…, directory=True)` -/
def dirWrapped : Op → Prop
  | .listdir _ | .isempty _ | .makedir _ _ | .removedir _ | .removetree _ => True
  | _ => False

theorem step1_blocked {s : State} {cs : List Name} {op : Op} (hw : dirWrapped op)
    (hb : blockedByFile s.root [] cs = true) : step1 s cs op = fail s .ResourceNotFound := by
  have hne : cs ≠ [] := by rintro rfl; cases hb
  have hg := get_none_of_blocked hb
  cases op with
  | makedir _ r =>
    rcases hpa : s.root.get cs.dropLast with _ | _ | es
    · simp [step1, hne, parentOf, hpa]
    · simp [step1, hne, parentOf, hpa]
    · rw [blocked_parent_dir hne hpa] at hb; cases hb
  | listdir | isempty | removedir | removetree => simp [step1, hne, hg]
  | _ => exact hw.elim

theorem dirExpected_of_blocked {t : Node} {cs : List Name} {op : Op} (hw : dirWrapped op)
    (hb : blockedByFile t [] cs = true) : Err.DirectoryExpected ∈ adm1 t cs op := by
  cases op with
  | listdir | isempty | makedir | removedir | removetree => simp [adm1, admDirArg, hb]
  | _ => exact hw.elim

section
variable (s : State) (p : Str) (cs : List Name) (hc : s.closed = false) (hv : validate p = .ok cs)
  (hd : s.root.isDir = true)
include hc hv hd

/-- Inside a directory wrapper the `ENOTDIR` of path resolution becomes `DirectoryExpected`, where the reference
(and MemoryFS) find nothing; that is all the errno table changes about these five calls. -/
theorem step_dirWrapped (op : Op) (hw : dirWrapped op) (hp : op.paths = [p]) :
    Os.step s op = if blockedByFile s.root [] cs then fail s .DirectoryExpected else step1 s cs op := by
  cases op with
  | listdir =>
    cases hp
    simp only [Os.step, Os.listdir, Os.vpath, vpath_open _ _ hc, hv, Posix.listdir, stat_eq, step1]
    cases hg : s.root.get cs with
    | none =>
      cases hb : blockedByFile s.root [] cs <;>
        simp [Mem.liftRes, conv_of_site tbl.site_listdir, tbl.dir_ENOENT, tbl.dir_ENOTDIR]
    | some n => rw [blocked_present hg]; cases n <;> simp [Mem.liftRes, conv_of_site tbl.site_listdir, tbl.dir_ENOTDIR]
  | isempty =>
    cases hp
    simp only [Os.step, Os.isempty, Os.scandir, Os.vpath, vpath_open _ _ hc, hv, Posix.scandir, stat_eq, step1]
    cases hg : s.root.get cs with
    | none =>
      cases hb : blockedByFile s.root [] cs <;>
        simp [Mem.liftRes, conv_of_site tbl.site_scandir, tbl.dir_ENOENT, tbl.dir_ENOTDIR]
    | some n =>
      rw [blocked_present hg]
      rcases n with b | es
      · simp [Mem.liftRes, conv_of_site tbl.site_scandir, tbl.dir_ENOTDIR]
      · cases es <;> simp [Mem.liftRes, done]
  | removedir =>
    cases hp
    simp only [Os.step, Os.removedir, Os.vpath, vpath_open _ _ hc, hv, Posix.rmdir, stat_eq, step1]
    by_cases hne : cs = []
    · simp [hne, blockedByFile]
    · cases hg : s.root.get cs with
      | none =>
        cases hb : blockedByFile s.root [] cs <;>
          simp [hne, conv_of_site tbl.site_removedir, tbl.dir_ENOENT, tbl.dir_ENOTDIR]
      | some n =>
        rw [blocked_present hg]
        rcases n with b | es
        · simp [hne, conv_of_site tbl.site_removedir, tbl.dir_ENOTDIR]
        · cases es <;> simp [hne, conv_of_site tbl.site_removedir, tbl.dir_ENOTEMPTY]
  | removetree =>
    cases hp
    cases hg : s.root.get cs with
    | none =>
      have hne : cs ≠ [] := by rintro rfl; cases hg
      cases hb : blockedByFile s.root [] cs <;>
        simp [Os.step, Os.removetree, Os.vpath, vpath_open _ _ hc, hv, Posix.pathIslink, stat_eq, step1, hg, hb, hne,
          conv_of_site tbl.site_removetree, tbl.dir_ENOENT, tbl.dir_ENOTDIR]
    | some n =>
      rw [blocked_present hg]
      rcases n with b | es
      · have hne := ne_nil_of_file hd hg
        simp [Os.step, Os.removetree, Os.vpath, vpath_open _ _ hc, hv, Posix.pathIslink, stat_eq, step1, hg, hne,
          Posix.removeContents, conv_of_site tbl.site_removetree, tbl.dir_ENOTDIR]
      · by_cases hne : cs = []
        · subst hne
          simp [Os.step, Os.removetree, Os.vpath, vpath_open _ _ hc, hv, Posix.pathIslink, stat_eq, step1, hg,
            removeContents_ok (.dir es) rfl, setAt]
        · exact (removetree_dir s p cs hc hv es hne hg).trans (by simp [step1, hne, hg])
  | makedir _ r =>
    cases hp
    simp only [Os.step, Os.makedir, Os.makedirC, Os.vpath, vpath_open _ _ hc, hv, Posix.mkdir, stat_eq,
      opendirCheckC_eq, step1, parentOf]
    rcases sit s.root cs with h | ⟨hne, hpa, hg⟩ | ⟨b, hne, hpa, hg⟩ | ⟨es, hne, hpa, hl, hg⟩ | ⟨es, n, hne, hpa, hl, hg⟩
    · subst h
      obtain ⟨res, hr⟩ := root_dir hd
      cases r <;> simp [hr, Node.get, blockedByFile, conv_of_site tbl.site_makedir, tbl.dir_EEXIST]
    · rw [blocked_parent_none hne hpa]
      cases hb : blockedByFile s.root [] cs.dropLast <;> simp [hne, hpa, conv_of_site tbl.site_makedir, tbl.dir_ENOTDIR]
    · simp [blocked_parent_file hne hpa, hne, hpa, conv_of_site tbl.site_makedir, tbl.dir_ENOTDIR]
    · simp [blocked_parent_dir hne hpa, hne, hpa, hl, hg]
    · cases n <;> cases r <;>
        simp [blocked_parent_dir hne hpa, hne, hpa, hl, hg, conv_of_site tbl.site_makedir, tbl.dir_EEXIST]
  | _ => exact hw.elim

theorem os_dirWrapped (op : Op) (hw : dirWrapped op) (hp : op.paths = [p]) :
    Agree (adm1 s.root cs op) s (Os.step s op) (step1 s cs op) := by
  rw [step_dirWrapped s p cs hc hv hd op hw hp]
  split
  · next hb => rw [step1_blocked hw hb]; exact agree_err _ s _ _ (dirExpected_of_blocked hw hb)
  · exact Or.inl rfl

theorem os_remove : Os.step s (.remove p) = step1 s cs (.remove p) := by
  simp only [Os.step, Os.remove, Os.removeC, Os.vpath, vpath_open _ _ hc, hv, Posix.unlink, stat_eq, step1]
  by_cases hne : cs = []
  · subst hne
    obtain ⟨es, hr⟩ := root_dir hd
    simp [hr, Node.get, conv_of_site tbl.site_remove, tbl.file_EISDIR]
  · cases hg : s.root.get cs with
    | none =>
      cases hb : blockedByFile s.root [] cs <;> simp [hne, conv_of_site tbl.site_remove, tbl.file_ENOENT, tbl.file_ENOTDIR]
    | some n => cases n <;> simp [hne, conv_of_site tbl.site_remove, tbl.file_EISDIR]

/-- where the parent directory exists (or the path is the root) `OSFS.makedir` is `MemoryFS.makedir` -/
theorem os_makedir_eq_mem (r : Bool)
    (hpar : cs = [] ∨ ∃ es, s.root.get cs.dropLast = some (.dir es)) :
    Os.makedir s p r = Mem.makedir s p r := by
  have hb : blockedByFile s.root [] cs = false := by
    rcases hpar with rfl | ⟨es, hpa⟩
    · rfl
    · by_cases hne : cs = []
      · subst hne; rfl
      · exact blocked_parent_dir hne hpa
  have := step_dirWrapped s p cs hc hv hd (.makedir p r) trivial rfl
  rw [hb] at this
  exact this.trans (mem_makedir s p cs hc hv r).symm

end

theorem intermediateDirs_go_eq_mem (s : State) : ∀ (L acc : List (List Name)),
    Os.intermediateDirs.go s L acc = Mem.intermediateDirs.go s L acc := by
  intro L
  induction L with
  | nil => intro acc; simp [Os.intermediateDirs.go, Mem.intermediateDirs.go]
  | cons pre rest ih =>
    intro acc
    simp only [Os.intermediateDirs.go, Mem.intermediateDirs.go, getinfoC_eq]
    cases h : s.root.get pre with
    | none => simp [ih]
    | some n => cases n <;> simp

theorem intermediateDirs_eq_mem (s : State) (cs : List Name) :
    Os.intermediateDirs s cs = Mem.intermediateDirs s cs := by
  unfold Os.intermediateDirs Mem.intermediateDirs
  rw [intermediateDirs_go_eq_mem]
  rfl

theorem isDir_foldl (dirs : List (List Name)) (t : Node) :
    (dirs.foldl (fun t d => Node.set d t (Node.dir [])) t).isDir = t.isDir := by
  induction dirs generalizing t with
  | nil => rfl
  | cons d ds ih => simp only [List.foldl_cons, ih, isDir_set]

section
variable (s : State) (p : Str) (cs : List Name) (hc : s.closed = false) (hv : validate p = .ok cs)
  (hd : s.root.isDir = true)
include hd

/-- after the missing intermediate directories were made, the parent of the path is a directory -/
theorem parent_after_intermediates (dirs : List (List Name))
    (hi : Mem.intermediateDirs s cs = .ok dirs) :
    cs = [] ∨ ∃ es, (dirs.foldl (fun t d => Node.set d t (Node.dir [])) s.root).get cs.dropLast = some (.dir es) := by
  by_cases hne : cs = []
  · exact Or.inl hne
  · right
    rw [intermediateDirs_eq] at hi
    cases hbl : blockedByFile s.root [] cs
    · cases hg : s.root.get cs with
      | none =>
        obtain ⟨l, h1, h2⟩ := (goPrefixes_spec s hd cs).2.2 hbl hg
        rw [h1] at hi
        simp only [Res.map, Res.ok.injEq, List.dropLast_concat] at hi
        subst hi
        obtain ⟨es', hpar⟩ := mkdirs_parent hd hne hbl
        exact ⟨es', (congrArg (Node.get cs.dropLast) h2).trans hpar⟩
      | some n =>
        cases n with
        | file b =>
          rw [(goPrefixes_spec s hd cs).1 (Or.inr (isFileAt_of_file hg))] at hi
          cases hi
        | dir es =>
          rw [(goPrefixes_spec s hd cs).2.1 es hg] at hi
          simp only [Res.map, Res.ok.injEq, List.dropLast_nil] at hi
          subst hi
          obtain ⟨pes, hp⟩ := get_parent_dir hne hg
          exact ⟨pes, hp⟩
    · rw [(goPrefixes_spec s hd cs).1 (Or.inl hbl)] at hi
      cases hi

include hc hv

theorem os_makedirs_eq_mem (r : Bool) : Os.makedirs s p r = Mem.makedirs s p r := by
  unfold Os.makedirs Mem.makedirs
  simp only [hc, hv, intermediateDirs_eq_mem, Bool.false_eq_true, if_false]
  cases hi : Mem.intermediateDirs s cs with
  | err e => rfl
  | ok dirs =>
    simp only
    have hpar := parent_after_intermediates s cs hd dirs hi
    have := os_makedir_eq_mem
      { s with root := dirs.foldl (fun t d => Node.set d t (Node.dir [])) s.root } p cs hc hv
      (by simpa [isDir_foldl] using hd) false hpar
    rw [hc] at this
    rw [this]
    simp only [opendirCheck_eq_mem]
    rfl

end

theorem pathPrefix_eq (a b : List Name) : Posix.pathPrefix a b = Ref.isPrefix a b := by
  induction a generalizing b with
  | nil => cases b <;> rfl
  | cons x xs ih => cases b with
    | nil => rfl
    | cons y ys => simp [Posix.pathPrefix, Ref.isPrefix, ih]

theorem pathPrefix_iff (a b : List Name) : Posix.pathPrefix a b = true ↔ a <+: b := by
  rw [pathPrefix_eq]; exact TreeLemmas.isPrefix_iff a b

theorem file_not_proper_prefix {t : Node} {a b : List Name} {d : Bytes} {es : Ents}
    (ha : t.get a = some (.file d)) (h : a <+: b) (hne : a ≠ b)
    (hp : t.get b.dropLast = some (.dir es)) : False := by
  obtain ⟨c, r, rfl⟩ := prefix_ne_split h hne
  rw [List.dropLast_append_of_ne_nil (by simp), get_append, ha] at hp
  cases hx : (c :: r).dropLast with
  | nil => rw [hx] at hp; simp [Node.get] at hp
  | cons y ys => rw [hx] at hp; simp [Node.get] at hp

theorem parentDir_of_get {t : Node} {a : List Name} {n : Node} (ha : t.get a = some n) :
    Posix.parentDir t a = .ok () := by
  unfold Posix.parentDir
  by_cases hne : a = []
  · simp [hne]
  · obtain ⟨es, hp⟩ := get_parent_dir hne ha
    simp [hne, stat_eq, hp]

/-- `rename(file, dst)` succeeds exactly when `dst` could be opened for writing -/
theorem rename_file_ok {t : Node} {a b : List Name} {data : Bytes} {es : Ents}
    (ha : t.get a = some (.file data)) (hab : a ≠ b) (hbne : b ≠ [])
    (hp : t.get b.dropLast = some (.dir es)) (hnd : ∀ ds, t.get b ≠ some (.dir ds)) :
    Posix.rename t a b = .ok ((t.set b (.file data)).del a) := by
  have h1 : Posix.pathPrefix a b = false := by
    rw [Bool.eq_false_iff]; intro h
    exact file_not_proper_prefix ha ((pathPrefix_iff a b).1 h) hab hp
  have h2 : Posix.pathPrefix b a = false := by
    rw [Bool.eq_false_iff]; intro h
    obtain ⟨ds, hds⟩ := get_proper_prefix_dir ((pathPrefix_iff b a).1 h) (Ne.symm hab) ha
    exact hnd ds hds
  unfold Posix.rename
  rw [parentDir_of_get ha]
  simp only [Posix.parentDir, hbne, if_false, stat_eq, hp, ha, hab, h1, h2,
    Bool.false_eq_true, Node.isDir]
  cases hgb : t.get b with
  | none => simp
  | some n =>
    cases n with
    | file x => simp
    | dir ds => exact absurd hgb (hnd ds)

theorem rename_file_err {t : Node} {a b : List Name} {data : Bytes} (hd : t.isDir = true)
    (ha : t.get a = some (.file data)) (hab : a ≠ b)
    (hbad : b = [] ∨ (∀ es, t.get b.dropLast ≠ some (.dir es)) ∨ ∃ ds, t.get b = some (.dir ds)) :
    ∃ e, Posix.rename t a b = .error e := by
  have hane := ne_nil_of_file hd ha
  unfold Posix.rename
  rw [parentDir_of_get ha]
  simp only [stat_eq, ha, hab, if_false]
  by_cases hbne : b = []
  · subst hbne
    have : Posix.pathPrefix a [] = false := by cases a <;> simp_all [Posix.pathPrefix]
    simp [Posix.parentDir, this, Posix.pathPrefix]
  · rcases hbad with h | hnp | ⟨ds, hds⟩
    · exact absurd h hbne
    · simp only [Posix.parentDir, hbne, if_false, stat_eq]
      cases hp : t.get b.dropLast with
      | none => simp
      | some n =>
        cases n with
        | file x => simp
        | dir es => exact absurd hp (hnp es)
    · simp only [parentDir_of_get hds, hds, Node.isDir]
      cases Posix.pathPrefix a b <;> cases Posix.pathPrefix b a <;> simp

theorem openC_read_file (meth : String) (s : State) (a : List Name) (data : Bytes) (hd : s.root.isDir = true)
    (ha : s.root.get a = some (.file data)) : Os.openC meth s a ['r', 'b'] = (s, .ok a) := by
  have hane := ne_nil_of_file hd ha
  obtain ⟨pes, hp, hl⟩ := lookup_of_get hane ha
  simp [Os.openC, hane, flags_rb, Posix.open_, stat_eq, hp, hl]

section
variable (s : State) (sp dp : Str) (a b : List Name) (hc : s.closed = false)
  (hva : validate sp = .ok a) (hvb : validate dp = .ok b)
  (hd : s.root.isDir = true) (hwf : s.root.wf = true)
include hc hva hvb hd

theorem os_copydir_eq_mem (c : Bool) : Os.copydir s sp dp c = Mem.copydir s sp dp c := by
  unfold Os.copydir Mem.copydir
  simp only [Os.vpath, vpath_open _ _ hc, hva, hvb, existsC_eq, getinfoC_eq,
    os_makedirs_eq_mem s dp b hc hvb hd true]
  by_cases hpre : isPrefix a b = true
  · simp [hpre]
  · simp only [hpre, if_false, Bool.false_eq_true]
    cases hgb : s.root.get b with
    | none =>
      cases c
      · simp
      · cases hga : s.root.get a with
        | none => simp
        | some n => cases n <;> simp <;> rfl
    | some nb =>
      cases hga : s.root.get a with
      | none => cases c <;> simp
      | some n => cases n <;> cases c <;> simp <;> rfl

-- carries the section's hypotheses, none of which it needs
set_option linter.unusedSectionVars false in
theorem tbl_copy2_unwrapped : ∀ e, conv "copy" "shutil.copy2" e = .Leak :=
  conv_unwrapped tbl.site_copy2

theorem os_copy (o : Bool) :
    Agree (adm2 s.root a b (.copy sp dp o)) s (Os.step s (.copy sp dp o)) (step2 s a b (.copy sp dp o)) := by
  have hcla := validate_clean sp a hva
  have hclb := validate_clean dp b hvb
  obtain ⟨res, hr⟩ := root_dir hd
  have hroot : s.root.get [] = some (.dir res) := by simp [hr, Node.get]
  simp only [Os.step, Os.copy, Os.vpath, vpath_open _ _ hc, hva, hvb, gettypeC_eq, existsC_eq, isdirC_eq, step2,
    parentOf]
  cases hga : s.root.get a with
  | none =>
    refine agree_of_fails .ResourceNotFound (by simp [fail]) ?_ (by simp [adm2, admFileArg, kindAt, hga])
    by_cases h1 : (!o && (s.root.get b).isSome) = true <;> by_cases hab : a = b <;> simp [h1, hab, fail, Res.isOk]
  | some n =>
    cases n with
    | dir ds =>
      refine agree_of_fails .FileExpected (by simp [fail]) ?_ (by simp [adm2, admFileArg, kindAt, hga])
      by_cases h1 : (!o && (s.root.get b).isSome) = true <;> by_cases hab : a = b <;> simp [h1, hab, fail, Res.isOk]
    | file data =>
      have hane := ne_nil_of_file hd hga
      by_cases h1 : (!o && (s.root.get b).isSome) = true
      · left
        cases o
        · simp only [Bool.not_false, Bool.true_and] at h1
          simp [h1]
        · simp at h1
      · have h1' : (if o = true then Res.ok false else Res.ok (s.root.get b).isSome) = Res.ok false := by
          cases o
          · simp only [Bool.not_false, Bool.true_and, Bool.not_eq_true] at h1
            simp [h1]
          · rfl
        simp only [h1', h1, if_false, Bool.false_eq_true]
        by_cases hab : a = b
        · left; simp [hab]
        · simp only [hab, if_false]
          rcases sit s.root b with h' | ⟨hne', hp', hg'⟩ | ⟨x', hne', hp', hg'⟩ | ⟨es', hne', hp', hl', hg'⟩ | ⟨es', n', hne', hp', hl', hg'⟩
          · subst h'
            left; simp [hroot]
          · left; simp [hne', hp']
          · exact agree_of_fails .DirectoryExpected (by simp [hp', fail]) (by simp [hne', hp', fail, Res.isOk])
              (by simp [adm2, hab, admFileTarget, blocked_parent_file hne' hp'])
          · left
            have ht : Posix.copy2 s.root a b = .ok (s.root.set b (.file data)) := by
              simp [Posix.copy2, pathIsdir_eq, hg', hab, stat_eq, hga, Posix.open_, hne', hp', hl', set_set_same]
            simp [hne', hp', hg', ht]
          · rcases n' with d' | ds'
            · left
              have ht : Posix.copy2 s.root a b = .ok (s.root.set b (.file data)) := by
                simp [Posix.copy2, pathIsdir_eq, hg', hab, stat_eq, hga, Posix.open_, hne', hp', hl', set_set_same]
              simp [hne', hp', hg', ht]
            · left; simp [hne', hp', hg']

include hwf

-- `hwf` is not needed here
set_option linter.unusedSectionVars false in
theorem os_move (o : Bool) :
    Agree (adm2 s.root a b (.move sp dp o)) s (Os.step s (.move sp dp o)) (step2 s a b (.move sp dp o)) := by
  have hcla := validate_clean sp a hva
  have hclb := validate_clean dp b hvb
  simp only [Os.step, Os.move, Os.vpath, vpath_open _ _ hc, hva, hvb, existsC_eq, getinfoC_eq, step2, parentOf]
  have hex : (if o = true then Res.ok false else Res.ok (s.root.get b).isSome) =
      Res.ok (!o && (s.root.get b).isSome) := by cases o <;> simp
  rw [hex]
  by_cases h1 : (!o && (s.root.get b).isSome) = true
  · have hadm := QueryLemmas.destExists_mem_adm2_move s.root sp dp a b o h1
    simp only [h1]
    cases hga : s.root.get a with
    | none => exact agree_of_fails .DestinationExists (by simp [fail]) (by simp [fail, Res.isOk]) hadm
    | some n =>
      cases n with
      | dir ds => exact agree_of_fails .DestinationExists (by simp [fail]) (by simp [fail, Res.isOk]) hadm
      | file data => left; simp
  · simp only [Bool.not_eq_true] at h1
    simp only [h1]
    cases hga : s.root.get a with
    | none => left; simp
    | some n =>
      cases n with
      | dir ds => left; simp
      | file data =>
        left
        have hane := ne_nil_of_file hd hga
        simp only [Bool.false_eq_true, if_false]
        by_cases hab : a = b
        · simp [hab]
        · simp only [hab, if_false, openC_read_file "open" s a data hd hga]
          rcases sit s.root b with h' | ⟨hne', hp', hg'⟩ | ⟨x', hne', hp', hg'⟩ | ⟨es', hne', hp', hl', hg'⟩ | ⟨es', n', hne', hp', hl', hg'⟩
          · subst h'
            obtain ⟨e, he⟩ := rename_file_err hd hga hab (Or.inl rfl)
            simp [he, Os.openC]
          · obtain ⟨e, he⟩ := rename_file_err hd hga hab (Or.inr (Or.inl (by simp [hp'])))
            cases hb : blockedByFile s.root [] b.dropLast <;>
              simp [he, Os.openC, hne', flags_wb, Posix.open_, stat_eq, hp', hb, conv_of_site tbl.site_openbin, tbl.file_ENOENT,
                tbl.file_ENOTDIR]
          · obtain ⟨e, he⟩ := rename_file_err hd hga hab (Or.inr (Or.inl (by simp [hp'])))
            simp [he, Os.openC, hne', flags_wb, Posix.open_, stat_eq, hp', conv_of_site tbl.site_openbin, tbl.file_ENOTDIR]
          · rw [rename_file_ok hga hab hne' hp' (by simp [hg'])]
            simp [hne', hp', hg']
          · rcases n' with d' | ds'
            · rw [rename_file_ok hga hab hne' hp' (by simp [hg'])]
              simp [hne', hp', hg']
            · obtain ⟨e, he⟩ := rename_file_err hd hga hab (Or.inr (Or.inr ⟨ds', hg'⟩))
              simp [he, Os.openC, hne', flags_wb, Posix.open_, stat_eq, hp', hl', hg', conv_of_site tbl.site_openbin,
                tbl.file_EISDIR]

theorem os_movedir (c : Bool) (hk : ¬ (b <+: a ∧ a ≠ b)) :
    Agree (adm2 s.root a b (.movedir sp dp c)) s (Os.step s (.movedir sp dp c))
      (step2 s a b (.movedir sp dp c)) := by
  simp only [Os.step, Os.movedir, Os.vpath, vpath_open _ _ hc, hva, hvb,
    exists_eq_mem, mem_exists_eq s dp b hc hvb, getinfo_eq_mem, mem_getinfo_eq s sp a hc hva]
  by_cases hab : a = b
  · left; simp [hab, step2]
  · by_cases hpre : Ref.isPrefix a b = true
    · left; simp [hab, hpre, step2]
    · have hnab : ¬ a <+: b := fun h => hpre ((TreeLemmas.isPrefix_iff a b).2 h)
      have hnba : ¬ b <+: a := fun h => hk ⟨h, hab⟩
      have hane : a ≠ [] := by rintro rfl; exact hnab List.nil_prefix
      have hbne : b ≠ [] := by rintro rfl; exact hnba List.nil_prefix
      simp only [hab, hpre, if_false, Bool.false_eq_true]
      have hex : (if c = true then Res.ok true else Res.ok (s.root.get b).isSome) =
          Res.ok (c || (s.root.get b).isSome) := by cases c <;> simp
      rw [hex]
      cases hga : s.root.get a with
      | none =>
        -- the reference looks at the source first; OSFS at the destination: both fail
        left
        cases hcb : (c || (s.root.get b).isSome) <;> simp [step2, hab, hpre, hga]
      | some n =>
        rcases n with data | es
        · cases hcb : (c || (s.root.get b).isSome)
          · simp only [Bool.or_eq_false_iff] at hcb
            have hgb : s.root.get b = none := by
              cases h : s.root.get b with
              | none => rfl
              | some x => rw [h] at hcb; simp at hcb
            refine agree_of_fails .ResourceNotFound (by simp [fail])
              (by simp [step2, hab, hpre, hga, fail, Res.isOk]) ?_
            simp [adm2, hab, kindAt, hgb, hcb.1]
          · left; simp [step2, hab, hpre, hga]
        · have hes := entsWf_of_get hwf hga
          rw [QueryLemmas.step2_movedir_diverge s sp dp a b c es hnab hnba hga]
          rw [show Os.makedir s dp true = _ from step_dirWrapped s dp b hc hvb hd (.makedir dp true) trivial rfl]
          cases hb : blockedByFile s.root [] b
          · simp only [Bool.false_eq_true, if_false, step1, hbne, parentOf]
            rcases sit s.root b with h' | ⟨hne', hp', hg'⟩ | ⟨x', hne', hp', hg'⟩ | ⟨es', hne', hp', hl', hg'⟩ | ⟨es', n', hne', hp', hl', hg'⟩
            · exact absurd h' hbne
            · left; cases c <;> simp [hg', hp', fail]
            · left; cases c <;> simp [hg', hp', fail]
            · left
              cases c
              · simp [hg']
              · have hs1 : (s.root.set b (.dir [])).get b = some (.dir []) := get_set_same b _ _ es' hne' hp'
                have hga2 : (s.root.set b (.dir es)).get a = some (.dir es) := by
                  rw [get_set_disjoint b a _ _ hnba hnab]; exact hga
                simp only [Bool.true_or, hg', hp', upd, hs1, mergeEnts_nil hes, setAt, hbne, if_false, set_set_same]
                rw [removetree_dir ⟨s.root.set b (.dir es), s.closed⟩ sp a hc hva es hane hga2]
                simp [upd, done]
            · left
              rcases n' with data' | ds'
              · simp [hg', hp', fail]
              · simp only [Option.isSome_some, Bool.or_true, hg', hp', if_true, done]
                cases hm : mergeEnts es ds' with
                | none => simp
                | some m =>
                  have hga2 : (setAt s.root b (.dir m)).get a = some (.dir es) := by
                    simp only [setAt, hbne, if_false]
                    rw [get_set_disjoint b a _ _ hnba hnab]; exact hga
                  simp only []
                  rw [removetree_dir ⟨setAt s.root b (.dir m), s.closed⟩ sp a hc hva es hane hga2]
                  simp [setAt, hbne, upd]
          · have hgb := get_none_of_blocked hb
            cases c
            · left; simp [hgb]
            · refine agree_of_fails .DirectoryExpected (by simp [hgb, fail]) ?_ (by simp [adm2, hab, hb])
              rw [hgb]
              rcases hp' : s.root.get (parentOf b) with _ | _ | es'
              · rfl
              · rfl
              · rw [blocked_parent_dir hbne hp'] at hb; cases hb

end

end

end Fs.OsLemmas
