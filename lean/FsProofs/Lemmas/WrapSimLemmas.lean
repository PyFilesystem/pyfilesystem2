/-
  The simulation a wrapper preserves (helper lemmas for FsProofs/WrapRefines.lean).

  `Sim F pth`: the filesystem `F` (any state-transforming step function over the PARENT's state)
  shows, at the directory `pth` of the parent tree, a filesystem that refines `Ref.step` in the
  sense of `MemRefines.mem_refines_ref`: same verdict; on success the reference's value and the
  reference's resulting tree grafted at `pth` (nothing else changes); on failure an unchanged
  parent and an error class that is admissible (`adm`) for the view.

  Proofs speak of one call through `MemLemmas.Agree A s m r` (`m = r`, or both fail, `m` leaves `s` alone
  and its class is in `A`) with `r` the view's reference outcome grafted: `A = adm …` is `SimAt`
  (`agree_of_simAt`, `simAt_of_agree`), `A = []` is equality.

  Namespace `Fs.WrapLemmas`, like WrapLemmas.lean, WrapSimOps.lean and WrapExact.lean: the four files are one
  development, cut where the imports allow.  `Fs.WrapRefines.RefinesRef`, the hypothesis of the property theorems
  of WrapRefines.lean, is defined here, below the lemmas that take it as a hypothesis (`sim_of_refines`; the lemma
  modules of MultiFS and of the base-class walkers).
-/
import FsProofs.Lemmas.WrapLemmas
import FsProofs.MemRefines

namespace Fs.WrapRefines
open Fs Fs.Ref Fs.Wrap Fs.MemRefines

/-- the refinement statement of `MemRefines.mem_refines_ref`, for any step function -/
def RefinesRef (F : FS State) : Prop :=
  ∀ (s : State) (op : Op), s.closed = false → s.root.isDir = true → s.root.wf = true → ¬ knownDeviation op →
    (Ref.step s op).2 ≠ .err .OperationFailed →
    ((F s op).2.isOk = (Ref.step s op).2.isOk) ∧
    ((Ref.step s op).2.isOk = true → F s op = Ref.step s op) ∧
    (∀ e, (F s op).2 = .err e → e ∈ adm s op ∧ (F s op).1 = s)

theorem ref_refines_ref : RefinesRef Ref.step := fun s op _ hd _ _ hl => refines_of_eq s op _ hd hl rfl

end Fs.WrapRefines

namespace Fs.WrapLemmas
open Fs Fs.Ref Fs.TreeLemmas Fs.MemRefines
open Fs.MemLemmas (Agree)
open Fs.WrapRefines (RefinesRef ref_refines_ref)

/-- no path argument contains NUL -/
def noNul (op : Op) : Prop := ∀ p ∈ op.paths, '\x00' ∉ p

open Fs.Path Fs.PathSpec in
/-- exception class: `WrapFS.removedir` / `removetree` evaluate `abspath(normpath(path))` BEFORE
`delegate_path`, so a path that contains NUL *and* climbs is reported as IllegalBackReference (the
reference looks at the characters first: InvalidCharsInPath), and `removedir` of a NUL path that
normalises to the root as RemoveRootError -/
def nulRootTest : Op → Prop
  | .removedir p => '\x00' ∈ p ∧ (resolve (splitSlash p) = none ∨ resolve (splitSlash p) = some [])
  | .removetree p => '\x00' ∈ p ∧ resolve (splitSlash p) = none
  | _ => False

/-- exception class: `openbin` with an invalid mode AND an invalid path — `WrapFS.openbin` delegates
the path (its error) before the inner `openbin` looks at the mode (ValueError) -/
def excOpenbin : Op → Prop
  | .openbin p m => parseBinMode m = none ∧ ∃ e, validate p = .err e
  | _ => False

/-- the parent state is open and well-formed and holds a directory (with entries `es`) at `pth` -/
structure Good (s : State) (pth : List Name) (es : Ents) : Prop where
  opn : s.closed = false
  wf : s.root.wf = true
  dir : s.root.get pth = some (.dir es)
  names : ∀ c ∈ pth, cleanName c = true

/-- the open reference filesystem whose root holds the entries `es` -/
def V (es : Ents) : State := ⟨.dir es, false⟩

def SimAt (F : Wrap.FS State) (pth : List Name) (s : State) (es : Ents) (op : Op) : Prop :=
  ((F s op).2.isOk = (Ref.step (V es) op).2.isOk) ∧
  ((Ref.step (V es) op).2.isOk = true → F s op = graft s pth (Ref.step (V es) op)) ∧
  (∀ e, (F s op).2 = .err e → (F s op).1 = s ∧ e ∈ adm (V es) op)

def Sim (F : Wrap.FS State) (pth : List Name) : Prop :=
  ∀ (s : State) (es : Ents) (op : Op), Good s pth es → op ≠ .close → ¬ nulRootTest op → ¬ knownDeviation op →
    (Ref.step (V es) op).2 ≠ .err .OperationFailed → SimAt F pth s es op

theorem viewOf_open {s : State} (hc : s.closed = false) (es : Ents) : viewOf s (.dir es) = V es := by
  rw [viewOf, hc]; rfl

theorem viewOf_good {s : State} {pth : List Name} {es : Ents} (G : Good s pth es) :
    viewOf s (.dir es) = V es := viewOf_open G.opn es

section GraftV
variable {s : State} {sub : List Name} {es : Ents} (hc : s.closed = false) (hdir : s.root.get sub = some (.dir es))
include hc

theorem graft_upd_V (x : Node) (v : Val) : graft s sub (upd (V es) x v) = upd s (setAt s.root sub x) v := by
  rw [← viewOf_open hc, graft_upd]

include hdir

theorem graft_fail_V (e : Err) : graft s sub (fail (V es) e) = fail s e := by
  rw [← viewOf_open hc, graft_fail hdir]

theorem graft_done_V (v : Val) : graft s sub (done (V es) v) = done s v := by
  rw [← viewOf_open hc, graft_done hdir]

end GraftV

theorem agree_mono {A B : List Err} {s : State} {m r : State × Out} (hAB : ∀ e ∈ A, e ∈ B) :
    Agree A s m r → Agree B s m r :=
  Or.imp_right fun ⟨e, e', hm, hr, he⟩ => ⟨e, e', hm, hr, hAB e he⟩

theorem agree_ok {A : List Err} {s : State} {m r : State × Out} (h : Agree A s m r) (hok : r.2.isOk = true) :
    m = r :=
  h.resolve_right fun ⟨_, _, _, hr, _⟩ => by rw [hr] at hok; cases hok

theorem agree_nil {s : State} {m r : State × Out} (h : Agree [] s m r) : m = r :=
  h.resolve_right fun ⟨_, _, _, _, he⟩ => nomatch he

theorem agree_of_simAt {F : Wrap.FS State} {pth : List Name} {s : State} {es : Ents} {op : Op}
    (h : SimAt F pth s es op) : Agree (adm (V es) op) s (F s op) (graft s pth (Ref.step (V es) op)) :=
  (MemLemmas.refines_cases (r := graft s pth (Ref.step (V es) op)) h.1 h.2.1 fun e he => (h.2.2 e he).symm).imp_left
    And.right

theorem valid_one {op : Op} {p : Str} {cs : List Name} (hp : op.paths = [p]) (hv : validate p = .ok cs) :
    ∀ q ∈ op.paths, ∃ cs, validate q = .ok cs := by
  intro q hq; rw [hp] at hq; cases List.mem_singleton.1 hq; exact ⟨cs, hv⟩

theorem valid_two {op : Op} {a b : Str} {ca cb : List Name} (hp : op.paths = [a, b]) (ha : validate a = .ok ca)
    (hb : validate b = .ok cb) : ∀ q ∈ op.paths, ∃ cs, validate q = .ok cs := by
  intro q hq; rw [hp] at hq
  rcases List.mem_cons.1 hq with rfl | hq
  · exact ⟨ca, ha⟩
  · cases List.mem_singleton.1 hq; exact ⟨cb, hb⟩

theorem nonroot_one {op : Op} {p : Str} {cs : List Name} (hp : op.paths = [p]) (hv : validate p = .ok cs)
    (hcs : cs ≠ []) : ∀ q ∈ op.paths, validate q ≠ .ok [] := by
  intro q hq; rw [hp] at hq; cases List.mem_singleton.1 hq
  rw [hv]; exact fun e => hcs (Res.ok.inj e)

theorem good_nil {s : State} {es : Ents} (G : Good s [] es) : s = V es := by
  obtain ⟨root, cl⟩ := s
  cases Option.some.inj G.dir
  cases (G.opn : cl = false)
  rfl

theorem sim_of_refines (F : Wrap.FS State) (hF : RefinesRef F) : Sim F [] := by
  intro s es op G hop _ hk hl
  cases good_nil G
  obtain ⟨h1, h2, h3⟩ := hF (V es) op rfl rfl G.wf hk hl
  refine ⟨h1, fun hok => ?_, fun e he => (h3 e he).symm⟩
  rw [h2 hok]
  exact (graft_nil _ _ (QueryLemmas.step_closed_same _ _ hop)).symm

theorem simAt_of_agree {F : Wrap.FS State} {pth : List Name} {s : State} {es : Ents} {op : Op}
    (hc : s.closed = false) (hdir : s.root.get pth = some (.dir es))
    (hl : (Ref.step (V es) op).2 ≠ .err .OperationFailed)
    (h : Agree (adm (V es) op) s (F s op) (graft s pth (Ref.step (V es) op))) : SimAt F pth s es op := by
  unfold SimAt
  rcases h with h | ⟨e, e', hm, hr, he⟩
  · -- the reference's own failures leave the state alone and are admissible
    rw [h]
    refine ⟨rfl, fun _ => rfl, fun e he => ?_⟩
    have he' : (Ref.step (V es) op).2 = .err e := he
    rw [show Ref.step (V es) op = fail (V es) e from Prod.ext (QueryLemmas.step_err_state he') he',
      graft_fail_V hc hdir]
    exact ⟨rfl, (QueryLemmas.step_truthful _ _ _ rfl he').resolve_right fun h => hl (h ▸ he')⟩
  · have hr' : (Ref.step (V es) op).2 = .err e' := hr
    rw [hm, hr']
    exact ⟨rfl, nofun, fun x hx => by cases hx; exact ⟨rfl, he⟩⟩

theorem ref_getinfo_dir {s : State} {q : Str} {cs : List Name} {es : Ents} (hc : s.closed = false)
    (hv : validate q = .ok cs) (hg : s.root.get cs = some (.dir es)) :
    Ref.step s (.getinfo q) = done s (.info (lastName cs) true 0) := by
  rw [QueryLemmas.step_admitted (op := .getinfo q) hc rfl hv nofun]
  simp only [step1, hg]

/-- the reference itself, seen at its root -/
theorem sim_ref : Sim Ref.step [] :=
  sim_of_refines Ref.step ref_refines_ref

/-- MemoryFS as coded, seen at its root (`MemRefines.mem_refines_ref`) -/
theorem sim_mem : Sim Mem.step [] :=
  sim_of_refines Mem.step mem_refines_ref

theorem good_split {s : State} {pth sub : List Name} {es : Ents} (G : Good s (pth ++ sub) es) :
    ∃ esP, Good s pth esP ∧ (Node.dir esP).get sub = some (.dir es) := by
  have hd := G.dir
  rw [get_append] at hd
  cases hp : s.root.get pth with
  | none => rw [hp] at hd; cases hd
  | some u =>
    rw [hp] at hd
    cases u with
    | file b =>
      cases sub with
      | nil => simp [Node.get] at hd
      | cons c r => simp [Node.get] at hd
    | dir esP =>
      exact ⟨esP, ⟨G.opn, G.wf, hp, fun c hc => G.names c (by simp [hc])⟩, hd⟩

/-- the path `SubFS.delegate_path` hands to the parent for a valid path -/
def fdel (sub : List Name) (p : Str) : Str :=
  match validate p with
  | .ok cs => absOf (sub ++ cs)
  | .err _ => p

theorem fdel_ok {sub cs : List Name} {p : Str} (h : validate p = .ok cs) : fdel sub p = absOf (sub ++ cs) := by
  simp [fdel, h]

theorem validate_fdel {sub cs : List Name} {p : Str} (hs : ∀ c ∈ sub, cleanName c = true)
    (h : validate p = .ok cs) : validate (fdel sub p) = .ok (sub ++ cs) := by
  rw [fdel_ok h]
  apply validate_absOf
  intro c hc
  rcases List.mem_append.1 hc with hc | hc
  · exact hs c hc
  · exact validate_clean p cs h c hc

theorem inner_exact {s : State} {sub : List Name} {es : Ents} (hc : s.closed = false)
    (hdir : s.root.get sub = some (.dir es)) (f : Str → Str) (op : Op) (hop : op ≠ .close)
    (hvf : ∀ p ∈ op.paths, ∃ cs, validate p = .ok cs ∧ validate (f p) = .ok (sub ++ cs))
    (hsp : rootSpecial op = false ∨ ∀ p ∈ op.paths, validate p ≠ .ok []) :
    Ref.step s (mapPaths f op) = graft s sub (Ref.step (V es) op) := by
  have := ref_step_graft s sub es op f id hdir hop
    (fun p hp => by obtain ⟨cs, h1, h2⟩ := hvf p hp; rw [h2, id, h1]; rfl) hsp
  rwa [mapPaths_id, viewOf_open hc] at this

/-- **the call rule**: one inner call whose (valid) paths were replaced by paths that validate below `sub`
agrees with the view's reference -/
theorem core_of {F : Wrap.FS State} {pth sub : List Name} (hS : Sim F pth) {s : State} {es : Ents}
    (G : Good s (pth ++ sub) es) (f : Str → Str) (op : Op) (hop : op ≠ .close)
    (hvf : ∀ p ∈ op.paths, ∃ cs, validate p = .ok cs ∧ validate (f p) = .ok (sub ++ cs))
    (hsp : rootSpecial op = false ∨ ∀ p ∈ op.paths, validate p ≠ .ok [])
    (hk : ¬ knownDeviation op) (hl : (Ref.step (V es) op).2 ≠ .err .OperationFailed) :
    Agree (adm (V es) op) s (F s (mapPaths f op)) (graft s (pth ++ sub) (Ref.step (V es) op)) := by
  obtain ⟨esP, GP, hsubdir⟩ := good_split G
  have hgr : Ref.step (V esP) (mapPaths f op) = graft (V esP) sub (Ref.step (V es) op) :=
    inner_exact rfl hsubdir f op hop hvf hsp
  have hgg : graft s pth (graft (V esP) sub (Ref.step (V es) op)) = graft s (pth ++ sub) (Ref.step (V es) op) := by
    rw [← viewOf_good GP, graft_graft GP.dir]
  have hnn' : ¬ nulRootTest (mapPaths f op) := by
    intro hx
    cases op <;> simp only [mapPaths, nulRootTest] at hx
    all_goals
      obtain ⟨cs, _, hcs⟩ := hvf _ (List.mem_singleton_self _)
      exact not_nul_of_validate_ok hcs hx.1
  have hk' : ¬ knownDeviation (mapPaths f op) := by
    intro hd
    apply hk
    cases op <;> simp only [mapPaths, knownDeviation] at hd ⊢
    rename_i a b c
    obtain ⟨a', b', ha', hb', hpre, hne⟩ := hd
    obtain ⟨ca, hca, hfa⟩ := hvf a (by simp [Op.paths])
    obtain ⟨cb, hcb, hfb⟩ := hvf b (by simp [Op.paths])
    cases hfa.symm.trans ha'; cases hfb.symm.trans hb'
    exact ⟨ca, cb, hca, hcb, (List.prefix_append_right_inj sub).1 hpre, fun e => hne (by rw [e])⟩
  have := agree_of_simAt (hS s esP _ GP (mapPaths_ne_close _ _ hop) hnn' hk' (by rw [hgr]; exact hl))
  rw [hgr, hgg] at this
  exact agree_mono (adm_below (.dir esP) sub es op f hsubdir hop hvf) this

theorem core {F : Wrap.FS State} {pth sub : List Name} (hS : Sim F pth) {s : State} {es : Ents}
    (G : Good s (pth ++ sub) es) (op : Op) (hop : op ≠ .close)
    (hval : ∀ p ∈ op.paths, ∃ cs, validate p = .ok cs)
    (hsp : rootSpecial op = false ∨ ∀ p ∈ op.paths, validate p ≠ .ok [])
    (hk : ¬ knownDeviation op) (hl : (Ref.step (V es) op).2 ≠ .err .OperationFailed) :
    Agree (adm (V es) op) s (F s (mapPaths (fdel sub) op)) (graft s (pth ++ sub) (Ref.step (V es) op)) :=
  core_of hS G (fdel sub) op hop (fun p hp => by
    obtain ⟨cs, hcs⟩ := hval p hp
    exact ⟨cs, hcs, validate_fdel (fun c hc => G.names c (by simp [hc])) hcs⟩) hsp hk hl

/-- the reference outcome of a one-path method other than `openbin` is never the loose failure -/
theorem core1 {F : Wrap.FS State} {pth sub : List Name} (hS : Sim F pth) {s : State} {es : Ents}
    (G : Good s (pth ++ sub) es) (op : Op) {p : Str} {cs : List Name} (hp : op.paths = [p])
    (hno : ∀ q m, op ≠ .openbin q m) (hv : validate p = .ok cs) (hsp : rootSpecial op = false ∨ cs ≠ []) :
    Agree (adm (V es) op) s (F s (mapPaths (fdel sub) op)) (graft s (pth ++ sub) (Ref.step (V es) op)) :=
  core hS G op (by rintro rfl; cases hp) (valid_one hp hv) (hsp.imp_right (nonroot_one hp hv))
    (fun h => by cases op with | movedir => cases hp | _ => exact h)
    (QueryLemmas.step_admitted (s := V es) rfl hp hv (fun q m h => absurd h (hno q m)) ▸ MultiFsLemmas.step1_not_loose _ _ _)

/-! ### path arguments that do not validate (climbing, NUL) -/

/-- what `delegate_path` and the root test do on any path, in terms of `Ref.validate` -/
theorem delegate_cases (sub : List Name) (hs : PathSpec.Clean sub) (p : Str) :
    (∃ cs, validate p = .ok cs ∧ PathSpec.resolve (Path.splitSlash p) = some cs ∧
      Wrap.Sub.delegate (absOf sub) p = .ok (absOf (sub ++ cs)) ∧ Wrap.isRootPath p = .ok (decide (cs = []))) ∨
    (∃ e, validate p = .err e ∧ Wrap.Sub.delegate (absOf sub) p = .err e) := by
  have := delegate_eq_validate hs p
  cases hv : validate p with
  | ok cs =>
    rw [hv] at this
    exact Or.inl ⟨cs, rfl, validate_ok_resolve hv, this, isRootPath_of_resolve (validate_ok_resolve hv)⟩
  | err e => rw [hv] at this; exact Or.inr ⟨e, rfl, this⟩

theorem isRootPath_cases (p : Str) :
    (PathSpec.resolve (Path.splitSlash p) = none ∧ Wrap.isRootPath p = .err .IllegalBackReference) ∨
    (∃ cs, PathSpec.resolve (Path.splitSlash p) = some cs ∧ Wrap.isRootPath p = .ok (decide (cs = []))) := by
  cases hr : PathSpec.resolve (Path.splitSlash p) with
  | none => exact Or.inl ⟨rfl, isRootPath_of_climb hr⟩
  | some cs => exact Or.inr ⟨cs, rfl, isRootPath_of_resolve hr⟩

/-- `WrapFS.removedir` runs its root test before `delegate_path` -/
theorem removedir_invalid {σ : Type} (dp : Wrap.Delegate) (F : Wrap.FS σ) (s : σ) {p : Str} {e0 : Err}
    (he0 : validate p = .err e0) (hd : dp p = .err e0) :
    ∃ e, Wrap.removedir dp F s p = (s, .err e) ∧ (¬ nulRootTest (.removedir p) → e = e0) := by
  by_cases hn : '\x00' ∈ p
  · rcases isRootPath_cases p with ⟨hr, hroot⟩ | ⟨cs, hr, hroot⟩
    · exact ⟨.IllegalBackReference, by simp only [Wrap.removedir, hroot], fun hx => absurd ⟨hn, Or.inl hr⟩ hx⟩
    · by_cases hcs : cs = []
      · subst hcs
        exact ⟨.RemoveRootError, by simp only [Wrap.removedir, hroot, decide_true], fun hx => absurd ⟨hn, Or.inr hr⟩ hx⟩
      · exact ⟨e0, by simp only [Wrap.removedir, hroot, decide_eq_false hcs, hd], fun _ => rfl⟩
  · obtain ⟨rfl, hr⟩ := validate_err_noNul hn he0
    exact ⟨.IllegalBackReference, by simp only [Wrap.removedir, isRootPath_of_climb hr], fun _ => rfl⟩

theorem removetree_invalid {σ : Type} (dp : Wrap.Delegate) (F : Wrap.FS σ) (s : σ) {p : Str} {e0 : Err}
    (he0 : validate p = .err e0) (hd : dp p = .err e0) :
    ∃ e, Wrap.removetree dp F s p = (s, .err e) ∧ (¬ nulRootTest (.removetree p) → e = e0) := by
  rcases isRootPath_cases p with ⟨hr, hroot⟩ | ⟨cs, hr, hroot⟩
  · refine ⟨.IllegalBackReference, by simp only [Wrap.removetree, hroot], fun hx => ?_⟩
    by_cases hn : '\x00' ∈ p
    · exact absurd ⟨hn, hr⟩ hx
    · exact (validate_err_noNul hn he0).1.symm
  · exact ⟨e0, by simp only [Wrap.removetree, hroot, hd], fun _ => rfl⟩

/-- **a path argument that does not validate is refused before the parent is touched**, whatever the inner
filesystem; outside `nulRootTest` with the error of the first such path, as the reference's front does -/
theorem stepOpen_invalid {σ : Type} (F : Wrap.FS σ) (sub : List Name) (hs : PathSpec.Clean sub) (s : σ) (op : Op)
    {e0 : Err} (h : QueryLemmas.firstErr validate op.paths = some e0) :
    ∃ e, Wrap.Sub.stepOpen (absOf sub) F s op = (s, .err e) ∧ (¬ nulRootTest op → e = e0) := by
  have hd := delegate_eq_validate hs
  have h1 : ∀ {p}, op.paths = [p] → validate p = .err e0 := fun hp => by
    obtain ⟨q, hq, he⟩ := QueryLemmas.firstErr_mem h
    cases List.mem_singleton.1 (hp ▸ hq)
    exact he
  cases op with
  | close => cases h
  | move a b o | movedir a b o | copy a b o | copydir a b o =>
    all_goals
      refine ⟨e0, ?_, fun _ => rfl⟩
      simp only [Op.paths, QueryLemmas.firstErr] at h
      cases hva : validate a with
      | err ea =>
        rw [hva] at h; cases h
        simp only [Wrap.Sub.stepOpen, Wrap.stepOpen, Wrap.direct2, Wrap.copy, Wrap.copydir, hd, hva]
      | ok ca =>
        rw [hva] at h
        cases hvb : validate b with
        | err eb =>
          rw [hvb] at h; cases h
          simp only [Wrap.Sub.stepOpen, Wrap.stepOpen, Wrap.direct2, Wrap.copy, Wrap.copydir, hd, hva, hvb]
        | ok cb => rw [hvb] at h; cases h
  | removedir p => exact removedir_invalid _ F s (h1 rfl) (by rw [hd, h1 rfl])
  | removetree p => exact removetree_invalid _ F s (h1 rfl) (by rw [hd, h1 rfl])
  | _ =>
    all_goals
      refine ⟨e0, ?_, fun _ => rfl⟩
      simp only [Wrap.Sub.stepOpen, Wrap.stepOpen, Wrap.direct1, Wrap.getinfo, Wrap.isempty, hd, h1 rfl]

/-- the reference reports the same error unless the call is an `openbin`, whose mode it reads first -/
theorem ref_of_firstErr {v : State} {op : Op} {e : Err} (hc : v.closed = false)
    (h : QueryLemmas.firstErr validate op.paths = some e) :
    e ∈ adm v op ∧ ∃ e', Ref.step v op = fail v e' ∧ (¬ excOpenbin op → e' = e) := by
  have hpaths : (∀ q m, op ≠ .openbin q m) →
      e ∈ adm v op ∧ ∃ e', Ref.step v op = fail v e' ∧ (¬ excOpenbin op → e' = e) := fun hno =>
    have ⟨hs, hm⟩ := QueryLemmas.refused hc (QueryLemmas.refusal_of_paths hno ▸ h)
    ⟨hm, e, hs, fun _ => rfl⟩
  rcases QueryLemmas.op_cases op with rfl | ⟨q, m, rfl⟩ | ⟨_, _, hno⟩ | ⟨_, _, hp⟩
  · cases h
  · obtain ⟨_, hq, hv⟩ := QueryLemmas.firstErr_mem h
    cases List.mem_singleton.1 hq
    rw [QueryLemmas.step_openbin v _ m hc, QueryLemmas.adm_openbin v _ m hc, hv]
    cases hm : parseBinMode m with
    | none => exact ⟨.tail _ (.head _), _, rfl, fun hx => absurd ⟨hm, e, hv⟩ hx⟩
    | some md => exact ⟨.head _, _, rfl, fun _ => rfl⟩
  · exact hpaths hno
  · exact hpaths (by rintro x m rfl; cases hp)

end Fs.WrapLemmas
