/-
  Lemmas for C08: when every thread is one locked block on the same lock, every executable
  complete schedule is a permutation of whole blocks (mutual exclusion), for any number of
  threads and any block bodies.  For threads that take no lock at all, `forallRuns_lockfree`
  decides a property of all maximal runs on the distinct configurations instead of the schedules.
  The lemmas go into `Fs.Conc`, the namespace of the model they are about (`FsModel/Conc.lean`).
-/
import FsModel.Conc

namespace Fs.Conc
variable {σ τ : Type}

theorem seqExec_append (bodies : List (List (σ → τ → σ × τ))) (a b : List Nat) (x : σ × List τ) :
    seqExec bodies (a ++ b) x = seqExec bodies b (seqExec bodies a x) := by
  induction a generalizing x with
  | nil => rfl
  | cons i is ih =>
    simp only [List.cons_append, seqExec]
    split <;> exact ih _

theorem seqExec_length (bodies : List (List (σ → τ → σ × τ))) (o : List Nat) (x : σ × List τ) :
    (seqExec bodies o x).2.length = x.2.length := by
  induction o generalizing x with
  | nil => rfl
  | cons i is ih =>
    simp only [seqExec]
    split
    · rw [ih]; simp
    · exact ih _

/-- the program a thread shows while idle: untouched, or finished -/
def idleProg (bodies : List (List (σ → τ → σ × τ))) (order : List Nat) (j : Nat) : Option (List (Instr σ τ)) :=
  match bodies[j]? with
  | some b => some (if j ∈ order then [] else lockedProg 0 b)
  | none => none

/-- Invariant of every configuration reachable from `(s0, l0)` when thread `j` runs `lockedProg 0 bodies[j]`:
either nobody holds the lock and the threads of `order` have run their blocks in that order (`idle`), or thread
`i` is inside its block with `rest` still to run (`busy`).  `acq` leads from `idle` to `busy`, a `step` from
`busy` to `busy`, `rel` back to `idle`; every other thread is blocked meanwhile. -/
inductive Inv (bodies : List (List (σ → τ → σ × τ))) (s0 : σ) (l0 : List τ) (c : Cfg σ τ) : Prop where
  | idle (order : List Nat) (hnd : order.Nodup) (hlt : ∀ i ∈ order, i < bodies.length)
      (hown : c.owner 0 = none)
      (hprogs : ∀ j, c.progs[j]? = idleProg bodies order j)
      (hst : (c.sh, c.locs) = seqExec bodies order (s0, l0))
  | busy (order : List Nat) (i : Nat) (rest : List (σ → τ → σ × τ)) (loc : τ)
      (hnd : order.Nodup) (hlt : ∀ i ∈ order, i < bodies.length)
      (hi : i < bodies.length) (hni : i ∉ order)
      (hown : c.owner 0 = some i)
      (hpi : c.progs[i]? = some (rest.map Instr.step ++ [Instr.rel 0]))
      (hprogs : ∀ j, j ≠ i → c.progs[j]? = idleProg bodies order j)
      (hloc : c.locs[i]? = some loc)
      (hst : ((runBody rest (c.sh, loc)).1, c.locs.set i (runBody rest (c.sh, loc)).2)
              = seqExec bodies (order ++ [i]) (s0, l0))

theorem inv_init (bodies : List (List (σ → τ → σ × τ))) (s0 : σ) (l0 : List τ) :
    Inv bodies s0 l0 (Cfg.init s0 l0 (bodies.map (lockedProg 0))) := by
  refine .idle [] List.nodup_nil (by simp) rfl ?_ rfl
  intro j
  simp only [Cfg.init, idleProg, List.getElem?_map]
  cases bodies[j]? <;> simp

theorem progs_len_of_inv {bodies : List (List (σ → τ → σ × τ))} {s0 : σ} {l0 : List τ} {c : Cfg σ τ}
    (h : Inv bodies s0 l0 c) : ∀ j, (c.progs[j]?).isSome = decide (j < bodies.length) := by
  intro j
  have key : ∀ order, (idleProg (σ := σ) (τ := τ) bodies order j).isSome = decide (j < bodies.length) := by
    intro order
    unfold idleProg
    by_cases hj : j < bodies.length
    · simp [hj]
    · simp [hj]
  cases h with
  | idle order _ _ _ hprogs _ => rw [hprogs j]; exact key order
  | busy order i rest loc _ _ hi _ _ hpi hprogs _ _ =>
    by_cases hji : j = i
    · subst hji; rw [hpi]; simp [hi]
    · rw [hprogs j hji]; exact key order

theorem inv_step {bodies : List (List (σ → τ → σ × τ))} {s0 : σ} {l0 : List τ} (hl : l0.length = bodies.length)
    {c c' : Cfg σ τ} {j : Nat} (h : Inv bodies s0 l0 c) (hs : c.stepT j = some c') :
    Inv bodies s0 l0 c' := by
  cases h with
  | idle order hnd hlt hown hprogs hst =>
    have hpj := hprogs j
    unfold idleProg at hpj
    unfold Cfg.stepT at hs
    cases hb : bodies[j]? with
    | none => rw [hb] at hpj; simp [hpj] at hs
    | some b =>
      rw [hb] at hpj
      have hjlt : j < bodies.length := by
        rcases List.getElem?_eq_some_iff.mp hb with ⟨h, _⟩; exact h
      have hlen : c.locs.length = bodies.length := by
        have := congrArg (fun x => x.2.length) hst
        simp only [seqExec_length] at this
        rw [this, hl]
      have hlj : c.locs[j]? = some (c.locs[j]'(by rw [hlen]; exact hjlt)) :=
        List.getElem?_eq_getElem _
      by_cases hmem : j ∈ order
      · simp [hpj, hmem, hlj] at hs
      · simp only [hpj, hmem, if_false, lockedProg, hlj, hown, Option.isNone_none, if_true] at hs
        cases hs
        refine .busy order j b (c.locs[j]'(by rw [hlen]; exact hjlt)) hnd hlt hjlt hmem (by simp) ?_ ?_ hlj ?_
        · have : j < c.progs.length := by
            have := progs_len_of_inv (.idle order hnd hlt hown hprogs hst) j
            simp [hjlt] at this
            exact this
          simp [this]
        · intro k hk
          have hk' : j ≠ k := fun e => hk e.symm
          simp only [List.getElem?_set_ne hk']
          exact hprogs k
        · rw [seqExec_append, ← hst]
          simp only [seqExec, hb, hlj]
  | busy order i rest loc hnd hlt hi hni hown hpi hprogs hloc hst =>
    unfold Cfg.stepT at hs
    by_cases hji : j = i
    · subst hji
      have hjlen : j < c.progs.length := by
        rcases List.getElem?_eq_some_iff.mp hpi with ⟨h, _⟩; exact h
      have hjll : j < c.locs.length := by
        rcases List.getElem?_eq_some_iff.mp hloc with ⟨h, _⟩; exact h
      cases rest with
      | nil =>
        simp only [hpi, hloc, List.map_nil, List.nil_append] at hs
        cases hs
        refine .idle (order ++ [j]) ?_ ?_ (by simp) ?_ ?_
        · exact List.nodup_append.mpr ⟨hnd, by simp, by
            intro a ha b hb; simp at hb; subst hb; exact fun e => hni (e ▸ ha)⟩
        · intro k hk
          rcases List.mem_append.mp hk with h | h
          · exact hlt k h
          · simp at h; subst h; exact hi
        · intro k
          by_cases hk : k = j
          · subst hk
            simp [hjlen, idleProg, List.getElem?_eq_getElem hi]
          · have hk' : j ≠ k := fun e => hk e.symm
            simp only [List.getElem?_set_ne hk']
            rw [hprogs k hk]
            unfold idleProg
            cases bodies[k]? with
            | none => rfl
            | some b => simp [hk]
        · simp only [runBody] at hst
          rw [← hst]
          congr 1
          obtain ⟨_, rfl⟩ := List.getElem?_eq_some_iff.1 hloc
          exact (List.set_getElem_self hjll).symm
      | cons f rest' =>
        simp only [hpi, hloc, List.map_cons, List.cons_append] at hs
        cases hs
        refine .busy order j rest' (f c.sh loc).2 hnd hlt hi hni hown ?_ ?_ ?_ ?_
        · simp [hjlen]
        · intro k hk
          have hk' : j ≠ k := fun e => hk e.symm
          simp only [List.getElem?_set_ne hk']
          exact hprogs k hk
        · simp [hjll]
        · simp only [runBody] at hst
          simp only [List.set_set]
          exact hst
    · have hpj := hprogs j hji
      unfold idleProg at hpj
      cases hb : bodies[j]? with
      | none => rw [hb] at hpj; simp [hpj] at hs
      | some b =>
        rw [hb] at hpj
        by_cases hmem : j ∈ order
        · simp only [hpj, hmem, if_true] at hs
          cases hlj : c.locs[j]? <;> simp at hs
        · simp only [hpj, hmem, if_false, lockedProg] at hs
          cases hlj : c.locs[j]? with
          | none => simp [hlj] at hs
          | some l => simp [hlj, hown] at hs

theorem inv_exec {bodies : List (List (σ → τ → σ × τ))} {s0 : σ} {l0 : List τ} (hl : l0.length = bodies.length)
    (sched : List Nat) {c c' : Cfg σ τ} (h : Inv bodies s0 l0 c) (hs : c.exec sched = some c') :
    Inv bodies s0 l0 c' := by
  induction sched generalizing c with
  | nil => simp only [Cfg.exec] at hs; cases hs; exact h
  | cons i is ih =>
    simp only [Cfg.exec] at hs
    cases hst : c.stepT i with
    | none => rw [hst] at hs; cases hs
    | some c1 => rw [hst] at hs; exact ih (inv_step hl h hst) hs

/-- **Mutual exclusion makes every interleaving a permutation**: any number of threads, each one
locked block on the same lock, any bodies, any executable complete schedule. -/
theorem locked_blocks_serialize (bodies : List (List (σ → τ → σ × τ))) (s0 : σ) (l0 : List τ)
    (hl : l0.length = bodies.length) (sched : List Nat) (c' : Cfg σ τ)
    (hexec : (Cfg.init s0 l0 (bodies.map (lockedProg 0))).exec sched = some c') (hdone : c'.done = true) :
    ∃ order, order.Perm (List.range bodies.length) ∧ (c'.sh, c'.locs) = seqExec bodies order (s0, l0) := by
  have hinv := inv_exec hl sched (inv_init bodies s0 l0) hexec
  have hall : ∀ (j : Nat) (p : List (Instr σ τ)), c'.progs[j]? = some p → p = [] := by
    intro j p hp
    have := List.all_eq_true.mp hdone p (List.mem_of_getElem? hp)
    simpa using this
  cases hinv with
  | busy order i rest loc _ _ _ _ _ hpi _ _ _ =>
    have := hall i _ hpi
    simp at this
  | idle order hnd hlt hown hprogs hst =>
    refine ⟨order, ?_, hst⟩
    refine (List.perm_ext_iff_of_nodup hnd List.nodup_range).mpr ?_
    intro a
    constructor
    · intro ha; exact List.mem_range.mpr (hlt a ha)
    · intro ha
      have halt := List.mem_range.mp ha
      have hp := hprogs a
      unfold idleProg at hp
      rw [List.getElem?_eq_getElem halt] at hp
      by_cases hmem : a ∈ order
      · exact hmem
      · simp only [hmem, if_false] at hp
        have := hall a _ hp
        simp [lockedProg] at this

/-- in the one-lock setting no reachable configuration is deadlocked -/
theorem inv_not_deadlocked {bodies : List (List (σ → τ → σ × τ))} {s0 : σ} {l0 : List τ}
    (hl : l0.length = bodies.length) {c : Cfg σ τ} (h : Inv bodies s0 l0 c) : c.deadlocked = false := by
  unfold Cfg.deadlocked
  have hplen : c.progs.length = bodies.length := by
    have h1 := progs_len_of_inv h
    apply Nat.le_antisymm
    · apply Nat.le_of_not_lt
      intro hlt
      have := h1 bodies.length
      simp [List.getElem?_eq_getElem hlt] at this
    · apply Nat.le_of_not_lt
      intro hlt
      have := h1 c.progs.length
      simp [hlt] at this
  cases h with
  | idle order hnd hlt hown hprogs hst =>
    have hlen : c.locs.length = bodies.length := by
      have := congrArg (fun x => x.2.length) hst
      simp only [seqExec_length] at this
      rw [this, hl]
    by_cases hd : c.done = true
    · simp [hd]
    · simp only [Bool.not_eq_true] at hd
      simp only [hd, Bool.not_false, Bool.true_and]
      -- some thread is unfinished: it is untouched, the lock is free, so it is enabled
      unfold Cfg.done at hd
      obtain ⟨p, hp, hpe⟩ := List.all_eq_false.mp hd
      rcases List.getElem_of_mem hp with ⟨j, hj, hjp⟩
      have hpj : c.progs[j]? = some p := by rw [List.getElem?_eq_getElem hj, hjp]
      have hjb : j < bodies.length := hplen ▸ hj
      have hidle := hprogs j
      unfold idleProg at hidle
      rw [List.getElem?_eq_getElem hjb, hpj] at hidle
      have hmem : j ∉ order := by
        intro hm
        simp [hm] at hidle
        subst hidle
        simp at hpe
      simp only [hmem, if_false, Option.some.injEq] at hidle
      have hen : j ∈ c.enabled := by
        unfold Cfg.enabled
        refine List.mem_filter.mpr ⟨List.mem_range.mpr hj, ?_⟩
        unfold Cfg.stepT
        have hlj : c.locs[j]? = some (c.locs[j]'(hlen ▸ hjb)) := List.getElem?_eq_getElem _
        simp [hpj, hidle, lockedProg, hlj, hown]
      exact List.isEmpty_eq_false_iff.2 (List.ne_nil_of_mem hen)
  | busy order i rest loc hnd hlt hi hni hown hpi hprogs hloc hst =>
    have hen : i ∈ c.enabled := by
      unfold Cfg.enabled
      refine List.mem_filter.mpr ⟨List.mem_range.mpr (hplen ▸ hi), ?_⟩
      unfold Cfg.stepT
      cases rest <;> simp [hpi, hloc]
    rw [List.isEmpty_eq_false_iff.2 (List.ne_nil_of_mem hen), Bool.and_false]

/-! ### `whole` bodies: sequential execution of the model = the calls run through `Ref.step` -/

open Fs.Ref in
theorem seqExec_whole (calls : List Op) (order : List Nat) (x : State × List Loc)
    (y : State × List (Option Out))
    (hnd : order.Nodup) (hx : x.1 = y.1) (hm : x.2.map (·.out) = y.2)
    (hfresh : ∀ i ∈ order, ∀ l, x.2[i]? = some l → l.out = none)
    (hlen : x.2.length = calls.length) :
    (seqExec (calls.map fun c => [whole c]) order x).1 = (seqRef calls order y).1 ∧
    (seqExec (calls.map fun c => [whole c]) order x).2.map (·.out) = (seqRef calls order y).2 := by
  induction order generalizing x y with
  | nil => exact ⟨hx, hm⟩
  | cons i is ih =>
    have hnd' := (List.nodup_cons.mp hnd).2
    have hni := (List.nodup_cons.mp hnd).1
    simp only [seqExec, seqRef, List.getElem?_map]
    cases hc : calls[i]? with
    | none =>
      simp only [Option.map_none]
      exact ih x y hnd' hx hm (fun k hk => hfresh k (List.mem_cons_of_mem _ hk)) hlen
    | some op =>
      have hilt : i < calls.length := by
        rcases List.getElem?_eq_some_iff.mp hc with ⟨h, _⟩; exact h
      have hli : x.2[i]? = some (x.2[i]'(hlen ▸ hilt)) := List.getElem?_eq_getElem _
      have hnone := hfresh i (List.mem_cons_self) _ hli
      simp only [Option.map_some, hli]
      apply ih
      · exact hnd'
      · simp only [runBody, whole, hnone, hx]
      · simp only [runBody, whole, hnone, List.map_set, hm, hx]
      · intro k hk l hl
        have hki : i ≠ k := fun e => hni (e ▸ hk)
        simp only [List.getElem?_set_ne hki] at hl
        exact hfresh k (List.mem_cons_of_mem _ hk) l hl
      · simp [hlen]

/-! ### lock-free threads: distinct configurations instead of schedules

`Cfg.forallRuns` walks the tree of schedules: two threads of `n` steps have `C(2n, n)` of them, over at
most `(n + 1)²` program positions.  Without locks a configuration is its shared state, the locals and
the number of steps each thread has taken, so the configurations reachable after `k` steps can be kept
as a duplicate-free list (`Pos.next`) and a property of all maximal runs checked on those (`Pos.allEnds`). -/

structure Pos (σ τ : Type) where
  pcs : List Nat
  sh : σ
  locs : List τ
  deriving DecidableEq

namespace Pos

def cfg (bodies : List (List (σ → τ → σ × τ))) (x : Pos σ τ) : Cfg σ τ :=
  { sh := x.sh, locs := x.locs,
    progs := List.zipWith (fun b k => (b.drop k).map Instr.step) bodies x.pcs,
    owner := fun _ => none }

def step (bodies : List (List (σ → τ → σ × τ))) (x : Pos σ τ) (i : Nat) : Option (Pos σ τ) :=
  match bodies[i]?, x.pcs[i]?, x.locs[i]? with
  | some b, some k, some l =>
    match b[k]? with
    | some f => some { pcs := x.pcs.set i (k + 1), sh := (f x.sh l).1, locs := x.locs.set i (f x.sh l).2 }
    | none => none
  | _, _, _ => none

theorem zipWith_set_right {α β γ : Type} (g : α → β → γ) (as : List α) (bs : List β) (i : Nat) (a : α) (b : β)
    (ha : as[i]? = some a) : (List.zipWith g as bs).set i (g a b) = List.zipWith g as (bs.set i b) := by
  apply List.ext_getElem?
  intro j
  simp only [List.getElem?_set, List.getElem?_zipWith, List.length_zipWith]
  by_cases hij : i = j
  · subst hij
    simp only [if_true, ha]
    have : i < as.length := (List.getElem?_eq_some_iff.mp ha).1
    by_cases hb : i < bs.length
    · simp [hb, Nat.lt_min.mpr ⟨this, hb⟩]
    · simp [hb]; omega
  · simp [hij]

theorem stepT_cfg (bodies : List (List (σ → τ → σ × τ))) (x : Pos σ τ) (i : Nat) :
    (x.cfg bodies).stepT i = (x.step bodies i).map (cfg bodies) := by
  unfold Cfg.stepT step cfg
  simp only [List.getElem?_zipWith]
  cases hb : bodies[i]? with
  | none => rfl
  | some b =>
    cases hk : x.pcs[i]? with
    | none => rfl
    | some k =>
      cases hl : x.locs[i]? with
      | none =>
        dsimp only
        cases (List.drop k b).map Instr.step <;> rfl
      | some l =>
        dsimp only
        cases hf : b[k]? with
        | none => rw [List.drop_eq_nil_of_le (by simpa using hf)]; rfl
        | some f =>
          obtain ⟨hlt, rfl⟩ := List.getElem?_eq_some_iff.mp hf
          simp only [List.drop_eq_getElem_cons hlt, List.map_cons, Option.map]
          congr 2
          exact zipWith_set_right _ bodies x.pcs i b (k + 1) hb

theorem step_pcs_length {bodies : List (List (σ → τ → σ × τ))} {x y : Pos σ τ} {i : Nat}
    (h : x.step bodies i = some y) : y.pcs.length = x.pcs.length := by
  unfold step at h
  split at h
  · split at h
    · cases h; simp
    · cases h
  · cases h

variable [DecidableEq σ] [DecidableEq τ]

def next (bodies : List (List (σ → τ → σ × τ))) (xs : List (Pos σ τ)) : List (Pos σ τ) :=
  (xs.flatMap fun x => (List.range bodies.length).filterMap (x.step bodies)).eraseDups

/-- every configuration reachable from `xs` that cannot move, or that is reached when the fuel runs out,
satisfies `p` -/
def allEnds (bodies : List (List (σ → τ → σ × τ))) (p : Cfg σ τ → Bool) : Nat → List (Pos σ τ) → Bool
  | 0, xs => xs.all fun x => p (x.cfg bodies)
  | fuel + 1, xs =>
    (xs.all fun x => (List.range bodies.length).any (fun i => (x.step bodies i).isSome) || p (x.cfg bodies)) &&
      allEnds bodies p fuel (next bodies xs)

theorem forallRuns_of_allEnds (bodies : List (List (σ → τ → σ × τ))) (p : Cfg σ τ → Bool) :
    ∀ (fuel : Nat) (xs : List (Pos σ τ)), (∀ x ∈ xs, x.pcs.length = bodies.length) →
      allEnds bodies p fuel xs = true → ∀ x ∈ xs, (x.cfg bodies).forallRuns p fuel = true := by
  intro fuel
  induction fuel with
  | zero => intro xs _ h x hx; exact List.all_eq_true.mp h x hx
  | succ fuel ih =>
    intro xs hlen h x hx
    simp only [allEnds, Bool.and_eq_true, List.all_eq_true] at h
    have hn : (x.cfg bodies).progs.length = bodies.length := by simp [cfg, hlen x hx]
    simp only [Cfg.forallRuns, hn, stepT_cfg, Option.isSome_map]
    split
    · rw [List.all_eq_true]
      intro i hi
      cases hy : x.step bodies i with
      | none => rfl
      | some y =>
        have hmem : y ∈ next bodies xs :=
          List.mem_eraseDups.mpr (List.mem_flatMap.mpr ⟨x, hx, List.mem_filterMap.mpr ⟨i, hi, hy⟩⟩)
        refine ih (next bodies xs) ?_ h.2 y hmem
        intro z hz
        obtain ⟨x', hx', hz'⟩ := List.mem_flatMap.mp (List.mem_eraseDups.mp hz)
        obtain ⟨j, _, hj⟩ := List.mem_filterMap.mp hz'
        rw [step_pcs_length hj, hlen x' hx']
    · rename_i hno
      simpa [hno] using h.1 x hx

end Pos

def stepsOf (prog : List (Instr σ τ)) : List (σ → τ → σ × τ) :=
  prog.filterMap fun | .step f => some f | _ => none

theorem Pos.cfg_start (bodies : List (List (σ → τ → σ × τ))) (s : σ) (locs : List τ) :
    Pos.cfg bodies ⟨bodies.map fun _ => 0, s, locs⟩ = Cfg.init s locs (bodies.map (List.map Instr.step)) := by
  simp only [Pos.cfg, Cfg.init, List.zipWith_map_right, List.zipWith_self, List.drop_zero]

theorem forallRuns_lockfree [DecidableEq σ] [DecidableEq τ] (bodies : List (List (σ → τ → σ × τ)))
    (p : Cfg σ τ → Bool) (s : σ) (locs : List τ) (fuel : Nat)
    (h : Pos.allEnds bodies p fuel [⟨bodies.map fun _ => 0, s, locs⟩] = true) :
    (Cfg.init s locs (bodies.map (List.map Instr.step))).forallRuns p fuel = true := by
  rw [← Pos.cfg_start]
  exact Pos.forallRuns_of_allEnds bodies p fuel _ (by simp) h _ (List.mem_singleton.mpr rfl)

theorem progs_of_single_locked (impl : Impl) (calls : List Ref.Op)
    (h : ∀ c ∈ calls, segments impl c = lockedProg 0 [whole c]) :
    calls.map (segments impl) = (calls.map fun c => [whole c]).map (lockedProg 0) := by
  rw [List.map_map]
  exact List.map_congr_left h

/-! ### `linOk` looks through every order -/

theorem mem_perms {l order : List Nat} (h : order.Perm l) : order ∈ perms l := by
  induction l generalizing order with
  | nil => rw [List.perm_nil.1 h]; exact List.mem_singleton.2 rfl
  | cons x xs ih =>
    -- take `x` out of `order`: what is left is an order of `xs`, and `x` goes back in at its place
    obtain ⟨a, b, rfl⟩ := List.append_of_mem (h.symm.subset List.mem_cons_self)
    have hab : (a ++ b).Perm xs := (List.perm_middle.symm.trans h).cons_inv
    refine List.mem_flatMap.2 ⟨a ++ b, ih hab, List.mem_map.2 ⟨a.length, List.mem_range.2 ?_, ?_⟩⟩
    · rw [List.length_append]; omega
    · rw [List.take_left, List.drop_left]

theorem linOk_of_order {calls : List Ref.Op} {s : Ref.State} {c : Cfg Ref.State Loc} {order : List Nat}
    (hp : order.Perm (List.range calls.length)) (ho : obs c = seqObs calls s order) : linOk calls s c = true :=
  List.any_eq_true.2 ⟨order, mem_perms hp, beq_iff_eq.2 ho⟩

/-- one complete schedule whose outcome no sequential order produces refutes linearizability -/
theorem not_linearizable_of_schedule {impl : Impl} {s : Ref.State} {calls : List Ref.Op} {sched : List Nat} {e : Obs}
    (h : scheduleShows impl s calls sched e false = true) : ¬ Linearizable impl calls s := by
  intro hl
  obtain ⟨c, hexec, hdone, _, hlin⟩ := scheduleShows_spec h
  obtain ⟨order, hperm, hobs⟩ := hl _ c hexec hdone
  rw [linOk_of_order hperm hobs] at hlin
  cases hlin

end Fs.Conc
