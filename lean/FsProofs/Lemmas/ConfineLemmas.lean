/-
  The lemmas about FsModel.Confine that C03 (path confinement) rests on: `validatepath` and SubFS delegation in terms
  of `resolve` on components, system paths, MountFS delegation, archive member names.  The part of this namespace
  that needs no more than fs.path (`comps`, what `normpath` / `iteratepath` return, `stripSlash`) stands at the end
  of PathLemmas.lean.
-/
import FsModel.Confine
import FsProofs.Lemmas.PathLemmas

namespace Fs.ConfineLemmas
open Fs Fs.Path Fs.PathSpec Fs.PathLemmas Fs.Confine

theorem validatepath_eq (cfg : Cfg) (p : Str) : validatepath cfg p =
    if cfg.closed then .error .FilesystemClosed
    else if p.any (fun c => cfg.invalid.contains c) then .error .InvalidCharsInPath
    else match resolve (splitSlash p) with
      | none => .error .IllegalBackReference
      | some cs =>
        if tooLong cfg (mkp (startsWithSlash p) cs) then .error .InvalidPath else .ok (mkp true cs) := by
  unfold validatepath
  cases hr : resolve (splitSlash p) with
  | none => rw [normpath_err_of_resolve p hr]
  | some cs => simp only [normpath_of_resolve p cs hr, abspath_mkp (resolve_result_clean p cs hr)]

theorem any_invalid_iff (inv : List Char) (p : Str) :
    p.any (fun c => inv.contains c) = true ↔ ∃ c ∈ p, c ∈ inv := by
  simp [List.any_eq_true]

/-! ### the OS path string -/

theorem osJoin_root_clean {rc cs : List Str} (hr : Clean rc) (hc : Clean cs) :
    comps (osJoin (mkp true rc) (joinWith '/' cs)) = rc ++ cs := by
  unfold osJoin
  rw [startsWithSlash_join_clean hc]
  have hne : (mkp true rc == []) = false := by simp [mkp]
  simp only [Bool.false_eq_true, if_false, hne, Bool.false_or]
  by_cases hrc : rc = []
  · subst hrc
    have : endsWithSlash (mkp true []) = true := by decide
    simp only [this, if_true]
    have e : mkp true [] ++ joinWith '/' cs = mkp true cs := by simp [mkp, joinWith]
    rw [e, comps_mkp hc]; rfl
  · rw [endsWithSlash_mkp hr hrc]
    simp only [Bool.false_eq_true, if_false]
    rw [comps_append_sep, comps_mkp hr, comps_join_clean hc]

theorem getsyspath_eq (root p : Str) : getsyspath root p = match resolve (splitSlash p) with
    | none => .err .IllegalBackReference
    | some cs => .ok (osJoin root (joinWith '/' cs)) := by
  unfold getsyspath
  cases hr : resolve (splitSlash p) with
  | none => rw [normpath_err_of_resolve p hr]; rfl
  | some cs => rw [normpath_of_resolve p cs hr, bind_ok, relpath_mkp (resolve_result_clean p cs hr)]; rfl

/-! ### SubFS -/

theorem subDelegate_eq {scs : List Str} (hs : Clean scs) (p : Str) :
    subDelegate (mkp true scs) p = match resolve (splitSlash p) with
      | none => .err .IllegalBackReference
      | some cs => .ok (mkp true (scs ++ cs)) := by
  unfold subDelegate
  cases hr : resolve (splitSlash p) with
  | none => rw [normpath_err_of_resolve p hr]; rfl
  | some cs =>
    have hc := resolve_result_clean p cs hr
    rw [normpath_of_resolve p cs hr, bind_ok, relpath_mkp hc]
    exact join_mkp hs hc

theorem nestedDelegate_mkp {rest : List (List Str)} {x : List Str} (hr : ∀ y ∈ rest, Clean y)
    (hx : Clean x) :
    nestedDelegate (rest.map (mkp true)) (mkp true x) = .ok (mkp true (rest.reverse.flatten ++ x)) := by
  induction rest generalizing x with
  | nil => simp [nestedDelegate]
  | cons r rest ih =>
    have hrc : Clean r := hr r (by simp)
    rw [List.map_cons, nestedDelegate, subDelegate_eq hrc, splitSlash, resolve_splitOn_mkp hx]
    simp only [bind_ok]
    rw [ih (fun y hy => hr y (by simp [hy])) (clean_append.2 ⟨hrc, hx⟩)]
    simp [List.append_assoc]

theorem nestedDelegate_eq {s : List Str} {rest : List (List Str)} (hs : ∀ x ∈ s :: rest, Clean x)
    (p : Str) :
    nestedDelegate ((s :: rest).map (mkp true)) p = match resolve (splitSlash p) with
      | none => .err .IllegalBackReference
      | some cs => .ok (mkp true ((s :: rest).reverse.flatten ++ cs)) := by
  have hsc : Clean s := hs s (by simp)
  rw [List.map_cons, nestedDelegate, subDelegate_eq hsc]
  cases hr : resolve (splitSlash p) with
  | none => rfl
  | some cs =>
    simp only [bind_ok]
    rw [nestedDelegate_mkp (fun y hy => hs y (by simp [hy]))
      (clean_append.2 ⟨hsc, resolve_result_clean p cs hr⟩)]
    simp [List.append_assoc]

/-! ### MountFS -/

theorem rstripSlash_dirs {cs : List Str} (h : Clean cs) : rstripSlash (dirs cs) = joinWith '/' cs := by
  by_cases hne : cs = []
  · subst hne; rfl
  · rw [← join_append_slash cs hne, rstripSlash_append_single]
    simp only [if_true]
    exact rstripSlash_of_not_ends _ (endsWithSlash_join_clean h)

theorem findMount_some {path : Str} {ms : List Str} {k i : Nat} {m : Str}
    (h : findMount path ms k = some (i, m)) :
    k ≤ i ∧ ms[i - k]? = some m ∧ startsWith path m = true ∧
      ∀ j, j < i - k → ∀ m', ms[j]? = some m' → startsWith path m' = false := by
  induction ms generalizing k with
  | nil => simp [findMount] at h
  | cons x xs ih =>
    unfold findMount at h
    by_cases hx : startsWith path x = true
    · simp only [hx, if_true, Option.some.injEq, Prod.mk.injEq] at h
      obtain ⟨rfl, rfl⟩ := h
      refine ⟨Nat.le_refl _, by simp, hx, ?_⟩
      intro j hj; omega
    · simp only [hx] at h
      obtain ⟨hk, hget, hsw, hfirst⟩ := ih h
      have hk' : k ≤ i := by omega
      have hpos : i - k = (i - (k + 1)) + 1 := by omega
      refine ⟨hk', ?_, hsw, ?_⟩
      · rw [hpos]; simpa using hget
      · intro j hj m' hm'
        cases j with
        | zero =>
          simp only [List.getElem?_cons_zero, Option.some.injEq] at hm'
          subst hm'
          simpa using hx
        | succ j =>
          simp only [List.getElem?_cons_succ] at hm'
          exact hfirst j (by omega) m' hm'

theorem findMount_none {path : Str} {ms : List Str} {k : Nat} (h : findMount path ms k = none) :
    ∀ m ∈ ms, startsWith path m = false := by
  induction ms generalizing k with
  | nil => simp
  | cons x xs ih =>
    unfold findMount at h
    by_cases hx : startsWith path x = true
    · simp [hx] at h
    · simp only [hx] at h
      intro m hm
      simp only [List.mem_cons] at hm
      rcases hm with rfl | hm
      · simpa using hx
      · exact ih h m hm

/-- the mounts are tried on `/c₁/…/cₙ/`: every resolved component followed by a slash -/
theorem mountDelegate_eq (mounts : List Str) (p : Str) : mountDelegate mounts p = match resolve (splitSlash p) with
    | none => .err .IllegalBackReference
    | some cs => .ok (match findMount ('/' :: dirs cs) mounts 0 with
      | some (i, m) => (some i, rstripSlash (('/' :: dirs cs).drop m.length))
      | none => (none, p)) := by
  unfold mountDelegate
  cases hr : resolve (splitSlash p) with
  | none => rw [normpath_err_of_resolve p hr]; rfl
  | some cs =>
    have hc := resolve_result_clean p cs hr
    rw [normpath_of_resolve p cs hr, bind_ok, abspath_mkp hc, forcedir_mkp_true hc]
    dsimp only
    rcases findMount ('/' :: dirs cs) mounts 0 with _ | ⟨i, m⟩ <;> rfl

/-! ### archives: tar keys -/

theorem mem_odInsert {keys : List Str} {k x : Str} (h : x ∈ odInsert keys k) : x ∈ keys ∨ x = k := by
  unfold odInsert at h
  split at h
  · exact Or.inl h
  · simpa using h

theorem mem_dedup {l : List (List Str)} {x : List Str} (h : x ∈ dedup l) : x ∈ l := by
  refine List.foldlRecOn (motive := fun acc => ∀ y ∈ acc, y ∈ l) (b := []) l _ nofun ?_ x h
  intro acc hacc a ha y hy
  split at hy
  · exact hacc y hy
  · rcases List.mem_append.1 hy with hy | hy
    · exact hacc y hy
    · cases List.mem_singleton.1 hy; exact ha

theorem mem_prefixesOf {cs v : List Str} (h : v ∈ prefixesOf cs) :
    ∃ i, i < cs.length ∧ v = cs.take (i + 1) := by
  unfold prefixesOf at h
  simp only [List.mem_map, List.mem_range] at h
  obtain ⟨i, hi, rfl⟩ := h
  exact ⟨i, hi, rfl⟩

theorem take_succ_ne_nil {cs : List Str} {i : Nat} (h : i < cs.length) : cs.take (i + 1) ≠ [] := by
  cases cs with
  | nil => simp at h
  | cons c cs => simp

/-! ### archives: the zip directory -/

/-- every entry of the directory is a non-empty list of clean components -/
def ZClean (d : ZDir) : Prop := ∀ e ∈ d, e.1 ≠ [] ∧ Clean e.1

theorem zclean_nil : ZClean [] := by intro e he; cases he

theorem zclean_snoc {d : ZDir} {cs : List Str} {b : Bool} (hd : ZClean d) (hne : cs ≠ [])
    (hc : Clean cs) : ZClean (d ++ [(cs, b)]) :=
  List.forall_mem_append.2 ⟨hd, List.forall_mem_singleton.2 ⟨hne, hc⟩⟩

theorem zLookup_ne_nil {d : ZDir} {cs : List Str} (h : zLookup d cs = none) : cs ≠ [] := by
  rintro rfl; simp [zLookup] at h

theorem zMkGo_clean (pres : List (List Str)) (d d2 : ZDir) (hd : ZClean d)
    (hp : ∀ x ∈ pres, x ≠ [] ∧ Clean x) (h : zMkGo d pres = .ok d2) : ZClean d2 := by
  induction pres generalizing d with
  | nil => simp only [zMkGo, Res.ok.injEq] at h; subst h; exact hd
  | cons pre rest ih =>
    have hrest : ∀ x ∈ rest, x ≠ [] ∧ Clean x := fun x hx => hp x (by simp [hx])
    unfold zMkGo at h
    split at h
    · exact ih d hd hrest h
    · cases h
    · exact ih _ (zclean_snoc hd (hp pre (by simp)).1 (hp pre (by simp)).2) hrest h

theorem properPrefixes_clean {cs : List Str} (hc : Clean cs) :
    ∀ x ∈ properPrefixes cs, x ≠ [] ∧ Clean x := by
  intro x hx
  unfold properPrefixes at hx
  simp only [List.mem_map, List.mem_range] at hx
  obtain ⟨i, hi, rfl⟩ := hx
  exact ⟨take_succ_ne_nil (by omega), clean_take hc _⟩

theorem zValidate_clean {p : Str} {cs : List Str} (h : zValidate p = .ok cs) : Clean cs :=
  (iteratepath_ok p cs h).2

theorem zMakedirs_clean (d d2 : ZDir) (p : Str) (hd : ZClean d) (h : zMakedirs d p = .ok d2) :
    ZClean d2 := by
  unfold zMakedirs at h
  split at h
  · cases h
  · next cs hv =>
    have hc := zValidate_clean hv
    split at h
    · cases h
    · next d' hgo =>
      have hd' := zMkGo_clean _ d d' hd (properPrefixes_clean hc) hgo
      split at h
      · simp only [Res.ok.injEq] at h; subst h; exact hd'
      · cases h
      · next hl =>
        simp only [Res.ok.injEq] at h; subst h
        exact zclean_snoc hd' (zLookup_ne_nil hl) hc

theorem zCreate_clean (d d2 : ZDir) (p : Str) (hd : ZClean d) (h : zCreate d p = .ok d2) :
    ZClean d2 := by
  unfold zCreate at h
  split at h
  · cases h
  · next cs hv =>
    have hc := zValidate_clean hv
    split at h
    · simp only [Res.ok.injEq] at h; subst h; exact hd
    · next hl =>
      split at h
      · simp only [Res.ok.injEq] at h; subst h
        exact zclean_snoc hd (zLookup_ne_nil hl) hc
      · cases h

theorem zStep_clean (d d2 : ZDir) (name : Str) (hd : ZClean d) (h : zStep d name = .ok d2) :
    ZClean d2 := by
  unfold zStep at h
  split at h
  · exact zMakedirs_clean d d2 name hd h
  · split at h
    · cases h
    · next d' hm => exact zCreate_clean d' d2 name (zMakedirs_clean d d' _ hd hm) h

theorem zipDirectory_zclean (names : List Str) (d : ZDir) (hd : ZClean d) :
    ZClean (zipDirectory names d).1 := by
  induction names generalizing d with
  | nil => exact hd
  | cons nm rest ih =>
    unfold zipDirectory
    split
    · next d' hs => exact ih d' (zStep_clean d d' nm hd hs)
    · exact hd

end Fs.ConfineLemmas
