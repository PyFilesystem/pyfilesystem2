/-
  Facts about FsModel/File.lean: the byte-list helpers, calls and sequences of writes on the reference `IoRef` and on
  `io.BytesIO`, the simulation relation `R` between `_MemoryFile` and the reference (`openFile_cases`, `step_refines`),
  and what `Mode.validate` and `io.open` have checked about a mode string.
-/
import FsModel.File

namespace Fs.FileLemmas
open Fs Fs.File

/-! ### byte-list helpers -/

theorem zeros_length (n : Nat) : (zeros n).length = n := by simp [zeros]

theorem zeros_zero : zeros 0 = [] := rfl

theorem zeros_isEmpty (n : Nat) : (zeros n).isEmpty = decide (n = 0) := by
  cases n <;> simp [zeros, List.replicate]

theorem writeAt_nil (b : Bytes) (p : Nat) : writeAt b p [] = b := by simp [writeAt]

/-- writing at the end of the data appends -/
theorem writeAt_end (b d : Bytes) : writeAt b b.length d = b ++ d := by
  unfold writeAt
  split
  · next h => simp at h; simp [h]
  · simp [zeros]

theorem writeAt_past_end (b d : Bytes) (k : Nat) (hd : d ≠ []) : writeAt b (b.length + k) d = b ++ zeros k ++ d := by
  have ht : (b ++ zeros k).take (b.length + k) = b ++ zeros k := List.take_of_length_le (by simp [zeros])
  rw [writeAt, if_neg (by rwa [List.isEmpty_iff]), Nat.add_sub_cancel_left, ht,
    List.drop_eq_nil_of_le (by omega), List.append_nil]

theorem writeAt_length_end (b d : Bytes) : (writeAt b b.length d).length = b.length + d.length := by
  rw [writeAt_end]; simp

theorem writeAt_read_back (b d : Bytes) (p : Nat) (hd : d ≠ []) : ((writeAt b p d).drop p).take d.length = d := by
  have hde : d.isEmpty = false := by cases d <;> simp_all
  have hlen : ((b ++ zeros (p - b.length)).take p).length = p := by
    simp only [List.length_take, List.length_append, zeros, List.length_replicate]; omega
  simp only [writeAt, hde, Bool.false_eq_true, if_false, List.append_assoc]
  rw [List.drop_left' hlen, List.take_left' rfl]

theorem resize_le (b : Bytes) (z : Nat) (h : z ≤ b.length) : resize b z = b.take z := by
  rw [resize, Nat.sub_eq_zero_of_le h, zeros, List.replicate_zero, List.append_nil]

theorem resize_ge (b : Bytes) (z : Nat) (h : b.length ≤ z) : resize b z = b ++ zeros (z - b.length) :=
  List.take_of_length_le (by rw [List.length_append, zeros_length, Nat.add_sub_cancel' h]; exact Nat.le_refl _)

theorem resize_length (b : Bytes) (z : Nat) : (resize b z).length = z := by
  by_cases h : z ≤ b.length
  · rw [resize_le b z h, List.length_take, Nat.min_eq_left h]
  · have h' : b.length ≤ z := Nat.le_of_not_le h
    rw [resize_ge b z h', List.length_append, zeros_length, Nat.add_sub_cancel' h']

theorem resize_eq (b : Bytes) (z : Nat) : resize b z = b.take z ++ zeros (z - b.length) := by
  rw [resize, List.take_append, List.take_of_length_le (Nat.le_of_eq (zeros_length _))]

theorem limit_prefix (n : Option Int) (l : Bytes) : limit n l <+: l := by
  unfold limit
  cases n with
  | none => exact List.prefix_refl l
  | some z =>
    dsimp only
    split
    · exact List.prefix_refl l
    · exact List.take_prefix _ l

theorem limit_nil (n : Option Int) : limit n [] = [] :=
  List.prefix_nil.mp (limit_prefix n [])

theorem limit_ne_nil (n : Option Int) (l : Bytes) (hn : n ≠ some 0) (hl : l ≠ []) : limit n l ≠ [] := by
  unfold limit
  cases n with
  | none => exact hl
  | some z =>
    simp only
    split
    · exact hl
    · have : z ≠ 0 := fun h => hn (by rw [h])
      have hz : 1 ≤ z.toNat := by omega
      cases l with
      | nil => contradiction
      | cons x xs =>
        cases hzz : z.toNat with
        | zero => omega
        | succ k => simp

/-! ### `lineOf` / `linesOf` -/

theorem lineOf_prefix (l : Bytes) : lineOf l <+: l := by
  induction l with
  | nil => exact List.prefix_refl _
  | cons c cs ih =>
    unfold lineOf
    split
    · exact List.prefix_append [c] cs
    · exact (List.prefix_cons_inj c).2 ih

theorem lineOf_length_le (l : Bytes) : (lineOf l).length ≤ l.length :=
  (lineOf_prefix l).length_le

theorem lineOf_ne_nil (l : Bytes) (h : l ≠ []) : lineOf l ≠ [] := by
  cases l with
  | nil => contradiction
  | cons c cs => unfold lineOf; split <;> simp

theorem linesAux_flatten (l acc : Bytes) : (linesAux l acc).flatten = acc.reverse ++ l := by
  induction l generalizing acc with
  | nil =>
    unfold linesAux
    split
    · next h => simp at h; simp [h]
    · simp
  | cons c cs ih =>
    unfold linesAux
    split
    · simp [ih]
    · rw [ih]; simp

/-- the lines of a byte string concatenate back to it -/
theorem linesOf_flatten (l : Bytes) : (linesOf l).flatten = l := by
  simp [linesOf, linesAux_flatten]

theorem linesAux_unfold (l acc : Bytes) :
    linesAux l acc =
      if (acc.reverse ++ l).isEmpty then []
      else (acc.reverse ++ lineOf l) :: linesAux (l.drop (lineOf l).length) [] := by
  induction l generalizing acc with
  | nil =>
    cases acc with
    | nil => simp [linesAux]
    | cons a as => simp [linesAux, lineOf]
  | cons c cs ih =>
    by_cases hc : c = 10
    · subst hc
      simp [linesAux, lineOf]
    · rw [linesAux]
      simp only [hc, if_false]
      rw [ih]
      simp [lineOf, hc]

/-- reading line by line: the lines of `l` are its first line followed by the lines of the rest -/
theorem linesOf_unfold (l : Bytes) (h : l ≠ []) :
    linesOf l = lineOf l :: linesOf (l.drop (lineOf l).length) := by
  unfold linesOf
  rw [linesAux_unfold]
  have : l.isEmpty = false := by cases l <;> simp_all
  simp [this]

theorem linesOf_nil : linesOf [] = [] := by simp [linesOf, linesAux]

/-! ### sequences of writes on the reference and on `io.BytesIO` -/

theorem foldl_write_at_end (fl : Flags) (ls : List Bytes) (b : Bytes) (c : Bool) :
    ls.foldl (IoRef.write1 fl) ⟨b, b.length, c⟩ = ⟨b ++ ls.flatten, (b ++ ls.flatten).length, c⟩ := by
  induction ls generalizing b with
  | nil => simp
  | cons d ds ih =>
    have h1 : IoRef.write1 fl ⟨b, b.length, c⟩ d = ⟨b ++ d, (b ++ d).length, c⟩ := by
      unfold IoRef.write1
      split
      · next h => simp at h; simp [h]
      · simp [writeAt_end]
    rw [List.foldl_cons, List.flatten_cons, h1, ih (b ++ d), List.append_assoc]

/-- a sequence of writes acts on (bytes, pos) like BytesIO's after `_MemoryFile.writelines`' one seek to the end -/
theorem foldl_write1_bio (fl : Flags) (ls : List Bytes) (b : Bytes) (p : Nat) (c : Bool) :
    ls.foldl (IoRef.write1 fl) ⟨b, p, c⟩ =
      ⟨(ls.foldl Bio.write (if fl.appending && ls.any (fun l => !l.isEmpty) then (⟨b, p⟩ : Bio).seekEnd else ⟨b, p⟩)).bytes,
        (ls.foldl Bio.write (if fl.appending && ls.any (fun l => !l.isEmpty) then (⟨b, p⟩ : Bio).seekEnd else ⟨b, p⟩)).pos,
        c⟩ := by
  induction ls generalizing b p with
  | nil => simp
  | cons d ds ih =>
    simp only [List.foldl_cons, List.any_cons]
    by_cases hd : d.isEmpty = true
    · have h1 : IoRef.write1 fl ⟨b, p, c⟩ d = ⟨b, p, c⟩ := by simp [IoRef.write1, hd]
      have h2 : ∀ x : Bio, x.write d = x := fun x => by simp [Bio.write, hd]
      rw [h1, h2, ih b p]
      simp [hd]
    · cases ha : fl.appending
      · have h1 : IoRef.write1 fl ⟨b, p, c⟩ d = ⟨writeAt b p d, p + d.length, c⟩ := by simp [IoRef.write1, hd, ha]
        rw [h1, ih]
        simp [Bio.write, hd, ha]
      · have h1 : IoRef.write1 fl ⟨b, p, c⟩ d = ⟨b ++ d, (b ++ d).length, c⟩ := by
          simp [IoRef.write1, hd, ha, writeAt_end]
        rw [h1, ih]
        simp [Bio.write, Bio.seekEnd, hd, ha, writeAt_end]

theorem write1_closed (fl : Flags) (s : IoState) (d : Bytes) : (IoRef.write1 fl s d).closed = s.closed := by
  unfold IoRef.write1; split <;> rfl

theorem foldl_write1_closed (fl : Flags) (ds : List Bytes) (s : IoState) :
    (ds.foldl (IoRef.write1 fl) s).closed = s.closed := by
  induction ds generalizing s with
  | nil => rfl
  | cons d ds ih => simp [List.foldl_cons, ih, write1_closed]

theorem write1_append_bytes (fl : Flags) (ha : fl.appending = true) (s : IoState) (d : Bytes) :
    (IoRef.write1 fl s d).bytes = s.bytes ++ d := by
  unfold IoRef.write1
  by_cases hd : d.isEmpty = true
  · rw [if_pos hd, List.isEmpty_iff.mp hd, List.append_nil]
  · rw [if_neg hd, ha]
    exact writeAt_end _ _

theorem foldl_write_append_bytes (fl : Flags) (ha : fl.appending = true) (ls : List Bytes) (s : IoState) :
    (ls.foldl (IoRef.write1 fl) s).bytes = s.bytes ++ ls.flatten := by
  induction ls generalizing s with
  | nil => simp
  | cons d ds ih => rw [List.foldl_cons, ih, write1_append_bytes fl ha, List.flatten_cons, List.append_assoc]

/-! ### single calls on the reference -/

theorem isReadline0_readline {n : Option Int} (hn : n ≠ some 0) : IoRef.isReadline0 (.readline n) = false := by
  cases n with
  | none => rfl
  | some z => simpa [IoRef.isReadline0] using fun (h : z = 0) => hn (h ▸ rfl)

theorem step_open (fl : Flags) (s : IoState) (op : Op) (ho : s.closed = false)
    (h0 : IoRef.isReadline0 op = false) : IoRef.step fl s op = IoRef.stepOpen fl s op := by
  rw [IoRef.step, h0, ho]
  rfl

/-- `write` in full; the buffered writer of TextLaws goes by all three branches -/
theorem step_write (fl : Flags) (s : IoState) (d : Bytes) :
    IoRef.step fl s (.write d) =
      if s.closed then (s, .err .closed)
      else if !fl.writing then (s, .err .notPermitted)
      else (IoRef.write1 fl s d, .nat d.length) := by
  simp only [IoRef.step, IoRef.isReadline0, Bool.false_eq_true, if_false]
  split
  · rfl
  · simp [IoRef.stepOpen]

section
variable (fl : Flags) (s : IoState) (ho : s.closed = false)
include ho

theorem step_read (hr : fl.reading = true) (n : Option Int) : IoRef.step fl s (.read n) = IoRef.readN s n :=
  (step_open fl s _ ho rfl).trans (if_neg (by simp [hr]))

theorem step_readall (hr : fl.reading = true) : IoRef.step fl s .readall = IoRef.readN s none :=
  (step_open fl s _ ho rfl).trans (if_neg (by simp [hr]))

theorem step_readinto (hr : fl.reading = true) (k : Nat) :
    IoRef.step fl s (.readinto k) = IoRef.readN s (some (Int.ofNat k)) :=
  (step_open fl s _ ho rfl).trans (if_neg (by simp [hr]))

theorem step_readlines (hr : fl.reading = true) : IoRef.step fl s .readlines = IoRef.readLines s :=
  (step_open fl s _ ho rfl).trans (if_neg (by simp [hr]))

/-- `readline(0)` apart (`IoRef.isReadline0`), which never reaches the file -/
theorem step_readline (hr : fl.reading = true) (n : Option Int) (hn : n ≠ some 0) :
    IoRef.step fl s (.readline n) = ((IoRef.readLine s n).1, .bytes (IoRef.readLine s n).2) :=
  (step_open fl s _ ho (isReadline0_readline hn)).trans (if_neg (by simp [hr]))

theorem step_next (hr : fl.reading = true) :
    IoRef.step fl s .next =
      if (IoRef.readLine s none).2.isEmpty then ((IoRef.readLine s none).1, .err .stopIteration)
      else ((IoRef.readLine s none).1, .bytes (IoRef.readLine s none).2) :=
  (step_open fl s _ ho rfl).trans (if_neg (by simp [hr]))

theorem step_writelines (hw : fl.writing = true) (ls : List Bytes) :
    IoRef.step fl s (.writelines ls) = (ls.foldl (IoRef.write1 fl) s, .none) := by
  rw [step_open fl s _ ho rfl]
  cases ls with
  | nil => rfl
  | cons l ls => exact if_neg (by simp [hw])

end

theorem step_seek_keeps (fl : Flags) (s : IoState) (off : Int) (whence : Nat) :
    (IoRef.step fl s (.seek off whence)).1.bytes = s.bytes ∧
    (IoRef.step fl s (.seek off whence)).1.closed = s.closed := by
  obtain ⟨b, p, c⟩ := s
  cases c
  · rw [step_open fl _ _ rfl rfl]
    simp only [IoRef.stepOpen]
    split
    · exact ⟨rfl, rfl⟩
    · split <;> exact ⟨rfl, rfl⟩
  · exact ⟨rfl, rfl⟩

theorem step_seek_negative (fl : Flags) (s : IoState) (ho : s.closed = false) (off : Int) :
    (Int.ofNat s.pos + off < 0 → IoRef.step fl s (.seek off 1) = (s, .err .invalid)) ∧
    (Int.ofNat s.bytes.length + off < 0 → IoRef.step fl s (.seek off 2) = (s, .err .invalid)) :=
  ⟨fun h => (step_open fl s _ ho rfl).trans (if_pos h), fun h => (step_open fl s _ ho rfl).trans (if_pos h)⟩

theorem ioref_write_bytes (fl : Flags) (b d : Bytes) (pos : Nat) (hw : fl.writing = true) (hd : d ≠ []) :
    (IoRef.step fl ⟨b, pos, false⟩ (.write d)).1.bytes = writeAt b (if fl.appending then b.length else pos) d := by
  simp [step_write, hw, IoRef.write1, hd]

theorem ioref_seek_set (fl : Flags) (b : Bytes) (pos n : Nat) :
    (IoRef.step fl ⟨b, pos, false⟩ (.seek (Int.ofNat n) 0)).1 = ⟨b, n, false⟩ := rfl

theorem ioref_read_some (fl : Flags) (b : Bytes) (pos n : Nat) (hr : fl.reading = true) :
    (IoRef.step fl ⟨b, pos, false⟩ (.read (some (Int.ofNat n)))).2 = .bytes ((b.drop pos).take n) := by
  rw [step_read fl _ rfl hr]; rfl

/-! ### the simulation relation between `_MemoryFile` and the reference -/

/-- the invariant: the shared BytesIO holds the file's bytes, `self.pos` is the position
(the BytesIO's own position is irrelevant: every call re-seeks) -/
def R (m : MemState) (r : IoState) : Prop :=
  m.bio.bytes = r.bytes ∧ m.pos = r.pos ∧ m.closed = r.closed

theorem deviates_iff (fl : Flags) (s : IoState) (op : Op) :
    deviates fl s op = true ↔
      (op = .readline (some 0) ∧ (s.closed = true ∨ fl.reading = false)) ∨
      (op = .writelines [] ∧ s.closed = false ∧ fl.writing = false) := by
  unfold deviates devClass
  split
  · simp
  · simp [and_assoc, and_left_comm]
  · next h1 h2 => exact ⟨nofun, fun h => h.elim (fun h => (h1 _ h.1).elim) (fun h => (h2 _ h.1).elim)⟩

/-! ### opening: `_MemoryFile` against the reference -/

theorem flags_exclusive_create (mode : Str) :
    (Mode.flags mode).exclusive = true → (Mode.flags mode).create = true := by
  intro h
  simp only [Mode.flags, Mode.exclusive] at h
  simp [Mode.flags, Mode.create, h]

theorem openFile_cases (fl : Flags) (hx : fl.exclusive = true → fl.create = true) (ex : Option Bytes) :
    (∃ e, MemFile.openFile fl ex = .err e ∧ IoRef.openFile fl ex = .err e) ∨
    (∃ m r, MemFile.openFile fl ex = .ok m ∧ IoRef.openFile fl ex = .ok r ∧ R m r) := by
  obtain ⟨r, w, a, t, x, c⟩ := fl
  cases ex with
  | none =>
    cases c
    · exact .inl ⟨_, rfl, rfl⟩
    · cases t <;> cases a <;> exact .inr ⟨_, _, rfl, rfl, rfl, rfl, rfl⟩
  | some b =>
    cases x
    · cases c <;> cases t <;> cases a <;> exact .inr ⟨_, _, rfl, rfl, rfl, rfl, rfl⟩
    · obtain rfl : c = true := hx rfl
      exact .inl ⟨_, rfl, rfl⟩

/-! ### one call: `_MemoryFile` against the reference -/

theorem nextStep_eq (fl : Flags) (hr : fl.reading = true) (b : Bytes) (bp p : Nat) (c : Bool) :
    MemFile.nextStep fl ⟨⟨b, bp⟩, p, c⟩ =
      if (lineOf (b.drop p)).isEmpty then
        (⟨⟨b, p + (lineOf (b.drop p)).length⟩, p, c⟩, .err .stopIteration)
      else (⟨⟨b, p + (lineOf (b.drop p)).length⟩, p + (lineOf (b.drop p)).length, c⟩,
            .bytes (lineOf (b.drop p))) := by
  simp only [MemFile.nextStep, hr, Bool.not_true, Bool.false_eq_true, if_false, MemFile.seekLock,
    Bio.readline, Bio.seekSet, limit]
  by_cases h : (lineOf (b.drop p)).isEmpty = true <;> simp [h, Out.isErr]

/-- iteration (`list(f)` = `__next__` until StopIteration) reads the remaining lines and leaves
the position at the end of what was read -/
theorem iterLoop_spec (fl : Flags) (hr : fl.reading = true) (fuel : Nat) (b : Bytes) (bp p : Nat)
    (acc : List Bytes) (hf : (b.drop p).length < fuel) :
    ∃ bp', MemFile.iterLoop fl fuel ⟨⟨b, bp⟩, p, false⟩ acc =
      (⟨⟨b, bp'⟩, p + (b.drop p).length, false⟩, .lines (acc.reverse ++ linesOf (b.drop p))) := by
  induction fuel generalizing bp p acc with
  | zero => exact absurd hf (Nat.not_lt_zero _)
  | succ fuel ih =>
    rw [MemFile.iterLoop, nextStep_eq fl hr]
    by_cases hrest : b.drop p = []
    · rw [hrest]
      exact ⟨p + 0, by simp [lineOf, linesOf_nil]⟩
    · have hne : (lineOf (b.drop p)).isEmpty = false := by
        rw [List.isEmpty_eq_false_iff]; exact lineOf_ne_nil _ hrest
      have hpos : 0 < (lineOf (b.drop p)).length := List.length_pos_iff.mpr (lineOf_ne_nil _ hrest)
      have hle := lineOf_length_le (b.drop p)
      obtain ⟨bp', hih⟩ := ih (p + (lineOf (b.drop p)).length) (p + (lineOf (b.drop p)).length)
        (lineOf (b.drop p) :: acc) (by rw [← List.drop_drop, List.length_drop]; omega)
      refine ⟨bp', ?_⟩
      rw [hne]
      simp only [Bool.false_eq_true, if_false]
      rw [hih, linesOf_unfold _ hrest, ← List.drop_drop, List.length_drop]
      simp only [List.reverse_cons, List.append_assoc, List.singleton_append]
      rw [show p + (lineOf (b.drop p)).length + ((b.drop p).length - (lineOf (b.drop p)).length) =
        p + (b.drop p).length by omega]

/-- the tail of `_MemoryFile.truncate(z)` once the BytesIO has been cut to `z` bytes -/
theorem truncate_body (b : Bytes) (p z : Nat) :
    let b1 : Bio := ⟨b.take z, p⟩
    let b2 := b1.seekEnd
    let b3 := if b2.pos < z then b2.write (zeros (z - b2.pos)) else b2
    (b3.seekSet p).bytes = resize b z ∧ (b3.seekSet p).pos = p := by
  by_cases hlen : b.length < z
  · have hle : b.length ≤ z := Nat.le_of_lt hlen
    have htake : List.take z b = b := List.take_of_length_le hle
    have hne : ¬ (z - b.length = 0) := Nat.sub_ne_zero_of_lt hlen
    simp [Bio.seekEnd, Bio.seekSet, Bio.write, htake, hlen, zeros_isEmpty, hne, writeAt_end,
      resize_ge b z hle]
  · have hle : z ≤ b.length := Nat.le_of_not_lt hlen
    have hl2 : (List.take z b).length = z := by rw [List.length_take]; exact Nat.min_eq_left hle
    simp [Bio.seekEnd, Bio.seekSet, hl2, resize_le b z hle]

theorem step_refines (fl : Flags) (m : MemState) (r : IoState) (op : Op)
    (hR : R m r) (hd : deviates fl r op = false) :
    R (MemFile.step fl m op).1 (IoRef.step fl r op).1 ∧
    (MemFile.step fl m op).2 = (IoRef.step fl r op).2 := by
  obtain ⟨⟨b, bp⟩, p, c⟩ := m
  obtain ⟨b', p', c'⟩ := r
  obtain ⟨h1, h2, h3⟩ := hR
  simp only at h1 h2 h3
  subst h1 h2 h3
  obtain ⟨rd, wr, ap, tr, ex, cr⟩ := fl
  -- flags and closedness go by cases; where both machines compute the same term the case closes by `rfl`
  cases c with
  | true =>
    cases op with
    | readline n =>
      by_cases hn : n = some 0
      · subst hn; simp [deviates, devClass] at hd
      · simp [MemFile.step, MemFile.stepClosed, IoRef.step, IoRef.stepClosed, isReadline0_readline hn, R]
    | _ => exact ⟨⟨rfl, rfl, rfl⟩, rfl⟩
  | false =>
    cases op with
    | close | tell | flush => exact ⟨⟨rfl, rfl, rfl⟩, rfl⟩
    | read n | readall | readinto k | readlines => cases rd <;> exact ⟨⟨rfl, rfl, rfl⟩, rfl⟩
    | readline n =>
      by_cases hn : n = some 0
      · -- readline(0): the reference never touches the file; the excluded class is unreadable
        subst hn
        cases rd
        · simp [deviates, devClass] at hd
        · exact ⟨⟨rfl, rfl, rfl⟩, rfl⟩
      · cases rd <;>
          simp [MemFile.step, MemFile.stepOpen, IoRef.step, IoRef.stepOpen, isReadline0_readline hn, R,
            MemFile.seekLock, Bio.readline, Bio.seekSet, IoRef.readLine, Out.isErr]
    | next =>
      cases rd
      · exact ⟨⟨rfl, rfl, rfl⟩, rfl⟩
      · rw [show MemFile.step ⟨true, wr, ap, tr, ex, cr⟩ ⟨⟨b, bp⟩, p, false⟩ .next =
            MemFile.nextStep ⟨true, wr, ap, tr, ex, cr⟩ ⟨⟨b, bp⟩, p, false⟩ from rfl,
          nextStep_eq _ rfl, step_next _ _ rfl rfl, IoRef.readLine]
        cases lineOf (b.drop p) <;> exact ⟨⟨rfl, rfl, rfl⟩, rfl⟩
    | iter =>
      cases rd
      · -- the first __next__ raises; list(f) propagates it
        exact ⟨⟨rfl, rfl, rfl⟩, rfl⟩
      · obtain ⟨bp', hspec⟩ := iterLoop_spec ⟨true, wr, ap, tr, ex, cr⟩ rfl (b.length - p + 1) b bp p []
          (by simp only [List.length_drop]; omega)
        simp only [MemFile.step, MemFile.stepOpen, Bool.false_eq_true, if_false]
        rw [hspec]
        simp [IoRef.step, IoRef.stepOpen, IoRef.isReadline0, R, IoRef.readLines]
    | seek off whence =>
      match whence with
      | 0 =>
        by_cases h : off < 0 <;>
          simp [MemFile.step, MemFile.stepOpen, IoRef.step, IoRef.stepOpen, IoRef.isReadline0, R,
            MemFile.seekLock, Bio.seek, Bio.seekSet, Out.isErr, h]
      | 1 =>
        by_cases h : (p : Int) + off < 0 <;>
          simp [MemFile.step, MemFile.stepOpen, IoRef.step, IoRef.stepOpen, IoRef.isReadline0, R,
            MemFile.seekLock, Bio.seek, Bio.seekSet, Out.isErr, h]
      | 2 =>
        by_cases h : (b.length : Int) + off < 0 <;>
          simp [MemFile.step, MemFile.stepOpen, IoRef.step, IoRef.stepOpen, IoRef.isReadline0, R,
            MemFile.seekLock, Bio.seek, Bio.seekSet, Bio.seekEnd, Out.isErr, h]
      | w + 3 => exact ⟨⟨rfl, rfl, rfl⟩, rfl⟩
    | write d =>
      cases wr
      · exact ⟨⟨rfl, rfl, rfl⟩, rfl⟩
      · cases ap <;> cases d <;> exact ⟨⟨rfl, rfl, rfl⟩, rfl⟩
    | writelines ls =>
      cases wr
      · have hne : ls.isEmpty = false := by
          cases h : ls.isEmpty <;> simp [deviates, devClass, h] at hd ⊢
        simp [MemFile.step, MemFile.stepOpen, IoRef.step, IoRef.stepOpen, IoRef.isReadline0, R, hne]
      · rw [step_writelines _ _ rfl rfl, foldl_write1_bio]
        exact ⟨⟨rfl, rfl, rfl⟩, rfl⟩
    | truncate size =>
      cases wr
      · exact ⟨⟨rfl, rfl, rfl⟩, rfl⟩
      · cases size with
        | none =>
          have hb := truncate_body b p p
          have hp0 : ¬ ((p : Int) < 0) := by omega
          simp only [Bio.seekSet] at hb
          simp [MemFile.step, MemFile.stepOpen, IoRef.step, IoRef.stepOpen, IoRef.isReadline0, R,
            MemFile.seekLock, Bio.truncate, Bio.seekSet, Out.isErr, hp0]
          exact ⟨hb.1, by cases p <;> rfl⟩
        | some z =>
          by_cases hz : z < 0
          · simp [MemFile.step, MemFile.stepOpen, IoRef.step, IoRef.stepOpen, IoRef.isReadline0, R,
              MemFile.seekLock, Bio.truncate, Bio.seekSet, Out.isErr, hz]
          · have hb := truncate_body b p z.toNat
            simp only [Bio.seekSet] at hb
            simp [MemFile.step, MemFile.stepOpen, IoRef.step, IoRef.stepOpen, IoRef.isReadline0, R,
              MemFile.seekLock, Bio.truncate, Bio.seekSet, Out.isErr, hz]
            have hiff : ∀ n : Nat, ((n : Int) < z) ↔ n < z.toNat := by intro n; omega
            simp only [hiff]
            exact hb.1

theorem step_refines_at (fl : Flags) (m : MemState) (op : Op)
    (hd : deviates fl ⟨m.bio.bytes, m.pos, m.closed⟩ op = false) :
    R (MemFile.step fl m op).1 (IoRef.step fl ⟨m.bio.bytes, m.pos, m.closed⟩ op).1 ∧
    (MemFile.step fl m op).2 = (IoRef.step fl ⟨m.bio.bytes, m.pos, m.closed⟩ op).2 :=
  step_refines fl m _ op ⟨rfl, rfl, rfl⟩ hd

/-! ### mode strings -/

theorem of_ite_ne {α : Type} {c : Prop} [Decidable c] {a x y : α} (h : (if c then a else x) = y)
    (hne : a ≠ y) : ¬ c ∧ x = y := by
  by_cases hc : c
  · rw [if_pos hc] at h; exact absurd h hne
  · rw [if_neg hc] at h; exact ⟨hc, h⟩

theorem one_of_four : ∀ x r w a : Bool,
    PyMode.b2n x + PyMode.b2n r + PyMode.b2n w + PyMode.b2n a = 1 →
    (x = true ∧ r = false ∧ w = false ∧ a = false) ∨ (x = false ∧ r = true ∧ w = false ∧ a = false) ∨
    (x = false ∧ r = false ∧ w = true ∧ a = false) ∨ (x = false ∧ r = false ∧ w = false ∧ a = true) := by
  decide

/-- the raw mode `io.open` hands to `FileIO`, from the membership flags -/
def rawMode (m : Str) : Str :=
  (if m.contains 'x' then ['x'] else []) ++ (if m.contains 'r' then ['r'] else []) ++
  (if m.contains 'w' then ['w'] else []) ++ (if m.contains 'a' then ['a'] else []) ++
  (if m.contains '+' then ['+'] else [])

theorem ioOpenRawMode_some (m raw : Str) (h : PyMode.ioOpenRawMode m = some raw) :
    PyMode.b2n (m.contains 'x') + PyMode.b2n (m.contains 'r') + PyMode.b2n (m.contains 'w') +
      PyMode.b2n (m.contains 'a') = 1 ∧ raw = rawMode m := by
  unfold PyMode.ioOpenRawMode at h
  obtain ⟨_, h⟩ := of_ite_ne h nofun
  obtain ⟨_, h⟩ := of_ite_ne h nofun
  obtain ⟨_, h⟩ := of_ite_ne h nofun
  obtain ⟨hone, h⟩ := of_ite_ne h nofun
  exact ⟨by simpa using hone, (Option.some.inj h).symm⟩

/-- `FileIO.__init__` on the raw mode gives the flags `Mode` derives, up to `truncate`, which `Mode` also sets for `x` -/
theorem fileioParse_rawMode (m : Str)
    (hone : PyMode.b2n (m.contains 'x') + PyMode.b2n (m.contains 'r') + PyMode.b2n (m.contains 'w') +
      PyMode.b2n (m.contains 'a') = 1) :
    (PyMode.fileioParse (rawMode m)).map (fun fl => { fl with truncate := fl.truncate || fl.exclusive }) =
      some (Mode.flags m) := by
  have table : ∀ x r w a p : Bool, PyMode.b2n x + PyMode.b2n r + PyMode.b2n w + PyMode.b2n a = 1 →
      (PyMode.fileioParse ((if x then ['x'] else []) ++ (if r then ['r'] else []) ++
        (if w then ['w'] else []) ++ (if a then ['a'] else []) ++ (if p then ['+'] else []))).map
        (fun fl => { fl with truncate := fl.truncate || fl.exclusive }) =
      some ⟨r || p, w || a || p || x, a, w || x, x, a || w || x⟩ := by decide
  exact table _ _ _ _ (m.contains '+') hone

/-- exactly one of `x r w a`, not both `t` and `b`; and `io.open` accepts the string too -/
theorem validate_facts (m : Str) (h : Mode.validate m = .ok ()) :
    PyMode.b2n (m.contains 'x') + PyMode.b2n (m.contains 'r') + PyMode.b2n (m.contains 'w') +
      PyMode.b2n (m.contains 'a') = 1 ∧
    (m.contains 't' && m.contains 'b') = false ∧
    PyMode.ioOpenRawMode m = some (rawMode m) := by
  cases m with
  | nil => cases h
  | cons c0 rest =>
    simp only [Mode.validate] at h
    obtain ⟨hall, h⟩ := of_ite_ne h nofun
    obtain ⟨_, h⟩ := of_ite_ne h nofun
    obtain ⟨htb, h⟩ := of_ite_ne h nofun
    obtain ⟨hdup, h⟩ := of_ite_ne h nofun
    obtain ⟨hone, _⟩ := of_ite_ne h nofun
    generalize c0 :: rest = m at *
    simp only [Mode.has, Bool.not_eq_true] at htb
    have hone' : PyMode.b2n (m.contains 'x') + PyMode.b2n (m.contains 'r') + PyMode.b2n (m.contains 'w') +
        PyMode.b2n (m.contains 'a') = 1 := by
      simp only [Mode.has, Mode.firstChars, List.filter] at hone
      revert hone
      generalize m.contains 'x' = bx
      generalize m.contains 'r' = br
      generalize m.contains 'w' = bw
      generalize m.contains 'a' = ba
      revert bx br bw ba
      decide
    refine ⟨hone', htb, ?_⟩
    have hall' : (m.all fun c => ['a', 'x', 'r', 'w', 'b', '+', 't'].contains c) = true := by
      simp only [Bool.not_eq_true, Bool.not_eq_false'] at hall
      rw [List.all_eq_true] at hall ⊢
      intro c hc
      have := hall c hc
      simp only [Mode.validChars, List.contains_eq_mem, List.mem_cons, List.not_mem_nil, or_false,
        decide_eq_true_eq] at this ⊢
      rcases this with h | h | h | h | h | h | h <;> simp [h]
    have hdup' : ¬ (m.eraseDups.length < m.length) := by
      simp only [bne_iff_ne, ne_eq, Decidable.not_not] at hdup
      omega
    unfold PyMode.ioOpenRawMode
    simp only [hall', Bool.not_true, Bool.false_eq_true, if_false, hdup', htb, hone',
      bne_self_eq_false, rawMode]

/-- the filter is `mode.replace("t", "")` -/
theorem filter_t_contains (m : Str) (c : Char) (hc : c ≠ 't') :
    (m.filter fun x => x != 't').contains c = m.contains c := by
  rw [Bool.eq_iff_iff]
  simp only [List.contains_eq_mem, List.mem_filter, bne_iff_ne, ne_eq, decide_eq_true_eq]
  exact ⟨fun h => h.1, fun h => ⟨h, hc⟩⟩

theorem flags_filter_t (m : Str) : Mode.flags (m.filter fun x => x != 't') = Mode.flags m := by
  simp (disch := decide) only [Mode.flags, Mode.reading, Mode.writing, Mode.appending, Mode.truncate,
    Mode.exclusive, Mode.create, Mode.has, filter_t_contains]

theorem toPlatformBin_flags (m : Str) :
    Mode.flags (Mode.toPlatformBin m) = Mode.flags m ∧ Mode.has (Mode.toPlatformBin m) 'b' = true := by
  simp only [Mode.toPlatformBin]
  split
  · next hb => exact ⟨flags_filter_t m, hb⟩
  · rw [← flags_filter_t m]
    simp [Mode.flags, Mode.reading, Mode.writing, Mode.appending, Mode.truncate, Mode.exclusive,
      Mode.create, Mode.has]

end Fs.FileLemmas
