/-
  Facts about `Ref.step` on top of StepLemmas and StepEffects: the shape of a result (state untouched or
  call succeeded), every reported error is admissible (`adm`), the root stays a directory, successful
  one-path calls, equivalent spellings of a path, and making a file as `open(path, "wb")`.
  The last two sections (making a file; which operations fail loosely) declare into `Fs.MultiFsLemmas`: they go on
  from `step1_act`, `bulk` and `step1_not_loose` of StepAct / StepAct2.
-/
import FsModel.Tree
import FsModel.Ref
import FsModel.RefAdm
import FsProofs.Lemmas.PathLemmas
import FsProofs.Lemmas.StepLemmas
import FsProofs.Lemmas.StepEffects
import FsProofs.Lemmas.ValidLemmas
import FsProofs.Lemmas.StepAct
import FsProofs.Lemmas.StepAct2

namespace Fs.QueryLemmas
open Fs Fs.Ref Fs.Path

/-! ### the shape of results -/

/-- the shape of a result: the state is untouched, or the call succeeded -/
def Shape (s : State) (r : State × Out) : Prop :=
  (∃ o, r = (s, o)) ∨ (∃ t v, r = upd s t v)

theorem shape_fail (s : State) (e : Err) : Shape s (fail s e) := Or.inl ⟨_, rfl⟩
theorem shape_done (s : State) (v : Val) : Shape s (done s v) := Or.inl ⟨_, rfl⟩
theorem shape_upd (s : State) (t : Node) (v : Val) : Shape s (upd s t v) := Or.inr ⟨_, _, rfl⟩

theorem Shape.err_state {s : State} {r : State × Out} {e : Err} (h : Shape s r) (he : r.2 = .err e) :
    r.1 = s := by
  rcases h with ⟨o, rfl⟩ | ⟨t, v, rfl⟩
  · rfl
  · simp [upd] at he

theorem Shape.closed {s : State} {r : State × Out} (h : Shape s r) : r.1.closed = s.closed := by
  rcases h with ⟨o, rfl⟩ | ⟨t, v, rfl⟩ <;> rfl

theorem Shape.of_eff1 {s : State} {cs : List Name} {op : Op} {r : State × Out}
    (h : TreeLemmas.Eff1 s cs op r) : Shape s r := by
  cases h with
  | same o => exact .inl ⟨o, rfl⟩
  | _ => exact shape_upd ..

theorem writeFile_shape (s : State) (cs : List Name) (f : Option Bytes → Bytes) (v : Val) :
    Shape s (writeFile s cs f v) :=
  .of_eff1 (TreeLemmas.eff_writeFile s cs f v)

theorem Shape.of_eff2 {s : State} {a b : List Name} {op : Op} {r : State × Out}
    (h : TreeLemmas.Eff2 s a b op r) : Shape s r := by
  cases h with
  | fail e => exact shape_fail ..
  | noop v => exact shape_done ..
  | _ => exact shape_upd ..

theorem step1_shape (s : State) (cs : List Name) (op : Op) : Shape s (step1 s cs op) :=
  .of_eff1 (TreeLemmas.eff1 s cs op)

theorem step2_shape (s : State) (a b : List Name) (op : Op) : Shape s (step2 s a b op) :=
  .of_eff2 (TreeLemmas.eff2 s a b op)

theorem step_shape (s : State) (op : Op) (hop : op ≠ .close) : Shape s (step s op) := by
  cases TreeLemmas.step_case s op with
  | close h _ => exact absurd h hop
  | fail e _ h => rw [h]; exact shape_fail ..
  | one p cs _ _ _ h => rw [h]; exact step1_shape ..
  | two p q a b _ _ _ _ h => rw [h]; exact step2_shape ..

theorem step_err_state {s : State} {op : Op} {e : Err} (h : (step s op).2 = .err e) :
    (step s op).1 = s := by
  by_cases hop : op = .close
  · subst hop; cases h
  · exact (step_shape s op hop).err_state h

theorem step_closed_same (s : State) (op : Op) (hop : op ≠ .close) :
    (step s op).1.closed = s.closed :=
  (step_shape s op hop).closed

theorem ite_none_eq_some {α : Type} {c : Prop} [Decidable c] {x : Option α} {a : α}
    (h : (if c then none else x) = some a) : ¬ c ∧ x = some a := by
  by_cases hc : c
  · rw [if_pos hc] at h; cases h
  · rw [if_neg hc] at h; exact ⟨hc, h⟩

/-- what `parseBinMode mode = some m` says about the string, and the flags it computes -/
theorem parse_some (mode : Str) (m : Mode) (hm : parseBinMode mode = some m) :
    (mode.all fun x => modeValidChars.contains x) = true ∧ mode.contains 't' = false ∧ mode.Nodup ∧
    (['r', 'w', 'x', 'a'].filter fun x => mode.contains x).length = 1 ∧
    m = { reading := mode.contains 'r' || mode.contains '+',
          writing := mode.contains 'w' || mode.contains 'a' || mode.contains '+' || mode.contains 'x',
          create := mode.contains 'a' || mode.contains 'w' || mode.contains 'x',
          truncate := mode.contains 'w' || mode.contains 'x',
          exclusive := mode.contains 'x',
          appending := mode.contains 'a' } := by
  cases mode with
  | nil => cases hm
  | cons c r =>
    obtain ⟨h1, hm⟩ := ite_none_eq_some hm
    obtain ⟨-, hm⟩ := ite_none_eq_some hm
    obtain ⟨h3, hm⟩ := ite_none_eq_some hm
    obtain ⟨h4, hm⟩ := ite_none_eq_some hm
    obtain ⟨h5, hm⟩ := ite_none_eq_some hm
    cases hm
    have tt : ∀ {b : Bool}, ¬ (!b) = true → b = true := by decide
    exact ⟨tt h1, Bool.eq_false_iff.2 h3, of_decide_eq_true (tt h4),
      Decidable.of_not_not fun h => h5 (bne_iff_ne.2 h), rfl⟩

theorem mode_rb : parseBinMode ['r', 'b'] = some ⟨true, false, false, false, false, false⟩ := by decide
theorem mode_wb : parseBinMode ['w', 'b'] = some ⟨false, true, true, true, false, false⟩ := by decide
theorem mode_ab : parseBinMode ['a', 'b'] = some ⟨false, true, true, false, false, true⟩ := by decide

/-- once the guards of `copy` have passed, the reference's `copy` is writing the source's bytes -/
theorem step2_copy_write (t : State) (ca cb : List Name) (a b : Str) (ow : Bool) (data : Bytes)
    (hs : t.root.get ca = some (.file data)) (hne : ca ≠ cb)
    (hg : (!ow && (t.root.get cb).isSome) = false) :
    step2 t ca cb (.copy a b ow) = writeFile t cb (fun _ => data) := by
  simp only [step2, hg, Bool.false_eq_true, if_false, hne, hs, writeFile]
  by_cases hcb : cb = []
  · simp [hcb]
  · simp only [hcb, if_false]
    rcases t.root.get (parentOf cb) with _ | _ | _ <;> try rfl
    rcases t.root.get cb with _ | _ | _ <;> rfl

/-- once the guards of `move` have passed, the reference's `move` is writing the source's bytes and then
deleting the source -/
theorem step2_move_write (t : State) (ca cb : List Name) (a b : Str) (ow : Bool) (data : Bytes)
    (hs : t.root.get ca = some (.file data)) (hne : ca ≠ cb)
    (hg : (!ow && (t.root.get cb).isSome) = false) :
    step2 t ca cb (.move a b ow) = match writeFile t cb (fun _ => data) with
      | (t', .ok _) => ({ t' with root := t'.root.del ca }, .ok .unit)
      | (t', .err e) => (t', .err e) := by
  simp only [step2, hg, Bool.false_eq_true, if_false, hne, hs, writeFile]
  by_cases hcb : cb = []
  · simp [hcb, fail]
  · simp only [hcb, if_false]
    rcases t.root.get (parentOf cb) with _ | _ | _ <;> try rfl
    rcases t.root.get cb with _ | _ | _ <;> rfl

/-- the two halves of a `copy` or `move` done by hand -/
theorem readbytes_eq {s : State} {p : Str} {a : List Name} (hc : s.closed = false) (hv : validate p = .ok a) :
    Ref.step s (.readbytes p) =
      (match s.root.get a with
       | none => fail s .ResourceNotFound
       | some (.dir _) => fail s .FileExpected
       | some (.file b) => done s (.bytes b)) ∧
    adm s (.readbytes p) = admFileArg s.root a := by
  rw [step_admitted hc rfl hv (by nofun), adm_admitted hc rfl hv]
  exact ⟨rfl, rfl⟩

theorem writebytes_eq {s : State} {p : Str} {b : List Name} (data : Bytes) (hc : s.closed = false)
    (hv : validate p = .ok b) :
    Ref.step s (.writebytes p data) = writeFile s b (fun _ => data) ∧
    adm s (.writebytes p data) = admFileTarget s.root b := by
  rw [step_admitted hc rfl hv (by nofun), adm_admitted hc rfl hv]
  exact ⟨rfl, rfl⟩

theorem adm2_src {t : Node} {a b : List Name} {p q : Str} {ow : Bool} {e : Err} (h : e ∈ admFileArg t a) :
    e ∈ adm2 t a b (.copy p q ow) ∧ e ∈ adm2 t a b (.move p q ow) :=
  ⟨List.mem_append_left _ (List.mem_append_left _ h), List.mem_append_left _ (List.mem_append_left _ h)⟩

theorem adm2_dst {t : Node} {a b : List Name} {p q : Str} {ow : Bool} {e : Err} (hab : a ≠ b)
    (h : e ∈ admFileTarget t b) : e ∈ adm2 t a b (.copy p q ow) ∧ e ∈ adm2 t a b (.move p q ow) := by
  simp only [adm2, hab, if_false, ne_eq, not_false_eq_true, if_true]
  exact ⟨List.mem_append_right _ h, List.mem_append_right _ h⟩

/-- Between paths neither of which lies under the other, the reference's `movedir` (take the source out, then
merge into what is then at the destination) is the base class's `move_dir`: merge into the destination, then
delete the source. -/
theorem step2_movedir_diverge (s : State) (sp dp : Str) (a b : List Name) (c : Bool) (es : Ents)
    (hnab : ¬ a <+: b) (hnba : ¬ b <+: a) (hga : s.root.get a = some (.dir es)) :
    step2 s a b (.movedir sp dp c) = match s.root.get b with
      | some (.file _) => fail s .DirectoryExpected
      | some (.dir ds) => (match mergeEnts es ds with
        | none => fail s .OperationFailed
        | some m => upd s ((s.root.set b (.dir m)).del a))
      | none =>
        if !c then fail s .ResourceNotFound
        else match s.root.get (parentOf b) with
          | some (.dir _) => upd s ((s.root.set b (.dir es)).del a)
          | _ => fail s .ResourceNotFound := by
  have hab : a ≠ b := by rintro rfl; exact hnab (List.prefix_refl _)
  have hpre : isPrefix a b = false := TreeLemmas.isPrefix_false_iff.2 hnab
  have hbne : b ≠ [] := by rintro rfl; exact hnba List.nil_prefix
  simp only [step2, hab, hpre, if_false, Bool.false_eq_true, hga, TreeLemmas.get_del_disjoint a b s.root hnab hnba]
  rcases hgb : s.root.get b with _ | _ | ds
  · rfl
  · rfl
  · simp only
    cases mergeEnts es ds with
    | none => rfl
    | some m => simp only [setAt, hbne, if_false, MountTree.del_set_comm b a s.root _ ⟨hnba, hnab⟩ (by simp [hgb])]

/-! ### truthfulness of errors -/

/-- the class OSFS and FTPFS report when `move` finds its destination taken before it looks at the source -/
theorem destExists_mem_adm2_move (t : Node) (sp dp : Str) (a b : List Name) (o : Bool)
    (h1 : (!o && (t.get b).isSome) = true) : Err.DestinationExists ∈ adm2 t a b (.move sp dp o) := by
  cases o
  · simp only [Bool.not_false, Bool.true_and] at h1
    cases hgb : t.get b with
    | none => rw [hgb] at h1; cases h1
    | some n => cases n <;> simp [adm2, kindAt, hgb]
  · simp at h1

theorem step1_truthful (s : State) (cs : List Name) (op : Op) (e : Err)
    (hroot : s.root.isDir = true)
    (h : (step1 s cs op).2 = .err e) : e ∈ adm1 s.root cs op := by
  rw [MultiFsLemmas.step1_act] at h
  have hs := MultiFsLemmas.act1_sane s cs op
  generalize MultiFsLemmas.act1 cs (s.root.get cs) (MultiFsLemmas.parentKind s.root cs) (blockedByFile s.root [] cs) op = a at h hs
  cases a <;> cases h
  exact hs.2 hroot

theorem step2_truthful (s : State) (a b : List Name) (op : Op) (e : Err)
    (h : (step2 s a b op).2 = .err e) : e ∈ adm2 s.root a b op ∨ e = .OperationFailed := by
  have h2 := TreeLemmas.eff2 s a b op
  generalize step2 s a b op = r at h h2
  cases h2 with
  | fail e' ht => cases h; exact ht
  | _ => cases h

/-- a failing step reports a class of `adm`, or the loose mid-way failure of a bulk operation -/
theorem step_truthful (s : State) (op : Op) (e : Err) (hroot : s.root.isDir = true)
    (h : (step s op).2 = .err e) : e ∈ adm s op ∨ e = .OperationFailed := by
  cases hc : s.closed
  · cases front s op hc with
    | close hop => subst hop; cases h
    | refused e' _ hs hm => rw [hs] at h; cases h; exact .inl hm
    | one p cs _ _ _ hs ha => rw [hs] at h; rw [ha]; exact .inl (step1_truthful s cs op e hroot h)
    | two p q a b _ _ _ hs ha => rw [hs] at h; rw [ha]; exact step2_truthful s a b op e h
  · by_cases hop : op = .close
    · subst hop; cases h
    · rw [step_closed s op hop hc] at h
      rw [adm_closed s op hop hc]
      cases h; simp

/-! ### validation errors, membership in `adm` -/
theorem validate_err (p : Str) (e : Err) (h : validate p = .err e) :
    (e = .InvalidCharsInPath ∧ '\x00' ∈ p) ∨
    (e = .IllegalBackReference ∧ Path.normpath p = .err .IllegalBackReference) := by
  unfold validate at h
  split at h
  · next h0 => left; simp_all
  · obtain ⟨rfl, hr⟩ := ConfineLemmas.iteratepath_err p e h
    exact .inr ⟨rfl, ConfineLemmas.normpath_err_of_resolve p hr⟩

theorem validate_err_cases (p : Str) (e : Err) (h : validate p = .err e) :
    e = .InvalidCharsInPath ∨ e = .IllegalBackReference := by
  rcases validate_err p e h with ⟨h, _⟩ | ⟨h, _⟩ <;> simp [h]

theorem validate_err_ne {p : Str} {e : Err} (h : validate p = .err e) : e ≠ .ResourceNotFound := by
  rcases validate_err_cases p e h with rfl | rfl <;> exact Err.noConfusion

/-- membership in `adm` for an open filesystem, one-path operation -/
theorem mem_adm_one {s : State} {op : Op} {p : Str} {x : Err} (hc : s.closed = false)
    (hp : op.paths = [p]) (hno : ∀ q m, op ≠ .openbin q m) (h : x ∈ adm s op) :
    validate p = .err x ∨ ∃ cs, validate p = .ok cs ∧ x ∈ adm1 s.root cs op := by
  rw [adm_one s op p hc hp hno] at h
  cases hv : validate p with
  | err e => rw [hv] at h; simp at h; simp [h]
  | ok cs => rw [hv] at h; exact Or.inr ⟨cs, rfl, h⟩

theorem isSome_ite_none {α} {c : Prop} [Decidable c] {x : Option α} :
    (if c then none else x).isSome = true ↔ ¬ c ∧ x.isSome = true := by
  split <;> simp [*]

theorem mode_chars (x : Char) :
    (x ∈ modeValidChars ∧ x ≠ 't') ↔ x ∈ ['r', 'w', 'x', 'a', 'b', '+'] := by
  simp only [modeValidChars, List.mem_cons, List.not_mem_nil, or_false]
  constructor
  · rintro ⟨h | h | h | h | h | h | h, ht⟩ <;> simp_all
  · rintro (h | h | h | h | h | h) <;> subst h <;> decide

theorem dir_isDir (es : Ents) : (Node.dir es).isDir = true := rfl

theorem step1_root_isDir (s : State) (cs : List Name) (op : Op) (h : s.root.isDir = true) :
    (step1 s cs op).1.root.isDir = true :=
  TreeLemmas.eff1_isDir (TreeLemmas.eff1 s cs op) h

theorem step2_root_isDir (s : State) (a b : List Name) (op : Op) (h : s.root.isDir = true) :
    (step2 s a b op).1.root.isDir = true :=
  TreeLemmas.eff2_isDir (TreeLemmas.eff2 s a b op) h

/-- the root of every reachable state is a directory -/
theorem step_root_isDir (s : State) (op : Op) (h : s.root.isDir = true) :
    (step s op).1.root.isDir = true := by
  cases TreeLemmas.step_case s op with
  | close _ h' => rw [h']; exact h
  | fail e _ h' => rw [h']; exact h
  | one p cs _ _ _ h' => rw [h']; exact step1_root_isDir s cs op h
  | two p q a b _ _ _ _ h' => rw [h']; exact step2_root_isDir s a b op h

theorem step_wf (s : State) (op : Op) (h : s.root.wf = true) : (step s op).1.root.wf = true := by
  cases TreeLemmas.step_case s op with
  | close _ h' => rw [h']; exact h
  | fail e _ h' => rw [h']; exact h
  | one p cs _ _ hv h' =>
    rw [h']; exact TreeLemmas.eff1_wf (TreeLemmas.eff1 s cs op) (TreeLemmas.validate_clean p cs hv) h
  | two p q a b _ _ _ hv h' =>
    rw [h']; exact TreeLemmas.eff2_wf (TreeLemmas.eff2 s a b op) (TreeLemmas.validate_clean q b hv) h

theorem run_wf_isDir (ops : List Op) (s : State) (h1 : s.root.wf = true) (h2 : s.root.isDir = true) :
    (run s ops).1.root.wf = true ∧ (run s ops).1.root.isDir = true := by
  induction ops generalizing s with
  | nil => exact ⟨h1, h2⟩
  | cons op ops ih => exact ih _ (step_wf s op h1) (step_root_isDir s op h2)

theorem step_q_ok (s : State) (op : Op) (p : Str) (v : Val) (hp : op.paths = [p])
    (hno : ∀ q m, op ≠ .openbin q m) (h : (step s op).2 = .ok v) :
    ∃ cs, s.closed = false ∧ validate p = .ok cs := by
  cases hc : s.closed with
  | true => rw [step_closed s op (by rintro rfl; cases hp) hc] at h; cases h
  | false =>
    cases hv : validate p with
    | ok cs => exact ⟨cs, rfl, rfl⟩
    | err e => rw [(step_refused hc hp hv fun q m h => absurd h (hno q m)).1] at h; cases h

/-! ### spellings (C11) -/

section Spellings
open Fs.PathSpec Fs.PathLemmas Fs.ConfineLemmas

/-- two spellings with the same resolved components normalise to the same absolute path -/
theorem norm_abs_of_resolve (p p' : Str) (cs : List Str) (h : resolve (splitSlash p) = some cs)
    (h' : resolve (splitSlash p') = some cs) :
    ∃ q q', normpath p = .ok q ∧ normpath p' = .ok q' ∧ abspath q = abspath q' := by
  have hc := resolve_result_clean p cs h
  exact ⟨_, _, normpath_of_resolve p cs h, normpath_of_resolve p' cs h',
    by rw [abspath_mkp hc, abspath_mkp hc]⟩

theorem norm_abs_of_resolve_eq {p p' q : Str} (h : normpath p = .ok q)
    (he : resolve (splitSlash p') = resolve (splitSlash p)) :
    ∃ n n', normpath p = .ok n ∧ normpath p' = .ok n' ∧ abspath n = abspath n' := by
  obtain ⟨cs, hr, -, -⟩ := normpath_ok_resolve p q h
  exact norm_abs_of_resolve p p' cs hr (he.trans hr)

theorem resolve_of_norm_abs (p p' q q' : Str) (h : normpath p = .ok q) (h' : normpath p' = .ok q')
    (ha : abspath q = abspath q') :
    ∃ cs, Clean cs ∧ resolve (splitSlash p) = some cs ∧ resolve (splitSlash p') = some cs := by
  obtain ⟨cs, hr, hc, rfl⟩ := normpath_ok_resolve p q h
  obtain ⟨cs', hr', hc', rfl⟩ := normpath_ok_resolve p' q' h'
  rw [abspath_mkp hc, abspath_mkp hc'] at ha
  have := mkp_inj hc hc' ha
  subst this
  exact ⟨cs, hc, hr, hr'⟩

theorem resolve_cons_skip {x : Str} (hx : x = [] ∨ x = dot) (l : List Str) : resolve (x :: l) = resolve l := by
  simp [resolve, PathSpec.step, hx]

theorem resolve_detour (x : Str) (l : List Str) (hx : CleanComp x) :
    resolve (x :: ['.', '.'] :: l) = resolve l := by
  obtain ⟨h1, h2, h3, _⟩ := hx
  simp only [dot, dotdot] at h2 h3
  simp [resolve, PathSpec.step, h1, h2, h3, dot, dotdot]

theorem resolve_snoc_nil (l : List Str) : resolve (l ++ [[]]) = resolve l := by
  simp only [resolve, List.foldl_append, List.foldl_cons, List.foldl_nil]
  cases List.foldl PathSpec.step (some []) l <;> simp [PathSpec.step]

end Spellings

theorem getinfo_eq {s : State} {p : Str} {a : List Name} (hc : s.closed = false) (hv : validate p = .ok a) :
    (Ref.step s (.getinfo p)).2 =
      (match s.root.get a with
       | none => .err .ResourceNotFound
       | some (.file b) => .ok (.info (lastName a) false b.length)
       | some (.dir _) => .ok (.info (lastName a) true 0)) := by
  rw [step_admitted hc rfl hv (by nofun)]
  simp only [step1]
  cases s.root.get a with
  | none => rfl
  | some n => cases n <;> rfl

end Fs.QueryLemmas

/-! ### making a file is `open(path, "wb")`, whatever is then returned

A `create` or `touch` that has to make the file. -/

namespace Fs.MultiFsLemmas
open Fs Fs.Ref

/-- map the value of a successful outcome -/
def mapOut {α : Type} (g : Val → Val) (r : α × Out) : α × Out :=
  match r with
  | (x, .ok v) => (x, .ok (g v))
  | (x, .err e) => (x, .err e)

theorem mapOut_id {α : Type} (r : α × Out) : mapOut (fun v => v) r = r := by
  obtain ⟨x, _ | _⟩ := r <;> rfl

/-- creating / truncating a file is what `openbin(path, "wb")` does to the tree -/
theorem step1_write_wb (t : State) (cs : List Name) (p : Str) (v : Val) :
    writeFile t cs (fun _ => []) v = mapOut (fun _ => v) (step1 t cs (.openbin p ['w', 'b'])) := by
  simp only [step1, writeFile, QueryLemmas.mode_wb]
  by_cases hne : cs = []
  · simp [hne, fail, mapOut]
  · simp only [hne, if_false]
    rcases t.root.get (parentOf cs) with _ | _ | _ <;> try rfl
    rcases t.root.get cs with _ | _ | _ <;> rfl

theorem ref_make_rel (x : State) (hx : x.closed = false) (op : Op) (p : Str) (v : Val) (hp : op.paths = [p])
    (hno : ∀ q m, op ≠ .openbin q m)
    (hstep : ∀ cs, validate p = .ok cs → step1 x cs op = writeFile x cs (fun _ => []) v) :
    Ref.step x op = mapOut (fun _ => v) (Ref.step x (.openbin p ['w', 'b'])) := by
  have h2 := QueryLemmas.step_openbin x p ['w', 'b'] hx
  simp only [QueryLemmas.mode_wb, Option.isNone_some, Bool.false_eq_true, if_false] at h2
  rw [QueryLemmas.step_one x op p hx hp hno, h2]
  cases hv : validate p with
  | err e => rfl
  | ok cs => exact (hstep cs hv).trans (step1_write_wb x cs p v)

theorem adm_write_wb (t : State) (hc : t.closed = false) (op : Op) (p : Str) (hp : op.paths = [p])
    (hno : ∀ q m, op ≠ .openbin q m) (hadm : ∀ cs, adm1 t.root cs op = admFileTarget t.root cs) :
    adm t (.openbin p ['w', 'b']) = adm t op := by
  rw [QueryLemmas.adm_one t op p hc hp hno, QueryLemmas.adm_openbin t p _ hc]
  cases validate p with
  | err e => simp [QueryLemmas.mode_wb]
  | ok cs =>
    show adm1 t.root cs (.openbin p ['w', 'b']) = adm1 t.root cs op
    rw [hadm cs]; simp [adm1, QueryLemmas.mode_wb]

theorem step2_not_loose (s : State) (a b : List Name) (op : Op) (hb : bulk op = false) :
    (step2 s a b op).2 ≠ .err .OperationFailed := by
  -- not bulk: `move` and `copy`, whose failures are the literal classes of their guards (`act2` lists them), and the
  -- operations `step2` answers with `done`
  cases op <;> simp [bulk] at hb <;> simp only [step2] <;> (repeat' split) <;> simp [fail, done, upd]

theorem validate_not_loose (p : Str) : validate p ≠ .err .OperationFailed := by
  intro h
  rcases QueryLemmas.validate_err_cases p _ h with h' | h' <;> cases h'

theorem not_loose (t : State) (op : Op) (hb : bulk op = false) : (Ref.step t op).2 ≠ .err .OperationFailed := by
  cases hc : t.closed with
  | true =>
    by_cases hop : op = .close
    · subst hop; intro h; cases h
    · rw [QueryLemmas.step_closed t op hop hc]; intro h; cases h
  | false =>
    cases QueryLemmas.front t op hc with
    | close hop => subst hop; intro h; cases h
    | refused e hr hs _ =>
      -- refused for its mode (`ValueError`) or for a path that does not validate
      rw [hs]
      intro h
      cases h
      rcases QueryLemmas.refusal_some hr with ⟨_, _, _, _, h⟩ | ⟨p, _, hv, _⟩ | ⟨p, q, _, hv | ⟨_, hv⟩⟩
      · cases h
      · exact validate_not_loose p hv
      · exact validate_not_loose p hv
      · exact validate_not_loose q hv
    | one p cs _ _ _ hs _ => rw [hs]; exact step1_not_loose t cs op
    | two p q a b _ _ _ hs _ => rw [hs]; exact step2_not_loose t a b op hb

/-- the reference's own error is admissible (no loose failure outside the bulk operations) -/
theorem ref_err_adm (t : State) (hd : t.root.isDir = true) (op : Op) (hb : bulk op = false) (e : Err)
    (h : (Ref.step t op).2 = .err e) : e ∈ adm t op :=
  (QueryLemmas.step_truthful t op e hd h).resolve_right fun h' => not_loose t op hb (h' ▸ h)

theorem ref_listdir (t : State) (hc : t.closed = false) (p : Str) (cs : List Name) (hv : validate p = .ok cs) :
    Ref.step t (.listdir p) = match t.root.get cs with
      | none => (t, .err .ResourceNotFound)
      | some (.file _) => (t, .err .DirectoryExpected)
      | some (.dir es) => (t, .ok (.names (Ents.names es))) := by
  rw [QueryLemmas.step_admitted hc rfl hv (by nofun)]
  simp only [step1]
  cases t.root.get cs with
  | none => rfl
  | some n => cases n <;> rfl

end Fs.MultiFsLemmas
