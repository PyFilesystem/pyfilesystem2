/-
  Queries change nothing: a call for which `RouteSpec.isQuery` holds (the nine reading operations, and `openbin` in
  a mode without `w`, `a`, `+`, `x`) answers and leaves the reference state as it is.
  Namespace `Fs.RouteLemmas`: this is the part of RouteLemmas.lean that GuardLemmas needs as well.
-/
import FsModel.RouteSpec
import FsProofs.Lemmas.QueryLemmas
import FsProofs.Lemmas.StepAct

namespace Fs.RouteLemmas
open Fs Fs.Ref Fs.RouteSpec

theorem parse_readonly (m : Str) (md : Mode) (h : parseBinMode m = some md)
    (hq : (m.contains 'w' || m.contains 'a' || m.contains '+' || m.contains 'x') = false) :
    md.create = false ∧ md.truncate = false ∧ md.exclusive = false := by
  simp only [Bool.or_eq_false_iff] at hq
  obtain ⟨⟨⟨hw, ha⟩, _⟩, hx⟩ := hq
  rw [(QueryLemmas.parse_some m md h).2.2.2.2, hw, ha, hx]
  exact ⟨rfl, rfl, rfl⟩

theorem act1_query (cs : List Name) (g : Option Node) (pk : Option Bool) (bl : Bool) {op : Ref.Op}
    (h : isQuery op = true) : (MultiFsLemmas.act1 cs g pk bl op).quiet := by
  cases op <;> first | exact absurd h Bool.false_ne_true | skip
  case openbin p m =>
    simp only [MultiFsLemmas.act1]
    cases hm : parseBinMode m with
    | none => trivial
    | some md =>
      obtain ⟨h1, h2, h3⟩ := parse_readonly m md hm (by simpa [isQuery] using h)
      rcases md with ⟨_, _, cr, tr, ex, _⟩
      cases h1; cases h2; cases h3
      cases cs <;> rcases pk with _ | _ | _ <;> rcases g with _ | _ | _ <;> trivial
  all_goals rcases g with _ | _ | _ <;> trivial

theorem step_query_state (s : Ref.State) (op : Ref.Op) (h : isQuery op = true) :
    (Ref.step s op).1 = s := by
  cases TreeLemmas.step_case s op with
  | close hop _ => subst hop; cases h
  | fail e _ he => rw [he]
  | one p cs _ _ _ he =>
    rw [he, MultiFsLemmas.step1_act]
    exact (MultiFsLemmas.applyAct_quiet (act1_query cs _ _ _ h) s s cs cs).1
  | two p q a b _ hp _ _ _ => cases op <;> first | exact absurd h Bool.false_ne_true | cases hp

end Fs.RouteLemmas
