/-
  Helper lemmas for FsProofs/WrapRefines.lean (the functor model of WrapFS / SubFS):
  * operating on a tree below a sub-directory = operating on the sub-tree and putting it back
    (`get/set/del/mkdirs/blockedByFile` under a prefix; `setAt` algebra);
  * `Ref.step1/step2/step` under a prefix (`graft`);
  * `adm` under a prefix;
  * what `SubFS.delegate_path` returns, in terms of `Ref.validate`.
-/
import FsModel.Ref
import FsModel.RefAdm
import FsModel.Wrap
import FsProofs.Lemmas.TreeLemmas
import FsProofs.Lemmas.QueryLemmas
import FsProofs.Lemmas.ConfineLemmas
import FsProofs.Lemmas.StepAct

namespace Fs.WrapLemmas
open Fs Fs.Ref Fs.TreeLemmas Fs.MultiFsLemmas

theorem setAt_setAt (t : Node) (cs : List Name) (x y : Node) :
    setAt (setAt t cs x) cs y = setAt t cs y := by
  unfold setAt
  split
  · rfl
  · exact set_set_same _ _ _ _

theorem setAt_nil (t x : Node) : setAt t [] x = x := by simp [setAt]

theorem setAt_ne {cs : List Name} (h : cs ≠ []) (t x : Node) : setAt t cs x = t.set cs x := by
  simp [setAt, h]

theorem setAt_self (cs : List Name) (t u : Node) (h : t.get cs = some u) : setAt t cs u = t := by
  unfold setAt
  split
  · next h' => subst h'; simpa [Node.get] using h.symm
  · exact TreeLemmas.set_self _ _ _ h

/-! ### below a prefix -/

theorem get_sub {t u : Node} {sub : List Name} (h : t.get sub = some u) (r : List Name) :
    t.get (sub ++ r) = u.get r := by
  rw [get_append, h]; rfl

/-- `hg`: how `Node.set` and `Node.del` both walk down to the parent of the last component -/
theorem walk_sub (g : List Name → Node → Node)
    (hg : ∀ c d cs es, g (c :: d :: cs) (.dir es) =
      match Ents.lookup c es with
      | some ch => .dir (Ents.put c (g (d :: cs) ch) es)
      | none => .dir es)
    {t u : Node} {sub : List Name} (h : t.get sub = some u) {r : List Name} (hr : r ≠ []) :
    g (sub ++ r) t = setAt t sub (g r u) := by
  induction sub generalizing t with
  | nil => cases Option.some.inj h; rfl
  | cons c sub ih =>
    cases t with
    | file b => cases h
    | dir es =>
      obtain ⟨d, rest, hd⟩ : ∃ d rest, sub ++ r = d :: rest :=
        List.exists_cons_of_ne_nil (fun e => hr (List.append_eq_nil_iff.1 e).2)
      rw [Node.get] at h
      cases hl : Ents.lookup c es with
      | none => rw [hl] at h; cases h
      | some ch =>
        rw [hl] at h
        rw [List.cons_append, hd, hg, hl, ← hd]
        dsimp only
        rw [ih h]
        cases sub <;> simp [setAt, Node.set, hl]

/-- writing below `sub` = writing inside the sub-tree, then putting the sub-tree back -/
theorem set_sub {t u : Node} {sub : List Name} (h : t.get sub = some u) (r : List Name) (hr : r ≠ [])
    (v : Node) : t.set (sub ++ r) v = setAt t sub (u.set r v) :=
  walk_sub (fun cs t => t.set cs v) (fun _ _ _ _ => rfl) h hr

theorem del_sub {t u : Node} {sub : List Name} (h : t.get sub = some u) (r : List Name) (hr : r ≠ []) :
    t.del (sub ++ r) = setAt t sub (u.del r) :=
  walk_sub Node.del (fun _ _ _ _ => rfl) h hr

theorem get_setAt_self {t u : Node} {sub : List Name} (h : t.get sub = some u) (x : Node) :
    (setAt t sub x).get sub = some x := by
  have := get_setAt h x []
  simpa [Node.get] using this

/-- nested replacement -/
theorem setAt_append {t u : Node} {p : List Name} (h : t.get p = some u) (q : List Name) (x : Node) :
    setAt t p (setAt u q x) = setAt t (p ++ q) x := by
  by_cases hq : q = []
  · subst hq; simp [setAt]
  · rw [setAt_ne hq, setAt_ne (by simp [hq] : p ++ q ≠ []), set_sub h q hq]

theorem set_sub' {t u : Node} {sub : List Name} (h : t.get sub = some u) (r : List Name)
    (v : Node) (hsr : sub ++ r ≠ []) : t.set (sub ++ r) v = setAt t sub (setAt u r v) := by
  rw [setAt_append h, setAt_ne hsr]

/-! ### `mkdirs` / `blockedByFile` below a prefix -/

theorem mkdirs_sub {t u : Node} {sub : List Name} (h : t.get sub = some u) (pre cs : List Name) :
    mkdirs (sub ++ pre) cs t = setAt t sub (mkdirs pre cs u) := by
  induction cs generalizing t u pre with
  | nil => simp [mkdirs, setAt_self _ _ _ h]
  | cons c cs ih =>
    simp only [mkdirs]
    rw [List.append_assoc, get_sub h]
    cases hg : u.get (pre ++ [c]) with
    | some y =>
      simp only []
      exact ih h (pre ++ [c])
    | none =>
      simp only []
      rw [set_sub h (pre ++ [c]) (by simp)]
      have h2 : (setAt t sub (u.set (pre ++ [c]) (.dir []))).get sub = some (u.set (pre ++ [c]) (.dir [])) :=
        get_setAt_self h _
      have := ih h2 (pre ++ [c])
      rw [setAt_setAt] at this
      rw [← this]

theorem blocked_rel {t u : Node} {sub : List Name} (h : t.get sub = some u) (pre cs : List Name) :
    blockedByFile t (sub ++ pre) cs = blockedByFile u pre cs := by
  induction cs generalizing pre with
  | nil => simp [blockedByFile]
  | cons c cs ih =>
    simp only [blockedByFile, get_sub h]
    rw [← ih (pre ++ [c])]
    simp

/-- the path to an existing directory is not blocked, and from there on it is the sub-tree's
own question -/
theorem blocked_sub {t : Node} {es : Ents} (pre sub : List Name) (h : t.get (pre ++ sub) = some (.dir es))
    (cs : List Name) : blockedByFile t pre (sub ++ cs) = blockedByFile (.dir es) [] cs := by
  rw [blocked_append, not_blocked_of_get t _ pre sub h, Bool.false_or]
  simpa using blocked_rel h [] cs

/-! ### grafting a result of the sub-tree into the parent -/

/-- the state a view at a directory `u` of an open/closed filesystem shows -/
def viewOf (s : State) (u : Node) : State := { root := u, closed := s.closed }

/-- put the outcome of a step on the sub-tree back into the parent: the sub-tree at `sub` is
replaced (`setAt` = `Node.set`, or the whole root when `sub = []`), NOTHING else changes -/
def graft (s : State) (sub : List Name) (r : State × Out) : State × Out :=
  ({ s with root := setAt s.root sub r.1.root }, r.2)

theorem graft_fail {s : State} {sub : List Name} {u : Node} (h : s.root.get sub = some u) (e : Err) :
    graft s sub (fail (viewOf s u) e) = fail s e := by
  simp [graft, fail, viewOf, setAt_self _ _ _ h]

theorem graft_done {s : State} {sub : List Name} {u : Node} (h : s.root.get sub = some u) (v : Val) :
    graft s sub (done (viewOf s u) v) = done s v := by
  simp [graft, done, viewOf, setAt_self _ _ _ h]

theorem graft_upd (s : State) (sub : List Name) (u x : Node) (v : Val) :
    graft s sub (upd (viewOf s u) x v) = upd s (setAt s.root sub x) v := by
  simp [graft, upd, viewOf]

theorem graft_graft {s : State} {p : List Name} {u : Node} (h : s.root.get p = some u) (q : List Name)
    (r : State × Out) : graft s p (graft (viewOf s u) q r) = graft s (p ++ q) r := by
  simp [graft, viewOf, setAt_append h]

theorem graft_nil (s : State) (r : State × Out) (hc : r.1.closed = s.closed) : graft s [] r = r := by
  obtain ⟨⟨root, cl⟩, o⟩ := r
  simp only at hc
  simp [graft, setAt, hc]

theorem mkdirs_graft {t u : Node} {sub : List Name} (h : t.get sub = some u) (cs : List Name) :
    mkdirs [] (sub ++ cs) t = setAt t sub (mkdirs [] cs u) := by
  have := mkdirs_skip [] sub cs t u (by simpa using h)
  rw [this]
  have := mkdirs_sub h [] cs
  simpa using this

theorem parentOf_append (sub cs : List Name) (h : cs ≠ []) : parentOf (sub ++ cs) = sub ++ parentOf cs := by
  simp [parentOf, List.dropLast_append_of_ne_nil h]

theorem lastName_append (sub cs : List Name) (h : cs ≠ []) : lastName (sub ++ cs) = lastName cs := by
  cases hcs : cs.getLast? with
  | none => simp [List.getLast?_eq_none_iff] at hcs; exact absurd hcs h
  | some x => simp [lastName, List.getLast?_append, hcs]

theorem alike_sub {t : Node} {sub : List Name} {es : Ents} (h : t.get sub = some (.dir es)) {cs : List Name}
    (hcs : cs ≠ []) : Alike t (sub ++ cs) (.dir es) cs where
  node := congrArg see (get_sub h cs)
  parent := by rw [parentKind, parentKind, parentOf_append sub cs hcs, get_sub h]
  blocked := blocked_sub [] sub h cs
  root := by simp [hcs]
  last := lastName_append sub cs hcs

theorem applyAct_graft {s : State} {sub cs : List Name} {u : Node} (h : s.root.get sub = some u) (hcs : cs ≠ [])
    (a : Act) {op : Op} {s' : State} (ha : a.sane s' cs op) :
    applyAct s (sub ++ cs) a = graft s sub (applyAct (viewOf s u) cs a) := by
  cases a with
  | fail e => exact (graft_fail h e).symm
  | done v => exact (graft_done h v).symm
  | set n v => rw [applyAct, applyAct, graft_upd, set_sub h cs hcs]; rfl
  | del v => rw [applyAct, applyAct, graft_upd, del_sub h cs hcs]; rfl
  | mkdirs v => rw [applyAct, applyAct, graft_upd, mkdirs_graft h]; rfl
  | clear => exact absurd ha.1 hcs

/-- **one-path operations below a prefix**: executing on the parent at `sub ++ cs` is executing
on the sub-tree at `cs` and putting the sub-tree back — same outcome (error class included),
nothing outside `sub` changes.  For the root of the sub-tree (`cs = []`) this holds for every
operation except `getinfo` (name), `removedir`, `removetree`. -/
theorem step1_graft (s : State) (sub cs : List Name) (es : Ents) (op : Op)
    (h : s.root.get sub = some (.dir es)) (hsp : cs ≠ [] ∨ rootSpecial op = false) :
    step1 s (sub ++ cs) op = graft s sub (step1 (viewOf s (.dir es)) cs op) := by
  by_cases hcs : cs = []
  · subst hcs
    rw [List.append_nil]
    by_cases hsub : sub = []
    · subst hsub
      obtain ⟨root, cl⟩ := s
      cases Option.some.inj h
      exact (graft_nil _ _ (by rw [step1_act]; cases act1 .. <;> rfl)).symm
    -- the root of the view is a directory whose parent is one: an operation that does not single out the
    -- root is shown the same as at `sub`, and does nothing
    obtain ⟨ps, hps⟩ := get_parent_dir hsub h
    have hbl : blockedByFile s.root [] sub = false := by simpa [blockedByFile] using blocked_sub [] sub h []
    obtain ⟨h1, h2⟩ := act1_root_dir hsub es op (hsp.resolve_left (fun h' => h' rfl))
    have hv : step1 (viewOf s (.dir es)) [] op = applyAct _ [] (act1 [] (some (.dir es)) (some true) false op) :=
      step1_act _ _ _
    rw [hv, step1_act, h, parentKind, parentOf, hps, hbl, Option.map_some, Node.isDir, h1]
    obtain ⟨q1, q2⟩ := applyAct_quiet h2 (viewOf s (.dir es)) s [] sub
    rw [graft, q1, q2]
    exact Prod.ext (by rw [(applyAct_quiet h2 s s sub sub).1, viewOf, setAt_self _ _ _ h]) rfl
  · exact step1_of_alike (s' := viewOf s (.dir es)) (R := fun r r' => r = graft s sub r') (alike_sub h hcs)
      fun a ha => applyAct_graft h hcs a ha

theorem set_setAt_sub {t u : Node} {sub : List Name} (h : t.get sub = some u) (x y : Node) (r : List Name)
    (hr : r ≠ []) : (setAt t sub x).set (sub ++ r) y = setAt t sub (x.set r y) := by
  rw [set_sub (get_setAt_self h x) r hr, setAt_setAt]

theorem del_setAt_sub {t u : Node} {sub : List Name} (h : t.get sub = some u) (x : Node) (r : List Name)
    (hr : r ≠ []) : (setAt t sub x).del (sub ++ r) = setAt t sub (x.del r) := by
  rw [del_sub (get_setAt_self h x) r hr, setAt_setAt]

theorem setAt_setAt_sub {t u : Node} {sub : List Name} (h : t.get sub = some u) (x y : Node) (r : List Name) :
    setAt (setAt t sub x) (sub ++ r) y = setAt t sub (setAt x r y) := by
  rw [← setAt_append (get_setAt_self h x) r y, setAt_setAt]

theorem isPrefix_append (sub a b : List Name) : isPrefix (sub ++ a) (sub ++ b) = isPrefix a b := by
  induction sub with
  | nil => rfl
  | cons c sub ih => simp [isPrefix, ih]

theorem ne_nil_of_get_none {u : Node} {r : List Name} (h : u.get r = none) : r ≠ [] := by
  intro e; subst e; simp [Node.get] at h

/-- **two-path operations below a prefix** (no exception: also when source or destination is
the root of the sub-tree) -/
theorem step2_graft (s : State) (sub a b : List Name) (es : Ents) (op : Op)
    (h : s.root.get sub = some (.dir es)) :
    step2 s (sub ++ a) (sub ++ b) op = graft s sub (step2 (viewOf s (.dir es)) a b op) := by
  by_cases hsub : sub = []
  · subst hsub
    obtain ⟨root, cl⟩ := s
    cases Option.some.inj h
    rcases QueryLemmas.step2_shape ⟨.dir es, cl⟩ a b op with ⟨o, ho⟩ | ⟨t, v, ho⟩ <;>
      rw [List.nil_append, List.nil_append, viewOf, ho] <;> rfl
  -- By unfolding `step2` in three cases (the source is the view's root; the destination is; neither): every test at
  -- `sub ++ _` is the sub-tree's own (`get_sub`, `blocked_sub`, `parentOf_append`, `isPrefix_append`) and every change (`set`,
  -- `del`, `mkdirs`, `setAt`) is that change below `sub`, put back.  Only `move`/`copy` onto the view's root are refused at
  -- different tests: `d = []` in the view, "a directory is there" in the parent (`hps`: what is above `sub` is a directory).
  have hgf := @graft_fail s sub _ h
  have hgd := @graft_done s sub _ h
  have hgu := graft_upd s sub (.dir es)
  have hv : (viewOf s (.dir es)).root = .dir es := rfl
  have hne : ∀ r, (sub ++ r = []) = False := fun r => eq_false (fun e => hsub (List.append_eq_nil_iff.1 e).1)
  generalize viewOf s (.dir es) = v at *
  by_cases ha : a = []
  · subst ha
    cases op
    case move | copy | movedir | copydir =>
      all_goals simp only [step2, List.append_cancel_left_eq, isPrefix_append, isPrefix, get_sub h, hv, Node.get,
        if_true]
      all_goals repeat' split
      all_goals simp only [hgf, hgd]
    all_goals exact (hgd _).symm
  by_cases hb : b = []
  · subst hb
    obtain ⟨ps, hps⟩ : ∃ ps, s.root.get (parentOf (sub ++ [])) = some (.dir ps) := by
      rw [List.append_nil]; exact get_parent_dir hsub h
    cases op
    case move | copy | movedir | copydir =>
      all_goals simp only [step2, List.append_cancel_left_eq, isPrefix_append, get_sub h, get_setAt h, hne, hps,
        del_sub h a ha, hv, Node.get, ha, if_true, if_false]
      all_goals repeat' split
      all_goals simp only [hgf, hgu, List.append_nil, setAt_setAt, setAt_nil]
    all_goals exact (hgd _).symm
  · cases op
    case move | copy | movedir | copydir =>
      all_goals simp only [step2, List.append_cancel_left_eq, isPrefix_append, get_sub h, get_setAt h,
        blocked_sub [] sub h, hne, hb, hv, parentOf_append sub b hb, del_sub h a ha, del_setAt_sub h _ a ha,
        set_sub h b hb, set_setAt_sub h _ _ b hb, mkdirs_graft h, ← setAt_append h, setAt_setAt_sub h, if_false]
      all_goals repeat' split
      all_goals simp only [hgf, hgd, hgu]
    all_goals exact (hgd _).symm

/-! ### the same call with other path strings -/

/-- replace every path argument `p` of a call by `f p` (what a wrapper does before delegating) -/
def mapPaths (f : Str → Str) : Op → Op
  | .exists_ p => .exists_ (f p) | .isdir p => .isdir (f p) | .isfile p => .isfile (f p)
  | .listdir p => .listdir (f p) | .getsize p => .getsize (f p) | .gettype p => .gettype (f p)
  | .isempty p => .isempty (f p) | .getinfo p => .getinfo (f p) | .readbytes p => .readbytes (f p)
  | .makedir p r => .makedir (f p) r | .makedirs p r => .makedirs (f p) r
  | .writebytes p d => .writebytes (f p) d | .appendbytes p d => .appendbytes (f p) d
  | .create p w => .create (f p) w | .touch p => .touch (f p) | .settimes p => .settimes (f p)
  | .openbin p m => .openbin (f p) m
  | .remove p => .remove (f p) | .removedir p => .removedir (f p) | .removetree p => .removetree (f p)
  | .move a b o => .move (f a) (f b) o | .copy a b o => .copy (f a) (f b) o
  | .movedir a b c => .movedir (f a) (f b) c | .copydir a b c => .copydir (f a) (f b) c
  | .close => .close

theorem paths_mapPaths (f : Str → Str) (op : Op) : (mapPaths f op).paths = op.paths.map f := by
  cases op <;> rfl

theorem step1_mapPaths (f : Str → Str) (s : State) (cs : List Name) (op : Op) :
    step1 s cs (mapPaths f op) = step1 s cs op := by cases op <;> rfl

theorem step2_mapPaths (f : Str → Str) (s : State) (a b : List Name) (op : Op) :
    step2 s a b (mapPaths f op) = step2 s a b op := by cases op <;> rfl

theorem rootSpecial_mapPaths (f : Str → Str) (op : Op) : rootSpecial (mapPaths f op) = rootSpecial op := by
  cases op <;> rfl

theorem mapPaths_ne_close (f : Str → Str) (op : Op) (h : op ≠ .close) : mapPaths f op ≠ .close := by
  cases op with
  | close => exact absurd rfl h
  | _ => exact Op.noConfusion

theorem mapPaths_ne_openbin (f : Str → Str) {op : Op} (h : ∀ q m, op ≠ .openbin q m) (q m : Str) :
    mapPaths f op ≠ .openbin q m := by
  cases op with
  | openbin p m' => exact absurd rfl (h p m')
  | _ => exact Op.noConfusion

theorem mapPaths_id (op : Op) : mapPaths id op = op := by cases op <;> rfl

theorem step_mapPaths_one (f : Str → Str) (s : State) {op : Op} {p : Str} (hc : s.closed = false)
    (hp : op.paths = [p]) (hno : ∀ q m, op ≠ .openbin q m) :
    Ref.step s (mapPaths f op) = match validate (f p) with
      | .err e => fail s e
      | .ok cs => step1 s cs op := by
  rw [QueryLemmas.step_one s _ (f p) hc (by rw [paths_mapPaths, hp]; rfl) (mapPaths_ne_openbin f hno)]
  simp only [step1_mapPaths]
  rfl

theorem step_mapPaths_two (f : Str → Str) (s : State) {op : Op} {a b : Str} (hc : s.closed = false)
    (hp : op.paths = [a, b]) :
    Ref.step s (mapPaths f op) = match validate (f a) with
      | .err e => fail s e
      | .ok ca => match validate (f b) with
        | .err e => fail s e
        | .ok cb => step2 s ca cb op := by
  rw [QueryLemmas.step_two s _ (f a) (f b) hc (by rw [paths_mapPaths, hp]; rfl)]
  simp only [step2_mapPaths]
  rfl

/-- how the validated components of the delegated path relate to those of the path it stands for -/
def liftRes (sub : List Name) : Res (List Name) → Res (List Name)
  | .ok cs => .ok (sub ++ cs)
  | .err e => .err e

/-- **`Ref.step` below a prefix.**  If every path argument `f p` handed to the parent validates to
`sub ++` (the components of `g p`) — or fails like `g p` — then the parent's step is the sub-tree's
step grafted back; for the three root-special operations the path must not be the root. -/
theorem ref_step_graft (s : State) (sub : List Name) (es : Ents) (op : Op) (f g : Str → Str)
    (h : s.root.get sub = some (.dir es)) (hop : op ≠ .close)
    (hv : ∀ p ∈ op.paths, validate (f p) = liftRes sub (validate (g p)))
    (hsp : rootSpecial op = false ∨ ∀ p ∈ op.paths, validate (g p) ≠ .ok []) :
    Ref.step s (mapPaths f op) = graft s sub (Ref.step (viewOf s (.dir es)) (mapPaths g op)) := by
  cases hc : s.closed with
  | true =>
    rw [QueryLemmas.step_closed s _ (mapPaths_ne_close f op hop) hc,
      QueryLemmas.step_closed (viewOf s (.dir es)) _ (mapPaths_ne_close g op hop) hc]
    exact (graft_fail h _).symm
  | false =>
    have hc' : (viewOf s (.dir es)).closed = false := hc
    rcases QueryLemmas.op_cases op with rfl | ⟨p, m, rfl⟩ | ⟨p, hp, hno⟩ | ⟨a, b, hp⟩
    · exact absurd rfl hop
    · rw [mapPaths, mapPaths, QueryLemmas.step_openbin s _ m hc, QueryLemmas.step_openbin _ _ m hc',
        hv p (List.mem_singleton_self p)]
      split
      · exact (graft_fail h _).symm
      · cases validate (g p) with
        | err e => exact (graft_fail h _).symm
        | ok cs => exact step1_graft s sub cs es _ h (Or.inr rfl)
    · have hm : p ∈ op.paths := hp ▸ List.mem_singleton_self p
      rw [step_mapPaths_one f s hc hp hno, step_mapPaths_one g _ hc' hp hno, hv p hm]
      cases hg : validate (g p) with
      | err e => exact (graft_fail h _).symm
      | ok cs => exact step1_graft s sub cs es op h (hsp.symm.imp_left fun hh e => hh p hm (e ▸ hg))
    · rw [step_mapPaths_two f s hc hp, step_mapPaths_two g _ hc' hp, hv a (by simp [hp]), hv b (by simp [hp])]
      cases validate (g a) with
      | err e => exact (graft_fail h _).symm
      | ok ca =>
        cases validate (g b) with
        | err e => exact (graft_fail h _).symm
        | ok cb => exact step2_graft s sub ca cb es op h

/-! ### `isempty` is `listdir`, post-processed -/

/-- what `FS.isempty` makes of the outcome of the scan it starts: is there a first entry? -/
def firstOf : Out → Out
  | .ok (.names l) => .ok (.bool l.isEmpty)
  | o => o

theorem firstOf_err_iff {o : Out} {e : Err} : firstOf o = .err e ↔ o = .err e := by
  cases o with
  | err e' => exact Iff.rfl
  | ok v => cases v <;> simp [firstOf]

theorem firstOf_isOk (o : Out) : (firstOf o).isOk = o.isOk := by
  cases o with
  | err e => rfl
  | ok v => cases v <;> rfl

def empPost {α : Type} (r : α × Out) : α × Out := (r.1, firstOf r.2)

theorem ref_isempty (s : State) (p : Str) :
    Ref.step s (.isempty p) = empPost (Ref.step s (.listdir p)) := by
  cases hc : s.closed with
  | true => rw [QueryLemmas.step_closed s _ (by simp) hc, QueryLemmas.step_closed s _ (by simp) hc]; rfl
  | false =>
    rw [QueryLemmas.step_one s _ p hc rfl (by simp), QueryLemmas.step_one s _ p hc rfl (by simp)]
    cases validate p with
    | err e => rfl
    | ok cs =>
      simp only [step1]
      cases s.root.get cs with
      | none => rfl
      | some n => cases n <;> simp [fail, done, Ents.names, empPost, firstOf]

theorem adm_isempty (s : State) (p : Str) : adm s (.isempty p) = adm s (.listdir p) := by
  cases hc : s.closed with
  | true => rw [QueryLemmas.adm_closed s _ (by simp) hc, QueryLemmas.adm_closed s _ (by simp) hc]
  | false =>
    rw [QueryLemmas.adm_one s _ p hc rfl (by simp), QueryLemmas.adm_one s _ p hc rfl (by simp)]
    cases validate p <;> rfl

/-! ### paths: what `SubFS.delegate_path` returns, in terms of `Ref.validate` -/

section Paths
open Fs.Path Fs.PathSpec Fs.PathLemmas Fs.ConfineLemmas

/-- the absolute path string `"/" ++ "/".join(cs)` (`C03.absOf`) -/
def absOf (cs : List Name) : Str := mkp true cs

theorem noNul_of_cleanName {cs : List Name} (h : ∀ c ∈ cs, cleanName c = true) :
    ∀ c ∈ cs, '\x00' ∉ c :=
  fun c hc => (cleanName_iff.1 (h c hc)).2

theorem nul_not_mem_absOf {cs : List Name} (h : ∀ c ∈ cs, '\x00' ∉ c) : '\x00' ∉ absOf cs :=
  not_mem_mkp (by decide) true h

theorem validate_absOf {cs : List Name} (h : ∀ c ∈ cs, cleanName c = true) : validate (absOf cs) = .ok cs :=
  validate_mkp true h

theorem absOf_inj {ca cb : List Name} (ha : ∀ c ∈ ca, cleanName c = true) (hb : ∀ c ∈ cb, cleanName c = true) :
    absOf ca = absOf cb ↔ ca = cb :=
  ⟨mkp_inj (clean_of_cleanName ha) (clean_of_cleanName hb), fun h => h ▸ rfl⟩

theorem validate_ok_resolve {p : Str} {cs : List Name} (h : validate p = .ok cs) :
    resolve (splitSlash p) = some cs :=
  (validate_iff.1 h).2

/-- a NUL-free path either validates or climbs -/
theorem validate_err_noNul {p : Str} {e : Err} (hn : '\x00' ∉ p) (h : validate p = .err e) :
    e = .IllegalBackReference ∧ resolve (splitSlash p) = none := by
  unfold validate at h
  have : p.contains '\x00' = false := by simpa using hn
  rw [this] at h
  simp only [Bool.false_eq_true, if_false] at h
  exact iteratepath_err p e h

/-- the invalid-character test is the first statement of `SubFS.delegate_path` -/
theorem delegate_of_nul {sub : List Name} {p : Str} (hn : '\x00' ∈ p) :
    Wrap.Sub.delegate (absOf sub) p = .err .InvalidCharsInPath := by
  simp [Wrap.Sub.delegate, Wrap.Sub.delegateWith, hn]

theorem delegate_noNul {sub : List Name} {p : Str} (hn : '\x00' ∉ p) :
    Wrap.Sub.delegate (absOf sub) p = Confine.subDelegate (absOf sub) p := by
  simp [Wrap.Sub.delegate, Wrap.Sub.delegateWith, hn]

/-- `SubFS.delegate_path` on a NUL-free path that resolves: the sub-directory followed by the
components (`C03.sub_delegate_eq`) -/
theorem delegate_of_resolve {sub cs : List Name} {p : Str} (hs : Clean sub) (hn : '\x00' ∉ p)
    (hr : resolve (splitSlash p) = some cs) :
    Wrap.Sub.delegate (absOf sub) p = .ok (absOf (sub ++ cs)) := by
  rw [delegate_noNul hn, absOf, subDelegate_eq hs, hr]; rfl

/-- … and on a NUL-free path that climbs: refused, before anything is handed to the parent
(`C03.sub_delegate_err_iff`) -/
theorem delegate_of_climb {sub : List Name} {p : Str} (hn : '\x00' ∉ p) (hr : resolve (splitSlash p) = none) :
    Wrap.Sub.delegate (absOf sub) p = .err .IllegalBackReference := by
  rw [delegate_noNul hn]
  simp only [Confine.subDelegate]
  rw [normpath_err_of_resolve p hr, bind_err]

/-- **`delegate_path` is `validatepath` followed by the prefix**: it fails exactly when the
reference's `validate` fails, with the same class, and otherwise hands the parent the
sub-directory followed by the validated components -/
theorem delegate_eq_validate {sub : List Name} (hs : Clean sub) (p : Str) :
    Wrap.Sub.delegate (absOf sub) p =
      (match validate p with
       | .ok cs => .ok (absOf (sub ++ cs))
       | .err e => .err e) := by
  by_cases hn : '\x00' ∈ p
  · rw [delegate_of_nul hn]; simp [validate, hn]
  · cases hr : resolve (splitSlash p) with
    | some cs =>
      rw [delegate_of_resolve hs hn hr]
      simp [validate, hn, ConfineLemmas.iteratepath_of_resolve p cs hr]
    | none =>
      rw [delegate_of_climb hn hr]
      simp [validate, hn, iteratepath_eq_resolve, hr]

theorem not_nul_of_validate_ok {p : Str} {cs : List Name} (h : validate p = .ok cs) : '\x00' ∉ p :=
  (validate_iff.1 h).1

theorem isRootPath_of_resolve {p : Str} {cs : List Name} (hr : resolve (splitSlash p) = some cs) :
    Wrap.isRootPath p = .ok (decide (cs = [])) := by
  have hc : Clean cs := resolve_result_clean p cs hr
  simp only [Wrap.isRootPath]
  rw [normpath_of_resolve p cs hr]
  simp only [abspath_mkp hc, mkp_true_beq hc]

theorem isRootPath_of_climb {p : Str} (hr : resolve (splitSlash p) = none) :
    Wrap.isRootPath p = .err .IllegalBackReference := by
  simp only [Wrap.isRootPath]
  rw [normpath_err_of_resolve p hr]

/-- `join(_delegate_path, info.name)` in the root branch of `WrapFS.removetree` -/
theorem join_child {pth : List Name} {n : Name} (hp : Clean pth) (hn : cleanName n = true) :
    join [absOf pth, n] = .ok (absOf (pth ++ [n])) := by
  have hc : Clean [n] := clean_of_cleanName (cs := [n]) (by simpa using hn)
  exact join_mkp (a := true) (bs := [n]) hp hc

end Paths

/-! ### `adm` below a prefix -/

theorem kindAt_sub {t u : Node} {sub : List Name} (h : t.get sub = some u) (r : List Name) :
    kindAt t (sub ++ r) = kindAt u r := by
  simp only [kindAt, get_sub h]

theorem adm1_mapPaths (f : Str → Str) (t : Node) (cs : List Name) (op : Op) :
    adm1 t cs (mapPaths f op) = adm1 t cs op := by cases op <;> rfl

theorem adm2_mapPaths (f : Str → Str) (t : Node) (a b : List Name) (op : Op) :
    adm2 t a b (mapPaths f op) = adm2 t a b op := by cases op <;> rfl

theorem adm_mapPaths_one (f : Str → Str) (s : State) {op : Op} {p : Str} (hc : s.closed = false)
    (hp : op.paths = [p]) (hno : ∀ q m, op ≠ .openbin q m) :
    adm s (mapPaths f op) = match validate (f p) with
      | .err e => [e]
      | .ok cs => adm1 s.root cs op := by
  rw [QueryLemmas.adm_one s _ (f p) hc (by rw [paths_mapPaths, hp]; rfl) (mapPaths_ne_openbin f hno)]
  simp only [adm1_mapPaths]
  rfl

theorem mem_ite_mono {c c' : Prop} [Decidable c] [Decidable c'] {l l' : List Err} {e : Err} (hc : c → c')
    (hl : e ∈ l → e ∈ l') (he : e ∈ if c then l else []) : e ∈ if c' then l' else [] := by
  split at he
  · next h => rw [if_pos (hc h)]; exact hl he
  · cases he

section AdmBelow
variable {t : Node} {sub : List Name} {es : Ents} (h : t.get sub = some (.dir es))
include h

theorem kindAt_parentOf_sub (r : List Name) :
    kindAt t (parentOf (sub ++ r)) = kindAt (.dir es) (parentOf r) := by
  by_cases hr : r = []
  · subst hr
    rw [List.append_nil]
    by_cases hsub : sub = []
    · subst hsub; cases Option.some.inj h; rfl
    · obtain ⟨ps, hps⟩ := get_parent_dir hsub h
      simp only [kindAt, parentOf] at hps ⊢
      rw [hps]; rfl
  · rw [parentOf_append sub r hr, kindAt_sub h]

theorem admDirArg_sub (r : List Name) : admDirArg t (sub ++ r) = admDirArg (.dir es) r := by
  simp only [admDirArg, kindAt_sub h, blocked_sub [] sub h]

theorem admFileArg_sub (r : List Name) (e : Err) (he : e ∈ admFileArg t (sub ++ r)) :
    e ∈ admFileArg (.dir es) r := by
  simp only [admFileArg, kindAt_sub h, blocked_sub [] sub h, List.mem_append] at he ⊢
  exact he.imp_left (Or.imp_left (mem_ite_mono (Or.imp_right fun e => (List.append_eq_nil_iff.1 e).2) id))

theorem admFileTarget_sub (r : List Name) (e : Err) (he : e ∈ admFileTarget t (sub ++ r)) :
    e ∈ admFileTarget (.dir es) r := by
  simp only [admFileTarget, kindAt_sub h, kindAt_parentOf_sub h, blocked_sub [] sub h, List.mem_append] at he ⊢
  exact he.imp_left (Or.imp (mem_ite_mono (Or.imp_left fun e => (List.append_eq_nil_iff.1 e).2) id)
    (mem_ite_mono (fun ⟨_, hk⟩ => ⟨fun e => hk (by subst e; rfl), hk⟩) id))

/-- every error class admissible for the parent at `sub ++ cs` is admissible for the sub-tree at `cs` -/
theorem adm1_sub_subset (cs : List Name) (op : Op) (e : Err) (he : e ∈ adm1 t (sub ++ cs) op) :
    e ∈ adm1 (.dir es) cs op := by
  have hnil : sub ++ cs = [] → cs = [] := fun e => (List.append_eq_nil_iff.1 e).2
  cases op with
  | readbytes _ => exact admFileArg_sub h cs e he
  | writebytes _ _ | appendbytes _ _ | create _ _ | touch _ => exact admFileTarget_sub h cs e he
  | makedir _ r =>
    simp only [adm1, kindAt_sub h, kindAt_parentOf_sub h, blocked_sub [] sub h, List.mem_append] at he ⊢
    exact he.imp_left (Or.imp_right (mem_ite_mono (fun ⟨_, hk⟩ => ⟨fun e => (by subst e; cases hk), hk⟩) id))
  | openbin _ m =>
    revert he
    simp only [adm1]
    cases parseBinMode m with
    | none =>
      simp only [List.mem_cons]
      exact Or.imp_right (admFileArg_sub h cs e)
    | some md =>
      simp only [kindAt_sub h, List.mem_append]
      exact Or.imp_left (Or.imp_left (admFileTarget_sub h cs e))
  | remove _ =>
    simp only [adm1, List.mem_append] at he ⊢
    exact he.imp (admFileArg_sub h cs e) (mem_ite_mono hnil id)
  | removedir _ =>
    simp only [adm1, admDirArg_sub h, get_sub h, List.mem_append] at he ⊢
    exact he.imp_left (Or.imp_right (mem_ite_mono hnil id))
  | _ =>
    simp only [adm1, admDirArg_sub h, kindAt_sub h, blocked_sub [] sub h] at he ⊢
    exact he

theorem adm2_sub_subset (a b : List Name) (op : Op) (e : Err) (he : e ∈ adm2 t (sub ++ a) (sub ++ b) op) :
    e ∈ adm2 (.dir es) a b op := by
  cases op with
  | move _ _ ow =>
    simp only [adm2, kindAt_sub h, ne_eq, List.append_cancel_left_eq, List.mem_append] at he ⊢
    exact he.imp (Or.imp_left (admFileArg_sub h a e)) (mem_ite_mono id (admFileTarget_sub h b e))
  | copy _ _ ow =>
    simp only [adm2, kindAt_sub h, List.append_cancel_left_eq, List.mem_append] at he ⊢
    refine he.imp (Or.imp_left (admFileArg_sub h a e)) fun he => ?_
    split at he
    · next hab => rw [if_pos hab]; exact he
    · next hab => rw [if_neg hab]; exact admFileTarget_sub h b e he
  | movedir _ _ c | copydir _ _ c =>
    simp only [adm2, admDirArg_sub h, isPrefix_append, kindAt_sub h, kindAt_parentOf_sub h, blocked_sub [] sub h,
      List.append_cancel_left_eq] at he ⊢
    exact he
  | _ => exact he

end AdmBelow

/-- The root-special operations are no exception here: at its own root the sub-tree has more admissible
classes, not fewer. -/
theorem adm_below (t : Node) (sub : List Name) (es : Ents) (op : Op) (f : Str → Str)
    (h : t.get sub = some (.dir es)) (hop : op ≠ .close)
    (hv : ∀ p ∈ op.paths, ∃ cs, validate p = .ok cs ∧ validate (f p) = .ok (sub ++ cs)) :
    ∀ e ∈ adm ⟨t, false⟩ (mapPaths f op), e ∈ adm ⟨.dir es, false⟩ op := by
  intro e he
  have one : ∀ p, op.paths = [p] → e ∈ adm ⟨.dir es, false⟩ op := fun p hp => by
    obtain ⟨cs, h1, h2⟩ := hv p (hp ▸ List.mem_singleton_self p)
    rw [QueryLemmas.adm_admitted rfl (by rw [paths_mapPaths, hp]; rfl) h2, adm1_mapPaths] at he
    rw [QueryLemmas.adm_admitted rfl hp h1]
    exact adm1_sub_subset h cs op e he
  rcases QueryLemmas.op_cases op with rfl | ⟨p, m, rfl⟩ | ⟨p, hp, -⟩ | ⟨a, b, hp⟩
  · exact absurd rfl hop
  · exact one p rfl
  · exact one p hp
  · obtain ⟨ca, ha1, ha2⟩ := hv a (by simp [hp])
    obtain ⟨cb, hb1, hb2⟩ := hv b (by simp [hp])
    rw [(QueryLemmas.step_two_admitted rfl (by rw [paths_mapPaths, hp]; rfl) ha2 hb2).2, adm2_mapPaths] at he
    rw [(QueryLemmas.step_two_admitted rfl hp ha1 hb1).2]
    exact adm2_sub_subset h ca cb op e he

/-- `adm_below` under the hypothesis `ref_step_graft` makes on the root-special operations, which it does not need -/
theorem adm_sub_subset (t : Node) (sub : List Name) (es : Ents) (op : Op) (f : Str → Str)
    (h : t.get sub = some (.dir es)) (hop : op ≠ .close)
    (hv : ∀ p ∈ op.paths, ∃ cs, validate p = .ok cs ∧ validate (f p) = .ok (sub ++ cs))
    (hsp : rootSpecial op = false ∨ ∀ p ∈ op.paths, validate p ≠ .ok []) :
    ∀ e ∈ adm ⟨t, false⟩ (mapPaths f op), e ∈ adm ⟨.dir es, false⟩ op :=
  have _ := hsp
  adm_below t sub es op f h hop hv

/-! ### paths that diverge from the replaced one -/

/-- FRAME for `setAt`: a path that is neither at/below `sub` nor an ancestor of it sees nothing -/
theorem get_setAt_diverge (sub q : List Name) (t v : Node) (h1 : ¬ sub <+: q) (h2 : ¬ q <+: sub) :
    (setAt t sub v).get q = t.get q := by
  unfold setAt
  split
  · next hs => subst hs; exact absurd List.nil_prefix h1
  · exact get_set_disjoint sub q t v h1 h2

end Fs.WrapLemmas
