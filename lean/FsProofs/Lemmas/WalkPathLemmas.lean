/-
  String-level facts of the walk model: on rendered component paths `_calculate_depth` counts the
  components, `combine(dir, name)` — the glob string of directory *and* file entries — renders the
  extended component list, and `abspath(normpath(·))` of a rendered path gives back its components.
-/
import FsModel.Walk
import FsProofs.Lemmas.PathLemmas

namespace Fs.WalkPathLemmas
open Fs Fs.Path Fs.PathSpec Fs.PathLemmas Fs.Walk

theorem render_eq_mkp (cs : WPath) : render cs = mkp true cs := rfl

/-- `_calculate_depth` of a rendered clean component path is its number of components -/
theorem calculateDepth_render (cs : WPath) (h : Clean cs) : calculateDepth (render cs) = cs.length := by
  unfold calculateDepth
  rw [render_eq_mkp, stripSlash_mkp h]
  by_cases hne : cs = []
  · subst hne; simp [joinWith]
  · have hj : joinWith '/' cs ≠ [] := fun e => hne ((join_clean_eq_nil_iff h).1 e)
    simp only [beq_iff_eq, hj, if_false]
    rw [← length_splitOn, splitOn_join_clean h hne]

/-- the glob string of a directory entry is the rendered extended path -/
theorem dirGlobPath_eq (dir : WPath) (k : Name) (h : Clean (dir ++ [k])) :
    dirGlobPath dir k = render (dir ++ [k]) :=
  combine_mkp (a := true) (clean_append.1 h).1 (startsWithSlash_of_not_mem k ((clean_append.1 h).2 k List.mem_cons_self).2.2.2)

/-- the glob string of a file entry is the rendered extended path, in the root too (/repo a47d87a) -/
theorem fileGlobPath_eq (dir : WPath) (k : Name) (h : Clean (dir ++ [k])) :
    fileGlobPath dir k = render (dir ++ [k]) := dirGlobPath_eq dir k h

/-- `abspath(normpath(p))` of the path string of a clean component list (absolute or relative
spelling) has exactly these components -/
theorem startOf_mkp (a : Bool) (cs : WPath) (h : Clean cs) : startOf (mkp a cs) = .ok cs := by
  unfold startOf
  rw [normpath_mkp h]
  simp only [Res.map, abspath_mkp h, ConfineLemmas.comps_mkp h]

end Fs.WalkPathLemmas
