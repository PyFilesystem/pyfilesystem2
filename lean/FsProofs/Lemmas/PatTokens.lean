/-
  The pattern of `wildcard._translate` / `glob._translate` as a token list.

  `WildSpec.tokenize` is THE scanner: `lex` is one step of it, `tokenize` its iteration, and each of the four
  recursions over a pattern (`Wild.textGo`, `Wild.go`, `Glob.textGo`, `Glob.go`) is a fold over `tokenize` of a
  per-token table (`tokText g`, `tokItems g`; `g = true` for glob).  Printing (`tok_prints`, here) and parsing back
  (`tok_piece` in RegexParseItems) are then facts about ONE token; the index loops of the generated code do one `lex`
  step per round (`pyWhile_lexStep` in WildGenLemmas).

  Three namespaces: the token layer itself is `Fs.PatTokens`; what it rests on is declared where the files that
  import this one look for it — facts about the model's own functions (`findClose`, `rawItems`, `hasSS`,
  `wildItem`/`globItem`, `scanClass_neg`) in `Fs.GlobLemmas`, the raw text of a bracket expression (`negOf`,
  `bodyOf`, `StuffOk`, `classText_eq`, `scanClass_stuffOk`) and `seqRes` in `Fs.RegexParseLemmas`.
-/
import FsModel.Glob

namespace Fs.GlobLemmas
open Fs Fs.Regex Fs.WildSpec

theorem findClose_some (r : Str) : ∀ j, findClose r = some j → j < r.length ∧ ∀ c ∈ r.take j, c ≠ ']' := by
  induction r with
  | nil => intro j h; cases h
  | cons x r ih =>
    intro j h
    simp only [findClose] at h
    split at h
    · cases h; exact ⟨Nat.succ_pos _, fun c hc => nomatch hc⟩
    · cases hf : findClose r with
      | none => rw [hf] at h; cases h
      | some j' =>
        rw [hf] at h; cases h
        obtain ⟨hl, hn⟩ := ih j' hf
        refine ⟨Nat.succ_lt_succ hl, fun c hc => ?_⟩
        rcases List.mem_cons.1 hc with rfl | hc
        · assumption
        · exact hn c hc

theorem closeIdx_some (b : Str) (k : Nat) (h : closeIdx b = some k) :
    ∃ c r j, b = c :: r ∧ findClose r = some j ∧ k = j + 1 := by
  cases b with
  | nil => cases h
  | cons c r =>
    simp only [closeIdx] at h
    cases hf : findClose r with
    | none => rw [hf] at h; cases h
    | some j => rw [hf] at h; cases h; exact ⟨c, r, j, rfl, hf, rfl⟩

theorem closeIdx_lt (r : Str) (k : Nat) (h : closeIdx r = some k) : k < r.length := by
  obtain ⟨c, r, j, rfl, hf, rfl⟩ := closeIdx_some r k h
  exact Nat.succ_lt_succ (findClose_some r j hf).1

theorem untilClose_eq (r : Str) :
    Wild.untilClose r = (findClose r).map fun j => (r.take j, r.drop (j + 1)) := by
  induction r with
  | nil => rfl
  | cons c r ih =>
    simp only [Wild.untilClose, findClose]
    split
    · simp
    · rw [ih]; cases findClose r <;> simp

/-- the regex item `wildcard._translate` emits for one token of the pattern -/
def wildItem : Tok → TR Item
  | .star => .ok (.star Wild.notSlash false)
  | .any => .ok (.one .any)
  | .lit c => .ok (.one (.chr (LChar.lit c)))
  | .cls neg body => (Wild.rawItems body (!neg)).map fun l => .one (.set neg l)

/-- the regex items `glob._translate` emits for one token of a component -/
def globItem : Tok → TR (List Item)
  | .star => .ok [.star Wild.notSlash false]
  | .any => .ok [.one Wild.notSlash]
  | .lit c => .ok [.one (.chr (LChar.lit c))]
  | .cls neg body =>
    (Wild.rawItems body (!neg)).map fun l => [.notAhead Glob.slash, .one (.set neg l)]

theorem mapM'_cons {α β} (f : α → TR β) (a : α) (as : List α) :
    Glob.mapM' f (a :: as) = (match f a with | .err e => .err e | .ok b => (Glob.mapM' f as).map (b :: ·)) := rfl

theorem hasSS_tail (c : Char) (cs : Str) (h : Glob.hasSS (c :: cs) = false) : Glob.hasSS cs = false := by
  cases cs with
  | nil => rfl
  | cons d r =>
    by_cases h1 : c = '*' ∧ d = '*'
    · obtain ⟨rfl, rfl⟩ := h1
      have : Glob.hasSS ('*' :: '*' :: r) = true := by rw [Glob.hasSS]
      rw [this] at h; cases h
    · rw [Glob.hasSS] at h
      · exact h
      · intro r' hc he; simp at he; exact h1 ⟨hc, he.1⟩

theorem hasSS_head (cs : Str) (h : Glob.hasSS ('*' :: cs) = false) : cs.head? ≠ some '*' := by
  cases cs with
  | nil => simp
  | cons d r =>
    intro hd
    simp at hd; subst hd
    have : Glob.hasSS ('*' :: '*' :: r) = true := by rw [Glob.hasSS]
    rw [this] at h; cases h

def rawText : Bool → Str → Str
  | _, [] => []
  | first, c :: rest => (Wild.rawChar first c).toPy ++ rawText false rest

theorem rawText_false (s : Str) : rawText false s = Wild.escBackslash s := by
  induction s with
  | nil => rfl
  | cons c s ih =>
    simp only [rawText, ih, Wild.escBackslash, List.flatMap_cons, Wild.rawChar, LChar.toPy]
    by_cases hc : c = '\\' <;> simp [hc]

theorem rawItems_range (a b : Char) (rest : Str) (first : Bool) :
    Wild.rawItems (a :: '-' :: b :: rest) first =
      if b < a then .err .reError
      else (Wild.rawItems rest false).map (.range (Wild.rawChar first a) (Wild.rawChar false b) :: ·) := by
  rw [Wild.rawItems]
  split
  · rfl
  · cases Wild.rawItems rest false <;> rfl

theorem rawItems_single (a : Char) (rest : Str) (first : Bool) (h : ∀ b r, rest ≠ '-' :: b :: r) :
    Wild.rawItems (a :: rest) first = (Wild.rawItems rest false).map (.ch (Wild.rawChar first a) :: ·) := by
  rw [Wild.rawItems]
  · cases Wild.rawItems rest false <;> rfl
  · exact h

/-- for statements that do not ask what the rest yields (after a range the rest is read only if the range is in order) -/
theorem rawItems_induct {motive : Str → Bool → Prop} (nil : ∀ first, motive [] first)
    (range : ∀ a b rest first, (¬ b < a → motive rest false) → motive (a :: '-' :: b :: rest) first)
    (single : ∀ a rest first, (∀ b r, rest ≠ '-' :: b :: r) → motive rest false → motive (a :: rest) first)
    (s : Str) (first : Bool) : motive s first := by
  induction s, first using Wild.rawItems.induct with
  | case1 first => exact nil first
  | case2 a b rest first hlt => exact range a b rest first (fun h => absurd hlt h)
  | case3 a b rest first hlt l' hl ih => exact range a b rest first (fun _ => ih)
  | case4 a b rest first hlt e he ih => exact range a b rest first (fun _ => ih)
  | case5 a rest first hne l' hl ih => exact single a rest first hne ih
  | case6 a rest first hne e he ih => exact single a rest first hne ih

theorem rawItems_print (body : Str) (first : Bool) :
    ∀ l, Wild.rawItems body first = .ok l → l.flatMap SetItem.toPy = rawText first body := by
  fun_induction Wild.rawItems body first with
  | case1 first => intro l h; cases h; rfl
  | case2 a b rest first hlt => intro l h; cases h
  | case3 a b rest first hlt l' hl ih =>
    intro l h; cases h
    simp only [List.flatMap_cons, SetItem.toPy, ih l' hl, rawText]
    simp [Wild.rawChar, LChar.toPy]
  | case4 a b rest first hlt e he ih => intro l h; cases h
  | case5 a rest first hne l' hl ih =>
    intro l h; cases h
    simp only [List.flatMap_cons, SetItem.toPy, ih l' hl, rawText]
  | case6 a rest first hne e he ih => intro l h; cases h

theorem rawItems_err (body : Str) (first : Bool) :
    ∀ e, Wild.rawItems body first = .err e → e = .reError := by
  fun_induction Wild.rawItems body first with
  | case1 first => intro e h; cases h
  | case2 a b rest first hlt => intro e h; cases h; rfl
  | case3 a b rest first hlt l' hl ih => intro e h; cases h
  | case4 a b rest first hlt e' he ih => intro e h; cases h; exact ih e' he
  | case5 a rest first hne l' hl ih => intro e h; cases h
  | case6 a rest first hne e' he ih => intro e h; cases h; exact ih e' he

theorem escBackslash_cons (c : Char) (s : Str) :
    Wild.escBackslash (c :: s) = (if c = '\\' then ['\\', '\\'] else [c]) ++ Wild.escBackslash s := by
  simp [Wild.escBackslash]

theorem itemsToPy_append (a b : List Item) : itemsToPy (a ++ b) = itemsToPy a ++ itemsToPy b := by
  simp [itemsToPy]

end Fs.GlobLemmas

namespace Fs.RegexParseLemmas
open Fs Fs.Regex Fs.GlobLemmas

def negOf (stuff : Str) : Bool := stuff.head? == some '!'

/-- the body of a bracket expression: its text after an optional `!` -/
def bodyOf (stuff : Str) : Str := if negOf stuff then stuff.tail else stuff

/-- the raw text of a bracket expression found by `Wild.scanClass`: its body is non-empty, and only the first
character of the body can be `]` -/
def StuffOk (stuff : Str) : Prop := bodyOf stuff ≠ [] ∧ ∀ c ∈ (bodyOf stuff).tail, c ≠ ']'

theorem classText_eq (stuff : Str) :
    Wild.classText ['^'] stuff =
      '[' :: ((if negOf stuff then '^' :: rawText false (bodyOf stuff) else rawText true stuff) ++ [']']) := by
  cases stuff with
  | nil => simp [Wild.classText, Wild.escBackslash, rawText, negOf]
  | cons c r =>
    by_cases h1 : c = '!'
    · subst h1
      simp [Wild.classText, escBackslash_cons, rawText_false, negOf, bodyOf]
    · have hn : negOf (c :: r) = false := by simp [negOf, h1]
      simp only [hn, Bool.false_eq_true, if_false]
      by_cases h2 : c = '^'
      · subst h2
        simp [Wild.classText, escBackslash_cons, rawText, rawText_false, Wild.rawChar, LChar.toPy]
      · by_cases h3 : c = '\\'
        · subst h3
          simp [Wild.classText, escBackslash_cons, rawText, rawText_false, Wild.rawChar, LChar.toPy]
        · simp [Wild.classText, escBackslash_cons, rawText, rawText_false, Wild.rawChar, LChar.toPy, h1, h2, h3]

def seqRes {β} (r1 r2 : TR (List β)) : TR (List β) :=
  match r1 with
  | .err e => .err e
  | .ok i1 => r2.map (i1 ++ ·)

end Fs.RegexParseLemmas

namespace Fs.PatTokens
open Fs Fs.Regex Fs.WildSpec Fs.GlobLemmas Fs.RegexParseLemmas

/-- the raw text `pattern[i:j]` of the bracket expression `[!body]` / `[body]` -/
def stuffOf (neg : Bool) (body : Str) : Str := if neg then '!' :: body else body

def clsTok (stuff : Str) : Tok := .cls (negOf stuff) (bodyOf stuff)

theorem stuffOf_eq (stuff : Str) : stuffOf (negOf stuff) (bodyOf stuff) = stuff := by
  cases stuff with
  | nil => rfl
  | cons c r =>
    by_cases hc : c = '!'
    · subst hc; rfl
    · simp [stuffOf, negOf, bodyOf, hc]

theorem clsTok_stuffOf (neg : Bool) (b : Str) (h : neg = false → b.head? ≠ some '!') :
    clsTok (stuffOf neg b) = .cls neg b := by
  cases neg
  · have : negOf b = false := by simpa [negOf] using h rfl
    simp [clsTok, stuffOf, bodyOf, this]
  · rfl

theorem bodyOf_head (cs : Str) (h : negOf cs = false) : (bodyOf cs).head? ≠ some '!' := by
  simp only [bodyOf, h, Bool.false_eq_true, if_false]; simpa [negOf] using h

/-- `Wild.scanClass` is unfolded here and nowhere else -/
theorem scanClass_stuffOf (neg : Bool) (b : Str) (h : neg = false → b.head? ≠ some '!') :
    Wild.scanClass (stuffOf neg b) = (closeIdx b).map fun k => (stuffOf neg (b.take k), b.drop (k + 1)) := by
  cases b with
  | nil => cases neg <;> rfl
  | cons c r =>
    by_cases hc : c = ']'
    · subst hc
      cases neg <;> simp only [stuffOf, Wild.scanClass, closeIdx, untilClose_eq] <;> cases hf : findClose r <;>
        simp [hf]
    · have : Wild.scanClass (stuffOf neg (c :: r)) =
          (Wild.untilClose (c :: r)).map fun p => (stuffOf neg p.1, p.2) := by
        cases neg
        · have : c ≠ '!' := by simpa using h rfl
          simp [Wild.scanClass, stuffOf, this, hc]
          cases Wild.untilClose (c :: r) <;> rfl
        · simp [Wild.scanClass, stuffOf, hc]
          cases Wild.untilClose (c :: r) <;> rfl
      rw [this, untilClose_eq]
      simp only [findClose, closeIdx, hc, if_false]
      cases findClose r <;> simp

theorem scanClass_eq (cs : Str) :
    Wild.scanClass cs =
      (closeIdx (bodyOf cs)).map fun k =>
        (stuffOf (negOf cs) ((bodyOf cs).take k), (bodyOf cs).drop (k + 1)) := by
  have := scanClass_stuffOf (negOf cs) (bodyOf cs) (bodyOf_head cs)
  rwa [stuffOf_eq] at this

theorem closeIdx_pos (r : Str) (k : Nat) (h : closeIdx r = some k) : 0 < k := by
  obtain ⟨_, _, j, _, _, rfl⟩ := closeIdx_some r k h
  exact Nat.succ_pos j

theorem clsTok_take (cs : Str) (k : Nat) (hk : closeIdx (bodyOf cs) = some k) :
    clsTok (stuffOf (negOf cs) ((bodyOf cs).take k)) = .cls (negOf cs) ((bodyOf cs).take k) :=
  clsTok_stuffOf _ _ fun h => by
    rw [List.head?_take, if_neg (by have := closeIdx_pos _ k hk; omega)]; exact bodyOf_head cs h

end Fs.PatTokens

namespace Fs.RegexParseLemmas
open Fs.WildSpec Fs.PatTokens

theorem scanClass_stuffOk (cs stuff rest : Str) (h : Wild.scanClass cs = some (stuff, rest)) : StuffOk stuff := by
  rw [scanClass_eq] at h
  cases hk : closeIdx (bodyOf cs) with
  | none => rw [hk] at h; cases h
  | some k =>
    rw [hk] at h; cases h
    rw [StuffOk, (Tok.cls.inj (clsTok_take cs k hk)).2]
    obtain ⟨x, r, j, hr, hf, rfl⟩ := GlobLemmas.closeIdx_some _ k hk
    rw [hr]
    exact ⟨by simp, by simpa using (GlobLemmas.findClose_some r j hf).2⟩

end Fs.RegexParseLemmas

namespace Fs.GlobLemmas
open Fs.WildSpec Fs.PatTokens

theorem scanClass_neg (r : Str) :
    Wild.scanClass ('!' :: r) = (closeIdx r).map fun k => ('!' :: r.take k, r.drop (k + 1)) :=
  scanClass_stuffOf true r (fun h => nomatch h)

end Fs.GlobLemmas

namespace Fs.PatTokens
open Fs Fs.Regex Fs.WildSpec Fs.GlobLemmas Fs.RegexParseLemmas

/-- the token at the head of the pattern `c :: cs` and the number of characters of `cs` it takes -/
def lex (c : Char) (cs : Str) : Tok × Nat :=
  if c = '*' then (.star, 0)
  else if c = '?' then (.any, 0)
  else if c = '[' then
    match Wild.scanClass cs with
    | none => (.lit '[', 0)
    | some (stuff, _) => (clsTok stuff, stuff.length + 1)
  else (.lit c, 0)

/-- the case analysis of `_translate` -/
theorem lex_cases (c : Char) (cs : Str) :
    (c = '*' ∧ lex c cs = (.star, 0)) ∨ (c = '?' ∧ lex c cs = (.any, 0)) ∨
    (c = '[' ∧ Wild.scanClass cs = none ∧ lex c cs = (.lit '[', 0)) ∨
    (∃ stuff rest, c = '[' ∧ Wild.scanClass cs = some (stuff, rest) ∧ lex c cs = (clsTok stuff, stuff.length + 1)) ∨
    (c ≠ '*' ∧ c ≠ '?' ∧ c ≠ '[' ∧ lex c cs = (.lit c, 0)) := by
  unfold lex
  by_cases h1 : c = '*'
  · exact .inl ⟨h1, if_pos h1⟩
  · by_cases h2 : c = '?'
    · exact .inr (.inl ⟨h2, by rw [if_neg h1, if_pos h2]⟩)
    · rw [if_neg h1, if_neg h2]
      by_cases h3 : c = '['
      · rw [if_pos h3]
        cases hs : Wild.scanClass cs with
        | none => exact .inr (.inr (.inl ⟨h3, rfl, rfl⟩))
        | some p => exact .inr (.inr (.inr (.inl ⟨p.1, p.2, h3, rfl, rfl⟩)))
      · exact .inr (.inr (.inr (.inr ⟨h1, h2, h3, if_neg h3⟩)))

theorem lex_bracket (cs : Str) :
    lex '[' cs =
      match closeIdx (bodyOf cs) with
      | some k => (.cls (negOf cs) ((bodyOf cs).take k), k + (if negOf cs then 2 else 1))
      | none => (.lit '[', 0) := by
  simp only [lex, Char.reduceEq, if_false, if_true, scanClass_eq]
  cases hk : closeIdx (bodyOf cs) with
  | none => rfl
  | some k =>
    simp only [Option.map_some]
    rw [clsTok_take cs k hk]
    cases negOf cs <;> simp [stuffOf, List.length_take_of_le (Nat.le_of_lt (closeIdx_lt _ k hk))]

theorem tokenize_lex (c : Char) (cs : Str) : tokenize (c :: cs) 0 = (lex c cs).1 :: tokenize cs (lex c cs).2 := by
  by_cases h3 : c = '['
  · subst h3
    rw [lex_bracket]
    show (match closeIdx (bodyOf cs) with
      | some k => Tok.cls (negOf cs) ((bodyOf cs).take k) :: tokenize cs (k + (if negOf cs then 2 else 1))
      | none => Tok.lit '[' :: tokenize cs 0) = _
    cases closeIdx (bodyOf cs) <;> rfl
  · rcases lex_cases c cs with ⟨rfl, h⟩ | ⟨rfl, h⟩ | ⟨h, _⟩ | ⟨_, _, h, _⟩ | ⟨h1, h2, _, h⟩
    · rw [h]; rfl
    · rw [h]; rfl
    · exact absurd h h3
    · exact absurd h h3
    · rw [h]; simp only [tokenize, h1, h2, h3, if_false]

/-- a recursion over a pattern with a skip counter that does `op t` at each `lex` step is a fold over the tokens -/
theorem scan_eq {β} (P : Str → Prop) (hP : ∀ c cs, P (c :: cs) → P cs) (f : Str → Nat → β) (e : β) (op : Tok → β → β)
    (hnil : ∀ k, f [] k = e) (hskip : ∀ c cs k, f (c :: cs) (k + 1) = f cs k)
    (hlex : ∀ c cs, P (c :: cs) → f (c :: cs) 0 = op (lex c cs).1 (f cs (lex c cs).2)) :
    ∀ s k, P s → f s k = (tokenize s k).foldr op e := by
  intro s
  induction s with
  | nil => intro k _; rw [hnil]; rfl
  | cons c cs ih =>
    intro k hp
    cases k with
    | succ k => rw [hskip]; exact ih k (hP c cs hp)
    | zero => rw [hlex c cs hp, tokenize_lex, List.foldr_cons, ih _ (hP c cs hp)]

/-! ### the two tables: what `_translate` emits for one token (`g = true`: `glob._translate`) -/

def tokText (g : Bool) : Tok → Str
  | .star => "[^/]*".toList
  | .any => if g then "[^/]".toList else ['.']
  | .lit c => Wild.reEscape c
  | .cls neg body => (if g then "(?!/)".toList else []) ++ Wild.classText ['^'] (stuffOf neg body)

def tokItems (g : Bool) : Tok → TR (List Item)
  | .star => .ok [.star Wild.notSlash false]
  | .any => .ok [.one (if g then Wild.notSlash else .any)]
  | .lit c => .ok [.one (.chr (LChar.lit c))]
  | .cls neg body =>
    (Wild.rawItems body (!neg)).map fun l => (if g then [.notAhead Glob.slash] else []) ++ [.one (.set neg l)]

theorem tokItems_glob (t : Tok) : tokItems true t = globItem t := by
  cases t <;> rfl

theorem tokItems_wild (t : Tok) : tokItems false t = (wildItem t).map fun i => [i] := by
  cases t with
  | cls neg body => simp only [tokItems, wildItem]; cases Wild.rawItems body (!neg) <;> rfl
  | _ => rfl

theorem tokText_clsTok (g : Bool) (stuff : Str) :
    tokText g (clsTok stuff) = (if g then "(?!/)".toList else []) ++ Wild.classText ['^'] stuff := by
  simp only [tokText, clsTok, stuffOf_eq]

theorem classAtom_clsTok (stuff : Str) :
    Wild.classAtom stuff = (Wild.rawItems (bodyOf stuff) (!negOf stuff)).map (Atom.set (negOf stuff)) := by
  cases stuff with
  | nil => rfl
  | cons c r =>
    by_cases h1 : c = '!'
    · subst h1; rfl
    · have hn : negOf (c :: r) = false := by simp [negOf, h1]
      simp only [bodyOf, hn, Bool.false_eq_true, if_false, Bool.not_false]
      rw [Wild.classAtom]
      intro r' h; simp at h; exact h1 h.1

theorem TR.map_ok {α β} {f : α → β} {r : TR α} {y : β} (h : r.map f = .ok y) : ∃ x, r = .ok x ∧ y = f x := by
  cases r with
  | err e => cases h
  | ok x => cases h; exact ⟨x, rfl, rfl⟩

theorem seqRes_ok {β} {r1 r2 : TR (List β)} {is : List β} (h : seqRes r1 r2 = .ok is) :
    ∃ i1 i2, r1 = .ok i1 ∧ r2 = .ok i2 ∧ is = i1 ++ i2 := by
  cases r1 with
  | err e => cases h
  | ok i1 => obtain ⟨i2, h2, rfl⟩ := TR.map_ok h; exact ⟨i1, i2, rfl, h2, rfl⟩

theorem seqRes_err {β} {r1 r2 : TR (List β)} {e : TErr} (h : seqRes r1 r2 = .err e) : r1 = .err e ∨ r2 = .err e := by
  cases r1 with
  | err e' => cases h; exact .inl rfl
  | ok i =>
    cases r2 with
    | err e' => cases h; exact .inr rfl
    | ok j => cases h

/-! `sep.join(...)` and `"".join(...)` over results, text and items alike -/

theorem mapM'_join_single {α β} (J : List β → List (List β) → List β) (hJ : ∀ sep a, J sep [a] = a)
    (f : α → TR (List β)) (sep : List β) (a : α) : (Glob.mapM' f [a]).map (J sep) = f a := by
  rw [mapM'_cons]
  cases f a <;> simp [Glob.mapM', TR.map, hJ]

theorem mapM'_join_cons {α β} (J : List β → List (List β) → List β)
    (hJ : ∀ sep a b l, J sep (a :: b :: l) = a ++ sep ++ J sep (b :: l))
    (f : α → TR (List β)) (sep : List β) (a b : α) (l : List α) :
    (Glob.mapM' f (a :: b :: l)).map (J sep) =
      seqRes (f a) (seqRes (.ok sep) ((Glob.mapM' f (b :: l)).map (J sep))) := by
  rw [mapM'_cons, mapM'_cons]
  cases f a with
  | err e => rfl
  | ok x =>
    cases f b with
    | err e => rfl
    | ok y => cases Glob.mapM' f l <;> simp [TR.map, seqRes, hJ]

theorem mapM'_flatten_cons {α β} (f : α → TR (List β)) (a : α) (l : List α) :
    (Glob.mapM' f (a :: l)).map List.flatten = seqRes (f a) ((Glob.mapM' f l).map List.flatten) := by
  rw [mapM'_cons]
  cases f a with
  | err e => rfl
  | ok b => cases Glob.mapM' f l <;> rfl

theorem seqRes_ok_map {α β} (a : List β) (r : TR α) (J : α → List β) :
    seqRes (.ok a) (r.map J) = r.map fun l => a ++ J l := by
  cases r <;> rfl

def seqItems (g : Bool) (toks : List Tok) : TR (List Item) :=
  toks.foldr (fun t r => seqRes (tokItems g t) r) (.ok [])

theorem consL_single (i : Item) (res : TR (List Item)) : Glob.consL [i] res = Wild.cons i res := by
  cases res <;> rfl

theorem wild_textGo_lex (c : Char) (cs : Str) :
    Wild.textGo (c :: cs) 0 = tokText false (lex c cs).1 ++ Wild.textGo cs (lex c cs).2 := by
  rcases lex_cases c cs with ⟨rfl, h⟩ | ⟨rfl, h⟩ | ⟨rfl, hs, h⟩ | ⟨stuff, rest, rfl, hs, h⟩ | ⟨h1, h2, h3, h⟩ <;> rw [h]
  · rfl
  · rfl
  · simp only [Wild.textGo, hs]; rfl
  · simp [Wild.textGo, hs, tokText_clsTok]
  · simp [Wild.textGo, h1, h2, h3, tokText]

theorem wild_go_lex (c : Char) (cs : Str) :
    Wild.go (c :: cs) 0 = seqRes (tokItems false (lex c cs).1) (Wild.go cs (lex c cs).2) := by
  rcases lex_cases c cs with ⟨rfl, h⟩ | ⟨rfl, h⟩ | ⟨rfl, hs, h⟩ | ⟨stuff, rest, rfl, hs, h⟩ | ⟨h1, h2, h3, h⟩ <;> rw [h]
  · exact (consL_single _ _).symm
  · exact (consL_single _ _).symm
  · simp only [Wild.go, hs]; exact (consL_single _ _).symm
  · simp only [Wild.go, hs, tokItems, clsTok, classAtom_clsTok]
    cases Wild.rawItems (bodyOf stuff) (!negOf stuff) with
    | err e => rfl
    | ok l => exact (consL_single _ _).symm
  · simp only [Wild.go, h1, h2, h3, if_false]; exact (consL_single _ _).symm

/-- what `glob._translate` emits for the token `t` when `cs` follows it (a `*` followed by `*` raises) -/
def emitG (cs : Str) : Tok → TR Str
  | .star => if cs.head? = some '*' then .err .valueError else .ok (tokText true .star)
  | t => .ok (tokText true t)

theorem emitG_clsTok (cs stuff : Str) :
    emitG cs (clsTok stuff) = .ok ("(?!/)".toList ++ Wild.classText ['^'] stuff) :=
  congrArg TR.ok (tokText_clsTok true stuff)

theorem emitG_ok (c : Char) (cs : Str) (hs : Glob.hasSS (c :: cs) = false) :
    emitG cs (lex c cs).1 = .ok (tokText true (lex c cs).1) := by
  rcases lex_cases c cs with ⟨rfl, h⟩ | ⟨_, h⟩ | ⟨_, _, h⟩ | ⟨_, _, _, _, h⟩ | ⟨_, _, _, h⟩ <;> rw [h]
  · exact if_neg (hasSS_head cs hs)
  all_goals rfl

theorem glob_textGo_lex (c : Char) (cs : Str) :
    Glob.textGo (c :: cs) 0 =
      match emitG cs (lex c cs).1 with
      | .err e => .err e
      | .ok x => Glob.tappend x (Glob.textGo cs (lex c cs).2) := by
  rcases lex_cases c cs with ⟨rfl, h⟩ | ⟨rfl, h⟩ | ⟨rfl, hs, h⟩ | ⟨stuff, rest, rfl, hs, h⟩ | ⟨h1, h2, h3, h⟩ <;> rw [h]
  · simp only [Glob.textGo, emitG, if_true]
    split <;> rfl
  · rfl
  · simp only [Glob.textGo, hs]; rfl
  · simp only [Glob.textGo, hs, emitG_clsTok]; rfl
  · simp [Glob.textGo, h1, h2, h3, emitG, tokText]

theorem glob_go_lex (c : Char) (cs : Str) (hss : Glob.hasSS (c :: cs) = false) :
    Glob.go (c :: cs) 0 = seqRes (tokItems true (lex c cs).1) (Glob.go cs (lex c cs).2) := by
  rcases lex_cases c cs with ⟨rfl, h⟩ | ⟨rfl, h⟩ | ⟨rfl, hs, h⟩ | ⟨stuff, rest, rfl, hs, h⟩ | ⟨h1, h2, h3, h⟩ <;> rw [h]
  · simp only [Glob.go, if_true, if_neg (hasSS_head cs hss)]; exact (consL_single _ _).symm
  · exact (consL_single _ _).symm
  · simp only [Glob.go, hs]; exact (consL_single _ _).symm
  · simp only [Glob.go, hs, tokItems, clsTok, classAtom_clsTok]
    cases Wild.rawItems (bodyOf stuff) (!negOf stuff) <;> rfl
  · simp only [Glob.go, h1, h2, h3, if_false]; exact (consL_single _ _).symm

theorem foldr_append_flatMap {α β} (f : α → List β) (l : List α) :
    l.foldr (fun t r => f t ++ r) [] = l.flatMap f := by
  induction l with
  | nil => rfl
  | cons a l ih => rw [List.foldr_cons, ih, List.flatMap_cons]

theorem wild_textGo_eq (s : Str) (k : Nat) : Wild.textGo s k = (tokenize s k).flatMap (tokText false) := by
  rw [← foldr_append_flatMap]
  exact scan_eq (fun _ => True) (fun _ _ _ => trivial) Wild.textGo [] (fun t r => tokText false t ++ r)
    (fun _ => rfl) (fun _ _ _ => rfl) (fun c cs _ => wild_textGo_lex c cs) s k trivial

theorem wild_go_seq (s : Str) (k : Nat) : Wild.go s k = seqItems false (tokenize s k) :=
  scan_eq (fun _ => True) (fun _ _ _ => trivial) Wild.go (.ok []) (fun t r => seqRes (tokItems false t) r)
    (fun _ => rfl) (fun _ _ _ => rfl) (fun c cs _ => wild_go_lex c cs) s k trivial

theorem foldr_tappend {α} (f : α → Str) (l : List α) :
    l.foldr (fun t r => Glob.tappend (f t) r) (.ok []) = .ok (l.flatMap f) := by
  induction l with
  | nil => rfl
  | cons a l ih => rw [List.foldr_cons, ih, List.flatMap_cons]; rfl

theorem glob_textGo_eq (s : Str) (k : Nat) (hs : Glob.hasSS s = false) :
    Glob.textGo s k = .ok ((tokenize s k).flatMap (tokText true)) := by
  rw [← foldr_tappend]
  exact scan_eq (fun s => Glob.hasSS s = false) hasSS_tail Glob.textGo (.ok [])
    (fun t r => Glob.tappend (tokText true t) r) (fun _ => rfl) (fun _ _ _ => rfl)
    (fun c cs hss => by rw [glob_textGo_lex, emitG_ok c cs hss]) s k hs

theorem glob_go_seq (s : Str) (k : Nat) (hs : Glob.hasSS s = false) :
    Glob.go s k = seqItems true (tokenize s k) :=
  scan_eq (fun s => Glob.hasSS s = false) hasSS_tail Glob.go (.ok [])
    (fun t r => seqRes (tokItems true t) r) (fun _ => rfl) (fun _ _ _ => rfl) glob_go_lex s k hs

theorem seqItems_glob (toks : List Tok) : seqItems true toks = (Glob.mapM' globItem toks).map List.flatten := by
  induction toks with
  | nil => rfl
  | cons t toks ih =>
    rw [seqItems, List.foldr_cons, ← seqItems, ih, tokItems_glob, mapM'_cons]
    cases globItem t with
    | err e => rfl
    | ok i => cases Glob.mapM' globItem toks <;> rfl

/-- a bracket token comes from a raw text `Wild.scanClass` can return -/
def TokOk : Tok → Prop
  | .cls neg body => ∃ stuff, StuffOk stuff ∧ neg = negOf stuff ∧ body = bodyOf stuff
  | _ => True

theorem lex_ok (c : Char) (cs : Str) : TokOk (lex c cs).1 := by
  rcases lex_cases c cs with ⟨_, h⟩ | ⟨_, h⟩ | ⟨_, _, h⟩ | ⟨stuff, rest, _, hs, h⟩ | ⟨_, _, _, h⟩ <;> rw [h]
  · trivial
  · trivial
  · trivial
  · exact ⟨stuff, scanClass_stuffOk cs stuff rest hs, rfl, rfl⟩
  · trivial

theorem tokenize_forall (P : Char → Prop) (Q : Tok → Prop) (hQ : ∀ c cs, P c → Q (lex c cs).1) :
    ∀ s k, (∀ c ∈ s, P c) → ∀ t ∈ tokenize s k, Q t := by
  intro s
  induction s with
  | nil => intro k _ t ht; cases ht
  | cons c cs ih =>
    intro k hs
    have ih' := fun k => ih k fun d hd => hs d (List.mem_cons_of_mem _ hd)
    cases k with
    | succ k => exact ih' k
    | zero => rw [tokenize_lex]; exact List.forall_mem_cons.2 ⟨hQ c cs (hs c List.mem_cons_self), ih' _⟩

theorem tokenize_ok (s : Str) (k : Nat) : ∀ t ∈ tokenize s k, TokOk t :=
  tokenize_forall (fun _ => True) TokOk (fun c cs _ => lex_ok c cs) s k fun _ _ => trivial

theorem lex_lit (c : Char) (cs : Str) (x : Char) (h : (lex c cs).1 = .lit x) : x = c := by
  rcases lex_cases c cs with ⟨_, e⟩ | ⟨_, e⟩ | ⟨rfl, _, e⟩ | ⟨_, _, _, _, e⟩ | ⟨_, _, _, e⟩ <;> rw [e] at h <;> cases h <;> rfl

def Prints (fT : TR Str) (res : TR (List Item)) : Prop := ∀ is, res = .ok is → fT = .ok (itemsToPy is)

theorem prints_ok (is : List Item) : Prints (.ok (itemsToPy is)) (.ok is) := fun _ h => by cases h; rfl

theorem Prints.append {f1 f2 : TR Str} {r1 r2 : TR (List Item)} (h1 : Prints f1 r1) (h2 : Prints f2 r2) :
    Prints (seqRes f1 f2) (seqRes r1 r2) := by
  intro is h
  obtain ⟨i1, i2, rfl, rfl, rfl⟩ := seqRes_ok h
  rw [h1 i1 rfl, h2 i2 rfl, itemsToPy_append]; rfl

theorem tok_prints (g : Bool) (t : Tok) (ht : TokOk t) : Prints (.ok (tokText g t)) (tokItems g t) := by
  intro is h
  congr 1
  cases t with
  | star => cases h; rfl
  | any => cases h; cases g <;> rfl
  | lit c => cases h; simp [itemsToPy, Item.toPy, Atom.toPy, Wild.reEscape, tokText]
  | cls neg body =>
    obtain ⟨stuff, _, rfl, rfl⟩ := ht
    obtain ⟨l, hr, rfl⟩ := TR.map_ok h
    simp only [tokText, stuffOf_eq, classText_eq]
    cases hn : negOf stuff <;> cases g <;>
      simp [hn, bodyOf, itemsToPy, Item.toPy, Atom.toPy, Glob.slash, LChar.toPy, rawItems_print _ _ l hr]

theorem tokens_prints (g : Bool) (toks : List Tok) (hok : ∀ t ∈ toks, TokOk t) :
    Prints (.ok (toks.flatMap (tokText g))) (seqItems g toks) := by
  induction toks with
  | nil => exact prints_ok []
  | cons t toks ih =>
    exact (tok_prints g t (hok t List.mem_cons_self)).append (ih fun t ht => hok t (List.mem_cons_of_mem _ ht))

/-- the only way the output of a `_translate` fails to compile is a reversed range -/
theorem tokItems_err (g : Bool) (t : Tok) (e : TErr) (h : tokItems g t = .err e) : e = .reError := by
  cases t with
  | cls neg body =>
    simp only [tokItems] at h
    cases hr : Wild.rawItems body (!neg) with
    | ok l => rw [hr] at h; cases h
    | err e' => rw [hr] at h; cases h; exact rawItems_err _ _ _ hr
  | _ => cases h

theorem seqItems_err (g : Bool) (toks : List Tok) (e : TErr) (h : seqItems g toks = .err e) : e = .reError := by
  induction toks with
  | nil => cases h
  | cons t toks ih => exact (seqRes_err h).elim (tokItems_err g t e) ih

end Fs.PatTokens
