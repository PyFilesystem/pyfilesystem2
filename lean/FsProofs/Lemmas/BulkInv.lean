/-
  C09 helper: the state invariants of the bulk Copier.  Each equates a global quantity (tasks, open
  handles, fired failures, sentinels) with the sum of what producer, queue items and workers hold, so
  a step is checked at the one owner that moved.  `induction` on the (non-recursive) step relations
  is the case analysis without the index unification `cases` performs per constructor.
-/
import FsProofs.Lemmas.BulkLemmas

namespace Fs.BulkLemmas
open Fs Fs.Bulk

theorem view_ptimesNext {α : Type} (v : Prod → α) (h : ∀ b j r, v (.ptimes j r b) = v (.qjoin b))
    (l : List Nat) (b : Bool) : v (ptimesNext l b) = v (.qjoin b) := by
  cases l
  · rfl
  · exact h b _ _

theorem view_afterJoin {α : Type} (v : Prod → α) (c : Cfg) (h : ∀ b j r, v (.ptimes j r b) = v (.qjoin b))
    (l : List Nat) (b : Bool) : v (afterJoin c l b) = v (.qjoin b) := by
  unfold afterJoin; split
  · exact view_ptimesNext v h l b
  · rfl

/-! ### task conservation: every task is pending, queued, in flight, done or dropped, once -/

def Cons (c : Cfg) (s : St) : Prop :=
  ∀ x, List.count x s.allTasksView = List.count x (List.range c.tasks.length)

theorem pending_afterBody (c : Cfg) (b : Bool) : (afterBody c b).pending = [] := by
  unfold afterBody; split <;> rfl
theorem inflight_afterBody (c : Cfg) (b : Bool) : (afterBody c b).inflight = [] := by
  unfold afterBody; split <;> rfl
theorem pending_nextLoop (c : Cfg) (rest : List Nat) : (nextLoop c rest).pending = rest := by
  cases rest with
  | nil => exact pending_afterBody c false
  | cons i r => rfl
theorem inflight_nextLoop (c : Cfg) (rest : List Nat) : (nextLoop c rest).inflight = [] := by
  cases rest with
  | nil => exact inflight_afterBody c false
  | cons i r => rfl
theorem pending_raiseP (c : Cfg) (s : St) (d : List Nat) : (raiseP c s d).prod.pending = [] :=
  pending_afterBody c true
theorem inflight_raiseP (c : Cfg) (s : St) (d : List Nat) : (raiseP c s d).prod.inflight = [] :=
  inflight_afterBody c true

theorem count_allTasksView (x : Nat) (s : St) :
    List.count x s.allTasksView = List.count x s.prod.pending + List.count x s.queued
      + List.count x s.prod.inflight + List.count x (s.workers.flatMap W.tasks)
      + List.count x s.done + List.count x s.dropped := by
  simp only [St.allTasksView, St.pending, St.inflight, List.count_append, Nat.add_assoc]

theorem cons_init (c : Cfg) : Cons c (init c) := by
  intro x
  simp [count_allTasksView, init, St.queued, pending_nextLoop, inflight_nextLoop,
    flatMap_replicate_nil W.tasks W.idle rfl]

theorem filterMap_id_cons (x : Option Nat) (q : List (Option Nat)) :
    (x :: q).filterMap id = x.toList ++ q.filterMap id := by cases x <;> rfl
theorem tasks_ofItem (x : Option Nat) : W.tasks (W.ofItem x) = x.toList := by cases x <;> rfl
theorem tasks_ofNext (i : Nat) (nx : BNext) : W.tasks (W.ofNext i nx) = [i] := by cases nx <;> rfl

theorem cons_worker {c : Cfg} {s s' : St} {w : Nat} {e : Ev} (h : Cons c s)
    (hs : WTrans c s w s' e) : Cons c s' := by
  intro x
  rw [← h x, count_allTasksView, count_allTasksView]
  induction hs with
  | get y q hw hq =>
    have := count_flatMap_set W.tasks x s.workers w .idle (W.ofItem y) hw
    rw [tasks_ofItem] at this
    simp only [St.queued, hq, filterMap_id_cons, List.count_append, W.tasks, W.task?, Option.toList,
      List.count_nil] at this ⊢
    omega
  | body i ph nx e s1 hw hb =>
    obtain ⟨d, o, k, rfl⟩ := hb.eq_update
    have := count_flatMap_set W.tasks x s.workers w (.run i ph) (W.ofNext i nx) hw
    rw [tasks_ofNext] at this
    simp only [St.queued, W.tasks, W.task?, Option.toList] at this ⊢
    omega
  | endTask i exc hw =>
    have := count_flatMap_set W.tasks x s.workers w (.ending i exc) .idle hw
    simp only [St.queued, W.tasks, W.task?, Option.toList, List.count_append, count_cons_b2n,
      List.count_nil] at this ⊢
    omega
  | exitW hw =>
    have := count_flatMap_set W.tasks x s.workers w .stopping .exited hw
    simp only [St.queued, W.tasks, W.task?, Option.toList] at this ⊢
    omega

/-! ### every open handle is held by exactly one owner (producer, a queued task, a worker) -/

/-- handles a transfer body in phase `ph` still has to close (`a` is closed first) -/
def phaseHandles (i : Nat) (a : Side) : Phase → List (Nat × Side)
  | .reading _ => [(i, a), (i, a.other)]
  | .writing _ => [(i, a), (i, a.other)]
  | .closeA _ => [(i, a), (i, a.other)]
  | .closeB _ => [(i, a.other)]

def nextHandles (i : Nat) (a : Side) : BNext → List (Nat × Side)
  | .cont ph => phaseHandles i a ph
  | .fin _ => []

def wHandles : W → List (Nat × Side)
  | .run i ph => phaseHandles i .src ph
  | _ => []

def qItemHandles : Option Nat → List (Nat × Side)
  | some i => [(i, .src), (i, .dst)]
  | none => []

def prodHandles (c : Cfg) : Prod → List (Nat × Side)
  | .srcOpen i _ => [(i, .src)]
  | .failClose i _ => [(i, .src)]
  | .bothOpen i _ => [(i, .src), (i, .dst)]
  | .inl i .second _ => [(i, firstSide c)]
  | .inl i .failClose _ => [(i, firstSide c)]
  | .inl i (.body ph) _ => phaseHandles i (firstSide c).other ph
  | _ => []

def held (c : Cfg) (s : St) : List (Nat × Side) :=
  prodHandles c s.prod ++ s.queue.flatMap qItemHandles ++ s.workers.flatMap wHandles

def Hand (c : Cfg) (s : St) : Prop := ∀ h, List.count h s.opened = List.count h (held c s)

theorem side_other_other (a : Side) : a.other.other = a := by cases a <;> rfl

theorem prodHandles_afterBody (c : Cfg) (b : Bool) : prodHandles c (afterBody c b) = [] := by
  unfold afterBody; split <;> rfl
theorem prodHandles_nextLoop (c : Cfg) (r : List Nat) : prodHandles c (nextLoop c r) = [] := by
  cases r with
  | nil => exact prodHandles_afterBody c false
  | cons i r => rfl

theorem count_held (c : Cfg) (s : St) (h : Nat × Side) :
    List.count h (held c s) = List.count h (prodHandles c s.prod)
      + List.count h (s.queue.flatMap qItemHandles) + List.count h (s.workers.flatMap wHandles) := by
  simp only [held, List.count_append]

/-- the open set goes from `o` to `o'` while its owner's share goes from `h` to `h'` -/
def Moves (o o' h h' : List (Nat × Side)) : Prop :=
  ∀ x, List.count x h ≤ List.count x o → List.count x o' + List.count x h = List.count x o + List.count x h'

theorem Moves.refl (o h : List (Nat × Side)) : Moves o o h h := fun _ _ => rfl

theorem Moves.open {o h h' : List (Nat × Side)} (a : Nat × Side) (hh : h'.Perm (a :: h)) : Moves o (a :: o) h h' := by
  intro x _
  rw [hh.count_eq x, List.count_cons, List.count_cons]; omega

theorem Moves.close {o h h' : List (Nat × Side)} (a : Nat × Side) (hh : h.Perm (a :: h')) :
    Moves o (o.erase a) h h' := by
  intro x hle
  rw [hh.count_eq x, count_cons_b2n] at hle ⊢
  rw [count_erase_b2n]; omega

/-- effect of a body step on the open set, relative to what the body holds -/
theorem BTrans.handles {c : Cfg} {s s1 : St} {i : Nat} {a : Side} {ph : Phase} {nx : BNext} {e : Ev}
    (hb : BTrans c s i a ph nx e s1) (h : Nat × Side)
    (hge : List.count h (phaseHandles i a ph) ≤ List.count h s.opened) :
    List.count h s1.opened + List.count h (phaseHandles i a ph)
      = List.count h s.opened + List.count h (nextHandles i a nx) := by
  -- only the two closes change anything; the handle closed is one the body holds
  cases hb with
  | closeAFail exc hf | closeAOk exc hf | closeBFail exc hf | closeBOk exc hf => exact Moves.close _ (.refl _) h hge
  | _ => rfl

theorem hand_init (c : Cfg) : Hand c (init c) := by
  intro h
  simp [init, held, prodHandles_nextLoop, flatMap_replicate_nil wHandles W.idle rfl]

theorem wHandles_ofItem (x : Option Nat) : wHandles (W.ofItem x) = qItemHandles x := by cases x <;> rfl
theorem wHandles_ofNext (i : Nat) (nx : BNext) : wHandles (W.ofNext i nx) = nextHandles i .src nx := by
  cases nx <;> rfl

theorem hand_worker {c : Cfg} {s s' : St} {w : Nat} {e : Ev} (h : Hand c s)
    (hs : WTrans c s w s' e) : Hand c s' := by
  intro x
  have hx := h x
  rw [count_held] at hx ⊢
  induction hs with
  | get y q hw hq =>
    have := count_flatMap_set wHandles x s.workers w .idle (W.ofItem y) hw
    rw [wHandles_ofItem] at this
    simp only [hq, wHandles, List.flatMap_cons, List.count_append, List.count_nil] at hx this ⊢
    omega
  | body i ph nx e s1 hw hb =>
    have hown := count_le_flatMap wHandles x s.workers w _ hw
    have hb' := hb.handles x (by simp only [wHandles] at hown; omega)
    obtain ⟨d, o, k, rfl⟩ := hb.eq_update
    rw [count_flatMap_set_sub wHandles x _ hw, wHandles_ofNext]
    simp only [wHandles] at hb' hown ⊢
    omega
  | endTask i exc hw =>
    have := count_flatMap_set wHandles x s.workers w (.ending i exc) .idle hw
    simp only [wHandles] at this ⊢
    omega
  | exitW hw =>
    have := count_flatMap_set wHandles x s.workers w .stopping .exited hw
    simp only [wHandles] at this ⊢
    omega

/-! ### the queue: tasks before sentinels, bounded; sentinel accounting; joined workers have exited -/

def stopped : W → Bool
  | .stopping => true
  | .exited => true
  | _ => false

/-- a list of `Unit` marks, counted with `List.count ()`, so that `count_flatMap_set` serves this count like
    the task and handle ledgers (`excMark` likewise) -/
def stopMark (w : W) : List Unit := if stopped w then [()] else []

def nStopped (s : St) : Nat := List.count () (s.workers.flatMap stopMark)

/-- sentinels put so far -/
def sentPut (n : Nat) : Prod → Nat
  | .sentinels k _ => k
  | .joining _ _ => n
  | .ptimes _ _ _ => n
  | .qjoin _ => n
  | .exiting _ => n
  | .finished _ => n
  | _ => 0

/-- workers 0..joined-1 are known to have exited -/
def joined (n : Nat) : Prod → Nat
  | .joining k _ => k
  | .ptimes _ _ _ => n
  | .qjoin _ => n
  | .exiting _ => n
  | .finished _ => n
  | _ => 0

def qshape (q : List (Option Nat)) : Prop := q.Pairwise fun x y => x = none → y = none

def stageOk (c : Cfg) : Prod → Prop
  | .sentinels k _ => k < c.n
  | .joining k _ => k < c.n
  | .srcOpen _ _ => c.n ≠ 0
  | .failClose _ _ => c.n ≠ 0
  | .bothOpen _ _ => c.n ≠ 0
  | .inl _ _ _ => c.n = 0
  | .ptimes _ _ _ => c.n ≠ 0
  | .qjoin _ => c.n ≠ 0
  | _ => True

structure InvA (c : Cfg) (s : St) : Prop where
  wlen : s.workers.length = c.n
  qlen : s.queue.length ≤ c.n
  sent : List.count none s.queue + nStopped s = sentPut c.n s.prod
  shape : qshape s.queue
  nosome : 0 < nStopped s → s.queued = []
  joinedEx : ∀ j, j < joined c.n s.prod → s.workers[j]? = some W.exited
  stage : stageOk c s.prod

theorem qshape_push {q : List (Option Nat)} {item : Option Nat} (h : qshape q)
    (hi : item ≠ none → List.count none q = 0) : qshape (q ++ [item]) :=
  List.pairwise_append.2 ⟨h, List.pairwise_singleton _ _, fun _ hx _ hy hxn =>
    Decidable.of_not_not fun hne => List.count_eq_zero.1 (hi (List.mem_singleton.1 hy ▸ hne)) (hxn ▸ hx)⟩

theorem queued_nil_of_head_none {q : List (Option Nat)} (h : qshape (none :: q)) : q.filterMap id = [] :=
  List.filterMap_eq_nil_iff.2 fun y hy => (List.pairwise_cons.1 h).1 y hy rfl

theorem eq_nil_of_no_none_no_some : ∀ q : List (Option Nat), List.count none q = 0 →
    q.filterMap id = [] → q = []
  | [], _, _ => rfl
  | none :: q, h, _ => by simp at h
  | some i :: q, _, h => by simp at h

theorem sentPut_afterBody (c : Cfg) (b : Bool) : sentPut c.n (afterBody c b) = 0 := by
  unfold afterBody; split
  · next h => simp [sentPut, h]
  · rfl
theorem joined_afterBody (c : Cfg) (b : Bool) : joined c.n (afterBody c b) = 0 := by
  unfold afterBody; split
  · next h => simp [joined, h]
  · rfl
theorem stage_afterBody (c : Cfg) (b : Bool) : stageOk c (afterBody c b) := by
  unfold afterBody; split
  · trivial
  · next h => simp [stageOk]; omega
theorem sentPut_nextLoop (c : Cfg) (r : List Nat) : sentPut c.n (nextLoop c r) = 0 := by
  cases r with
  | nil => exact sentPut_afterBody c false
  | cons i r => rfl
theorem joined_nextLoop (c : Cfg) (r : List Nat) : joined c.n (nextLoop c r) = 0 := by
  cases r with
  | nil => exact joined_afterBody c false
  | cons i r => rfl
theorem stage_nextLoop (c : Cfg) (r : List Nat) : stageOk c (nextLoop c r) := by
  cases r with
  | nil => exact stage_afterBody c false
  | cons i r => trivial
theorem stage_ptimesNext (c : Cfg) (l : List Nat) (b : Bool) (h : c.n ≠ 0) : stageOk c (ptimesNext l b) :=
  view_ptimesNext (stageOk c) (fun _ _ _ => rfl) l b ▸ h
theorem stage_afterJoin (c : Cfg) (l : List Nat) (b : Bool) (h : c.n ≠ 0) : stageOk c (afterJoin c l b) :=
  view_afterJoin (stageOk c) c (fun _ _ _ => rfl) l b ▸ h

theorem invA_init (c : Cfg) : InvA c (init c) where
  wlen := by simp [init]
  qlen := by simp [init]
  sent := by
    simp [init, nStopped, sentPut_nextLoop, flatMap_replicate_nil stopMark W.idle (by simp [stopMark, stopped])]
  shape := .nil
  nosome := by intro _; rfl
  joinedEx := by intro j hj; simp [init, joined_nextLoop] at hj
  stage := stage_nextLoop c _

theorem joinedEx_set {l : List W} {w : Nat} {a b : W} {J : Nat}
    (h : ∀ j, j < J → l[j]? = some W.exited) (hw : l[w]? = some a) (ha : a ≠ W.exited ∨ b = W.exited) :
    ∀ j, j < J → (l.set w b)[j]? = some W.exited := by
  intro j hj
  rw [List.getElem?_set]
  split
  · next hwj =>
    subst hwj
    have := h w hj
    rw [hw] at this
    rcases ha with ha | ha
    · simp at this; exact absurd this ha
    · subst ha
      split
      · rfl
      · next hlt => simp at hlt; rw [List.getElem?_eq_none hlt] at hw; simp at hw
  · exact h j hj

/-- a worker moves between two states with the same "stopped" mark, queue and producer untouched -/
theorem invA_worker_same {c : Cfg} {s s' : St} {w : Nat} {a b : W} (h : InvA c s)
    (hw : s.workers[w]? = some a) (hp : s'.prod = s.prod) (hq : s'.queue = s.queue)
    (hws : s'.workers = s.workers.set w b) (hm : stopMark a = stopMark b)
    (ha : a ≠ W.exited ∨ b = W.exited) : InvA c s' := by
  have hcnt := count_flatMap_set stopMark () s.workers w a b hw
  have hst : nStopped s' = nStopped s := by simp [nStopped, hws, hm] at hcnt ⊢; omega
  exact {
    wlen := by rw [hws, List.length_set]; exact h.wlen
    qlen := by rw [hq]; exact h.qlen
    sent := by rw [hq, hp, hst]; exact h.sent
    shape := by rw [hq]; exact h.shape
    nosome := by intro hpos; rw [hst] at hpos; simpa [St.queued, hq] using h.nosome hpos
    joinedEx := by rw [hp, hws]; exact joinedEx_set h.joinedEx hw ha
    stage := by rw [hp]; exact h.stage }

theorem stopMark_ofItem (x : Option Nat) : List.count () (stopMark (W.ofItem x)) = b2n (x == none) := by
  cases x <;> rfl
theorem stopMark_ofNext (i : Nat) (nx : BNext) : stopMark (W.ofNext i nx) = [] := by cases nx <;> rfl

theorem invA_worker {c : Cfg} {s s' : St} {w : Nat} {e : Ev} (h : InvA c s)
    (hs : WTrans c s w s' e) : InvA c s' := by
  induction hs with
  | get x q hw hq =>
    have hcnt := count_flatMap_set stopMark () s.workers w .idle (W.ofItem x) hw
    rw [stopMark_ofItem] at hcnt
    have hst : nStopped { s with queue := q, workers := s.workers.set w (W.ofItem x) }
        = nStopped s + b2n (x == none) := by
      have : List.count () (stopMark .idle) = 0 := rfl
      simp only [nStopped]; omega
    have hsh := h.shape
    have hsent := h.sent
    have hlen := h.qlen
    rw [hq] at hsh hlen
    rw [hq, count_cons_b2n] at hsent
    exact {
      wlen := by simp [h.wlen]
      qlen := Nat.le_of_succ_le hlen
      sent := by show List.count none q + _ = sentPut c.n s.prod; rw [hst]; omega
      shape := (List.pairwise_cons.1 hsh).2
      nosome := by
        intro hpos; rw [hst] at hpos
        cases x with
        | none => exact queued_nil_of_head_none hsh
        | some i => have := h.nosome hpos; simp [St.queued, hq] at this
      joinedEx := joinedEx_set h.joinedEx hw (Or.inl W.noConfusion)
      stage := h.stage }
  | body i ph nx e s1 hw hb =>
    obtain ⟨d, o, k, rfl⟩ := hb.eq_update
    exact invA_worker_same h hw rfl rfl rfl (stopMark_ofNext i nx).symm (Or.inl W.noConfusion)
  | endTask i exc hw =>
    exact invA_worker_same (b := .idle) h hw rfl rfl rfl rfl (Or.inl W.noConfusion)
  | exitW hw =>
    exact invA_worker_same (b := .exited) h hw rfl rfl rfl rfl (Or.inr rfl)

theorem invA_prod_joined {c : Cfg} {s s' : St} (h : InvA c s)
    (hq : s'.queue = s.queue) (hw : s'.workers = s.workers)
    (hsent : sentPut c.n s'.prod = sentPut c.n s.prod)
    (hj : ∀ j, j < joined c.n s'.prod → j < joined c.n s.prod ∨ s.workers[j]? = some W.exited)
    (hst : stageOk c s'.prod) : InvA c s' := by
  have hn : nStopped s' = nStopped s := by simp [nStopped, hw]
  exact {
    wlen := by rw [hw]; exact h.wlen
    qlen := by rw [hq]; exact h.qlen
    sent := by rw [hq, hn, hsent]; exact h.sent
    shape := by rw [hq]; exact h.shape
    nosome := by intro hpos; rw [hn] at hpos; simpa [St.queued, hq] using h.nosome hpos
    joinedEx := by intro j hj'; rw [hw]; exact (hj j hj').elim (h.joinedEx j) id
    stage := hst }

theorem invA_prod_same {c : Cfg} {s s' : St} (h : InvA c s)
    (hq : s'.queue = s.queue) (hw : s'.workers = s.workers)
    (hsent : sentPut c.n s'.prod = sentPut c.n s.prod)
    (hj : joined c.n s'.prod ≤ joined c.n s.prod) (hst : stageOk c s'.prod) : InvA c s' :=
  invA_prod_joined h hq hw hsent (fun _ hj' => .inl (Nat.lt_of_lt_of_le hj' hj)) hst

theorem invA_push {c : Cfg} {s s' : St} (h : InvA c s) (item : Option Nat)
    (hq : s'.queue = s.queue ++ [item]) (hw : s'.workers = s.workers) (hlen : s.queue.length < c.n)
    (hsent : sentPut c.n s'.prod = sentPut c.n s.prod + List.count none [item])
    (hitem : item ≠ none → sentPut c.n s.prod = 0)
    (hj : joined c.n s'.prod = 0) (hst : stageOk c s'.prod) : InvA c s' := by
  have hn : nStopped s' = nStopped s := by simp [nStopped, hw]
  have hs := h.sent
  exact {
    wlen := by rw [hw]; exact h.wlen
    qlen := by rw [hq, List.length_append]; exact hlen
    sent := by rw [hq, hn, hsent, List.count_append]; omega
    shape := by rw [hq]; exact qshape_push h.shape fun hne => by have := hitem hne; omega
    nosome := by
      intro hpos; rw [hn] at hpos
      cases item with
      | none => simpa [St.queued, hq] using h.nosome hpos
      | some i => have := hitem (Option.some_ne_none i); omega
    joinedEx := by intro j hj'; rw [hj] at hj'; cases hj'
    stage := hst }

/-! ### a failure that fired is visible: in `Copier.errors`, or as an exception in flight in the producer
    or in a worker; and conversely -/

def phaseExc : Phase → Bool
  | .closeA e => e
  | .closeB e => e
  | _ => false

def nextExc : BNext → Bool
  | .cont ph => phaseExc ph
  | .fin e => e

def wExc : W → Bool
  | .run _ ph => phaseExc ph
  | .ending _ e => e
  | _ => false

def excMark (w : W) : List Unit := if wExc w then [()] else []

def prodExc : Prod → Bool
  | .failClose _ _ => true
  | .inl _ .failClose _ => true
  | .inl _ (.body ph) _ => phaseExc ph
  | .sentinels _ e => e
  | .joining _ e => e
  | .ptimes _ _ e => e
  | .qjoin e => e
  | .exiting e => e
  | .finished o => o != .ok
  | _ => false

def nExc (s : St) : Nat := List.count () (s.workers.flatMap excMark)

def visN (s : St) : Nat := s.errors.length + b2n (prodExc s.prod) + nExc s

def Vis (s : St) : Prop := 0 < s.nfail ↔ 0 < visN s

theorem BTrans.vis {c : Cfg} {s s1 : St} {i : Nat} {a : Side} {ph : Phase} {nx : BNext} {e : Ev}
    (hb : BTrans c s i a ph nx e s1) :
    (s1.nfail = s.nfail ∧ nextExc nx = phaseExc ph) ∨ (s1.nfail = s.nfail + 1 ∧ nextExc nx = true) := by
  cases hb <;> simp [nextExc, phaseExc]

theorem prodExc_afterBody (c : Cfg) (b : Bool) : prodExc (afterBody c b) = b := by
  unfold afterBody; split <;> rfl
theorem prodExc_nextLoop (c : Cfg) (r : List Nat) : prodExc (nextLoop c r) = false := by
  cases r with
  | nil => exact prodExc_afterBody c false
  | cons i r => rfl

theorem vis_init (c : Cfg) : Vis (init c) := by
  simp [Vis, visN, nExc, init, prodExc_nextLoop,
    flatMap_replicate_nil excMark W.idle (by simp [excMark, wExc])]

theorem count_excMark (w : W) : List.count () (excMark w) = b2n (wExc w) := by
  unfold excMark b2n; split <;> simp

theorem wExc_ofItem (x : Option Nat) : wExc (W.ofItem x) = false := by cases x <;> rfl
theorem wExc_ofNext (i : Nat) (nx : BNext) : wExc (W.ofNext i nx) = nextExc nx := by cases nx <;> rfl

theorem vis_worker {c : Cfg} {s s' : St} {w : Nat} {e : Ev} (h : Vis s)
    (hs : WTrans c s w s' e) : Vis s' := by
  unfold Vis visN nExc at *
  induction hs with
  | get x q hw hq =>
    have := count_flatMap_set excMark () s.workers w .idle (W.ofItem x) hw
    simp only [count_excMark, wExc_ofItem] at this
    simp only [wExc, b2n_false] at this ⊢; omega
  | body i ph nx e s1 hw hb =>
    have hown := count_le_flatMap excMark () s.workers w _ hw
    have hle := b2n_le (phaseExc ph)
    have hv := hb.vis
    obtain ⟨d, o, k, rfl⟩ := hb.eq_update
    rw [count_flatMap_set_sub excMark () _ hw, count_excMark, wExc_ofNext]
    simp only [count_excMark, wExc] at hown hv ⊢
    rcases hv with ⟨hn, hx⟩ | ⟨hn, hx⟩
    · rw [hn, hx]; omega
    · rw [hn, hx, b2n_true]; omega
  | endTask i exc hw =>
    have hset := count_flatMap_set excMark () s.workers w (.ending i exc) .idle hw
    simp only [count_excMark, wExc, b2n_false] at hset
    cases exc <;> simp only [b2n_true, b2n_false, if_true, Bool.false_eq_true, if_false, List.length_append,
      List.length_singleton] at hset ⊢ <;> omega
  | exitW hw =>
    have := count_flatMap_set excMark () s.workers w .stopping .exited hw
    simp only [count_excMark, wExc, b2n_false] at this ⊢; omega

theorem other_bne_ok : (Outcome.other != Outcome.ok) = true := by decide
theorem bulk_bne_ok : (Outcome.bulk != Outcome.ok) = true := by decide
theorem ok_bne_ok : (Outcome.ok != Outcome.ok) = false := by decide

theorem WTrans.frame {c : Cfg} {s s' : St} {w : Nat} {e : Ev} (hs : WTrans c s w s' e) :
    s'.prod = s.prod ∧ s'.allTasks = s.allTasks ∧ s'.dropped = s.dropped := by
  induction hs with
  | body i ph nx e s1 hw hb => obtain ⟨d, o, k, rfl⟩ := hb.eq_update; exact ⟨rfl, rfl, rfl⟩
  | _ => exact ⟨rfl, rfl, rfl⟩

/-! ### dropped tasks only after the producer raised -/

def raised : Prod → Bool
  | .sentinels _ e => e
  | .joining _ e => e
  | .ptimes _ _ e => e
  | .qjoin e => e
  | .exiting e => e
  | .finished o => o == .other
  | _ => false

def Drop (s : St) : Prop := s.dropped ≠ [] → raised s.prod = true

theorem raised_afterBody (c : Cfg) (b : Bool) : raised (afterBody c b) = b := by
  unfold afterBody; split <;> rfl

theorem raised_imp_prodExc (p : Prod) (h : raised p = true) : prodExc p = true := by
  cases p <;> simp_all [raised, prodExc]

theorem drop_worker {c : Cfg} {s s' : St} {w : Nat} {e : Ev} (h : Drop s) (hs : WTrans c s w s' e) :
    Drop s' := by
  unfold Drop; rw [(WTrans.frame hs).1, (WTrans.frame hs).2.2]; exact h

/-! ### `finished ok` means the error list was empty -/

def FinE (s : St) : Prop := s.prod = .finished .ok → s.errors = []

theorem isFin_afterBody (c : Cfg) (b : Bool) : (afterBody c b).isFinished = false := by
  unfold afterBody; split <;> rfl
theorem isFin_nextLoop (c : Cfg) (r : List Nat) : (nextLoop c r).isFinished = false := by
  cases r with
  | nil => exact isFin_afterBody c false
  | cons i r => rfl

theorem WTrans.not_exited {c : Cfg} {s s' : St} {w : Nat} {e : Ev} (hs : WTrans c s w s' e) :
    ∃ a, s.workers[w]? = some a ∧ a ≠ W.exited := by
  cases hs <;> exact ⟨_, ‹_›, W.noConfusion⟩

theorem allExited_of_joined {c : Cfg} {s : St} (hA : InvA c s) (hj : joined c.n s.prod = c.n) :
    s.allExited := by
  intro w hw
  obtain ⟨k, hk, rfl⟩ := List.mem_iff_getElem.mp hw
  have := hA.joinedEx k (by rw [hj, ← hA.wlen]; exact hk)
  rw [List.getElem?_eq_getElem hk] at this
  simpa using this

theorem no_worker_step_when_joined {c : Cfg} {s s' : St} {w : Nat} {e : Ev} (hA : InvA c s)
    (hj : joined c.n s.prod = c.n) (hs : WTrans c s w s' e) : False := by
  obtain ⟨a, hw, hne⟩ := hs.not_exited
  exact hne (allExited_of_joined hA hj a (List.mem_of_getElem? hw))

/-- once the producer is `finished` every worker has been joined, so no worker moves -/
theorem finE_worker {c : Cfg} {s s' : St} {w : Nat} {e : Ev} (hA : InvA c s)
    (hs : WTrans c s w s' e) : FinE s' := by
  intro hf
  rw [(WTrans.frame hs).1] at hf
  exact (no_worker_step_when_joined hA (by rw [hf]; rfl) hs).elim

/-! ### the preserve-time loop only names real tasks -/

def ptList : Prod → List Nat
  | .ptimes i todo _ => i :: todo
  | _ => []

def PT (c : Cfg) (s : St) : Prop :=
  (∀ j ∈ s.allTasks, j < c.tasks.length) ∧ (∀ j ∈ ptList s.prod, j < c.tasks.length)

theorem ptList_afterBody (c : Cfg) (b : Bool) : ptList (afterBody c b) = [] := by
  unfold afterBody; split <;> rfl
theorem ptList_nextLoop (c : Cfg) (r : List Nat) : ptList (nextLoop c r) = [] := by
  cases r with
  | nil => exact ptList_afterBody c false
  | cons i r => rfl
theorem ptList_ptimesNext (l : List Nat) (b : Bool) : ptList (ptimesNext l b) = l := by
  cases l <;> rfl
theorem ptList_afterJoin_sub (c : Cfg) (l : List Nat) (b : Bool) : ∀ j ∈ ptList (afterJoin c l b), j ∈ l := by
  unfold afterJoin; split
  · rw [ptList_ptimesNext]; exact fun _ h => h
  · intro j hj; cases hj

theorem lt_of_count_pos {c : Cfg} {s : St} (hC : Cons c s) {i : Nat}
    (hi : 0 < List.count i s.allTasksView) : i < c.tasks.length := by
  rw [hC i, List.count_range] at hi
  split at hi
  · assumption
  · cases hi

theorem lt_of_mem_pending {c : Cfg} {s : St} (hC : Cons c s) {i : Nat} (hi : i ∈ s.prod.pending) :
    i < c.tasks.length :=
  lt_of_count_pos hC (List.count_pos_iff.mpr (by simp [St.allTasksView, St.pending, hi]))

theorem pt_worker {c : Cfg} {s s' : St} {w : Nat} {e : Ev} (h : PT c s) (hs : WTrans c s w s' e) :
    PT c s' := by
  unfold PT; rw [(WTrans.frame hs).1, (WTrans.frame hs).2.1]; exact h

end Fs.BulkLemmas
