/-
  Helper lemmas for FsProofs/MultiRefines.lean: the overlay tree of a stack of layers
  (`MultiFs.overNode`, `overEnts`, `overlayRoots`, `overlay`).

  `Cons2 a b`        the two trees never disagree on the TYPE of a path both have;
  `ovAt xs`          the overlay of the nodes the layers hold at ONE path (highest priority first);
  `overlayRoots_get` under pairwise consistency, reading a path in the overlay = `ovAt` of what the layers
                     hold there: the first layer that has the path decides file/dir and the file's bytes,
                     directories merge;
  `overlay_first`    the same along `iterate_fs`: the layers before the first holder, its node, the layers after it.
-/
import FsProofs.Lemmas.MultiFsLemmas

namespace Fs.MultiFsLemmas
open Fs Fs.Ref Fs.MultiFs

theorem overNode_none (n : Node) : overNode n none = n := by cases n <;> simp [overNode]

theorem overNode_file (b : Bytes) (o : Option Node) : overNode (.file b) o = .file b := by simp [overNode]

theorem overNode_isDir (n : Node) (o : Option Node) : (overNode n o).isDir = n.isDir := by
  cases n with
  | file b => simp [overNode]
  | dir es =>
    cases o with
    | none => simp [overNode]
    | some m => cases m <;> simp [overNode, Node.isDir]

theorem lookup_overEnts (c : Name) : ∀ (es ds : Ents),
    Ents.lookup c (overEnts es ds) = match Ents.lookup c es with
      | some v => some (overNode v (Ents.lookup c ds))
      | none => Ents.lookup c ds := by
  intro es
  induction es with
  | nil => intro ds; simp [overEnts, Ents.lookup]
  | cons e es ih =>
    intro ds
    obtain ⟨k, v⟩ := e
    by_cases hk : k = c
    · subst hk; simp [overEnts, Ents.lookup]
    · simp only [overEnts, Ents.lookup, hk, if_false]
      rw [ih (Ents.erase k ds), TreeLemmas.lookup_erase_other k c ds (Ne.symm hk)]

/-- the two trees never disagree on the type of a path both have -/
def Cons2 (a b : Node) : Prop := ∀ cs x y, a.get cs = some x → b.get cs = some y → x.isDir = y.isDir

theorem Cons2.symm {a b : Node} (h : Cons2 a b) : Cons2 b a := fun cs x y hx hy => (h cs y x hy hx).symm

theorem Cons2.child {es ds : Ents} (h : Cons2 (.dir es) (.dir ds)) {c : Name} {v w : Node}
    (hv : Ents.lookup c es = some v) (hw : Ents.lookup c ds = some w) : Cons2 v w := by
  intro cs x y hx hy
  exact h (c :: cs) x y (by simp [Node.get, hv, hx]) (by simp [Node.get, hw, hy])

/-- reading a path in `hi` over `lo` -/
theorem get_overNode : ∀ (cs : List Name) (a b : Node), Cons2 a b →
    (overNode a (some b)).get cs = match a.get cs with
      | some x => some (overNode x (b.get cs))
      | none => b.get cs := by
  intro cs
  induction cs with
  | nil => intro a b _; simp [Node.get]
  | cons c cs ih =>
    intro a b hc
    cases a with
    | file d =>
      have hb : b.isDir = false := by
        have := hc [] (.file d) b (by simp [Node.get]) (by simp [Node.get])
        simpa [Node.isDir] using this.symm
      cases b with
      | file d' => simp [overNode, Node.get]
      | dir ds => simp [Node.isDir] at hb
    | dir es =>
      cases b with
      | file d' =>
        have := hc [] (.dir es) (.file d') (by simp [Node.get]) (by simp [Node.get])
        simp [Node.isDir] at this
      | dir ds =>
        simp only [overNode, Node.get, lookup_overEnts]
        cases hv : Ents.lookup c es with
        | none => simp
        | some v =>
          cases hw : Ents.lookup c ds with
          | none => simp only [overNode_none]; cases v.get cs <;> simp
          | some w => simp only; exact ih v w (hc.child hv hw)

/-- the overlay of what the layers hold at one path, highest priority first -/
def ovAt : List (Option Node) → Option Node
  | [] => none
  | none :: xs => ovAt xs
  | some x :: xs => some (overNode x (ovAt xs))

theorem ovAt_append_none : ∀ (xs ys : List (Option Node)), (∀ x ∈ xs, x = none) → ovAt (xs ++ ys) = ovAt ys
  | [], _, _ => rfl
  | none :: xs, ys, h => ovAt_append_none xs ys (fun x hx => h x (List.mem_cons_of_mem _ hx))
  | some x :: _, _, h => nomatch h (some x) List.mem_cons_self

theorem ovAt_all_none (xs : List (Option Node)) (h : ∀ x ∈ xs, x = none) : ovAt xs = none := by
  rw [← List.append_nil xs]; exact ovAt_append_none xs [] h

/-- a node of `ovAt` has the type (and, for a file, the bytes) of the FIRST layer that has the path -/
theorem ovAt_some : ∀ (xs : List (Option Node)) (y : Node), ovAt xs = some y →
    ∃ x, some x ∈ xs ∧ y.isDir = x.isDir
  | [], y, h => by cases h
  | none :: xs, y, h => by
    obtain ⟨x, hx, hd⟩ := ovAt_some xs y (by simpa [ovAt] using h)
    exact ⟨x, by simp [hx], hd⟩
  | some x :: xs, y, h => by
    simp only [ovAt, Option.some.injEq] at h
    exact ⟨x, by simp, by rw [← h, overNode_isDir]⟩

/-- **reading a path in the overlay**: under pairwise type consistency it is `ovAt` of what the layers
hold at that path -/
theorem overlayRoots_get : ∀ (rs : List Node), rs.Pairwise Cons2 → ∀ cs : List Name,
    (overlayRoots rs).bind (fun n => n.get cs) = ovAt (rs.map fun n => n.get cs) := by
  intro rs
  induction rs with
  | nil => intro _ cs; rfl
  | cons r rs ih =>
    intro hp cs
    have hp' := List.pairwise_cons.1 hp
    have ih' := ih hp'.2
    simp only [overlayRoots, Option.bind_some, List.map_cons]
    cases hb : overlayRoots rs with
    | none =>
      have hnil : rs = [] := by cases rs <;> simp_all [overlayRoots]
      subst hnil
      simp only [overNode_none, List.map_nil]
      cases r.get cs <;> simp [ovAt, overNode_none]
    | some b =>
      have hcons : Cons2 r b := by
        intro q x y hx hy
        have h1 := ih' q
        rw [hb] at h1
        simp only [Option.bind_some] at h1
        rw [hy] at h1
        obtain ⟨x', hx', hd⟩ := ovAt_some _ y h1.symm
        obtain ⟨r', hr', hx''⟩ := List.mem_map.1 hx'
        rw [hd]
        exact hp'.1 r' hr' q x x' hx hx''
      rw [get_overNode cs r b hcons]
      have h1 := ih' cs
      rw [hb] at h1
      simp only [Option.bind_some] at h1
      cases r.get cs with
      | none => simp [ovAt, h1]
      | some x => simp [ovAt, h1]


/-! ### the overlay of a stack, read along `iterate_fs` -/

/-- type consistency of a stack: no two layers disagree on the type of a path -/
def Consistent (s : MState State) : Prop :=
  ∀ l ∈ s.layers, ∀ l' ∈ s.layers, Cons2 l.st.root l'.st.root

/-- what the layer at position `i` holds at the path -/
def nodeAt (s : MState State) (cs : List Name) (i : Nat) : Option Node :=
  (s.layers[i]?).bind fun l => l.st.root.get cs

theorem hasAt_eq (s : MState State) (cs : List Name) (i : Nat) : hasAt s cs i = (nodeAt s cs i).isSome := by
  unfold hasAt nodeAt; cases s.layers[i]? <;> rfl

theorem nodeAt_layer {s : MState State} {i : Nat} {l : Layer State} (hl : s.layers[i]? = some l) (cs : List Name) :
    nodeAt s cs i = l.st.root.get cs := by simp [nodeAt, hl]

theorem roots_map_get (s : MState State) (cs : List Name) : ∀ (is : List Nat), (∀ i ∈ is, i < s.layers.length) →
    (is.filterMap fun i => (s.layers[i]?).map (·.st.root)).map (fun n => n.get cs) = is.map (nodeAt s cs) := by
  intro is
  induction is with
  | nil => intro _; rfl
  | cons i is ih =>
    intro h
    have hi := h i (by simp)
    have := ih (fun j hj => h j (by simp [hj]))
    simp [hi, nodeAt, this]

theorem mem_rootsInOrder (s : MState State) (r : Node) (h : r ∈ rootsInOrder s) : ∃ l ∈ s.layers, l.st.root = r := by
  unfold rootsInOrder at h
  obtain ⟨i, _, hi⟩ := List.mem_filterMap.1 h
  cases hl : s.layers[i]? with
  | none => rw [hl] at hi; cases hi
  | some l => rw [hl] at hi; simp at hi; exact ⟨l, List.mem_of_getElem? hl, hi⟩

theorem consistent_pairwise (s : MState State) (h : Consistent s) : (rootsInOrder s).Pairwise Cons2 := by
  apply List.pairwise_of_forall_mem_list
  intro a ha b hb
  obtain ⟨l, hl, rfl⟩ := mem_rootsInOrder s a ha
  obtain ⟨l', hl', rfl⟩ := mem_rootsInOrder s b hb
  exact h l hl l' hl'

/-- **reading the overlay of a stack**: `ovAt` of what the layers hold at the path, in `iterate_fs` order -/
theorem overlay_get (s : MState State) (hcons : Consistent s) (hne : s.layers ≠ []) (cs : List Name) :
    (overlay s).root.get cs = ovAt ((order s).map (nodeAt s cs)) := by
  have h := overlayRoots_get (rootsInOrder s) (consistent_pairwise s hcons) cs
  have hmap : (rootsInOrder s).map (fun n => n.get cs) = (order s).map (nodeAt s cs) :=
    roots_map_get s cs (order s) (fun i hi => order_lt s i hi)
  rw [hmap] at h
  cases hr : overlayRoots (rootsInOrder s) with
  | none =>
    exfalso
    have : rootsInOrder s = [] := by cases hrs : rootsInOrder s <;> simp_all [overlayRoots]
    rw [this] at hmap
    exact order_ne_nil_of_layers hne (List.map_eq_nil_iff.1 hmap.symm)
  | some b =>
    rw [hr] at h
    simp only [Option.bind_some] at h
    simp only [overlay, hr, Option.getD_some]
    exact h

theorem nodeAt_eq_none {s : MState State} {cs : List Name} {j : Nat} (h : hasAt s cs j = false) :
    nodeAt s cs j = none := by
  rw [hasAt_eq] at h; exact Option.isNone_iff_eq_none.1 (Option.isSome_eq_false_iff.1 h)

theorem find_none_nodeAt {s : MState State} (cs : List Name) {is : List Nat} (hf : is.find? (hasAt s cs) = none) :
    ∀ i ∈ is, nodeAt s cs i = none :=
  fun i hi => nodeAt_eq_none (by simpa using List.find?_eq_none.1 hf i hi)

theorem overlay_single (s : MState State) (l : Layer State) (hl : s.layers = [l]) :
    overlay s = { root := l.st.root, closed := s.closed } := by
  cases hr : l.st.root <;> simp [overlay, rootsInOrder, order_single s l hl, hl, overlayRoots, overNode, hr]

/-- no layer has the path: neither has the overlay -/
theorem overlay_get_none (s : MState State) (hcons : Consistent s) (hne : s.layers ≠ []) (cs : List Name)
    (h : (order s).find? (hasAt s cs) = none) : (overlay s).root.get cs = none := by
  rw [overlay_get s hcons hne cs, ovAt_all_none _ (by simpa using find_none_nodeAt cs h)]

/-- **the first layer that has the path decides** -/
theorem overlay_first (s : MState State) (hcons : Consistent s) (hne : s.layers ≠ []) (cs : List Name) (i : Nat)
    (h : (order s).find? (hasAt s cs) = some i) :
    ∃ l n pre post, s.layers[i]? = some l ∧ l.st.root.get cs = some n ∧ order s = pre ++ i :: post ∧
      (∀ j ∈ pre, nodeAt s cs j = none) ∧
      (overlay s).root.get cs = some (overNode n (ovAt (post.map (nodeAt s cs)))) := by
  obtain ⟨l, n, hl, hn⟩ := find_hasAt h
  obtain ⟨_, pre, post, hsplit, hpre⟩ := List.find?_eq_some_iff_append.1 h
  have hpre' : ∀ j ∈ pre, nodeAt s cs j = none := fun j hj => nodeAt_eq_none (by simpa using hpre j hj)
  refine ⟨l, n, pre, post, hl, hn, hsplit, hpre', ?_⟩
  rw [overlay_get s hcons hne cs, hsplit, List.map_append, ovAt_append_none _ _ (by simpa using hpre'), List.map_cons,
    nodeAt_layer hl, hn]
  rfl

end Fs.MultiFsLemmas
