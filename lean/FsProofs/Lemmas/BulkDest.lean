/-
  C09 helper: the destination store.  As long as no failure has fired, the content of every
  task's destination path is determined by how far that task has got, and every other path is
  untouched.  (Needs pairwise distinct destination paths and a positive chunk size.)
  At the end: what the sequential specification `foldl copyOne` leaves at a task's destination and
  elsewhere.
-/
import FsProofs.Lemmas.BulkEff

namespace Fs.BulkLemmas
open Fs Fs.Bulk

/-! ### stores -/

theorem get_set_self (d : Store) (p : Str) (v : Bytes) : (d.set p v).get p = some v := by
  simp [Store.set, Store.get]

theorem get_set_ne (d : Store) (p q : Str) (v : Bytes) (h : q ≠ p) : (d.set p v).get q = d.get q := by
  simp [Store.set, Store.get, Ne.symm h]

theorem get_append_ne (d : Store) (p q : Str) (v : Bytes) (h : q ≠ p) :
    (d.append p v).get q = d.get q := by
  unfold Store.append; split <;> exact get_set_ne _ _ _ _ h

theorem get_append_self (d : Store) (p : Str) (old v : Bytes) (h : d.get p = some old) :
    (d.append p v).get p = some (old ++ v) := by
  unfold Store.append; rw [h]; exact get_set_self _ _ _

theorem get_openEffect_ne (c : Cfg) (d : Store) (i : Nat) (sd : Side) (q : Str) (h : q ≠ c.dstp i) :
    (openEffect c d i sd).get q = d.get q := by
  cases sd
  · rfl
  · exact get_set_ne _ _ _ _ h

/-! ### what each owner of a task claims about the task's destination -/

def phaseWant (c : Cfg) (i : Nat) : Phase → Option Bytes
  | .reading k => some ((c.data i).take (k * c.chunk))
  | .writing k => some ((c.data i).take (k * c.chunk))
  | .closeA _ => some (c.data i)
  | .closeB _ => some (c.data i)

def nextWant (c : Cfg) (i : Nat) : BNext → Option Bytes
  | .cont ph => phaseWant c i ph
  | .fin _ => some (c.data i)

def wClaims (c : Cfg) : W → List (Nat × Option Bytes)
  | .run i ph => [(i, phaseWant c i ph)]
  | .ending i _ => [(i, some (c.data i))]
  | _ => []

def qClaims : Option Nat → List (Nat × Option Bytes)
  | some i => [(i, some [])]
  | none => []

def pendClaims (c : Cfg) (l : List Nat) : List (Nat × Option Bytes) :=
  l.map fun j => (j, c.d0.get (c.dstp j))

def prodClaims (c : Cfg) : Prod → List (Nat × Option Bytes)
  | .loop i rest => pendClaims c (i :: rest)
  | .srcOpen i rest => pendClaims c (i :: rest)
  | .failClose i rest => pendClaims c (i :: rest)
  | .bothOpen i rest => (i, some []) :: pendClaims c rest
  | .inl i .second rest => (i, (openEffect c c.d0 i (firstSide c)).get (c.dstp i)) :: pendClaims c rest
  | .inl _ .failClose rest => pendClaims c rest
  | .inl i (.body ph) rest => (i, phaseWant c i ph) :: pendClaims c rest
  | .inl i .ptime rest => (i, some (c.data i)) :: pendClaims c rest
  | _ => []

def doneClaims (c : Cfg) (l : List Nat) : List (Nat × Option Bytes) :=
  l.map fun j => (j, some (c.data j))

def claims (c : Cfg) (s : St) : List (Nat × Option Bytes) :=
  prodClaims c s.prod ++ s.queue.flatMap qClaims ++ s.workers.flatMap (wClaims c) ++ doneClaims c s.done

/-- distinct destination paths, positive chunk size -/
structure WfCfg (c : Cfg) : Prop where
  nodup : (c.tasks.map (·.dst)).Nodup
  chunk : 0 < c.chunk

def Dest (c : Cfg) (s : St) : Prop :=
  s.nfail = 0 →
    (∀ x ∈ claims c s, s.dest.get (c.dstp x.1) = x.2) ∧
    (∀ p, (∀ i, i < c.tasks.length → c.dstp i ≠ p) → s.dest.get p = c.d0.get p)

theorem dstp_inj {c : Cfg} (h : WfCfg c) {i j : Nat} (hi : i < c.tasks.length) (hj : j < c.tasks.length)
    (hij : i ≠ j) : c.dstp i ≠ c.dstp j := by
  simp only [Cfg.dstp, List.getElem?_eq_getElem hi, List.getElem?_eq_getElem hj]
  exact fun he => hij ((List.getElem_inj (h₀ := by simpa using hi) (h₁ := by simpa using hj) h.nodup).1 (by simpa using he))

/-! ### claims vs. the conservation view -/

theorem map_fst_pendClaims (c : Cfg) (l : List Nat) : (pendClaims c l).map Prod.fst = l := by
  simp [pendClaims, List.map_map, Function.comp_def]

theorem map_fst_doneClaims (c : Cfg) (l : List Nat) : (doneClaims c l).map Prod.fst = l := by
  simp [doneClaims, List.map_map, Function.comp_def]

theorem map_fst_qClaims : ∀ q : List (Option Nat), (q.flatMap qClaims).map Prod.fst = q.filterMap id
  | [] => rfl
  | none :: q => by simpa [List.flatMap_cons, qClaims] using map_fst_qClaims q
  | some i :: q => by simpa [List.flatMap_cons, qClaims] using map_fst_qClaims q

theorem map_fst_wClaims (c : Cfg) : ∀ ws : List W, (ws.flatMap (wClaims c)).map Prod.fst = ws.flatMap W.tasks
  | [] => rfl
  | w :: ws => by
    have := map_fst_wClaims c ws
    cases w <;> simp [List.flatMap_cons, wClaims, W.tasks, W.task?, this]

theorem count_fst_prodClaims (c : Cfg) (p : Prod) (x : Nat) :
    List.count x ((prodClaims c p).map Prod.fst) ≤ List.count x (p.pending ++ p.inflight) := by
  cases p with
  | inl i st rest =>
    -- `≤`, not `=`: at `.inl i .failClose rest` the task `i` is in flight and not claimed
    cases st <;> simp [prodClaims, Prod.pending, Prod.inflight, map_fst_pendClaims, List.count_cons,
      List.count_append] <;> omega
  | _ => simp [prodClaims, Prod.pending, Prod.inflight, map_fst_pendClaims, List.count_cons]

theorem count_fst_claims_le (c : Cfg) (s : St) (x : Nat) :
    List.count x ((claims c s).map Prod.fst) ≤ List.count x s.allTasksView := by
  have := count_fst_prodClaims c s.prod x
  simp [claims, St.allTasksView, St.pending, St.queued, St.inflight, map_fst_qClaims, map_fst_wClaims,
    map_fst_doneClaims, List.count_append] at this ⊢
  omega

theorem eq_of_nodup_fst {α β : Type} {l : List (α × β)} (h : (l.map Prod.fst).Nodup) {x y : α × β}
    (hx : x ∈ l) (hy : y ∈ l) (he : x.1 = y.1) : x = y :=
  have hp : l.Pairwise fun a b => a.1 ≠ b.1 := List.pairwise_map.1 h
  List.Pairwise.forall_of_forall_of_flip (R := fun a b => a.1 = b.1 → a = b) (fun _ _ _ => rfl)
    (hp.imp fun hne he => absurd he hne) (hp.imp fun hne he => absurd he.symm hne) hx hy he

theorem claims_nodup {c : Cfg} {s : St} (hC : Cons c s) : ((claims c s).map Prod.fst).Nodup :=
  List.nodup_iff_count.2 fun a => by
    have := count_fst_claims_le c s a
    have h4 := hC a
    rw [List.count_range] at h4
    split at h4 <;> omega

theorem lt_of_mem_claims {c : Cfg} {s : St} (hC : Cons c s) {x : Nat × Option Bytes}
    (hx : x ∈ claims c s) : x.1 < c.tasks.length := by
  have h1 : 0 < List.count x.1 ((claims c s).map Prod.fst) :=
    List.count_pos_iff.mpr (List.mem_map.mpr ⟨x, hx, rfl⟩)
  exact lt_of_count_pos hC (Nat.lt_of_lt_of_le h1 (count_fst_claims_le c s x.1))

/-! ### how the claims and the destination move in a step -/

theorem mem_claims_prod {c : Cfg} {s : St} {x : Nat × Option Bytes} (h : x ∈ prodClaims c s.prod) :
    x ∈ claims c s :=
  List.mem_append_left _ (List.mem_append_left _ (List.mem_append_left _ h))

theorem mem_claims_done {c : Cfg} {s : St} {i : Nat} (h : i ∈ s.done) : (i, some (c.data i)) ∈ claims c s :=
  List.mem_append_right _ (List.mem_map.mpr ⟨i, h, rfl⟩)

theorem mem_claims_queue {c : Cfg} {s : St} {x : Nat × Option Bytes}
    (h : x ∈ s.queue.flatMap qClaims) : x ∈ claims c s :=
  List.mem_append_left _ (List.mem_append_left _ (List.mem_append_right _ h))

theorem mem_cons_replace {α : Type} {a b x : α} {l : List α} (h : x ∈ b :: l) : x ∈ a :: l ∨ x = b :=
  (List.mem_cons.mp h).elim Or.inr fun h => Or.inl (List.mem_cons_of_mem _ h)

theorem mem_doneClaims_append {c : Cfg} {l : List Nat} {i : Nat} {x : Nat × Option Bytes}
    (h : x ∈ doneClaims c (l ++ [i])) : x ∈ doneClaims c l ∨ x = (i, some (c.data i)) := by
  rw [doneClaims, List.map_append] at h
  exact (List.mem_append.mp h).imp_right List.mem_singleton.mp

/-- claims only shrink / move, destination untouched -/
theorem dest_step_same {c : Cfg} {s s' : St} (hD : Dest c s) (hmono : s'.nfail = 0 → s.nfail = 0)
    (hcl : ∀ x ∈ claims c s', x ∈ claims c s) (hd : s'.dest = s.dest) : Dest c s' := by
  intro h0
  obtain ⟨h1, h2⟩ := hD (hmono h0)
  rw [hd]
  exact ⟨fun x hx => h1 x (hcl x hx), h2⟩

theorem claims_of_parts {c : Cfg} {s s' : St} {P : Nat × Option Bytes → Prop}
    (hP : ∀ x ∈ claims c s, P x) (hw : s'.workers = s.workers)
    (hPr : ∀ x ∈ prodClaims c s'.prod, P x) (hQ : ∀ x ∈ s'.queue.flatMap qClaims, P x)
    (hD : ∀ x ∈ doneClaims c s'.done, P x) : ∀ x ∈ claims c s', P x := by
  intro x hx
  simp only [claims, hw, List.mem_append] at hx
  rcases hx with ((hx | hx) | hx) | hx
  · exact hPr x hx
  · exact hQ x hx
  · exact hP x (List.mem_append_left _ (List.mem_append_right _ hx))
  · exact hD x hx

theorem claims_prod_step {c : Cfg} {s s' : St} {new : Nat × Option Bytes} (hq : s'.queue = s.queue)
    (hw : s'.workers = s.workers)
    (hP : ∀ x ∈ prodClaims c s'.prod, x ∈ prodClaims c s.prod ∨ x = new)
    (hdn : ∀ x ∈ doneClaims c s'.done, x ∈ doneClaims c s.done ∨ x = new) :
    ∀ x ∈ claims c s', x ∈ claims c s ∨ x = new :=
  claims_of_parts (fun _ h => .inl h) hw (fun x hx => (hP x hx).imp_left mem_claims_prod)
    (fun _ hx => .inl (mem_claims_queue (hq ▸ hx))) fun x hx => (hdn x hx).imp_left (List.mem_append_right _)

theorem dest_step_prod {c : Cfg} {s s' : St} (hD : Dest c s) (hq : s'.queue = s.queue)
    (hw : s'.workers = s.workers) (hdn : s'.done = s.done) (hd : s'.dest = s.dest)
    (hn : s'.nfail = s.nfail) (hP : prodClaims c s'.prod ⊆ prodClaims c s.prod) : Dest c s' :=
  dest_step_same hD (fun h => hn ▸ h)
    (claims_of_parts (fun _ h => h) hw (fun _ h => mem_claims_prod (hP h))
      (fun _ h => mem_claims_queue (hq ▸ h)) (fun _ h => List.mem_append_right _ (hdn ▸ h))) hd

/-- one task `i` advances: its claim becomes `(i, v)`, only `dstp i` may change -/
theorem dest_step_task {c : Cfg} {s s' : St} (hwf : WfCfg c) (hD : Dest c s) (hC' : Cons c s')
    (hmono : s'.nfail = 0 → s.nfail = 0) (i : Nat) (v : Option Bytes)
    (ha : ∀ x ∈ claims c s', x ∈ claims c s ∨ x = (i, v))
    (he : (i, v) ∈ claims c s')
    (hb : ∀ p, p ≠ c.dstp i → s'.dest.get p = s.dest.get p)
    (hc : s'.nfail = 0 → s'.dest.get (c.dstp i) = v) : Dest c s' := by
  intro h0
  have h0s := hmono h0
  obtain ⟨h1, h2⟩ := hD h0s
  have hi : i < c.tasks.length := lt_of_mem_claims hC' he
  constructor
  · intro x hx
    obtain ⟨j, w⟩ := x
    by_cases hji : j = i
    · subst hji
      obtain rfl : w = v := (Prod.mk.inj (eq_of_nodup_fst (claims_nodup hC') hx he rfl)).2
      exact hc h0
    · rcases ha _ hx with hold | hnew
      · have hj : j < c.tasks.length := lt_of_mem_claims hC' hx
        have hne : c.dstp j ≠ c.dstp i := dstp_inj hwf hj hi hji
        show s'.dest.get (c.dstp j) = w
        rw [hb _ hne]
        exact h1 _ hold
      · simp at hnew; exact absurd hnew.1 hji
  · intro p hp
    rw [hb p (fun h => hp i hi h.symm)]
    exact h2 p hp

/-! ### chunks -/

theorem take_full_of_chunk_empty (data : Bytes) (k ch : Nat) (hch : 0 < ch)
    (h : ((data.drop (k * ch)).take ch).isEmpty = true) : data.take (k * ch) = data :=
  List.take_of_length_le (List.drop_eq_nil_iff.1
    ((List.take_eq_nil_iff.1 (List.isEmpty_iff.1 h)).resolve_left (Nat.ne_of_gt hch)))

theorem take_succ_chunk (data : Bytes) (k ch : Nat) :
    data.take (k * ch) ++ (data.drop (k * ch)).take ch = data.take ((k + 1) * ch) := by
  rw [Nat.succ_mul, List.take_add]

/-- effect of a body step on the destination -/
theorem BTrans.dest {c : Cfg} {s s1 : St} {i : Nat} {a : Side} {ph : Phase} {nx : BNext} {e : Ev}
    (hb : BTrans c s i a ph nx e s1) (hch : 0 < c.chunk) :
    (∀ p, p ≠ c.dstp i → s1.dest.get p = s.dest.get p) ∧
    (s1.nfail = 0 → s.dest.get (c.dstp i) = phaseWant c i ph → s1.dest.get (c.dstp i) = nextWant c i nx) := by
  cases hb with
  | readFail k hf => exact ⟨fun _ _ => rfl, fun h => by simp at h⟩
  | readEof k hf he =>
    refine ⟨fun _ _ => rfl, fun _ hw => ?_⟩
    simp only [nextWant, phaseWant] at hw ⊢
    rw [hw, take_full_of_chunk_empty (c.data i) k c.chunk hch he]
  | readData k hf he => exact ⟨fun _ _ => rfl, fun _ hw => hw⟩
  | writeFail k hf => exact ⟨fun _ _ => rfl, fun h => by simp at h⟩
  | writeOk k hf =>
    refine ⟨fun p hp => get_append_ne _ _ _ _ hp, fun _ hw => ?_⟩
    simp only [nextWant, phaseWant] at hw ⊢
    show (s.dest.append (c.dstp i) (c.chunkOf i k)).get (c.dstp i) = _
    rw [get_append_self _ _ _ _ hw, Cfg.chunkOf, take_succ_chunk]
  | closeAFail exc hf => exact ⟨fun _ _ => rfl, fun h => by simp at h⟩
  | closeAOk exc hf => exact ⟨fun _ _ => rfl, fun _ hw => hw⟩
  | closeBFail exc hf => exact ⟨fun _ _ => rfl, fun h => by simp at h⟩
  | closeBOk exc hf => exact ⟨fun _ _ => rfl, fun _ hw => hw⟩

/-- a body step of task `i`, whoever runs it: the claim `(i, phaseWant ph)` of its owner becomes
    `(i, nextWant nx)` -/
theorem dest_body {c : Cfg} {s s1 s' : St} {i : Nat} {a : Side} {ph : Phase} {nx : BNext} {e : Ev}
    (hwf : WfCfg c) (hD : Dest c s) (hC' : Cons c s') (hb : BTrans c s i a ph nx e s1)
    (hd : s'.dest = s1.dest) (hn : s'.nfail = s1.nfail)
    (hown : (i, phaseWant c i ph) ∈ claims c s)
    (ha : ∀ x ∈ claims c s', x ∈ claims c s ∨ x = (i, nextWant c i nx))
    (he : (i, nextWant c i nx) ∈ claims c s') : Dest c s' := by
  obtain ⟨hd1, hd2⟩ := hb.dest hwf.chunk
  have hmono : s'.nfail = 0 → s.nfail = 0 := fun h => by rcases hb.vis with ⟨h1, _⟩ | ⟨h1, _⟩ <;> omega
  rw [← hd] at hd1 hd2
  exact dest_step_task hwf hD hC' hmono i _ ha he hd1
    (fun h0 => hd2 (hn ▸ h0) ((hD (hmono h0)).1 _ hown))

/-! ### membership under `set` -/

theorem mem_flatMap_set {α β : Type} (g : α → List β) (x : β) (l : List α) (w : Nat) (b : α)
    (h : x ∈ (l.set w b).flatMap g) : x ∈ g b ∨ x ∈ l.flatMap g := by
  rw [List.mem_flatMap] at h
  obtain ⟨a, ha, hx⟩ := h
  rcases List.mem_or_eq_of_mem_set ha with ha | ha
  · exact Or.inr (List.mem_flatMap.mpr ⟨a, ha, hx⟩)
  · subst ha; exact Or.inl hx

theorem mem_flatMap_set_self {α β : Type} (g : α → List β) (x : β) (l : List α) (w : Nat) (a b : α)
    (hw : l[w]? = some a) (hx : x ∈ g b) : x ∈ (l.set w b).flatMap g :=
  List.mem_flatMap.mpr ⟨b, List.mem_set (List.getElem?_eq_some_iff.1 hw).1 b, hx⟩

theorem prodClaims_afterBody (c : Cfg) (b : Bool) : prodClaims c (afterBody c b) = [] := by
  unfold afterBody; split <;> rfl
theorem prodClaims_nextLoop (c : Cfg) (r : List Nat) : prodClaims c (nextLoop c r) = pendClaims c r := by
  cases r with
  | nil => exact prodClaims_afterBody c false
  | cons i r => rfl

theorem dest_init (c : Cfg) : Dest c (init c) := by
  intro _
  constructor
  · intro x hx
    simp [claims, init, prodClaims_nextLoop, pendClaims, doneClaims,
      flatMap_replicate_nil (wClaims c) W.idle rfl] at hx
    obtain ⟨j, _, rfl⟩ := hx
    rfl
  · intro p _; rfl

theorem mem_claims_worker {c : Cfg} {s : St} {w : Nat} {a : W} {x : Nat × Option Bytes}
    (hw : s.workers[w]? = some a) (h : x ∈ wClaims c a) : x ∈ claims c s :=
  List.mem_append_left _ (List.mem_append_right _ (List.mem_flatMap_of_mem (List.mem_of_getElem? hw) h))

theorem claims_worker_step {c : Cfg} {s s' : St} {w : Nat} {b : W} {P : Nat × Option Bytes → Prop}
    (hP : ∀ x ∈ claims c s, P x) (hp : s'.prod = s.prod) (hws : s'.workers = s.workers.set w b)
    (hQ : ∀ x ∈ s'.queue.flatMap qClaims, P x) (hW : ∀ x ∈ wClaims c b, P x)
    (hD : ∀ x ∈ doneClaims c s'.done, P x) : ∀ x ∈ claims c s', P x := by
  intro x hx
  simp only [claims, hp, hws, List.mem_append] at hx
  rcases hx with ((hx | hx) | hx) | hx
  · exact hP x (mem_claims_prod hx)
  · exact hQ x hx
  · rcases mem_flatMap_set _ _ _ _ _ hx with hx | hx
    · exact hW x hx
    · exact hP x (List.mem_append_left _ (List.mem_append_right _ hx))
  · exact hD x hx

theorem wClaims_ofItem (c : Cfg) (x : Option Nat) : wClaims c (W.ofItem x) = qClaims x := by
  cases x <;> simp [W.ofItem, wClaims, qClaims, phaseWant]
theorem wClaims_ofNext (c : Cfg) (i : Nat) (nx : BNext) : wClaims c (W.ofNext i nx) = [(i, nextWant c i nx)] := by
  cases nx <;> rfl

theorem dest_worker {c : Cfg} {s s' : St} {w : Nat} {e : Ev} (hwf : WfCfg c) (hD : Dest c s)
    (hC' : Cons c s') (hs : WTrans c s w s' e) : Dest c s' := by
  have old : ∀ x ∈ claims c s, x ∈ claims c s := fun _ h => h
  have done : ∀ x ∈ doneClaims c s.done, x ∈ claims c s := fun _ h => List.mem_append_right _ h
  induction hs with
  | get y q hw hq =>
    refine dest_step_same hD (fun h => h) (claims_worker_step old rfl rfl (fun x hx => ?_) (fun x hx => ?_) done) rfl
    · exact mem_claims_queue (by rw [hq]; exact List.mem_append_right _ hx)
    · rw [wClaims_ofItem] at hx
      exact mem_claims_queue (by rw [hq]; exact List.mem_append_left _ hx)
  | body i ph nx e s1 hw hb =>
    refine dest_body hwf hD hC' hb rfl rfl (mem_claims_worker hw List.mem_cons_self) ?_ ?_ <;>
      obtain ⟨d, o, k, rfl⟩ := hb.eq_update
    · exact claims_worker_step (fun x h => Or.inl h) rfl rfl (fun x h => Or.inl (mem_claims_queue h))
        (fun x h => Or.inr (List.mem_singleton.mp (wClaims_ofNext c i nx ▸ h))) (fun x h => Or.inl (done x h))
    · exact List.mem_append_left _ (List.mem_append_right _
        (mem_flatMap_set_self _ _ _ _ _ _ hw (wClaims_ofNext c i nx ▸ List.mem_cons_self)))
  | endTask i exc hw =>
    refine dest_step_same hD (fun h => h) (claims_worker_step old rfl rfl (fun _ h => mem_claims_queue h)
      (fun _ hx => nomatch hx) (fun x hx => ?_)) rfl
    rcases mem_doneClaims_append hx with hx | hx
    · exact done x hx
    · exact mem_claims_worker hw (hx ▸ List.mem_cons_self)
  | exitW hw =>
    exact dest_step_same hD (fun h => h) (claims_worker_step old rfl rfl (fun _ h => mem_claims_queue h)
      (fun _ hx => nomatch hx) done) rfl

theorem openEffect_get_dst (c : Cfg) (d : Store) (i : Nat) :
    (openEffect c d i .dst).get (c.dstp i) = some [] := get_set_self _ _ _

theorem dest_prod {c : Cfg} {s s' : St} {e : Ev} (hwf : WfCfg c) (hD : Dest c s)
    (hC' : Cons c s') (hs : PTrans c s s' e) : Dest c s' := by
  have vj := view_afterJoin (prodClaims c) c fun _ _ _ => rfl
  have vp := view_ptimesNext (prodClaims c) fun _ _ _ => rfl
  induction hs
  -- a failure fires: nothing to show
  case inlOpen1Fail | openSrcFail | openDstFail | failCloseFail | inlOpen2Fail | inlFailCloseFail
      | inlPtimeFail | ptimesFail =>
    exact fun h0 => absurd h0 (Nat.succ_ne_zero _)
  -- a task advances
  case inlOpen1Ok i rest hp _ _ =>
    refine dest_step_task hwf hD hC' (fun h => h) i
      ((openEffect c c.d0 i (firstSide c)).get (c.dstp i))
      (claims_prod_step rfl rfl (by rw [hp]; exact fun x hx => mem_cons_replace hx) fun x hx => Or.inl hx)
      (mem_claims_prod List.mem_cons_self) (fun p hne => get_openEffect_ne c s.dest i (firstSide c) p hne) ?_
    intro h0
    have hcl := (hD h0).1 (i, c.d0.get (c.dstp i)) (mem_claims_prod (by rw [hp]; exact List.mem_cons_self))
    show (openEffect c s.dest i (firstSide c)).get (c.dstp i) = _
    cases firstSide c
    · exact hcl
    · rw [openEffect_get_dst, openEffect_get_dst]
  case openDstOk i rest hp _ =>
    exact dest_step_task hwf hD hC' (fun h => h) i (some [])
      (claims_prod_step rfl rfl (by rw [hp]; exact fun x hx => mem_cons_replace hx) fun x hx => Or.inl hx)
      (mem_claims_prod List.mem_cons_self) (fun p hne => get_openEffect_ne c s.dest i .dst p hne)
      (fun _ => openEffect_get_dst c _ _)
  case inlOpen2Ok i rest hp _ =>
    have hz : phaseWant c i (.reading 0) = some [] := by simp [phaseWant]
    refine dest_step_task hwf hD hC' (fun h => h) i (some [])
      (claims_prod_step rfl rfl (by rw [hp, ← hz]; exact fun x hx => mem_cons_replace hx) fun x hx => Or.inl hx)
      (mem_claims_prod (by rw [← hz]; exact List.mem_cons_self))
      (fun p hne => get_openEffect_ne c s.dest i (firstSide c).other p hne) ?_
    intro h0
    have hcl := (hD h0).1 (i, (openEffect c c.d0 i (firstSide c)).get (c.dstp i))
      (mem_claims_prod (by rw [hp]; exact List.mem_cons_self))
    show (openEffect c s.dest i (firstSide c).other).get (c.dstp i) = _
    cases hfs : firstSide c
    · exact openEffect_get_dst c _ _
    · rw [hfs, openEffect_get_dst] at hcl; exact hcl
  case inlBodyCont i rest ph ph' e s1 hp hb | inlBodyToPtime i rest ph e s1 hp hb _ =>
    refine dest_body hwf hD hC' hb rfl rfl (mem_claims_prod (by rw [hp]; exact List.mem_cons_self)) ?_ ?_ <;>
      obtain ⟨d, o, k, rfl⟩ := hb.eq_update
    · exact claims_prod_step rfl rfl (by rw [hp]; exact fun x hx => mem_cons_replace hx) fun x hx => Or.inl hx
    · exact mem_claims_prod List.mem_cons_self
  case inlBodyRaise i rest ph e s1 hp hb =>
    refine dest_body hwf hD hC' hb rfl rfl (mem_claims_prod (by rw [hp]; exact List.mem_cons_self)) ?_ ?_ <;>
      obtain ⟨d, o, k, rfl⟩ := hb.eq_update
    · refine claims_prod_step rfl rfl (fun x hx => ?_) fun x hx => mem_doneClaims_append hx
      rw [show prodClaims c (raiseP c _ _).prod = [] from prodClaims_afterBody c true] at hx
      cases hx
    · exact mem_claims_done (List.mem_append_right _ List.mem_cons_self)
  case inlBodyNext i rest ph e s1 hp hb _ =>
    refine dest_body hwf hD hC' hb rfl rfl (mem_claims_prod (by rw [hp]; exact List.mem_cons_self)) ?_ ?_ <;>
      obtain ⟨d, o, k, rfl⟩ := hb.eq_update
    · refine claims_prod_step rfl rfl (fun x hx => ?_) fun x hx => mem_doneClaims_append hx
      rw [show prodClaims c (nextLoop c rest) = _ from prodClaims_nextLoop c rest] at hx
      rw [hp]; exact Or.inl (List.mem_cons_of_mem _ hx)
    · exact mem_claims_done (List.mem_append_right _ List.mem_cons_self)
  -- a claim moves from the producer to the queue, or to `done`
  case put i rest hp _ =>
    refine dest_step_same hD (fun h => h) (claims_of_parts (fun _ h => h) rfl (fun x hx => ?_)
      (fun x hx => ?_) fun _ h => List.mem_append_right _ h) rfl
    · rw [show prodClaims c (nextLoop c rest) = _ from prodClaims_nextLoop c rest] at hx
      exact mem_claims_prod (by rw [hp]; exact List.mem_cons_of_mem _ hx)
    · rw [List.flatMap_append] at hx
      rcases List.mem_append.mp hx with hx | hx
      · exact mem_claims_queue hx
      · exact mem_claims_prod (by rw [hp]; exact List.mem_cons.mpr (.inl (List.mem_singleton.mp hx)))
  case inlPtimeOk i rest hp _ =>
    refine dest_step_same hD (fun h => h) (claims_of_parts (fun _ h => h) rfl (fun x hx => ?_)
      (fun _ h => mem_claims_queue h) fun x hx => ?_) rfl
    · rw [show prodClaims c (nextLoop c rest) = _ from prodClaims_nextLoop c rest] at hx
      exact mem_claims_prod (by rw [hp]; exact List.mem_cons_of_mem _ hx)
    · rcases mem_doneClaims_append hx with hx | hx
      · exact List.mem_append_right _ hx
      · exact mem_claims_prod (by rw [hp, hx]; exact List.mem_cons_self)
  case putSentinel k exc hp _ =>
    refine dest_step_same hD (fun h => h) (claims_of_parts (fun _ h => h) rfl (fun x hx => ?_)
      (fun x hx => ?_) fun _ h => List.mem_append_right _ h) rfl
    · rw [apply_ite (prodClaims c)] at hx; split at hx <;> cases hx
    · rw [List.flatMap_append] at hx
      exact mem_claims_queue ((List.mem_append.mp hx).resolve_right fun h => nomatch h)
  -- the producer keeps its claims,
  case openSrcOk hp _ _ | qjoin hp _ | exit hp =>
    exact dest_step_prod hD rfl rfl rfl rfl rfl (by rw [hp]; exact List.Subset.refl _)
  -- or gives them up
  all_goals
    refine dest_step_prod hD rfl rfl rfl rfl rfl ?_
    simp only [raiseP, prodClaims_afterBody, vp, vj, apply_ite (prodClaims c)]
    simp only [prodClaims, ite_self]
    exact List.nil_subset _

/-! ### the sequential specification -/

theorem get_copyOne_self (d : Store) (t : Task) : (copyOne d t).get t.dst = some t.data :=
  get_set_self _ _ _

theorem get_copyOne_ne (d : Store) (t : Task) (p : Str) (h : p ≠ t.dst) : (copyOne d t).get p = d.get p :=
  get_set_ne _ _ _ _ h

theorem foldl_copyOne_other : ∀ (ts : List Task) (d : Store) (p : Str), (∀ t ∈ ts, t.dst ≠ p) →
    (ts.foldl copyOne d).get p = d.get p
  | [], _, _, _ => rfl
  | t :: ts, d, p, h => by
    rw [List.foldl_cons, foldl_copyOne_other ts _ p (fun t' ht' => h t' (by simp [ht']))]
    exact get_copyOne_ne d t p (Ne.symm (h t (by simp)))

theorem foldl_copyOne_task : ∀ (ts : List Task) (d : Store) (t : Task), (ts.map (·.dst)).Nodup → t ∈ ts →
    (ts.foldl copyOne d).get t.dst = some t.data
  | [], _, _, _, h => by simp at h
  | u :: ts, d, t, hn, h => by
    rw [List.foldl_cons]
    simp only [List.map_cons, List.nodup_cons] at hn
    rcases List.mem_cons.mp h with h | h
    · subst h
      rw [foldl_copyOne_other ts _ t.dst (fun t' ht' heq => hn.1 (List.mem_map.mpr ⟨t', ht', heq⟩))]
      exact get_copyOne_self d t
    · exact foldl_copyOne_task ts _ t hn.2 h

end Fs.BulkLemmas
