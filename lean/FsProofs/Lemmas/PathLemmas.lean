/-
  fs.path on strings against its specification on component lists (FsModel.PathSpec).  `mkp a cs` is the string with
  clean components `cs`; what `normpath` lets through unchanged is such a string, possibly with a slash after it
  (`fast_form`), so `normpath = specNorm`; then every path function is evaluated on `mkp a cs`.
  The last three sections (`comps`; what `normpath` / `iteratepath` return on every string; `stripSlash`) declare
  into `Fs.ConfineLemmas`, the namespace of their users' other facts about validated paths; they need fs.path only,
  not the confinement model.
-/
import FsModel.Path
import FsModel.PathSpec

namespace Fs.PathLemmas
open Fs Fs.Path Fs.PathSpec

/-! ### splitOn / joinWith -/

theorem splitOn_ne_nil (c : Char) (s : Str) : splitOn c s ≠ [] := by
  induction s with
  | nil => simp [splitOn]
  | cons x xs ih =>
    unfold splitOn
    split
    · simp
    · split <;> simp

theorem splitOn_cons_sep (c : Char) (s : Str) : splitOn c (c :: s) = [] :: splitOn c s := by
  simp [splitOn]

theorem splitOn_cons_ne (c x : Char) (s : Str) (h : x ≠ c) :
    ∃ a t, splitOn c s = a :: t ∧ splitOn c (x :: s) = (x :: a) :: t := by
  rw [splitOn, if_neg h]
  cases hs : splitOn c s with
  | nil => exact absurd hs (splitOn_ne_nil c s)
  | cons a t => exact ⟨a, t, rfl, rfl⟩

theorem length_splitOn (c : Char) (s : Str) : (splitOn c s).length = s.count c + 1 := by
  induction s with
  | nil => rfl
  | cons x xs ih =>
    by_cases hx : x = c
    · subst hx; rw [splitOn_cons_sep, List.length_cons, ih, List.count_cons_self]
    · obtain ⟨a, t, hs, e⟩ := splitOn_cons_ne c x xs hx
      rw [e, List.count_cons_of_ne hx, ← ih, hs]; rfl

theorem splitOn_of_not_mem (c : Char) (a : Str) (h : c ∉ a) : splitOn c a = [a] := by
  induction a with
  | nil => simp [splitOn]
  | cons x xs ih =>
    simp only [List.mem_cons, not_or] at h
    obtain ⟨a, t, hs, e⟩ := splitOn_cons_ne c x xs (fun e => h.1 e.symm)
    rw [ih h.2] at hs
    cases hs; exact e

theorem splitOn_append_cons_sep (c : Char) (a b : Str) :
    splitOn c (a ++ c :: b) = splitOn c a ++ splitOn c b := by
  induction a with
  | nil => simp [splitOn]
  | cons x xs ih =>
    by_cases hx : x = c
    · subst hx
      rw [List.cons_append, splitOn_cons_sep, splitOn_cons_sep, ih]; rfl
    · obtain ⟨h, t, hs, e⟩ := splitOn_cons_ne c x xs hx
      obtain ⟨h', t', hs', e'⟩ := splitOn_cons_ne c x (xs ++ c :: b) hx
      rw [ih, hs] at hs'
      cases hs'
      rw [List.cons_append, e, e']; rfl

theorem splitOn_append_sep (c : Char) (a b : Str) (h : c ∉ a) :
    splitOn c (a ++ c :: b) = a :: splitOn c b := by
  rw [splitOn_append_cons_sep, splitOn_of_not_mem c a h]; rfl

theorem splitOn_joinWith (c : Char) (cs : List Str) (hne : cs ≠ [])
    (h : ∀ x ∈ cs, c ∉ x) : splitOn c (joinWith c cs) = cs := by
  induction cs with
  | nil => contradiction
  | cons a rest ih =>
    cases rest with
    | nil => simpa [joinWith] using splitOn_of_not_mem c a (h a (by simp))
    | cons b rest =>
      rw [joinWith, splitOn_append_sep c a _ (h a (by simp))]
      rw [ih (by simp) (fun x hx => h x (List.mem_cons_of_mem _ hx))]

theorem joinWith_cons (c : Char) (a : Str) (rest : List Str) :
    joinWith c (a :: rest) = if rest = [] then a else a ++ c :: joinWith c rest := by
  cases rest <;> simp [joinWith]

theorem joinWith_splitOn (c : Char) (s : Str) : joinWith c (splitOn c s) = s := by
  induction s with
  | nil => rfl
  | cons x xs ih =>
    by_cases hx : x = c
    · subst hx
      rw [splitOn_cons_sep, joinWith_cons, if_neg (splitOn_ne_nil x xs), ih]; rfl
    · obtain ⟨h, t, hs, e⟩ := splitOn_cons_ne c x xs hx
      rw [e, ← ih, hs]
      cases t <;> rfl

theorem not_mem_of_mem_splitOn (c : Char) (s : Str) : ∀ x ∈ splitOn c s, c ∉ x := by
  induction s with
  | nil => simp [splitOn]
  | cons y ys ih =>
    by_cases hy : y = c
    · subst hy
      rw [splitOn_cons_sep, List.forall_mem_cons]
      exact ⟨List.not_mem_nil, ih⟩
    · obtain ⟨h, t, hs, e⟩ := splitOn_cons_ne c y ys hy
      rw [hs, List.forall_mem_cons] at ih
      rw [e, List.forall_mem_cons]
      exact ⟨fun hm => (List.mem_cons.1 hm).elim (fun e => hy e.symm) ih.1, ih.2⟩

/-! ### strip / startsWith -/

theorem startsWithSlash_nil : startsWithSlash [] = false := rfl

theorem startsWithSlash_cons (c : Char) (s : Str) : startsWithSlash (c :: s) = decide (c = '/') := by
  by_cases h : c = '/'
  · subst h; rfl
  · simp only [h, decide_false]
    unfold startsWithSlash
    split
    · next heq => simp at heq; exact absurd heq.1 h
    · rfl

theorem lstripSlash_append_single (a : Str) (x : Char) :
    lstripSlash (a ++ [x]) =
      if lstripSlash a = [] then (if x = '/' then [] else [x]) else lstripSlash a ++ [x] := by
  induction a with
  | nil => simp [lstripSlash]
  | cons y ys ih =>
    by_cases hy : y = '/'
    · simp [lstripSlash, hy, ih]
    · simp [lstripSlash, hy]

theorem rstripSlash_nil : rstripSlash [] = [] := rfl

theorem rstripSlash_cons (x : Char) (xs : Str) :
    rstripSlash (x :: xs) =
      if rstripSlash xs = [] then (if x = '/' then [] else [x]) else x :: rstripSlash xs := by
  simp only [rstripSlash, List.reverse_cons, lstripSlash_append_single, List.reverse_eq_nil_iff]
  split
  · split <;> simp
  · simp

theorem rstripSlash_append_single (a : Str) (x : Char) :
    rstripSlash (a ++ [x]) = if x = '/' then rstripSlash a else a ++ [x] := by
  simp only [rstripSlash, List.reverse_append, List.reverse_cons, List.reverse_nil, List.nil_append,
    List.cons_append, lstripSlash]
  split <;> simp

theorem startsWithSlash_of_not_mem (s : Str) (h : '/' ∉ s) : startsWithSlash s = false := by
  cases s with
  | nil => rfl
  | cons c s =>
    rw [startsWithSlash_cons]
    simp only [List.mem_cons, not_or] at h
    have : c ≠ '/' := fun e => h.1 e.symm
    simp [this]

theorem startsWithSlash_append (s t : Str) (h : s ≠ []) :
    startsWithSlash (s ++ t) = startsWithSlash s := by
  cases s with
  | nil => contradiction
  | cons c s => simp [startsWithSlash_cons]

theorem endsWithSlash_append (s t : Str) (h : t ≠ []) :
    endsWithSlash (s ++ t) = endsWithSlash t := by
  simp only [endsWithSlash, List.reverse_append]
  exact startsWithSlash_append _ _ (by simpa using h)

theorem endsWithSlash_of_not_mem (s : Str) (h : '/' ∉ s) : endsWithSlash s = false :=
  startsWithSlash_of_not_mem _ (by simpa using h)

theorem lstripSlash_of_not_starts (s : Str) (h : startsWithSlash s = false) : lstripSlash s = s := by
  cases s with
  | nil => rfl
  | cons c s =>
    rw [startsWithSlash_cons] at h
    simp at h
    simp [lstripSlash, h]

theorem rstripSlash_of_not_ends (s : Str) (h : endsWithSlash s = false) : rstripSlash s = s := by
  unfold rstripSlash
  rw [lstripSlash_of_not_starts _ h]; simp

theorem lstripSlash_length_le (s : Str) : (lstripSlash s).length ≤ s.length := by
  induction s with
  | nil => exact Nat.le_refl _
  | cons c cs ih =>
    unfold lstripSlash
    split
    · simp only [List.length_cons]; omega
    · exact Nat.le_refl _

theorem rstripSlash_length_le (s : Str) : (rstripSlash s).length ≤ s.length := by
  unfold rstripSlash
  have := lstripSlash_length_le s.reverse
  simpa using this

theorem rstripSlash_append (a b : Str) :
    rstripSlash (a ++ b) = if rstripSlash b = [] then rstripSlash a else a ++ rstripSlash b := by
  induction a with
  | nil => simp [rstripSlash_nil]
  | cons x xs ih =>
    rw [List.cons_append, rstripSlash_cons, ih, rstripSlash_cons]
    by_cases hb : rstripSlash b = []
    · simp [hb]
    · simp [hb]

/-! ### joinWith structure -/

theorem joinWith_eq_nil_iff (c : Char) (cs : List Str) (h : ∀ x ∈ cs, x ≠ []) :
    joinWith c cs = [] ↔ cs = [] := by
  cases cs with
  | nil => simp [joinWith]
  | cons a rest =>
    have := h a (by simp)
    rw [joinWith_cons]
    split <;> simp [this]

theorem joinWith_append (c : Char) (as bs : List Str) (ha : as ≠ []) (hb : bs ≠ []) :
    joinWith c (as ++ bs) = joinWith c as ++ c :: joinWith c bs := by
  induction as with
  | nil => contradiction
  | cons a rest ih =>
    cases rest with
    | nil =>
      cases bs with
      | nil => contradiction
      | cons b bs => simp [joinWith]
    | cons a2 rest =>
      have := ih (by simp)
      simp only [List.cons_append] at this ⊢
      simp [joinWith, this]

theorem joinWith_not_mem (c d : Char) (hcd : c ≠ d) (l : List Str) (h : ∀ x ∈ l, c ∉ x) :
    c ∉ joinWith d l := by
  induction l with
  | nil => simp [joinWith]
  | cons a rest ih =>
    rw [joinWith_cons]
    split
    · exact h a (by simp)
    · simp only [List.mem_append, List.mem_cons, not_or]
      exact ⟨h a (by simp), hcd, ih (fun x hx => h x (by simp [hx]))⟩

/-! ### normLoop vs resolve -/

theorem foldl_step_none (cs : List Str) : cs.foldl step none = none := by
  induction cs with
  | nil => rfl
  | cons c cs ih => simpa [step] using ih

theorem inDotDot_iff (c : Str) : inDotDot c = true ↔ (c = [] ∨ c = dot ∨ c = dotdot) := by
  simp [inDotDot, dot, dotdot, or_assoc]

theorem normLoop_eq_foldl (cs acc : List Str) :
    normLoop cs acc = cs.foldl step (some acc.reverse) := by
  induction cs generalizing acc with
  | nil => simp [normLoop]
  | cons c cs ih =>
    rw [normLoop.eq_def, List.foldl_cons]; simp only []
    by_cases h1 : c = []
    · subst h1
      simp [inDotDot, step, ih]
    · by_cases h2 : c = dot
      · subst h2
        simp [inDotDot, step, ih, dot]
      · by_cases h3 : c = dotdot
        · subst h3
          cases acc with
          | nil => simp [inDotDot, step, dotdot, dot, foldl_step_none]
          | cons x acc' =>
            simp [inDotDot, step, dotdot, ih, dot]
        · have : inDotDot c = false := by
            rw [Bool.eq_false_iff]; intro h; rw [inDotDot_iff] at h; simp_all
          simp [this, step, h1, h2, h3, ih]

theorem normLoop_eq_resolve (cs : List Str) : normLoop cs [] = resolve cs := by
  simp [normLoop_eq_foldl, resolve]

/-! ### Clean lists -/

theorem clean_nil : Clean [] := by intro c hc; cases hc

theorem clean_cons {c : Str} {cs : List Str} : Clean (c :: cs) ↔ CleanComp c ∧ Clean cs :=
  List.forall_mem_cons

theorem clean_append {as bs : List Str} : Clean (as ++ bs) ↔ Clean as ∧ Clean bs :=
  List.forall_mem_append

theorem clean_dropLast {cs : List Str} (h : Clean cs) : Clean cs.dropLast :=
  fun c hc => h c (List.dropLast_subset cs hc)

theorem clean_take {cs : List Str} (h : Clean cs) (n : Nat) : Clean (cs.take n) :=
  fun c hc => h c (List.mem_of_mem_take hc)

theorem clean_drop {cs : List Str} (h : Clean cs) (n : Nat) : Clean (cs.drop n) :=
  fun c hc => h c (List.mem_of_mem_drop hc)

theorem foldl_step_clean (cs s : List Str) (h : Clean cs) :
    cs.foldl step (some s) = some (s ++ cs) := by
  induction cs generalizing s with
  | nil => simp
  | cons c cs ih =>
    rw [clean_cons] at h
    obtain ⟨⟨h1, h2, h3, _⟩, hcs⟩ := h
    simp [step, h1, h2, h3, ih _ hcs]

theorem resolve_clean (cs : List Str) (h : Clean cs) : resolve cs = some cs := by
  simpa [resolve] using foldl_step_clean cs [] h

theorem mem_joinWith_of_mem (c : Char) {x : Str} {ch : Char} (hch : ch ∈ x) :
    ∀ cs : List Str, x ∈ cs → ch ∈ joinWith c cs
  | [a], hx => by cases List.mem_singleton.1 hx; exact hch
  | a :: b :: rest, hx => by
    rw [joinWith, List.mem_append, List.mem_cons]
    rcases List.mem_cons.1 hx with rfl | hx
    · exact .inl hch
    · exact .inr (.inr (mem_joinWith_of_mem c hch (b :: rest) hx))

theorem mem_of_mem_splitOn (c : Char) (s : Str) : ∀ x ∈ splitOn c s, ∀ ch ∈ x, ch ∈ s := by
  intro x hx ch hch
  rw [← joinWith_splitOn c s]
  exact mem_joinWith_of_mem c hch _ hx

theorem foldl_step_mem (cs s r : List Str) (h : cs.foldl step (some s) = some r) :
    ∀ x ∈ r, x ∈ s ∨ (x ∈ cs ∧ x ≠ [] ∧ x ≠ dot ∧ x ≠ dotdot) := by
  induction cs generalizing s with
  | nil => cases h; exact fun x hx => Or.inl hx
  | cons c cs ih =>
    rw [List.foldl_cons] at h
    have tl : ∀ {x}, (x ∈ cs ∧ x ≠ [] ∧ x ≠ dot ∧ x ≠ dotdot) →
        x ∈ s ∨ (x ∈ c :: cs ∧ x ≠ [] ∧ x ≠ dot ∧ x ≠ dotdot) :=
      fun h' => Or.inr ⟨List.mem_cons_of_mem _ h'.1, h'.2⟩
    by_cases h1 : c = [] ∨ c = dot
    · simp only [step, h1, if_true] at h
      exact fun x hx => (ih s h x hx).elim Or.inl tl
    · by_cases h3 : c = dotdot
      · subst h3
        by_cases h4 : s = []
        · simp [step, h1, h4, foldl_step_none] at h
        · simp only [step, h1, h4, if_true, if_false] at h
          exact fun x hx => (ih _ h x hx).elim (fun h' => Or.inl (List.dropLast_subset _ h')) tl
      · simp only [step, h1, h3, if_false] at h
        intro x hx
        rcases ih _ h x hx with h' | h'
        · rcases List.mem_append.1 h' with h' | h'
          · exact Or.inl h'
          · cases List.mem_singleton.1 h'
            exact Or.inr ⟨List.mem_cons_self, not_or.1 h1 |>.1, not_or.1 h1 |>.2, h3⟩
        · exact tl h'

theorem foldl_step_result_clean (cs s r : List Str) (hs : Clean s) (hcs : ∀ c ∈ cs, '/' ∉ c)
    (h : cs.foldl step (some s) = some r) : Clean r := fun x hx =>
  (foldl_step_mem cs s r h x hx).elim (hs x) fun ⟨hm, h1, h2, h3⟩ => ⟨h1, h2, h3, hcs x hm⟩

theorem mem_of_mem_resolve {p : Str} {cs : List Str} (h : resolve (splitSlash p) = some cs) :
    ∀ c ∈ cs, ∀ ch ∈ c, ch ∈ p := fun c hc ch hch =>
  mem_of_mem_splitOn '/' p c ((foldl_step_mem _ _ _ h c hc).resolve_left nofun).1 ch hch

theorem resolve_result_clean (p : Str) (r : List Str) (h : resolve (splitSlash p) = some r) :
    Clean r :=
  foldl_step_result_clean _ [] r clean_nil (not_mem_of_mem_splitOn '/' p) h

/-! ### the normal form -/

/-- paths built from clean components -/
def mkp (a : Bool) (cs : List Str) : Str := (if a then ['/'] else []) ++ joinWith '/' cs

theorem not_mem_mkp {x : Char} (hx : x ≠ '/') (a : Bool) {cs : List Str} (h : ∀ c ∈ cs, x ∉ c) :
    x ∉ mkp a cs := by
  cases a
  · exact joinWith_not_mem x '/' hx cs h
  · exact fun hm => joinWith_not_mem x '/' hx cs h ((List.mem_cons.1 hm).resolve_left hx)

theorem clean_not_mem {cs : List Str} (h : Clean cs) : ∀ c ∈ cs, '/' ∉ c :=
  fun c hc => (h c hc).2.2.2

theorem clean_ne_nil {cs : List Str} (h : Clean cs) : ∀ c ∈ cs, c ≠ [] :=
  fun c hc => (h c hc).1

theorem join_clean_eq_nil_iff {cs : List Str} (h : Clean cs) : joinWith '/' cs = [] ↔ cs = [] :=
  joinWith_eq_nil_iff _ _ (clean_ne_nil h)

theorem splitOn_join_clean {cs : List Str} (h : Clean cs) (hne : cs ≠ []) :
    splitOn '/' (joinWith '/' cs) = cs :=
  splitOn_joinWith _ _ hne (clean_not_mem h)

theorem startsWithSlash_join_clean {cs : List Str} (h : Clean cs) :
    startsWithSlash (joinWith '/' cs) = false := by
  cases cs with
  | nil => rfl
  | cons c rest =>
    rw [joinWith_cons]
    have hc := (clean_cons.1 h).1
    split
    · exact startsWithSlash_of_not_mem _ hc.2.2.2
    · rw [startsWithSlash_append _ _ hc.1]; exact startsWithSlash_of_not_mem _ hc.2.2.2

theorem endsWithSlash_join_clean {cs : List Str} (h : Clean cs) :
    endsWithSlash (joinWith '/' cs) = false := by
  induction cs with
  | nil => rfl
  | cons c rest ih =>
    rw [joinWith_cons]
    rw [clean_cons] at h
    split
    · exact endsWithSlash_of_not_mem _ h.1.2.2.2
    · next hr =>
      have : joinWith '/' rest ≠ [] := fun e => hr ((join_clean_eq_nil_iff h.2).1 e)
      rw [endsWithSlash_append _ _ (by simp), show '/' :: joinWith '/' rest = ['/'] ++ joinWith '/' rest from rfl,
        endsWithSlash_append _ _ this]
      exact ih h.2

theorem startsWithSlash_mkp {a : Bool} {cs : List Str} (h : Clean cs) :
    startsWithSlash (mkp a cs) = a := by
  cases a
  · simpa [mkp] using startsWithSlash_join_clean h
  · simp [mkp, startsWithSlash_cons]

theorem lstripSlash_mkp {a : Bool} {cs : List Str} (h : Clean cs) :
    lstripSlash (mkp a cs) = joinWith '/' cs := by
  have := lstripSlash_of_not_starts _ (startsWithSlash_join_clean h)
  cases a
  · simpa [mkp] using this
  · simpa [mkp, lstripSlash] using this

theorem mkp_eq_nil_iff {a : Bool} {cs : List Str} (h : Clean cs) :
    mkp a cs = [] ↔ a = false ∧ cs = [] := by
  cases a <;> simp [mkp, join_clean_eq_nil_iff h]

theorem mkp_eq_slash_iff {a : Bool} {cs : List Str} (h : Clean cs) :
    mkp a cs = ['/'] ↔ a = true ∧ cs = [] := by
  cases a
  · simp only [mkp, Bool.false_eq_true, if_false, List.nil_append, false_and, iff_false]
    intro e
    have := startsWithSlash_join_clean h
    rw [e] at this
    exact absurd this (by decide)
  · simp [mkp, join_clean_eq_nil_iff h]

theorem mkp_true_beq {cs : List Str} (h : Clean cs) : (mkp true cs == ['/']) = decide (cs = []) := by
  by_cases hc : cs = []
  · subst hc; rfl
  · have : mkp true cs ≠ ['/'] := fun e => hc ((mkp_eq_slash_iff h).1 e).2
    simp [hc, this]

theorem endsWithSlash_mkp {a : Bool} {cs : List Str} (h : Clean cs) (hne : cs ≠ []) :
    endsWithSlash (mkp a cs) = false := by
  have : joinWith '/' cs ≠ [] := fun e => hne ((join_clean_eq_nil_iff h).1 e)
  rw [mkp, endsWithSlash_append _ _ this]
  exact endsWithSlash_join_clean h

theorem rstripSlash_mkp {a : Bool} {cs : List Str} (h : Clean cs) (hne : cs ≠ []) :
    rstripSlash (mkp a cs) = mkp a cs :=
  rstripSlash_of_not_ends _ (endsWithSlash_mkp h hne)

theorem splitOn_mkp {a : Bool} {cs : List Str} (h : Clean cs) :
    splitOn '/' (mkp a cs) = (if a then [[]] else []) ++ (if cs = [] then [[]] else cs) := by
  have : splitOn '/' (joinWith '/' cs) = if cs = [] then [[]] else cs := by
    split
    · next e => subst e; rfl
    · next e => exact splitOn_join_clean h e
  cases a
  · simpa [mkp] using this
  · simpa [mkp, splitOn_cons_sep] using this

theorem foldl_step_splitOn_mkp {a : Bool} {cs : List Str} (s : List Str) (h : Clean cs) :
    (splitOn '/' (mkp a cs)).foldl step (some s) = some (s ++ cs) := by
  rw [splitOn_mkp h, List.foldl_append]
  have e : ((if a then [[]] else []) : List Str).foldl step (some s) = some s := by
    cases a <;> simp [step]
  rw [e]
  by_cases hc : cs = []
  · subst hc; simp [step]
  · rw [if_neg hc, foldl_step_clean cs s h]

theorem resolve_splitOn_mkp {a : Bool} {cs : List Str} (h : Clean cs) :
    resolve (splitOn '/' (mkp a cs)) = some cs := by
  simpa [resolve] using foldl_step_splitOn_mkp (a := a) [] h

theorem mkp_ne_nil {a : Bool} {cs : List Str} (h : Clean cs) (hne : cs ≠ []) : mkp a cs ≠ [] := by
  intro e; exact hne ((mkp_eq_nil_iff h).1 e).2

theorem resolve_append_sep_mkp {p : Str} {b : Bool} {as bs : List Str}
    (hr : resolve (splitSlash p) = some as) (hb : Clean bs) :
    resolve (splitSlash (p ++ '/' :: mkp b bs)) = some (as ++ bs) := by
  rw [resolve] at hr
  rw [splitSlash, splitOn_append_cons_sep, resolve, List.foldl_append, hr, foldl_step_splitOn_mkp _ hb]

theorem resolve_mkp_slash {a : Bool} {cs : List Str} (h : Clean cs) :
    resolve (splitSlash (mkp a cs ++ ['/'])) = some cs := by
  have := resolve_append_sep_mkp (b := false) (resolve_splitOn_mkp (a := a) h) clean_nil
  rwa [List.append_nil] at this

/-! ### the fast path of normpath -/

theorem foldl_step_nodots (cs s : List Str) (h : cs.any isDots = false) :
    cs.foldl step (some s) = some (s ++ cs.filter (fun c => c ≠ [])) := by
  induction cs generalizing s with
  | nil => simp
  | cons c cs ih =>
    simp only [List.any_cons, Bool.or_eq_false_iff] at h
    obtain ⟨hc, hcs⟩ := h
    have h2 : c ≠ dot ∧ c ≠ dotdot := by
      simpa [isDots, dot, dotdot] using hc
    rw [List.foldl_cons]
    by_cases h1 : c = []
    · subst h1; simp [step, ih _ hcs]
    · simp [step, h1, h2.1, h2.2, ih _ hcs]

theorem cleanComp_of_piece {c : Str} (h0 : c ≠ []) (hd : isDots c = false) (hs : '/' ∉ c) : CleanComp c := by
  have : c ≠ dot ∧ c ≠ dotdot := by simpa [isDots, dot, dotdot] using hd
  exact ⟨h0, this.1, this.2, hs⟩

theorem go_form (m : List Str) (hs : ∀ c ∈ m, '/' ∉ c) (hd : m.any isDots = false)
    (hgo : hasInteriorEmpty.go m = false) :
    ∃ (cs : List Str) (t : Bool), Clean cs ∧ m = cs ++ if t then [[]] else [] := by
  induction m with
  | nil => exact ⟨[], false, clean_nil, rfl⟩
  | cons c m ih =>
    simp only [List.any_cons, Bool.or_eq_false_iff] at hd
    cases m with
    | nil =>
      by_cases hc : c = []
      · exact ⟨[], true, clean_nil, by rw [hc]; rfl⟩
      · exact ⟨[c], false, clean_cons.2 ⟨cleanComp_of_piece hc hd.1 (hs c (by simp)), clean_nil⟩, rfl⟩
    | cons d m =>
      simp only [hasInteriorEmpty.go, Bool.or_eq_false_iff, beq_eq_false_iff_ne] at hgo
      obtain ⟨cs, t, hcs, e⟩ := ih (fun x hx => hs x (List.mem_cons_of_mem _ hx)) hd.2 hgo.2
      exact ⟨c :: cs, t, clean_cons.2 ⟨cleanComp_of_piece hgo.1 hd.1 (hs c (by simp)), hcs⟩, by rw [e]; rfl⟩

/-- a path the regex of `normpath` lets through is a clean path, possibly with one slash after it -/
theorem fast_form (p : Str) (h1 : p ≠ []) (h2 : p ≠ ['/']) (h : requiresNormalization p = false) :
    ∃ a cs, Clean cs ∧ cs ≠ [] ∧ (p = mkp a cs ∨ p = mkp a cs ++ ['/']) := by
  simp only [requiresNormalization, Bool.or_eq_false_iff, splitSlash] at h
  obtain ⟨⟨hd, -⟩, hie⟩ := h
  have hs := not_mem_of_mem_splitOn '/' p
  have hj := joinWith_splitOn '/' p
  -- the pieces of `p`: `""` if it is absolute, clean components, `""` if it ends in a slash
  obtain ⟨a, cs, t, hc, hl⟩ : ∃ (a : Bool) (cs : List Str) (t : Bool), Clean cs ∧
      splitOn '/' p = (if a then [[]] else []) ++ (cs ++ if t then [[]] else []) := by
    cases hl : splitOn '/' p with
    | nil => exact absurd hl (splitOn_ne_nil _ _)
    | cons x m =>
      rw [hl] at hd hie hs
      simp only [List.any_cons, Bool.or_eq_false_iff] at hd
      obtain ⟨cs, t, hcs, e⟩ := go_form m (fun c hc => hs c (List.mem_cons_of_mem _ hc)) hd.2 hie
      by_cases hx : x = []
      · exact ⟨true, cs, t, hcs, by rw [hx, e]; rfl⟩
      · exact ⟨false, x :: cs, t, clean_cons.2 ⟨cleanComp_of_piece hx hd.1 (hs x (by simp)), hcs⟩,
          by rw [e]; rfl⟩
  rw [hl] at hj
  have hne : cs ≠ [] := by
    rintro rfl
    cases a <;> cases t
    · exact h1 hj.symm
    · exact h1 hj.symm
    · exact h1 hj.symm
    · exact h2 hj.symm
  have hsp : (if a then [[]] else []) ++ cs = splitOn '/' (mkp a cs) := by rw [splitOn_mkp hc, if_neg hne]
  refine ⟨a, cs, hc, hne, ?_⟩
  cases t
  · exact .inl (by rw [← hj, if_neg Bool.false_ne_true, List.append_nil, hsp, joinWith_splitOn])
  · exact .inr (by rw [← hj, if_pos rfl, ← List.append_assoc, hsp, ← joinWith_splitOn '/' (mkp a cs ++ ['/']),
      splitOn_append_cons_sep]; rfl)

theorem fastpath_spec (p : Str) (h1 : p ≠ []) (h2 : p ≠ ['/'])
    (h : requiresNormalization p = false) : specNorm p = .ok (rstripSlash p) := by
  obtain ⟨a, cs, hc, hne, hp⟩ := fast_form p h1 h2 h
  have hr : resolve (splitSlash p) = some cs ∧ startsWithSlash p = a ∧ rstripSlash p = mkp a cs := by
    rcases hp with rfl | rfl
    · exact ⟨resolve_splitOn_mkp hc, startsWithSlash_mkp hc, rstripSlash_mkp hc hne⟩
    · refine ⟨resolve_mkp_slash hc, ?_, ?_⟩
      · rw [startsWithSlash_append _ _ (mkp_ne_nil hc hne), startsWithSlash_mkp hc]
      · rw [rstripSlash_append_single, if_pos rfl, rstripSlash_mkp hc hne]
  unfold specNorm
  rw [hr.1, hr.2.1, hr.2.2]; rfl

/-! ### normpath = specNorm -/

theorem normpath_eq_specNorm (p : Str) : normpath p = specNorm p := by
  by_cases h1 : p = []
  · subst h1; decide
  by_cases h2 : p = ['/']
  · subst h2; decide
  unfold normpath
  have h12 : (p == [] || p == ['/']) = false := by simp [h1, h2]
  rw [h12]
  simp only [Bool.false_eq_true, if_false]
  by_cases h3 : requiresNormalization p = false
  · rw [h3]; simp only [Bool.not_false, if_true]
    exact (fastpath_spec p h1 h2 h3).symm
  · simp only [Bool.not_eq_false] at h3
    rw [h3]
    simp only [Bool.not_true, Bool.false_eq_true, if_false]
    rw [normLoop_eq_resolve]
    unfold specNorm
    cases resolve (splitSlash p) <;> rfl

theorem normpath_eq_resolve (p : Str) : normpath p = match resolve (splitSlash p) with
    | none => .err .IllegalBackReference
    | some cs => .ok (mkp (startsWithSlash p) cs) :=
  normpath_eq_specNorm p

theorem normpath_mkp {a : Bool} {cs : List Str} (h : Clean cs) :
    normpath (mkp a cs) = .ok (mkp a cs) := by
  rw [normpath_eq_resolve, splitSlash, resolve_splitOn_mkp h, startsWithSlash_mkp h]

theorem resolve_match_ok {β : Type} {p : Str} {f : List Str → β} {q : β}
    (h : (match resolve (splitSlash p) with
      | none => Res.err .IllegalBackReference
      | some cs => .ok (f cs)) = .ok q) :
    ∃ cs, resolve (splitSlash p) = some cs ∧ Clean cs ∧ q = f cs := by
  split at h
  · cases h
  · next cs hr => cases h; exact ⟨cs, hr, resolve_result_clean p cs hr, rfl⟩

/-- `normpath p = ok n` pins `n` down completely -/
theorem normpath_ok_resolve (p n : Str) (h : normpath p = .ok n) :
    ∃ cs, resolve (splitSlash p) = some cs ∧ Clean cs ∧ n = mkp (startsWithSlash p) cs :=
  resolve_match_ok ((normpath_eq_resolve p).symm.trans h)

theorem normpath_err (p : Str) (e : Err) (h : normpath p = .err e) :
    e = .IllegalBackReference ∧ resolve (splitSlash p) = none := by
  rw [normpath_eq_resolve] at h
  split at h
  · next hr => cases h; exact ⟨rfl, hr⟩
  · cases h

theorem stripSlash_mkp {a : Bool} {cs : List Str} (h : Clean cs) :
    stripSlash (mkp a cs) = joinWith '/' cs := by
  rw [stripSlash, lstripSlash_mkp h]
  exact rstripSlash_of_not_ends _ (endsWithSlash_join_clean h)

theorem abspath_mkp {a : Bool} {cs : List Str} (h : Clean cs) : abspath (mkp a cs) = mkp true cs := by
  unfold abspath
  rw [startsWithSlash_mkp h]
  cases a <;> simp [mkp]

theorem normpath_append_sep_mkp {p : Str} {b : Bool} {as bs : List Str} (hp : p ≠ [])
    (hr : resolve (splitSlash p) = some as) (hb : Clean bs) :
    normpath (p ++ '/' :: mkp b bs) = .ok (mkp (startsWithSlash p) (as ++ bs)) := by
  rw [normpath_eq_resolve, resolve_append_sep_mkp hr hb, startsWithSlash_append _ _ hp]

/-! ### Res monad -/

theorem bind_ok {α β} (x : α) (f : α → Res β) : (Res.ok x >>= f) = f x := rfl
theorem bind_err {α β} (e : Err) (f : α → Res β) : (Res.err e >>= f) = Res.err e := rfl
theorem pure_eq {α} (x : α) : (pure x : Res α) = Res.ok x := rfl

/-! ### split -/

theorem rsplit1_go_skip (c : Char) (u rest acc : Str) (h : c ∉ u) :
    rsplit1.go c (u ++ rest) acc = rsplit1.go c rest (u.reverse ++ acc) := by
  induction u generalizing acc with
  | nil => rfl
  | cons x xs ih =>
    simp only [List.mem_cons, not_or] at h
    have hx : x ≠ c := fun e => h.1 e.symm
    simp [rsplit1.go, hx, ih _ h.2]

theorem rsplit1_none (c : Char) (s : Str) (h : c ∉ s) : rsplit1 c s = none := by
  have := rsplit1_go_skip c s.reverse [] [] (by simpa using h)
  simpa [rsplit1, rsplit1.go] using this

theorem rsplit1_some (c : Char) (a b : Str) (h : c ∉ b) :
    rsplit1 c (a ++ c :: b) = some (a, b) := by
  have := rsplit1_go_skip c b.reverse (c :: a.reverse) [] (by simpa using h)
  simp only [rsplit1, List.reverse_append, List.reverse_cons, List.append_assoc,
    List.singleton_append]
  simpa [rsplit1.go] using this

theorem exists_last_occurrence (c : Char) (s : Str) (h : c ∈ s) :
    ∃ a b, s = a ++ c :: b ∧ c ∉ b := by
  obtain ⟨a, b, e, ha⟩ := List.eq_append_cons_of_mem (List.mem_reverse.2 h)
  exact ⟨b.reverse, a.reverse, by simpa using congrArg List.reverse e, by simpa using ha⟩

theorem rsplit1_spec (c : Char) (s : Str) :
    (c ∉ s ∧ rsplit1 c s = none) ∨
    (∃ a b, s = a ++ c :: b ∧ c ∉ b ∧ rsplit1 c s = some (a, b)) := by
  by_cases h : c ∈ s
  · right
    obtain ⟨a, b, hab, hb⟩ := exists_last_occurrence c s h
    exact ⟨a, b, hab, hb, by rw [hab]; exact rsplit1_some c a b hb⟩
  · left; exact ⟨h, rsplit1_none c s h⟩

theorem basename_cases (s : Str) :
    ('/' ∉ s ∧ basename s = s) ∨ ∃ a b, s = a ++ '/' :: b ∧ '/' ∉ b ∧ basename s = b := by
  unfold basename split
  rcases rsplit1_spec '/' s with ⟨hn, hr⟩ | ⟨a, b, hab, hb, hr⟩
  · exact Or.inl ⟨hn, by rw [hr]⟩
  · exact Or.inr ⟨a, b, hab, hb, by rw [hr]⟩

theorem basename_no_slash (s : Str) : '/' ∉ basename s := by
  rcases basename_cases s with ⟨hn, hb⟩ | ⟨a, b, -, hn, hb⟩ <;> rw [hb] <;> exact hn

theorem basename_length_le (s : Str) : (basename s).length ≤ s.length := by
  rcases basename_cases s with ⟨-, hb⟩ | ⟨a, b, hab, -, hb⟩
  · rw [hb]; exact Nat.le_refl _
  · rw [hb, hab, List.length_append, List.length_cons]; omega

theorem mkp_snoc {a : Bool} {cs : List Str} (c : Str) (hne : cs ≠ []) :
    mkp a (cs ++ [c]) = mkp a cs ++ '/' :: c := by
  simp [mkp, joinWith_append _ _ _ hne, joinWith]

theorem split_mkp_snoc (a : Bool) (cs : List Str) (c : Str) (h : Clean (cs ++ [c])) :
    split (mkp a (cs ++ [c])) = (mkp a cs, c) := by
  rw [clean_append, clean_cons] at h
  obtain ⟨hcs, hc, -⟩ := h
  by_cases hne : cs = []
  · subst hne
    cases a
    · simp [mkp, joinWith, split, rsplit1_none _ _ hc.2.2.2]
    · have : mkp true ([] ++ [c]) = [] ++ '/' :: c := rfl
      rw [this, split, rsplit1_some _ _ _ hc.2.2.2]
      rfl
  · rw [mkp_snoc c hne, split, rsplit1_some _ _ _ hc.2.2.2]
    have := mkp_ne_nil (a := a) hcs hne
    simp [this]

theorem list_nil_or_snoc {α} (l : List α) : l = [] ∨ ∃ i x, l = i ++ [x] := by
  rcases List.eq_nil_or_concat l with h | ⟨i, x, h⟩
  · exact Or.inl h
  · exact Or.inr ⟨i, x, by simpa using h⟩

theorem split_mkp (a : Bool) {cs : List Str} (h : Clean cs) :
    split (mkp a cs) = (mkp a cs.dropLast, cs.getLast?.getD []) := by
  rcases list_nil_or_snoc cs with rfl | ⟨i, c, rfl⟩
  · cases a <;> decide
  · rw [split_mkp_snoc a i c h, List.dropLast_concat, List.getLast?_concat]; rfl

theorem dirname_mkp (a : Bool) {cs : List Str} (h : Clean cs) : dirname (mkp a cs) = mkp a cs.dropLast :=
  congrArg Prod.fst (split_mkp a h)

theorem basename_mkp (a : Bool) {cs : List Str} (h : Clean cs) : basename (mkp a cs) = cs.getLast?.getD [] :=
  congrArg Prod.snd (split_mkp a h)

theorem relpath_mkp {a : Bool} {cs : List Str} (h : Clean cs) : relpath (mkp a cs) = mkp false cs :=
  lstripSlash_mkp h

theorem parts_mkp (a : Bool) {cs : List Str} (h : Clean cs) :
    parts (mkp a cs) = .ok ((if a then ['/'] else ['.', '/']) :: cs) := by
  unfold parts
  rw [normpath_mkp h, bind_ok]
  simp only [stripSlash_mkp h, startsWithSlash_mkp h, pure_eq]
  by_cases hc : cs = []
  · subst hc; simp [joinWith]
  · have : joinWith '/' cs ≠ [] := fun e => hc ((join_clean_eq_nil_iff h).1 e)
    simp [this, splitSlash, splitOn_join_clean h hc]

theorem combine_mkp {a : Bool} {cs : List Str} {c : Str} (h : Clean cs)
    (hc : startsWithSlash c = false) : combine (mkp a cs) c = mkp a (cs ++ [c]) := by
  rw [combine, lstripSlash_of_not_starts c hc]
  by_cases hne : cs = []
  · subst hne; cases a <;> simp [mkp, joinWith, rstripSlash_cons, rstripSlash_nil]
  · simp [mkp_ne_nil h hne, rstripSlash_mkp h hne, mkp_snoc c hne]

theorem join_go_cons (p : Str) (ps : List Str) (ab : Bool) (rel : List Str) (hp : p ≠ []) :
    join.go (p :: ps) ab rel =
      if startsWithSlash p then join.go ps true [p] else join.go ps ab (p :: rel) := by
  cases p with
  | nil => contradiction
  | cons x xs =>
    rw [join.go, startsWithSlash_cons]
    by_cases hx : x = '/' <;> simp [hx]

theorem join_go_nil (ab : Bool) (rel : List Str) : join.go [] ab rel = (ab, rel.reverse) := by
  rw [join.go]

theorem join_go_cons_nil (ps : List Str) (ab : Bool) (rel : List Str) :
    join.go ([] :: ps) ab rel = join.go ps ab rel := by
  rw [join.go]

theorem join_pair (p q : Str) (hq : startsWithSlash q = false) :
    join [p, q] = (do
      let n ← normpath (if p = [] then q else if q = [] then p else p ++ '/' :: q)
      pure (if startsWithSlash p then abspath n else n)) := by
  cases q with
  | nil =>
    cases p with
    | nil => rfl
    | cons x xs =>
      by_cases hx : x = '/' <;>
        simp [join, join.go, hx, startsWithSlash_cons, joinSlash, joinWith]
  | cons y ys =>
    have hy : y ≠ '/' := by simpa [startsWithSlash_cons] using hq
    cases p with
    | nil => simp [join, join.go, hy, startsWithSlash_nil, joinSlash, joinWith]
    | cons x xs =>
      by_cases hx : x = '/' <;>
        simp [join, join.go, hx, hy, startsWithSlash_cons, joinSlash, joinWith]

theorem join_of_resolve {p : Str} {as bs : List Str} (hr : resolve (splitSlash p) = some as)
    (hb : Clean bs) : join [p, mkp false bs] = .ok (mkp (startsWithSlash p) (as ++ bs)) := by
  have hn : normpath p = .ok (mkp (startsWithSlash p) as) := by
    rw [normpath_eq_resolve, hr]
  have hab : ∀ cs, Clean cs → (if startsWithSlash p then abspath (mkp (startsWithSlash p) cs)
      else mkp (startsWithSlash p) cs) = mkp (startsWithSlash p) cs := by
    intro cs hc; rw [abspath_mkp hc]; cases startsWithSlash p <;> rfl
  rw [join_pair _ _ (startsWithSlash_mkp hb)]
  by_cases hP : p = []
  · subst hP
    cases Option.some.inj hr
    rw [if_pos rfl, normpath_mkp hb]; rfl
  · rw [if_neg hP]
    by_cases hQ : mkp false bs = []
    · rw [if_pos hQ]
      obtain ⟨-, rfl⟩ := (mkp_eq_nil_iff hb).1 hQ
      rw [hn, bind_ok, pure_eq, hab as (resolve_result_clean p as hr), List.append_nil]
    · rw [if_neg hQ, normpath_append_sep_mkp hP hr hb, bind_ok, pure_eq,
        hab _ (clean_append.2 ⟨resolve_result_clean p as hr, hb⟩)]

theorem join_mkp {a : Bool} {as bs : List Str} (ha : Clean as) (hb : Clean bs) :
    join [mkp a as, mkp false bs] = .ok (mkp a (as ++ bs)) := by
  rw [join_of_resolve (resolve_splitOn_mkp ha) hb, startsWithSlash_mkp ha]

/-! ### isbase -/

/-- every component followed by a slash -/
def dirs : List Str → Str
  | [] => []
  | c :: cs => c ++ '/' :: dirs cs

theorem dirs_append (as bs : List Str) : dirs (as ++ bs) = dirs as ++ dirs bs := by
  induction as with
  | nil => rfl
  | cons a as ih => simp [dirs, ih]

theorem join_append_slash (cs : List Str) (hne : cs ≠ []) :
    joinWith '/' cs ++ ['/'] = dirs cs := by
  induction cs with
  | nil => contradiction
  | cons c rest ih =>
    cases rest with
    | nil => simp [joinWith, dirs]
    | cons d rest =>
      have := ih (by simp)
      simp only [joinWith, dirs, List.append_assoc, List.cons_append] at this ⊢
      rw [this]

theorem join_snoc (cs : List Str) (c : Str) : joinWith '/' (cs ++ [c]) = dirs cs ++ c := by
  by_cases h : cs = []
  · subst h; simp [joinWith, dirs]
  · rw [joinWith_append _ _ _ h (by simp), ← join_append_slash cs h]; simp [joinWith]

theorem startsWith_iff_prefix (a b : Str) : startsWith a b = true ↔ b <+: a := by
  induction a generalizing b with
  | nil => cases b <;> simp [startsWith]
  | cons x xs ih =>
    cases b with
    | nil => simp [startsWith]
    | cons y ys =>
      simp only [startsWith, Bool.and_eq_true, beq_iff_eq, ih, List.cons_prefix_cons]
      constructor
      · rintro ⟨rfl, h⟩; exact ⟨rfl, h⟩
      · rintro ⟨rfl, h⟩; exact ⟨rfl, h⟩

theorem startsWith_nil (s : Str) : startsWith s [] = true := by
  cases s <;> rfl

theorem startsWith_single (s : Str) (c : Char) : startsWith s [c] = (s.head? == some c) := by
  cases s with
  | nil => rfl
  | cons x xs => simp [startsWith, startsWith_nil]

theorem startsWith_slash (s : Str) : startsWith s ['/'] = startsWithSlash s := by
  cases s with
  | nil => rfl
  | cons c cs =>
    by_cases h : c = '/'
    · subst h; simp [startsWith, startsWithSlash]
    · cases cs <;> simp [startsWith, startsWithSlash, h]

theorem append_sep_inj (c : Char) (a b u v : Str) (ha : c ∉ a) (hb : c ∉ b)
    (h : a ++ c :: u = b ++ c :: v) : a = b ∧ u = v := by
  have h' := congrArg (splitOn c) h
  rw [splitOn_append_sep c a u ha, splitOn_append_sep c b v hb] at h'
  have hab : a = b := (List.cons.inj h').1
  subst hab
  exact ⟨rfl, by simpa using h⟩

theorem dirs_prefix_iff {as bs : List Str} (ha : Clean as) (hb : Clean bs) :
    dirs as <+: dirs bs ↔ as <+: bs := by
  constructor
  · intro h
    induction as generalizing bs with
    | nil => exact List.nil_prefix
    | cons a as ih =>
      rw [clean_cons] at ha
      cases bs with
      | nil =>
        obtain ⟨t, ht⟩ := h
        simp [dirs] at ht
      | cons b bs =>
        rw [clean_cons] at hb
        obtain ⟨t, ht⟩ := h
        simp only [dirs, List.append_assoc, List.cons_append] at ht
        obtain ⟨rfl, h2⟩ := append_sep_inj '/' a b _ _ ha.1.2.2.2 hb.1.2.2.2 ht
        rw [List.cons_prefix_cons]
        exact ⟨rfl, ih ha.2 hb.2 ⟨t, h2⟩⟩
  · rintro ⟨t, rfl⟩
    rw [dirs_append]
    exact List.prefix_append _ _

theorem forcedir_mkp_true {cs : List Str} (h : Clean cs) :
    forcedir (mkp true cs) = '/' :: dirs cs := by
  by_cases hne : cs = []
  · subst hne; rfl
  · rw [forcedir, endsWithSlash_mkp h hne]
    simp only [Bool.false_eq_true, if_false, mkp, if_true, List.cons_append, List.nil_append]
    rw [join_append_slash cs hne]

theorem startsWith_slash_dirs_iff {as bs : List Str} (ha : Clean as) (hb : Clean bs) :
    startsWith ('/' :: dirs bs) ('/' :: dirs as) = true ↔ as <+: bs := by
  rw [startsWith_iff_prefix, List.cons_prefix_cons, dirs_prefix_iff ha hb]
  exact and_iff_right rfl

theorem isbase_mkp_iff (a b : Bool) (as bs : List Str) (ha : Clean as) (hb : Clean bs) :
    isbase (mkp a as) (mkp b bs) = true ↔ as <+: bs := by
  rw [isbase, abspath_mkp ha, abspath_mkp hb, forcedir_mkp_true ha, forcedir_mkp_true hb,
    startsWith_slash_dirs_iff ha hb]

/-! ### isparent / frombase -/

theorem isparent_core_iff (l1 l2 : List Str) :
    (if l1.length > l2.length then false else zipAllEq l1 l2) = true ↔ l1 <+: l2 := by
  induction l1 generalizing l2 with
  | nil => simp [zipAllEq]
  | cons x xs ih =>
    cases l2 with
    | nil => simp
    | cons y ys =>
      have := ih ys
      simp only [List.length_cons, gt_iff_lt, Nat.add_lt_add_iff_right, zipAllEq,
        List.cons_prefix_cons] at this ⊢
      rw [← this]
      by_cases hl : ys.length < xs.length
      · simp [hl]
      · simp [hl]

theorem dropTrailingEmpty_snoc (l : List Str) (x : Str) (hx : x ≠ []) :
    dropTrailingEmpty (l ++ [x]) = l ++ [x] := by
  simp [dropTrailingEmpty, hx]

theorem dropTrailingEmpty_of_ne_nil (l : List Str) (hl : l ≠ []) (h : ∀ x ∈ l, x ≠ []) :
    dropTrailingEmpty l = l := by
  rcases list_nil_or_snoc l with rfl | ⟨i, x, rfl⟩
  · contradiction
  · exact dropTrailingEmpty_snoc i x (h x (by simp))

theorem dropTrailingEmpty_splitOn_mkp {a : Bool} {as : List Str} (ha : Clean as) :
    dropTrailingEmpty (splitOn '/' (mkp a as)) =
      if as = [] then [] else (if a then [[]] else []) ++ as := by
  rw [splitOn_mkp ha]
  rcases list_nil_or_snoc as with rfl | ⟨i, x, rfl⟩
  · cases a <;> decide
  · have hne : i ++ [x] ≠ [] := by simp
    rw [if_neg hne, if_neg hne, ← List.append_assoc]
    exact dropTrailingEmpty_snoc _ x (clean_ne_nil ha x (by simp))

/-- the empty component list (`""`, `"/"`: `isparent` drops its `split` entirely) is a parent of everything -/
theorem isparent_mkp (a b : Bool) {as bs : List Str} (ha : Clean as) (hb : Clean bs) :
    isparent (mkp a as) (mkp b bs) = true ↔ as = [] ∨ (a = b ∧ as <+: bs) := by
  unfold isparent
  simp only [splitSlash]
  rw [isparent_core_iff, dropTrailingEmpty_splitOn_mkp ha, splitOn_mkp hb]
  cases as with
  | nil => simp
  | cons x xs =>
    have hx : x ≠ [] := clean_ne_nil ha x (by simp)
    rw [if_neg (by simp)]
    cases bs with
    | nil => cases a <;> cases b <;> simp [List.cons_prefix_cons, hx]
    | cons y ys =>
      have hy : y ≠ [] := clean_ne_nil hb y (by simp)
      cases a <;> cases b <;> simp [List.cons_prefix_cons, hx, Ne.symm hy]

theorem isparent_mkp_same (a : Bool) (as bs : List Str) (ha : Clean as) (hb : Clean bs) :
    isparent (mkp a as) (mkp a bs) = true ↔ as <+: bs := by
  rw [isparent_mkp a a ha hb]
  exact ⟨fun h => h.elim (fun e => e ▸ List.nil_prefix) And.right, fun h => .inr ⟨rfl, h⟩⟩

theorem isparent_mkp_mixed (a b : Bool) (as bs : List Str) (ha : Clean as) (hb : Clean bs)
    (hab : a ≠ b) : isparent (mkp a as) (mkp b bs) = true ↔ as = [] := by
  rw [isparent_mkp a b ha hb]
  exact ⟨fun h => h.elim id fun h => absurd h.1 hab, .inl⟩

theorem startsWith_append_self (p t : Str) : startsWith (p ++ t) p = true :=
  (startsWith_iff_prefix _ _).2 (List.prefix_append _ _)

/-- `frombase` on a path that literally starts with `p1`: the slice -/
theorem frombase_of_append (p t : Str) (h : isparent p (p ++ t) = true) :
    frombase p (p ++ t) = .ok t := by
  simp only [frombase, h, startsWith_append_self, Bool.not_true, Bool.false_eq_true, if_false,
    List.drop_left]

theorem mkp_append (a : Bool) (as rest : List Str) :
    mkp a (as ++ rest) = mkp a as ++ mkp (decide (as ≠ [] ∧ rest ≠ [])) rest := by
  by_cases h1 : as = []
  · subst h1; simp [mkp, joinWith]
  by_cases h2 : rest = []
  · subst h2; simp [mkp, joinWith]
  · simp only [mkp, h1, h2, ne_eq, not_false_eq_true, and_self, decide_true, if_true,
      joinWith_append _ _ _ h1 h2, List.append_assoc, List.cons_append, List.nil_append]

theorem frombase_mkp (a : Bool) {as rest : List Str} (ha : Clean as) (hr : Clean rest) :
    frombase (mkp a as) (mkp a (as ++ rest)) = .ok (mkp (decide (as ≠ [] ∧ rest ≠ [])) rest) := by
  have hpar := (isparent_mkp_same a as _ ha (clean_append.2 ⟨ha, hr⟩)).2 (List.prefix_append _ _)
  rw [mkp_append] at hpar ⊢
  exact frombase_of_append _ _ hpar

/-! ### issamedir -/

theorem join_clean_inj {as bs : List Str} (ha : Clean as) (hb : Clean bs)
    (h : joinWith '/' as = joinWith '/' bs) : as = bs := by
  by_cases h1 : as = []
  · subst h1
    exact ((join_clean_eq_nil_iff hb).1 h.symm).symm
  · have h2 : bs ≠ [] := by
      intro e; subst e
      exact h1 ((join_clean_eq_nil_iff ha).1 h)
    rw [← splitOn_join_clean ha h1, ← splitOn_join_clean hb h2, h]

theorem mkp_inj {a : Bool} {as bs : List Str} (ha : Clean as) (hb : Clean bs)
    (h : mkp a as = mkp a bs) : as = bs :=
  join_clean_inj ha hb (List.append_cancel_left h)

theorem issamedir_mkp (a : Bool) {as bs : List Str} (ha : Clean as) (hb : Clean bs) :
    issamedir (mkp a as) (mkp a bs) = .ok (decide (as.dropLast = bs.dropLast)) := by
  unfold issamedir
  rw [normpath_mkp ha, normpath_mkp hb, bind_ok, bind_ok, pure_eq, dirname_mkp a ha, dirname_mkp a hb]
  congr 1
  by_cases hij : as.dropLast = bs.dropLast
  · simp [hij]
  · have : mkp a as.dropLast ≠ mkp a bs.dropLast := fun e =>
      hij (mkp_inj (clean_dropLast ha) (clean_dropLast hb) e)
    simp [hij, this]

/-! ### relativefrom -/

theorem commonLen_le_left (as bs : List Str) : commonLen as bs ≤ as.length := by
  induction as generalizing bs with
  | nil => simp [commonLen]
  | cons a as ih =>
    cases bs with
    | nil => simp [commonLen]
    | cons b bs =>
      simp only [commonLen]
      split
      · have := ih bs; simp; omega
      · simp

theorem take_commonLen (as bs : List Str) :
    as.take (commonLen as bs) = bs.take (commonLen as bs) := by
  induction as generalizing bs with
  | nil => simp [commonLen]
  | cons a as ih =>
    cases bs with
    | nil => simp [commonLen]
    | cons b bs =>
      simp only [commonLen]
      split
      · next h => simp at h; subst h; simp [ih bs]
      · simp

theorem step_dotdot (s : List Str) (hs : s ≠ []) : step (some s) dotdot = some s.dropLast := by
  have e1 : ¬ (dotdot = [] ∨ dotdot = dot) := by decide
  simp only [step, e1, if_false, if_true, hs]

theorem foldl_step_dotdots (n : Nat) (s : List Str) (h : n ≤ s.length) :
    (List.replicate n dotdot).foldl step (some s) = some (s.take (s.length - n)) := by
  induction n generalizing s with
  | zero => rw [List.replicate_zero, List.foldl_nil, Nat.sub_zero, List.take_length]
  | succ n ih =>
    have hs : s ≠ [] := by rintro rfl; cases h
    rw [List.replicate_succ, List.foldl_cons, step_dotdot s hs,
      ih _ (by rw [List.length_dropLast]; exact Nat.le_sub_one_of_lt h), List.dropLast_eq_take,
      List.take_take, List.length_take, Nat.min_eq_left (Nat.sub_le _ _),
      Nat.min_eq_left (Nat.sub_le _ _), Nat.sub_sub, Nat.add_comm 1 n]

theorem relativefrom_core (as bs : List Str) (ha : Clean as) (hb : Clean bs) :
    resolve (as ++ splitOn '/' (joinWith '/'
      (List.replicate (as.length - commonLen as bs) dotdot ++ bs.drop (commonLen as bs)))) =
      some bs := by
  have hk := commonLen_le_left as bs
  have htk := take_commonLen as bs
  generalize commonLen as bs = k at *
  by_cases hL : List.replicate (as.length - k) dotdot ++ bs.drop k = []
  · rw [hL]
    simp only [List.append_eq_nil_iff, List.replicate_eq_nil_iff, List.drop_eq_nil_iff] at hL
    have e1 : as.take k = as := List.take_of_length_le (by omega)
    have e2 : bs.take k = bs := List.take_of_length_le hL.2
    have : as = bs := by rw [← e1, ← e2, htk]
    subst this
    simp only [joinWith, splitOn, resolve, List.foldl_append, foldl_step_clean _ _ ha,
      List.nil_append, List.foldl_cons, List.foldl_nil]
    simp [step]
  · rw [splitOn_joinWith _ _ hL]
    · rw [resolve, List.foldl_append, foldl_step_clean _ _ ha, List.nil_append, List.foldl_append,
        foldl_step_dotdots _ _ (by omega), foldl_step_clean _ _ (clean_drop hb k)]
      have : as.length - (as.length - k) = k := by omega
      rw [this, htk, List.take_append_drop]
    · intro x hx
      rw [List.mem_append] at hx
      rcases hx with hx | hx
      · rw [List.mem_replicate] at hx
        rw [hx.2]; decide
      · exact clean_not_mem (clean_drop hb k) x hx

/-! ### recursepath -/

theorem findSlash_go (c rest : Str) (i : Nat) (h : '/' ∉ c) :
    findSlashFrom.go (c ++ '/' :: rest) i = some (i + c.length) := by
  induction c generalizing i with
  | nil => simp [findSlashFrom.go]
  | cons x xs ih =>
    simp only [List.mem_cons, not_or] at h
    have hx : x ≠ '/' := fun e => h.1 e.symm
    simp only [List.cons_append, findSlashFrom.go, hx, if_false, ih _ h.2, List.length_cons]
    congr 1; omega

theorem findSlashFrom_at (pfx c rest : Str) (h : '/' ∉ c) :
    findSlashFrom (pfx ++ (c ++ '/' :: rest)) pfx.length = some (pfx.length + c.length) := by
  rw [findSlashFrom, List.drop_left, findSlash_go _ _ _ h]

/-- the loop of `recursepath` with the components `done` behind it emits one path for each of `todo` -/
theorem recurseLoop_eq (done todo : List Str) (fuel : Nat) (acc : List Str)
    (h : Clean todo) (hf : todo.length ≤ fuel) :
    recurseLoop ('/' :: dirs (done ++ todo)) fuel ('/' :: dirs done).length acc =
      acc.reverse ++ (List.range todo.length).map fun i => mkp true (done ++ todo.take (i + 1)) := by
  induction todo generalizing done fuel acc with
  | nil => cases fuel <;> simp [recurseLoop]
  | cons c t ih =>
    rw [clean_cons] at h
    cases fuel with
    | zero => simp at hf
    | succ f =>
      have e : '/' :: dirs (done ++ c :: t) = ('/' :: dirs done) ++ (c ++ '/' :: dirs t) := by
        simp [dirs_append, dirs]
      rw [recurseLoop, e, if_pos (by simp; omega), findSlashFrom_at _ _ _ h.1.2.2.2]
      simp only
      have e1 : (('/' :: dirs done) ++ (c ++ '/' :: dirs t)).take (('/' :: dirs done).length + c.length) =
          mkp true (done ++ [c]) := by
        rw [← List.append_assoc, ← List.length_append, List.take_left]; simp [mkp, join_snoc]
      have e2 : ('/' :: dirs done) ++ (c ++ '/' :: dirs t) = '/' :: dirs ((done ++ [c]) ++ t) := by
        simp [dirs_append, dirs]
      have e3 : ('/' :: dirs done).length + c.length + 1 = ('/' :: dirs (done ++ [c])).length := by
        simp [dirs_append, dirs]; omega
      rw [e1, e2, e3, ih _ _ _ h.2 (by simpa using hf), List.length_cons, List.range_succ_eq_map,
        List.map_cons, List.map_map]
      simp

theorem length_le_length_dirs (cs : List Str) : cs.length ≤ (dirs cs).length := by
  induction cs with
  | nil => exact Nat.le_refl 0
  | cons c t ih => simp only [dirs, List.length_cons, List.length_append]; omega

theorem recursepath_mkp (a : Bool) (cs : List Str) (h : Clean cs) :
    recursepath (mkp a cs) false =
      .ok ((List.range (cs.length + 1)).map fun i => mkp true (cs.take i)) := by
  by_cases hne : cs = []
  · subst hne; cases a <;> rfl
  · have h1 : mkp a cs ≠ [] := mkp_ne_nil h hne
    have h2 : mkp a cs ≠ ['/'] := fun e => hne ((mkp_eq_slash_iff h).1 e).2
    unfold recursepath
    have h12 : (mkp a cs == [] || mkp a cs == ['/']) = false := by simp [h1, h2]
    rw [h12]
    simp only [Bool.false_eq_true, if_false]
    rw [normpath_mkp h, bind_ok, pure_eq, abspath_mkp h]
    have e : mkp true cs ++ ['/'] = '/' :: dirs ([] ++ cs) := by
      simp only [mkp, if_true, List.append_assoc, join_append_slash cs hne]; rfl
    rw [e]
    refine congrArg Res.ok ((recurseLoop_eq [] cs _ [['/']] h ?_).trans ?_)
    · have := length_le_length_dirs cs; simp; omega
    · rw [List.range_succ_eq_map, List.map_cons, List.map_map]; rfl

end Fs.PathLemmas

namespace Fs.ConfineLemmas
open Fs Fs.Path Fs.PathSpec Fs.PathLemmas

/-! ### `comps` -/

theorem comps_append_sep (a b : Str) : comps (a ++ '/' :: b) = comps a ++ comps b := by
  simp [comps, splitSlash, splitOn_append_cons_sep]

theorem filter_ne_nil_clean {cs : List Str} (h : Clean cs) :
    cs.filter (fun c => c ≠ []) = cs := by
  rw [List.filter_eq_self]
  intro c hc
  simpa using (h c hc).1

theorem comps_mkp {a : Bool} {cs : List Str} (h : Clean cs) : comps (mkp a cs) = cs := by
  unfold comps
  simp only [splitSlash]
  rw [splitOn_mkp h]
  have := filter_ne_nil_clean h
  cases a <;> by_cases hc : cs = [] <;> simp_all

theorem comps_join_clean {cs : List Str} (h : Clean cs) : comps (joinWith '/' cs) = cs := by
  simpa [mkp] using comps_mkp (a := false) h

/-! ### what `normpath` / `iteratepath` return -/

theorem normpath_bind_ok {β : Type} {p : Str} {f : Str → Res β} {r : β}
    (h : (normpath p >>= f) = .ok r) :
    ∃ cs, resolve (splitSlash p) = some cs ∧ Clean cs ∧ f (mkp (startsWithSlash p) cs) = .ok r := by
  cases hn : normpath p with
  | err e => rw [hn] at h; cases h
  | ok n =>
    obtain ⟨cs, hr, hc, rfl⟩ := normpath_ok_resolve p n hn
    rw [hn] at h
    exact ⟨cs, hr, hc, h⟩

theorem normpath_of_resolve (p : Str) (cs : List Str) (h : resolve (splitSlash p) = some cs) :
    normpath p = .ok (mkp (startsWithSlash p) cs) := by
  rw [normpath_eq_resolve, h]

theorem normpath_err_of_resolve (p : Str) (h : resolve (splitSlash p) = none) :
    normpath p = .err .IllegalBackReference := by
  rw [normpath_eq_resolve, h]

theorem iteratepath_eq_resolve (p : Str) : iteratepath p = match resolve (splitSlash p) with
    | none => .err .IllegalBackReference
    | some cs => .ok cs := by
  unfold iteratepath
  cases hr : resolve (splitSlash p) with
  | none => rw [normpath_err_of_resolve p hr]; rfl
  | some cs =>
    have h := resolve_result_clean p cs hr
    rw [normpath_of_resolve p cs hr, bind_ok]
    simp only [relpath, lstripSlash_mkp h, pure_eq]
    by_cases hc : cs = []
    · subst hc; rfl
    · have : joinWith '/' cs ≠ [] := fun e => hc ((join_clean_eq_nil_iff h).1 e)
      simp [this, splitSlash, splitOn_join_clean h hc]

theorem iteratepath_mkp (a : Bool) {cs : List Str} (h : Clean cs) :
    iteratepath (mkp a cs) = .ok cs := by
  rw [iteratepath_eq_resolve, splitSlash, resolve_splitOn_mkp h]

theorem iteratepath_of_resolve (p : Str) (cs : List Str) (h : resolve (splitSlash p) = some cs) :
    iteratepath p = .ok cs := by
  rw [iteratepath_eq_resolve, h]

theorem iteratepath_ok (p : Str) (cs : List Str) (h : iteratepath p = .ok cs) :
    resolve (splitSlash p) = some cs ∧ Clean cs := by
  obtain ⟨_, hr, hc, rfl⟩ := resolve_match_ok (f := id) ((iteratepath_eq_resolve p).symm.trans h)
  exact ⟨hr, hc⟩

theorem iteratepath_err (p : Str) (e : Err) (h : iteratepath p = .err e) :
    e = .IllegalBackReference ∧ resolve (splitSlash p) = none := by
  rw [iteratepath_eq_resolve] at h
  split at h
  · next hr => cases h; exact ⟨rfl, hr⟩
  · cases h

/-! ### strip("/") never leaves a leading slash -/

theorem startsWithSlash_lstrip (s : Str) : startsWithSlash (lstripSlash s) = false := by
  induction s with
  | nil => rfl
  | cons c cs ih =>
    by_cases hc : c = '/'
    · simp [lstripSlash, hc, ih]
    · simp [lstripSlash, hc, startsWithSlash_cons]

theorem startsWithSlash_rstrip (s : Str) (h : startsWithSlash s = false) :
    startsWithSlash (rstripSlash s) = false := by
  cases s with
  | nil => rfl
  | cons c cs =>
    rw [startsWithSlash_cons] at h
    rw [rstripSlash_cons]
    have hc : c ≠ '/' := by simpa using h
    split <;> simp [hc, startsWithSlash_cons]

theorem startsWithSlash_strip (s : Str) : startsWithSlash (stripSlash s) = false :=
  startsWithSlash_rstrip _ (startsWithSlash_lstrip s)

end Fs.ConfineLemmas
