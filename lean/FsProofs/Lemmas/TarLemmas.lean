/-
  ReadTarFS: the ordered dictionary of normalised member names and the queries over its keys.
  A path exists when some key lies at or below it (`Below`); what the queries answer there is a
  table of four rows (`ans_root`, `ans_member`, `ans_implicit`, `ans_absent`) and the listing
  (`childNames_spec`), for any member list; a written archive has one key per resource
  (`odGet_tarMembers_some`, `below_tarMembers`).
-/
import FsProofs.Lemmas.ArchiveLemmas

namespace Fs.TarLemmas
open Fs Fs.Path Fs.PathSpec Fs.PathLemmas Fs.Archive Fs.ArchiveLemmas Fs.TreeLemmas

/-! ### small list facts -/

theorem mem_dedupe (x : Str) (l : List Str) : x ∈ dedupe l ↔ x ∈ l := by
  fun_induction dedupe l with
  | case1 => exact Iff.rfl
  | case2 y ys ih =>
    rw [List.mem_cons, List.mem_cons, List.mem_filter, ih]
    constructor
    · exact Or.imp_right And.left
    · intro h
      by_cases e : x = y
      · exact Or.inl e
      · exact Or.inr ⟨h.resolve_left e, bne_iff_ne.2 e⟩

theorem nodup_dedupe (l : List Str) : (dedupe l).Nodup := by
  induction l with
  | nil => simp [dedupe]
  | cons y ys ih =>
    rw [dedupe, List.nodup_cons]
    refine ⟨?_, ih.filter _⟩
    intro h
    have := (List.mem_filter.1 h).2
    simp at this

theorem mapRes_spec {α β} (f : α → Res β) (l : List α) (h : ∀ x ∈ l, ∃ y, f x = .ok y) :
    ∃ ys, mapRes f l = .ok ys ∧ ∀ y, y ∈ ys ↔ ∃ x ∈ l, f x = .ok y := by
  induction l with
  | nil => exact ⟨[], rfl, by simp⟩
  | cons a l ih =>
    obtain ⟨y0, hy0⟩ := h a List.mem_cons_self
    obtain ⟨ys, h1, h2⟩ := ih (fun x hx => h x (List.mem_cons_of_mem _ hx))
    refine ⟨y0 :: ys, by simp [mapRes, hy0, h1], ?_⟩
    intro y
    simp only [List.mem_cons, h2, exists_eq_or_imp, hy0, Res.ok.injEq]
    exact or_congr eq_comm Iff.rfl

theorem dedupe_snoc (l : List Str) (k : Str) :
    dedupe (l ++ [k]) = if k ∈ l then dedupe l else dedupe l ++ [k] := by
  induction l with
  | nil => simp [dedupe]
  | cons y ys ih =>
    simp only [List.cons_append, dedupe, ih, List.mem_cons]
    by_cases hk : k ∈ ys
    · simp [hk]
    · simp only [hk, if_false, or_false, List.filter_append]
      by_cases hy : k = y
      · subst hy; simp
      · simp [hy]

theorem filterMap_snoc {α β} (f : α → Option β) (l : List α) (a : α) :
    (l ++ [a]).filterMap f = l.filterMap f ++ (match f a with | some b => [b] | none => []) := by
  rw [List.filterMap_append]
  cases h : f a <;> simp [h]

/-! ### OrderedDict -/

theorem odGet_odPut (k k' : Str) (m : Member) (es : List (Str × Member)) :
    odGet k (odPut k' m es) = if k' = k then some m else odGet k es := by
  fun_induction odPut k' m es with
  | case1 => rfl
  | case2 m0 es =>
    rw [odGet, odGet]
    by_cases h1 : k' = k
    · rw [if_pos h1, if_pos h1]
    · rw [if_neg h1, if_neg h1, if_neg h1]
  | case3 k0 m0 es h ih =>
    rw [odGet, odGet, ih]
    by_cases h1 : k0 = k
    · rw [if_pos h1, if_pos h1, if_neg (h1 ▸ Ne.symm h)]
    · rw [if_neg h1, if_neg h1]

theorem keys_odPut (k : Str) (m : Member) (es : List (Str × Member)) :
    (odPut k m es).map Prod.fst =
      if k ∈ es.map Prod.fst then es.map Prod.fst else es.map Prod.fst ++ [k] := by
  fun_induction odPut k m es with
  | case1 => rfl
  | case2 m' es => rw [List.map_cons, List.map_cons, if_pos List.mem_cons_self]
  | case3 k' m' es h ih =>
    rw [List.map_cons, List.map_cons, ih]
    by_cases hk : k ∈ es.map Prod.fst
    · rw [if_pos hk, if_pos (List.mem_cons_of_mem _ hk)]
    · rw [if_neg hk, if_neg (fun h' => (List.mem_cons.1 h').elim (fun e => h e.symm) hk), List.cons_append]

/-- the body of the loop that fills the dictionary -/
def tarStep (acc : List (Str × Member)) (m : Member) : List (Str × Member) :=
  match tarKey m.name with
  | none => acc
  | some k => odPut k m acc

theorem tarEntries_eq (ms : List Member) : tarEntries ms = ms.foldl tarStep [] := by
  unfold tarEntries tarStep
  rfl

theorem odGet_tarStep (k : Str) (acc : List (Str × Member)) (m : Member) :
    odGet k (tarStep acc m) = ([m].find? fun x => tarKey x.name == some k).or (odGet k acc) := by
  simp only [tarStep, List.find?_cons, List.find?_nil]
  cases hk : tarKey m.name with
  | none => simp
  | some k' =>
    simp only [odGet_odPut]
    by_cases h : k' = k
    · simp [h]
    · have : (k' == k) = false := by simpa using h
      simp [h, this]

theorem odGet_foldl (k : Str) (ms : List Member) (acc : List (Str × Member)) :
    odGet k (ms.foldl tarStep acc) =
      (ms.reverse.find? fun m => tarKey m.name == some k).or (odGet k acc) := by
  induction ms generalizing acc with
  | nil => simp
  | cons m ms ih =>
    rw [List.foldl_cons, ih, odGet_tarStep, List.reverse_cons, List.find?_append, Option.or_assoc]

/-- `OrderedDict` lookup: the last member whose name normalises to the key wins -/
theorem odGet_tarEntries (k : Str) (ms : List Member) :
    odGet k (tarEntries ms) = ms.reverse.find? fun m => tarKey m.name == some k := by
  rw [tarEntries_eq, odGet_foldl]; simp [odGet]

/-- `OrderedDict`: the keys stand in the order of their *first* occurrence -/
theorem keys_tarEntries (ms : List Member) :
    (tarEntries ms).map Prod.fst = dedupe (ms.filterMap fun m => tarKey m.name) := by
  -- by induction from the end of the archive: the dictionary after `i ++ [x]` is one `tarStep` more
  rw [← List.reverse_reverse ms]
  induction ms.reverse with
  | nil => rfl
  | cons x i ih =>
    rw [List.reverse_cons, tarEntries_eq, List.foldl_append, List.foldl_cons, List.foldl_nil, ← tarEntries_eq, filterMap_snoc]
    simp only [tarStep]
    cases hk : tarKey x.name with
    | none => simpa using ih
    | some k =>
      simp only
      rw [keys_odPut, ih, dedupe_snoc]
      simp only [mem_dedupe]

theorem mem_keys_tarEntries (x : Str) (ms : List Member) :
    x ∈ (tarEntries ms).map Prod.fst ↔ ∃ m ∈ ms, tarKey m.name = some x := by
  rw [keys_tarEntries, mem_dedupe, List.mem_filterMap]

/-! ### the keys are relative joins of clean components -/

theorem tarKey_form {name k : Str} (h : tarKey name = some k) :
    ∃ bs, Clean bs ∧ bs ≠ [] ∧ k = mkp false bs := by
  unfold tarKey at h
  cases hn : normpath (stripSlash name) with
  | err e => rw [hn] at h; cases h
  | ok n =>
    rw [hn] at h
    simp only at h
    by_cases hne : (n == []) = true
    · simp [hne] at h
    · simp only [hne, Bool.false_eq_true, if_false, Option.some.injEq] at h
      subst h
      obtain ⟨bs, -, hbs, hk⟩ := normpath_ok_resolve _ _ hn
      rw [ConfineLemmas.startsWithSlash_strip] at hk
      refine ⟨bs, hbs, ?_, hk⟩
      intro e
      subst e
      subst hk
      simp [mkp, joinWith] at hne

theorem tarKey_mkp {cs : List Name} (h : Clean cs) (hne : cs ≠ []) :
    tarKey (mkp false cs) = some (mkp false cs) := by
  have h1 : stripSlash (mkp false cs) = mkp false cs := by rw [stripSlash_mkp h]; simp [mkp]
  have h2 : mkp false cs ≠ [] := mkp_ne_nil h hne
  simp [tarKey, h1, normpath_mkp h, h2]

/-- every key is `mkp false bs` for clean, non-empty `bs` -/
def Keyed (es : List (Str × Member)) : Prop :=
  ∀ e ∈ es, ∃ bs, Clean bs ∧ bs ≠ [] ∧ e.1 = mkp false bs

theorem keyed_tarEntries (ms : List Member) : Keyed (tarEntries ms) := by
  intro e he
  have : e.1 ∈ (tarEntries ms).map Prod.fst := List.mem_map.2 ⟨e, he, rfl⟩
  obtain ⟨m, _, hk⟩ := (mem_keys_tarEntries e.1 ms).1 this
  exact tarKey_form hk

/-! ### `isbase` / `frombase` / `parts` over the keys -/

theorem firstPart_mkp (a : Bool) {x : Name} {rest : List Name} (hr : Clean (x :: rest)) :
    TarFS.firstPart (mkp a (x :: rest)) = .ok x := by
  rw [TarFS.firstPart, parts_mkp _ hr]

/-- some key of the dictionary lies at or below the path `cs`: what makes `cs` exist in `ReadTarFS` -/
def Below (z : TarFS) (cs : List Name) : Prop :=
  ∃ e ∈ z.entries, ∃ rest, Clean (cs ++ rest) ∧ e.1 = mkp false (cs ++ rest)

theorem Below.clean {z : TarFS} {cs : List Name} (h : Below z cs) : Clean cs := by
  obtain ⟨_, _, _, hcl, _⟩ := h
  exact (clean_append.1 hcl).1

theorem isbase_key {z : TarFS} (hz : Keyed z.entries) {cs : List Name} (hc : Clean cs) {e : Str × Member}
    (he : e ∈ z.entries) :
    isbase (mkp false cs) e.1 = true ↔ ∃ rest, Clean (cs ++ rest) ∧ e.1 = mkp false (cs ++ rest) := by
  obtain ⟨bs, hbs, _, hk⟩ := hz e he
  rw [hk, isbase_mkp_iff false false cs bs hc hbs]
  constructor
  · rintro ⟨rest, rfl⟩; exact ⟨rest, hbs, rfl⟩
  · rintro ⟨rest, hcl, hk'⟩; exact ⟨rest, (mkp_inj hbs hcl hk').symm⟩

theorem any_isbase_iff {z : TarFS} (hz : Keyed z.entries) {cs : List Name} (hc : Clean cs) :
    z.entries.any (fun e => isbase (mkp false cs) e.1) = true ↔ Below z cs := by
  rw [List.any_eq_true]
  exact exists_congr fun e => and_congr_right fun he => isbase_key hz hc he

/-- the generator pipeline of `ReadTarFS.listdir` over well-formed keys -/
theorem childNames_spec {z : TarFS} (hz : Keyed z.entries) {cs : List Name} (hc : Clean cs) :
    ∃ l, z.childNames (mkp false cs) = .ok l ∧ l.Nodup ∧ ∀ x, x ∈ l ↔ Below z (cs ++ [x]) := by
  have hA : ∀ e ∈ z.entries.filter (fun e => isbase (mkp false cs) e.1),
      ∃ rest a, Clean (cs ++ rest) ∧ e.1 = mkp false (cs ++ rest) ∧
        frombase (mkp false cs) e.1 = .ok (mkp a rest) := by
    intro e he
    obtain ⟨he1, he2⟩ := List.mem_filter.1 he
    obtain ⟨rest, hbs, hk⟩ := (isbase_key hz hc he1).1 he2
    exact ⟨rest, _, hbs, hk, by rw [hk]; exact frombase_mkp false hc (clean_append.1 hbs).2⟩
  obtain ⟨ch, hch1, hch2⟩ := mapRes_spec (fun e => frombase (mkp false cs) e.1)
    (z.entries.filter fun e => isbase (mkp false cs) e.1)
    (fun e he => by obtain ⟨rest, _, _, _, h⟩ := hA e he; exact ⟨_, h⟩)
  have hB : ∀ c ∈ ch.filter (fun c => relpath c != []), ∃ e ∈ z.entries, ∃ x rest,
      Clean (cs ++ x :: rest) ∧ e.1 = mkp false (cs ++ x :: rest) ∧ TarFS.firstPart c = .ok x := by
    intro c hcm
    obtain ⟨hcm1, hcm2⟩ := List.mem_filter.1 hcm
    obtain ⟨e, he, hf⟩ := (hch2 c).1 hcm1
    obtain ⟨rest, a, h1, h2, h3⟩ := hA e he
    rw [h3] at hf
    cases hf
    have hrest := (clean_append.1 h1).2
    rw [relpath_mkp hrest] at hcm2
    cases rest with
    | nil => cases hcm2
    | cons x rest' => exact ⟨e, (List.mem_filter.1 he).1, x, rest', h1, h2, firstPart_mkp a hrest⟩
  obtain ⟨ct, hct1, hct2⟩ := mapRes_spec TarFS.firstPart (ch.filter fun c => relpath c != [])
    (fun c hcm => by obtain ⟨_, _, x, _, _, _, h⟩ := hB c hcm; exact ⟨x, h⟩)
  refine ⟨dedupe ct, by simp only [TarFS.childNames, hch1, hct1], nodup_dedupe ct, ?_⟩
  intro x
  simp only [Below, List.append_assoc, List.singleton_append]
  rw [mem_dedupe, hct2]
  constructor
  · rintro ⟨c, hcm, hf⟩
    obtain ⟨e, he, y, rest', h1, h2, h3⟩ := hB c hcm
    rw [h3] at hf
    cases hf
    exact ⟨e, he, rest', h1, h2⟩
  · rintro ⟨e, he, rest, h1, h2⟩
    have hef : e ∈ z.entries.filter (fun e => isbase (mkp false cs) e.1) :=
      List.mem_filter.2 ⟨he, (isbase_key hz hc he).2 ⟨_, h1, h2⟩⟩
    have hrest := (clean_append.1 h1).2
    have hfb := frombase_mkp false hc hrest
    rw [← h2] at hfb
    refine ⟨_, List.mem_filter.2 ⟨(hch2 _).2 ⟨e, hef, hfb⟩, ?_⟩, firstPart_mkp _ hrest⟩
    rw [relpath_mkp hrest]
    exact bne_iff_ne.2 (mkp_ne_nil hrest (List.cons_ne_nil _ _))

/-! ### the archive `write_tar` emits, reopened -/

theorem rel_of_validate {p : Str} {cs : List Name} (hv : Ref.validate p = .ok cs) :
    TarFS.rel p = .ok (mkp false cs) := by
  obtain ⟨hac, hnorm⟩ := validate_ok hv
  simp only [TarFS.rel, hnorm, abspath_mkp (clean_of_cleanName hac), relpath_mkp (clean_of_cleanName hac)]

theorem rel_mkp (a : Bool) {cs : List Name} (h : Clean cs) : TarFS.rel (mkp a cs) = .ok (mkp false cs) := by
  simp only [TarFS.rel, normpath_mkp h, abspath_mkp h, relpath_mkp h]

theorem rel_ok {p r : Str} (h : TarFS.rel p = .ok r) : ∃ cs, Clean cs ∧ r = mkp false cs := by
  rw [TarFS.rel] at h
  cases hn : normpath p with
  | err e => rw [hn] at h; cases h
  | ok n =>
    obtain ⟨cs, -, hcs, rfl⟩ := normpath_ok_resolve p n hn
    rw [hn] at h
    cases h
    exact ⟨cs, hcs, by rw [abspath_mkp hcs, relpath_mkp hcs]⟩

theorem tar_listdir_ok {z : TarFS} {p : Str} {l : List Name} (h : z.listdir p = .ok l) :
    ∃ r, TarFS.rel p = .ok r ∧ z.childNames r = .ok l := by
  rw [TarFS.listdir] at h
  cases hr : TarFS.rel p with
  | err e => rw [hr] at h; cases h
  | ok r =>
    cases hd : z.details p with
    | err e => rw [hr, hd] at h; cases h
    | ok d =>
      rw [hr, hd] at h
      refine ⟨r, rfl, ?_⟩
      dsimp only at h
      split at h
      · cases h
      · exact h

/-! ### what `ReadTarFS` answers at a clean path below the root, by what the dictionary holds for it -/

section
variable {z : TarFS} {p : Str} {cs : List Name} (hcl : Clean cs) (hc : cs ≠ [])
  (hrel : TarFS.rel p = .ok (mkp false cs))
include hcl hc hrel

theorem ans_member {m : Member} (hod : odGet (mkp false cs) z.entries = some m) :
    z.exists_ p = .ok true ∧ z.isdir p = .ok m.isDir ∧ z.isfile p = .ok (!m.isDir) ∧
    z.listdir p = (if m.isDir then z.childNames (mkp false cs) else .err .DirectoryExpected) ∧
    z.openRead p = (if m.isDir then .err .FileExpected else .ok m.data) ∧
    z.details p = .ok ⟨Ref.lastName cs, m.isDir, some m.data.length, some m.mtime⟩ := by
  have hr : (mkp false cs == []) = false := beq_false_of_ne (mkp_ne_nil hcl hc)
  have hdet : z.details p = .ok ⟨Ref.lastName cs, m.isDir, some m.data.length, some m.mtime⟩ := by
    simp only [TarFS.details, hrel, hr, hod, Bool.false_eq_true, if_false, basename_mkp false hcl]
    rfl
  simp only [TarFS.exists_, TarFS.isdir, TarFS.isfile, TarFS.listdir, TarFS.openRead, hrel, hdet, hr,
    hod, Bool.false_eq_true, if_false, true_and]
  cases m.isDir <;> exact ⟨rfl, trivial⟩

variable (hz : Keyed z.entries) (hod : odGet (mkp false cs) z.entries = none)
include hz hod

/-- no member of that name, but something below it: an implied directory -/
theorem ans_implicit (hb : Below z cs) :
    z.exists_ p = .ok true ∧ z.isdir p = .ok true ∧ z.isfile p = .ok false ∧
    z.listdir p = z.childNames (mkp false cs) ∧ z.openRead p = .err .ResourceNotFound ∧
    z.details p = .ok ⟨Ref.lastName cs, true, some 0, none⟩ := by
  have hr : (mkp false cs == []) = false := beq_false_of_ne (mkp_ne_nil hcl hc)
  have hany := (any_isbase_iff hz hcl).2 hb
  have hdir : z.isdir (mkp false cs) = .ok true := by
    simp only [TarFS.isdir, rel_mkp false hcl, hr, hod, hany, Bool.false_eq_true, if_false]
  have hdet : z.details p = .ok ⟨Ref.lastName cs, true, some 0, none⟩ := by
    simp only [TarFS.details, hrel, hr, hod, hdir, Bool.false_eq_true, if_false, basename_mkp false hcl]
    rfl
  simp only [TarFS.exists_, TarFS.isdir, TarFS.isfile, TarFS.listdir, TarFS.openRead, hrel, hdet, hr,
    hod, hany, Bool.false_eq_true, if_false, Bool.not_true, and_self]

theorem ans_absent (hb : ¬ Below z cs) :
    z.exists_ p = .ok false ∧ z.isdir p = .ok false ∧ z.isfile p = .ok false ∧
    z.listdir p = .err .ResourceNotFound ∧ z.openRead p = .err .ResourceNotFound ∧
    z.details p = .err .ResourceNotFound := by
  have hr : (mkp false cs == []) = false := beq_false_of_ne (mkp_ne_nil hcl hc)
  have hany := Bool.eq_false_iff.2 (mt (any_isbase_iff hz hcl).1 hb)
  have hdir : z.isdir (mkp false cs) = .ok false := by
    simp only [TarFS.isdir, rel_mkp false hcl, hr, hod, hany, Bool.false_eq_true, if_false]
  have hdet : z.details p = .err .ResourceNotFound := by
    simp only [TarFS.details, hrel, hr, hod, hdir, Bool.false_eq_true, if_false]
  simp only [TarFS.exists_, TarFS.isdir, TarFS.isfile, TarFS.listdir, TarFS.openRead, hrel, hdet, hr,
    hod, hany, Bool.false_eq_true, if_false, and_self]

end

theorem odGet_nil {es : List (Str × Member)} (hz : Keyed es) : odGet [] es = none := by
  induction es with
  | nil => rfl
  | cons e es ih =>
    obtain ⟨bs, hbs, hne, hk⟩ := hz e List.mem_cons_self
    rw [odGet, if_neg (hk ▸ mkp_ne_nil hbs hne), ih fun e he => hz e (List.mem_cons_of_mem _ he)]

/-- the root: a directory whatever the archive holds, and `openbin` looks it up as a member -/
theorem ans_root {z : TarFS} (hz : Keyed z.entries) {p : Str} (hrel : TarFS.rel p = .ok []) :
    z.exists_ p = .ok true ∧ z.isdir p = .ok true ∧ z.isfile p = .ok false ∧
    z.listdir p = z.childNames [] ∧ z.openRead p = .err .ResourceNotFound ∧
    z.details p = .ok ⟨[], true, none, none⟩ := by
  have hnil : (([] : Str) == []) = true := rfl
  have hdet : z.details p = .ok ⟨[], true, none, none⟩ := by
    simp only [TarFS.details, hrel, hnil, if_true]
  simp only [TarFS.exists_, TarFS.isdir, TarFS.isfile, TarFS.listdir, TarFS.openRead, hrel, hdet, hnil,
    odGet_nil hz, if_true, Bool.not_true, Bool.false_eq_true, if_false, and_self]

section
variable {t : Node} (ht : t.wf = true) (hd : t.isDir = true) (mt : List Name → Int)
include ht hd

theorem tarMember_key {m : Member} (hm : m ∈ tarMembers mt t) :
    ∃ bs n, bs ≠ [] ∧ t.get bs = some n ∧ Clean bs ∧
      m = ⟨mkp false bs, n.isDir, fileBytes n, tarTime (mt bs)⟩ ∧ tarKey m.name = some (mkp false bs) := by
  obtain ⟨bs, n, hne, hg, rfl⟩ := (mem_map_walkInfo ht hd _ m).1 hm
  have hcl := get_clean ht hg
  refine ⟨bs, n, hne, hg, hcl, by simp [tarName_eq hcl], ?_⟩
  simp only [tarName_eq hcl]
  exact tarKey_mkp hcl hne

theorem tarMember_mem {cs : List Name} {n : Node} (hne : cs ≠ []) (hg : t.get cs = some n) :
    (⟨mkp false cs, n.isDir, fileBytes n, tarTime (mt cs)⟩ : Member) ∈ tarMembers mt t := by
  refine (mem_map_walkInfo ht hd _ _).2 ⟨cs, n, hne, hg, ?_⟩
  rw [tarName_eq (get_clean ht hg)]

/-- the dictionary entry of a resource of the source tree -/
theorem odGet_tarMembers_some {cs : List Name} {n : Node} (hne : cs ≠ []) (hg : t.get cs = some n) :
    odGet (mkp false cs) (tarEntries (tarMembers mt t)) =
      some ⟨mkp false cs, n.isDir, fileBytes n, tarTime (mt cs)⟩ := by
  rw [odGet_tarEntries]
  have hcl := get_clean ht hg
  apply find?_reverse_unique (tarMember_mem ht hd mt hne hg)
  · simp [tarKey_mkp hcl hne]
  · intro b hb hP
    obtain ⟨bs, n', _, hg', hcl', rfl, hk⟩ := tarMember_key ht hd mt hb
    rw [hk] at hP
    simp only [beq_iff_eq, Option.some.injEq] at hP
    have := mkp_inj hcl' hcl hP
    subst this
    rw [hg] at hg'
    cases hg'
    rfl

theorem odGet_tarMembers_none {cs : List Name} (hc : Clean cs) (hg : t.get cs = none) :
    odGet (mkp false cs) (tarEntries (tarMembers mt t)) = none := by
  rw [odGet_tarEntries, List.find?_eq_none]
  intro m hm hP
  obtain ⟨bs, n', _, hg', hcl', rfl, hk⟩ := tarMember_key ht hd mt (List.mem_reverse.1 hm)
  rw [hk] at hP
  simp only [beq_iff_eq, Option.some.injEq] at hP
  rw [mkp_inj hcl' hc hP, hg] at hg'
  cases hg'

/-- a key of the dictionary is the joined path of a resource, and conversely -/
theorem mem_entries_tarMembers (k : Str) :
    (∃ e ∈ tarEntries (tarMembers mt t), e.1 = k) ↔
      ∃ bs n, bs ≠ [] ∧ t.get bs = some n ∧ k = mkp false bs := by
  have h0 : (∃ e ∈ tarEntries (tarMembers mt t), e.1 = k) ↔ k ∈ (tarEntries (tarMembers mt t)).map Prod.fst := by
    rw [List.mem_map]
  rw [h0, mem_keys_tarEntries]
  constructor
  · rintro ⟨m, hm, hk⟩
    obtain ⟨bs, n, hne, hg, _, _, hk'⟩ := tarMember_key ht hd mt hm
    rw [hk] at hk'
    cases hk'
    exact ⟨bs, n, hne, hg, rfl⟩
  · rintro ⟨bs, n, hne, hg, rfl⟩
    refine ⟨_, tarMember_mem ht hd mt hne hg, ?_⟩
    exact tarKey_mkp (get_clean ht hg) hne

theorem below_tarMembers {cs : List Name} (hne : cs ≠ []) :
    Below (readTar (tarMembers mt t)) cs ↔ t.get cs ≠ none := by
  constructor
  · rintro ⟨e, he, rest, hclr, hk⟩
    obtain ⟨bs, n, _, hgb, hk'⟩ := (mem_entries_tarMembers ht hd mt e.1).1 ⟨e, he, rfl⟩
    rw [hk] at hk'
    obtain rfl := mkp_inj hclr (get_clean ht hgb) hk'
    rw [get_append] at hgb
    intro h
    rw [h] at hgb
    cases hgb
  · intro h
    cases hg : t.get cs with
    | none => exact absurd hg h
    | some v =>
      obtain ⟨e, he, hk⟩ := (mem_entries_tarMembers ht hd mt (mkp false cs)).2 ⟨cs, v, hne, hg, rfl⟩
      exact ⟨e, he, [], by rw [List.append_nil]; exact get_clean ht hg, by rw [List.append_nil]; exact hk⟩

end

/-- the listing of a directory of the reopened archive -/
theorem tar_childNames_perm {t : Node} (mt : List Name → Int) (ht : t.wf = true) (hd : t.isDir = true)
    {cs : List Name} (hcl : Clean cs) {es : Ents} (hg : t.get cs = some (.dir es)) :
    ∃ l, (readTar (tarMembers mt t)).childNames (mkp false cs) = .ok l ∧ l.Perm (Ents.names es) := by
  obtain ⟨l, h1, h2, h3⟩ := childNames_spec (keyed_tarEntries (tarMembers mt t)) hcl
  exact ⟨l, h1, perm_names_of_children ht hg h2 fun x =>
    (h3 x).trans (below_tarMembers ht hd mt (List.concat_ne_nil _ _))⟩

/-! ### any member list: names and stat of listed paths -/

theorem lastName_snoc (cs : List Name) (x : Name) : Ref.lastName (cs ++ [x]) = x := by
  simp [Ref.lastName]

/-- `Info.name` is the last component of the path that was asked for -/
theorem tar_details_name {z : TarFS} (hz : Keyed z.entries) (p : Str) (d : Details) (h : z.details p = .ok d) :
    ∃ cs, Clean cs ∧ TarFS.rel p = .ok (mkp false cs) ∧ d.name = Ref.lastName cs := by
  cases hrel : TarFS.rel p with
  | err e => simp only [TarFS.details, hrel] at h; cases h
  | ok r =>
    obtain ⟨cs, hcs, rfl⟩ := rel_ok hrel
    refine ⟨cs, hcs, rfl, ?_⟩
    by_cases hc : cs = []
    · subst hc
      rw [(ans_root hz hrel).2.2.2.2.2] at h
      cases h
      rfl
    · cases hod : odGet (mkp false cs) z.entries with
      | some m =>
        rw [(ans_member hcs hc hrel hod).2.2.2.2.2] at h
        cases h
        rfl
      | none =>
        by_cases hb : Below z cs
        · rw [(ans_implicit hcs hc hrel hz hod hb).2.2.2.2.2] at h
          cases h
          rfl
        · rw [(ans_absent hcs hc hrel hz hod hb).2.2.2.2.2] at h
          cases h

/-- a name `listdir` returns is listed because something lies at or below it -/
theorem tar_listed_stat {z : TarFS} (hz : Keyed z.entries) {cs : List Name} (hcs : Clean cs)
    {l : List Name} (hl : z.listdir (mkp true cs) = .ok l) {x : Name} (hx : x ∈ l) :
    ∃ d, z.details (mkp true (cs ++ [x])) = .ok d ∧ d.name = x ∧
      (d.isDir = false → ∃ b, z.openRead (mkp true (cs ++ [x])) = .ok b) := by
  obtain ⟨r, hr, hch⟩ := tar_listdir_ok hl
  rw [rel_mkp true hcs] at hr
  cases hr
  obtain ⟨l', h1, _, h3⟩ := childNames_spec hz hcs
  rw [h1] at hch
  cases hch
  have hb := (h3 x).1 hx
  have hne : cs ++ [x] ≠ [] := List.concat_ne_nil _ _
  have hrel := rel_mkp true hb.clean
  cases hod : odGet (mkp false (cs ++ [x])) z.entries with
  | some m =>
    obtain ⟨_, _, _, _, hread, hdet⟩ := ans_member hb.clean hne hrel hod
    refine ⟨_, hdet, lastName_snoc cs x, fun hm => ⟨m.data, ?_⟩⟩
    rw [hread, show m.isDir = false from hm]
    rfl
  | none => exact ⟨_, (ans_implicit hb.clean hne hrel hz hod hb).2.2.2.2.2, lastName_snoc cs x, nofun⟩

end Fs.TarLemmas
