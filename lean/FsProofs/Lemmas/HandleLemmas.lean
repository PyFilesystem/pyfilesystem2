/-
  The reference with open handles (FsModel/Handles.lean), first layer: rewriting one file of the tree, the bytes of an
  inode (`inoBytes`, `setInoBytes`, `inoOk`), `fileStep` as `IoRef.step` on them, and `file_survives`.

  HandleLemmas, HandleWf and HandleRun are one namespace `Fs.HandleLemmas` in three files.  Its lemmas `Links.intern`,
  `Links.relocate`, `Links.unlinkUnder` and `WF.inoOk` are named after the model's `intern`, `relocate`, `unlinkUnder`
  and this namespace's `inoOk`; inside their own proofs the short name is the lemma, so one reads `unfold Handles.intern`
  and `unfold HandleLemmas.inoOk` there.
-/
import FsModel.Handles
import FsProofs.Lemmas.StepEffects

namespace Fs.HandleLemmas
open Fs Fs.Ref Fs.File Fs.Handles Fs.TreeLemmas

/-! ### `fileAt` -/

theorem fileAt_eq_some {t : Node} {cs : List Name} {b : Bytes} :
    fileAt t cs = some b ↔ t.get cs = some (.file b) := by
  unfold fileAt
  cases h : t.get cs with
  | none => simp
  | some n => cases n <;> simp

theorem get_set_file_self {t : Node} {cs : List Name} {b : Bytes} (b' : Bytes) (hne : cs ≠ [])
    (h : t.get cs = some (.file b)) : (t.set cs (.file b')).get cs = some (.file b') := by
  obtain ⟨es, he⟩ := get_parent_dir hne h
  exact get_set_same cs t _ es hne he

theorem get_set_leaf {t : Node} {cs q : List Name} {b : Bytes} (b' : Bytes) (hne : cs ≠ [])
    (hg : t.get cs = some (.file b)) (hq : q ≠ cs) :
    (t.set cs (.file b')).get q = t.get q ∨
    ∃ es es', t.get q = some (.dir es) ∧ (t.set cs (.file b')).get q = some (.dir es') := by
  have hg' := get_set_file_self b' hne hg
  by_cases h1 : cs <+: q
  · -- below a file there is nothing, before and after
    obtain ⟨c, r, rfl⟩ := prefix_ne_split h1 (Ne.symm hq)
    left
    rw [get_append, get_append, hg, hg']
    rfl
  · by_cases h2 : q <+: cs
    · obtain ⟨es, he⟩ := get_proper_prefix_dir h2 hq hg
      obtain ⟨es', he'⟩ := get_proper_prefix_dir h2 hq hg'
      exact .inr ⟨es, es', he, he'⟩
    · exact .inl (get_set_disjoint cs q t _ h1 h2)

theorem fileAt_set_other {t : Node} {cs q : List Name} {b : Bytes} (b' : Bytes) (hne : cs ≠ [])
    (h : t.get cs = some (.file b)) (hq : q ≠ cs) :
    fileAt (t.set cs (.file b')) q = fileAt t q := by
  unfold fileAt
  rcases get_set_leaf b' hne h hq with he | ⟨es, es', he, he'⟩
  · rw [he]
  · rw [he, he']

/-! ### inode contents -/

/-- inode `i` is usable: it is in the table and, when linked, linked at a non-root path that is a file -/
def inoOk (s : HState) (i : Nat) : Prop :=
  match s.inodes[i]? with
  | some (.linked cs) => cs ≠ [] ∧ ∃ b, s.fs.root.get cs = some (.file b)
  | some (.unlinked _) => True
  | none => False

theorem inoBytes_linked {s : HState} {i : Nat} {cs : List Name} {b : Bytes}
    (hi : s.inodes[i]? = some (.linked cs)) (hb : s.fs.root.get cs = some (.file b)) :
    s.inoBytes i = b := by
  simp [HState.inoBytes, hi, Link.bytes, fileAt_eq_some.2 hb]

theorem inoBytes_unlinked {s : HState} {i : Nat} {b : Bytes}
    (hi : s.inodes[i]? = some (.unlinked b)) : s.inoBytes i = b := by
  simp [HState.inoBytes, hi, Link.bytes]

theorem setInoBytes_handles (s : HState) (i : Nat) (b : Bytes) : (s.setInoBytes i b).handles = s.handles := by
  unfold HState.setInoBytes
  split
  · split <;> rfl
  · rfl
  · rfl

theorem setInoBytes_closed (s : HState) (i : Nat) (b : Bytes) : (s.setInoBytes i b).fs.closed = s.fs.closed := by
  unfold HState.setInoBytes
  split
  · split <;> rfl
  · rfl
  · rfl

theorem setInoBytes_linked {s : HState} {i : Nat} {cs : List Name} {b : Bytes} (b' : Bytes)
    (hi : s.inodes[i]? = some (.linked cs)) (hb : s.fs.root.get cs = some (.file b)) :
    s.setInoBytes i b' = { s with fs := { s.fs with root := s.fs.root.set cs (.file b') } } := by
  simp [HState.setInoBytes, hi, fileAt_eq_some.2 hb]

theorem setInoBytes_unlinked {s : HState} {i : Nat} {b : Bytes} (b' : Bytes)
    (hi : s.inodes[i]? = some (.unlinked b)) :
    s.setInoBytes i b' = { s with inodes := s.inodes.set i (.unlinked b') } := by
  simp [HState.setInoBytes, hi]

theorem inoOk_cases {s : HState} {i : Nat} (hok : inoOk s i) :
    (∃ cs b, s.inodes[i]? = some (.linked cs) ∧ cs ≠ [] ∧ s.fs.root.get cs = some (.file b)) ∨
    (∃ b, s.inodes[i]? = some (.unlinked b)) := by
  unfold inoOk at hok
  cases hi : s.inodes[i]? with
  | none => simp [hi] at hok
  | some l =>
    cases l with
    | linked cs =>
      simp only [hi] at hok
      obtain ⟨hne, b, hb⟩ := hok
      exact .inl ⟨cs, b, rfl, hne, hb⟩
    | unlinked b => exact .inr ⟨b, rfl⟩

theorem set_self_of_getElem? {α : Type} {l : List α} {i : Nat} {a : α} (h : l[i]? = some a) : l.set i a = l := by
  obtain ⟨hlt, rfl⟩ := List.getElem?_eq_some_iff.1 h
  exact List.set_getElem_self hlt

theorem setInoBytes_self {s : HState} {i : Nat} (hok : inoOk s i) : s.setInoBytes i (s.inoBytes i) = s := by
  rcases inoOk_cases hok with ⟨cs, b, hi, _, hb⟩ | ⟨b, hi⟩
  · rw [inoBytes_linked hi hb, setInoBytes_linked b hi hb, set_self cs _ _ hb]
  · rw [inoBytes_unlinked hi, setInoBytes_unlinked b hi, set_self_of_getElem? hi]

/-- what was stored is what is read back -/
theorem inoBytes_setInoBytes {s : HState} {i : Nat} (b' : Bytes) (hok : inoOk s i) :
    (s.setInoBytes i b').inoBytes i = b' := by
  rcases inoOk_cases hok with ⟨cs, b, hi, hne, hb⟩ | ⟨b, hi⟩
  · rw [setInoBytes_linked b' hi hb]
    exact inoBytes_linked (s := { s with fs := { s.fs with root := s.fs.root.set cs (.file b') } }) hi
      (get_set_file_self b' hne hb)
  · rw [setInoBytes_unlinked b' hi]
    obtain ⟨hlt, _⟩ := List.getElem?_eq_some_iff.1 hi
    exact inoBytes_unlinked (s := { s with inodes := s.inodes.set i (.unlinked b') }) (b := b')
      (by simp [hlt])

theorem inoOk_setInoBytes {s : HState} {i : Nat} (b' : Bytes) (hok : inoOk s i) : inoOk (s.setInoBytes i b') i := by
  rcases inoOk_cases hok with ⟨cs, b, hi, hne, hb⟩ | ⟨b, hi⟩
  · rw [setInoBytes_linked b' hi hb]
    unfold inoOk
    simp only [hi]
    exact ⟨hne, b', get_set_file_self b' hne hb⟩
  · rw [setInoBytes_unlinked b' hi]
    obtain ⟨hlt, _⟩ := List.getElem?_eq_some_iff.1 hi
    unfold inoOk
    simp [hlt]

theorem setInoBytes_with_handles (s : HState) (hs : List Handle) (i : Nat) (b : Bytes) :
    ({ s with handles := hs } : HState).setInoBytes i b = { s.setInoBytes i b with handles := hs } := by
  unfold HState.setInoBytes
  cases s.inodes[i]? with
  | none => rfl
  | some l =>
    cases l with
    | unlinked x => rfl
    | linked cs =>
      simp only
      cases fileAt s.fs.root cs <;> rfl

theorem setInoBytes_with_closed (s : HState) (c : Bool) (i : Nat) (b : Bytes) :
    ({ s with fs := { s.fs with closed := c } } : HState).setInoBytes i b =
      { s.setInoBytes i b with fs := { (s.setInoBytes i b).fs with closed := c } } := by
  unfold HState.setInoBytes
  cases s.inodes[i]? with
  | none => rfl
  | some l =>
    cases l with
    | unlinked x => rfl
    | linked cs =>
      simp only
      cases fileAt s.fs.root cs <;> rfl

theorem setInoBytes_setInoBytes {s : HState} {i : Nat} (b b' : Bytes) (hok : inoOk s i) :
    (s.setInoBytes i b).setInoBytes i b' = s.setInoBytes i b' := by
  rcases inoOk_cases hok with ⟨cs, x, hi, hne, hx⟩ | ⟨x, hi⟩
  · rw [setInoBytes_linked b hi hx, setInoBytes_linked b' hi hx,
      setInoBytes_linked (s := { s with fs := { s.fs with root := s.fs.root.set cs (.file b) } }) b' hi
        (get_set_file_self b hne hx)]
    simp only [set_set_same]
  · obtain ⟨hlt, _⟩ := List.getElem?_eq_some_iff.1 hi
    rw [setInoBytes_unlinked b hi, setInoBytes_unlinked b' hi,
      setInoBytes_unlinked (s := { s with inodes := s.inodes.set i (.unlinked b) }) (b := b) b' (by simp [hlt])]
    simp only [List.set_set]

/-! ### one file-object call -/

/-- `fileStep` is: `IoRef.step` on (inode bytes, position, closed), the new bytes stored back -/
theorem fileStep_eq {s : HState} {hid : Nat} {h : Handle} (op : File.Op)
    (hh : s.handles[hid]? = some h) (hok : inoOk s h.ino) :
    fileStep s hid op =
      ({ (s.setInoBytes h.ino (IoRef.step h.fl ⟨s.inoBytes h.ino, h.pos, h.closed⟩ op).1.bytes) with
           handles := s.handles.set hid
             { h with pos := (IoRef.step h.fl ⟨s.inoBytes h.ino, h.pos, h.closed⟩ op).1.pos,
                      closed := (IoRef.step h.fl ⟨s.inoBytes h.ino, h.pos, h.closed⟩ op).1.closed } },
       .file (IoRef.step h.fl ⟨s.inoBytes h.ino, h.pos, h.closed⟩ op).2) := by
  simp only [fileStep, hh]
  split
  · next heq => rw [heq, setInoBytes_self hok]
  · rw [setInoBytes_handles]

theorem fileStep_bad {s : HState} {hid : Nat} (op : File.Op) (hh : s.handles[hid]? = none) :
    fileStep s hid op = (s, .badHandle) := by
  simp [fileStep, hh]

/-! ### files that a successful filesystem call does not take out of the tree stay files -/

mutual
theorem mergeNode_file_stays : ∀ (v d n : Node) (r : List Name) (x : Bytes),
    mergeNode v (some d) = some n → d.get r = some (.file x) → ∃ y, n.get r = some (.file y)
  | .file b, d, n, r, x, hm, hg => by
    cases d with
    | dir _ => simp [mergeNode] at hm
    | file _ =>
      simp only [mergeNode, Option.some.injEq] at hm
      subst hm
      cases r with
      | nil => exact ⟨b, rfl⟩
      | cons c r => simp [Node.get] at hg
  | .dir es, d, n, r, x, hm, hg => by
    cases d with
    | file _ => simp [mergeNode] at hm
    | dir ds =>
      simp only [mergeNode, Option.map_eq_some_iff] at hm
      obtain ⟨m, hm, rfl⟩ := hm
      exact mergeEnts_file_stays es ds m r x hm hg
theorem mergeEnts_file_stays : ∀ (es ds m : Ents) (r : List Name) (x : Bytes),
    mergeEnts es ds = some m → (Node.dir ds).get r = some (.file x) →
    ∃ y, (Node.dir m).get r = some (.file y)
  | [], ds, m, r, x, hm, hg => by
    simp only [mergeEnts, Option.some.injEq] at hm
    subst hm
    exact ⟨x, hg⟩
  | (k, v) :: es, ds, m, r, x, hm, hg => by
    simp only [mergeEnts] at hm
    cases hn : mergeNode v (Ents.lookup k ds) with
    | none => simp [hn] at hm
    | some n =>
      simp only [hn] at hm
      cases r with
      | nil => simp [Node.get] at hg
      | cons c r =>
        by_cases hc : c = k
        · subst hc
          simp only [Node.get] at hg
          cases hl : Ents.lookup c ds with
          | none => simp [hl] at hg
          | some d =>
            simp only [hl] at hg hn
            obtain ⟨y, hy⟩ := mergeNode_file_stays v d n r x hn hg
            exact mergeEnts_file_stays es _ m (c :: r) y hm (by simp [Node.get, lookup_put_same, hy])
        · exact mergeEnts_file_stays es _ m (c :: r) x hm
            (by simpa [Node.get, lookup_put_other _ _ _ _ hc] using hg)
end

/-- the component paths whose FILE a successful call takes out of the tree -/
def removed (op : Ref.Op) (q : List Name) : Prop :=
  match op with
  | .remove p => ∃ a, validate p = .ok a ∧ q = a
  | .removetree p => ∃ a, validate p = .ok a ∧ a <+: q
  | .move s d _ => ∃ a b, validate s = .ok a ∧ validate d = .ok b ∧ a ≠ b ∧ q = a
  | .movedir s d _ => ∃ a b, validate s = .ok a ∧ validate d = .ok b ∧ a ≠ b ∧ a <+: q
  | _ => False

theorem file_after_set {t : Node} {cs q : List Name} {es : Ents} {x : Bytes} (b : Bytes) (hne : cs ≠ [])
    (hpar : t.get cs.dropLast = some (.dir es)) (hnd : ∀ ds, t.get cs ≠ some (.dir ds))
    (hq : t.get q = some (.file x)) : ∃ y, (t.set cs (.file b)).get q = some (.file y) := by
  by_cases hqc : q = cs
  · subst hqc; exact ⟨b, get_set_same _ _ _ es hne hpar⟩
  · exact ⟨x, get_set_file _ _ _ _ _ hq (not_prefix_of_not_dir hq hqc hnd)⟩

theorem file_after_merge {t : Node} {b q : List Name} {es ds m : Ents} {x : Bytes}
    (hd : t.get b = some (.dir ds)) (hm : mergeEnts es ds = some m) (hq : t.get q = some (.file x)) :
    ∃ y, (setAt t b (.dir m)).get q = some (.file y) := by
  by_cases hbq : b <+: q
  · obtain ⟨r, rfl⟩ := hbq
    rw [get_append, hd] at hq
    obtain ⟨y, hy⟩ := mergeEnts_file_stays es ds m r x hm hq
    exact ⟨y, by rw [get_setAt_append _ b r m ds hd]; exact hy⟩
  · exact ⟨x, get_setAt_file _ _ _ _ _ hq hbq⟩

theorem eff1_file_survives {s : State} {cs : List Name} {op : Ref.Op} {p : Str} {r : State × Ref.Out}
    (h : Eff1 s cs op r) (hp : op.paths = [p]) (hv : validate p = .ok cs)
    (q : List Name) (x : Bytes) (hq : s.root.get q = some (.file x)) (hn : ¬ removed op q) :
    ∃ y, r.1.root.get q = some (.file y) := by
  cases h with
  | same o => exact ⟨x, hq⟩
  | setFile b v es hne hpar hnd hw => exact file_after_set b hne hpar hnd hq
  | mkdir es hne hpar hnone hop =>
    exact ⟨x, get_set_file _ _ _ _ _ hq (not_prefix_of_none hq hnone)⟩
  | mkdirs => exact ⟨x, mkdirs_file _ _ _ _ _ hq⟩
  | delFile b hne hb hop =>
    obtain ⟨p', rfl⟩ := hop
    cases hp
    have hqc : q ≠ cs := fun e => hn ⟨cs, hv, e⟩
    exact ⟨x, get_del_file _ _ _ _ hq (not_prefix_of_not_dir hq hqc (by simp [hb]))⟩
  | delEmpty hne hb hop =>
    refine ⟨x, get_del_file _ _ _ _ hq ?_⟩
    rintro ⟨r', rfl⟩
    rw [get_append, hb] at hq
    cases r' <;> simp [Node.get, Ents.lookup] at hq
  | delTree es hne hb hop =>
    obtain ⟨p', rfl⟩ := hop
    cases hp
    exact ⟨x, get_del_file _ _ _ _ hq (fun hpre => hn ⟨cs, hv, hpre⟩)⟩
  | clear he hop =>
    obtain ⟨p', rfl⟩ := hop
    cases hp
    exact absurd ⟨cs, hv, he ▸ List.nil_prefix⟩ hn

theorem eff2_file_survives {s : State} {a b : List Name} {op : Ref.Op} {p p' : Str} {r : State × Ref.Out}
    (h : Eff2 s a b op r) (hp : op.paths = [p, p']) (ha : validate p = .ok a) (hb : validate p' = .ok b)
    (q : List Name) (x : Bytes) (hq : s.root.get q = some (.file x)) (hn : ¬ removed op q) :
    ∃ y, r.1.root.get q = some (.file y) := by
  cases h with
  | fail e => exact ⟨x, hq⟩
  | noop v _ => exact ⟨x, hq⟩
  | move data ps hga hab hbne hpar hnd hop =>
    obtain ⟨s', d', o, rfl⟩ := hop
    cases hp
    have hqa : q ≠ a := fun e => hn ⟨a, b, ha, hb, hab, e⟩
    -- the source is still a file once the destination is written, so nothing else lies below it
    have hga' := get_set_file b a s.root (.file data) data hga (not_prefix_of_not_dir hga hab hnd)
    obtain ⟨y, hy⟩ := file_after_set data hbne hpar hnd hq
    exact ⟨y, get_del_file _ _ _ _ hy (not_prefix_of_not_dir hy hqa (by simp [hga']))⟩
  | copy data ps hga hab hbne hpar hnd hop => exact file_after_set data hbne hpar hnd hq
  | movedirMerge es ds0 ds m hab hpre hga hgb hd hm hop =>
    obtain ⟨s', d', o, rfl⟩ := hop
    cases hp
    exact file_after_merge hd hm (get_del_file a q s.root x hq (fun e => hn ⟨a, b, ha, hb, hab, e⟩))
  | movedirNew es ps hab hpre hga hgb hpar hop =>
    obtain ⟨s', d', o, rfl⟩ := hop
    cases hp
    exact ⟨x, get_del_file _ _ _ _ (get_set_file _ _ _ _ _ hq (not_prefix_of_none hq hgb))
      (fun e => hn ⟨a, b, ha, hb, hab, e⟩)⟩
  | copydirMerge es ds m hpre hga hgb hm hop => exact file_after_merge hgb hm hq
  | copydirNew es hpre hga hgb hblk hop =>
    exact ⟨x, get_set_file _ _ _ _ _ (mkdirs_file _ _ _ _ _ hq) (not_prefix_of_none hq hgb)⟩

/-- a file the call does not take out of the tree is still a file afterwards (its bytes may have
been rewritten in place) -/
theorem file_survives (s : State) (op : Ref.Op) (q : List Name) (x : Bytes)
    (hq : s.root.get q = some (.file x)) (hn : ¬ removed op q) :
    ∃ y, (step s op).1.root.get q = some (.file y) := by
  cases step_case s op with
  | close _ h => rw [h]; exact ⟨x, hq⟩
  | fail e _ h => rw [h]; exact ⟨x, hq⟩
  | one p cs _ hp hv h => rw [h]; exact eff1_file_survives (eff1 s cs op) hp hv q x hq hn
  | two p p' a b _ hp ha hb h => rw [h]; exact eff2_file_survives (eff2 s a b op) hp ha hb q x hq hn

end Fs.HandleLemmas
