/-
  Helper lemmas for `MultiRefines.multi_mutators_refine_when_unshadowed`: the overlay of a stack under the
  top-level names that only ONE layer may hold (`OnlyW`): there it is that layer's tree (`overlay_top`,
  `overlay_agreeOn`), and stays so when that layer makes a step that leaves the other names alone (`obsEq_putW`).
-/
import FsProofs.Lemmas.MultiFsListing

namespace Fs.MultiFsLemmas
open Fs Fs.Ref Fs.MultiFs Fs.WrapRefines Fs.MemRefines

/-- the two trees show the same thing at every path (names, types, bytes; entry ORDER aside) -/
def ObsEq (a b : Node) : Prop := ∀ q, (a.get q).map shallow = (b.get q).map shallow

theorem find?_only (p : Nat → Bool) (w : Nat) : ∀ (is : List Nat), (∀ j ∈ is, j ≠ w → p j = false) →
    is.find? p = if p w = true ∧ w ∈ is then some w else none := by
  intro is
  induction is with
  | nil => intro _; simp
  | cons j is ih =>
    intro h
    have ih' := ih (fun k hk => h k (by simp [hk]))
    simp only [List.find?_cons]
    by_cases hj : j = w
    · subst hj
      cases hp : p j with
      | true => simp
      | false => simp [ih', hp]
    · have := h j (by simp) hj
      simp only [this, ih', List.mem_cons]
      by_cases hp : p w = true
      · by_cases hm : w ∈ is
        · simp [hp, hm]
        · simp [hp, hm, Ne.symm hj]
      · simp [hp]

section
variable {s : MState State}

theorem hasAt_of_top (c : Name) (rest : List Name) (j : Nat) (h : hasAt s [c] j = false) :
    hasAt s (c :: rest) j = false := by
  unfold hasAt at h ⊢
  cases hl : s.layers[j]? with
  | none => rfl
  | some l =>
    rw [hl] at h
    simp only at h ⊢
    cases hr : l.st.root with
    | file b => simp [Node.get]
    | dir es =>
      rw [hr] at h
      simp only [Node.get] at h ⊢
      cases hk : Ents.lookup c es with
      | none => rfl
      | some ch => rw [hk] at h; simp at h

/-- only the layer at position `w` may hold the top-level name `c` -/
def OnlyW (s : MState State) (w : Nat) (c : Name) : Prop := ∀ j, j ≠ w → hasAt s [c] j = false

def OnlyAt (s : MState State) (w : Nat) (cs : List Name) : Prop := ∀ j, j ≠ w → hasAt s cs j = false

theorem OnlyW.at {w : Nat} {c : Name} (h : OnlyW s w c) (rest : List Name) : OnlyAt s w (c :: rest) :=
  fun j hj => hasAt_of_top c rest j (h j hj)

theorem find_onlyAt {w : Nat} {cs : List Name} (h : OnlyAt s w cs) (hw : w < s.layers.length) :
    (order s).find? (hasAt s cs) = if hasAt s cs w = true then some w else none := by
  rw [find?_only (hasAt s cs) w (order s) (fun j _ hj => h j hj)]
  simp [mem_order s w hw]

/-- what the overlay shows under a top-level name only the layer at `w` may hold: that layer's entry -/
theorem overlay_top (G : GoodStack s) (w : Nat) (lw : Layer State) (hl : s.layers[w]? = some lw) (c : Name)
    (hU : OnlyW s w c) (rest : List Name) :
    (overlay s).root.get (c :: rest) = lw.st.root.get (c :: rest) := by
  have hw : w < s.layers.length := (List.getElem?_eq_some_iff.1 hl).1
  have hf := find_onlyAt (hU.at rest) hw
  cases hh : hasAt s (c :: rest) w with
  | false =>
    rw [hh] at hf
    simp only [Bool.false_eq_true, if_false] at hf
    rw [overlay_get_none s G.cons G.ne _ hf, ← nodeAt_layer hl, nodeAt_eq_none hh]
  | true =>
    rw [hh] at hf
    simp only [if_true] at hf
    obtain ⟨l, n, pre, post, hl', hn, hsplit, _, hov⟩ := overlay_first s G.cons G.ne (c :: rest) w hf
    cases hl.symm.trans hl'
    have hpost : ∀ x ∈ post.map (nodeAt s (c :: rest)), x = none := by
      intro x hx
      obtain ⟨j, hj, rfl⟩ := List.mem_map.1 hx
      refine nodeAt_eq_none (hasAt_of_top c rest j (hU j ?_))
      rintro rfl
      have hnd := order_nodup s
      rw [hsplit] at hnd
      exact (List.nodup_cons.1 (List.nodup_append.1 hnd).2.1).1 hj
    rw [hov, ovAt_all_none _ hpost, overNode_none, hn]

/-- the overlay's root is a directory whose names do not repeat -/
theorem overlay_root_dir (G : GoodStack s) : ∃ eu, (overlay s).root = .dir eu ∧ (Ents.names eu).Nodup := by
  obtain ⟨l0, hl0⟩ := exists_layer (List.length_pos_iff.2 G.ne)
  obtain ⟨es0, hes0⟩ : ∃ es0, l0.st.root = .dir es0 := by
    have := (G.good l0 (List.mem_of_getElem? hl0)).dir
    cases hr : l0.st.root with
    | file b => rw [hr] at this; cases this
    | dir es => exact ⟨es, rfl⟩
  have hall := allDirs_of_dir G [] 0 l0 es0 hl0 (by rw [TreeLemmas.get_nil, hes0])
  have hg := overlay_get s G.cons G.ne []
  simp only [Node.get] at hg
  rcases ovAt_dir_names _ hall with ⟨hnone, _⟩ | ⟨es', hes', hnames⟩
  · rw [hnone] at hg; cases hg
  · rw [hes'] at hg
    simp only [Option.some.injEq] at hg
    exact ⟨es', hg, by rw [hnames]; exact RouteLemmas.MultiL.nodup_dedupGo [] _⟩

theorem overlay_root_isDir (G : GoodStack s) : (overlay s).root.isDir = true := by
  obtain ⟨eu, heu, _⟩ := overlay_root_dir G
  rw [heu]; rfl

theorem overlay_agreeOn (G : GoodStack s) (w : Nat) (lw : Layer State) (hl : s.layers[w]? = some lw) :
    AgreeOn (OnlyW s w) lw.st.root (overlay s).root :=
  have hd := (G.good lw (List.mem_of_getElem? hl)).dir
  ⟨hd, overlay_root_isDir G, fun c hc => by
    rw [← get_top hd, ← get_top (overlay_root_isDir G), overlay_top G w lw hl c hc]⟩

end


/-! ### replacing the state of the layer at `w` -/

/-- the stack with the state of the layer at position `w` replaced -/
def putW (s : MState State) (w : Nat) (lw : Layer State) (t : State) : MState State :=
  { s with layers := s.layers.set w { lw with st := t } }

section
variable {s : MState State}

theorem putW_get (w : Nat) (lw : Layer State) (t : State) (hl : s.layers[w]? = some lw) (j : Nat) :
    (putW s w lw t).layers[j]? = if j = w then some { lw with st := t } else s.layers[j]? := by
  have hw : w < s.layers.length := (List.getElem?_eq_some_iff.1 hl).1
  simp only [putW, List.getElem?_set]
  by_cases hj : j = w
  · subst hj; simp [hw]
  · simp [hj, Ne.symm hj]

theorem mem_putW (w : Nat) (lw : Layer State) (t : State) (hl : s.layers[w]? = some lw) {l : Layer State}
    (h : l ∈ (putW s w lw t).layers) : l = { lw with st := t } ∨ ∃ j, j ≠ w ∧ s.layers[j]? = some l := by
  obtain ⟨j, hj⟩ := List.mem_iff_getElem?.1 h
  rw [putW_get w lw t hl j] at hj
  by_cases hjw : j = w
  · simp only [hjw, if_true, Option.some.injEq] at hj; exact Or.inl hj.symm
  · simp only [hjw, if_false] at hj; exact Or.inr ⟨j, hjw, hj⟩

theorem putW_cfg (w : Nat) (lw : Layer State) (t : State) (hl : s.layers[w]? = some lw) :
    SameCfg s (putW s w lw t) :=
  ⟨set_map_lmeta _ _ _ _ hl, rfl, rfl, rfl, rfl⟩

theorem nodeAt_putW (w : Nat) (lw : Layer State) (t : State) (hl : s.layers[w]? = some lw) (cs : List Name) (j : Nat) :
    nodeAt (putW s w lw t) cs j = if j = w then t.root.get cs else nodeAt s cs j := by
  unfold nodeAt
  rw [putW_get w lw t hl j]
  by_cases hj : j = w <;> simp [hj]

theorem hasAt_putW_other (w : Nat) (lw : Layer State) (t : State) (hl : s.layers[w]? = some lw) (cs : List Name)
    (j : Nat) (hj : j ≠ w) : hasAt (putW s w lw t) cs j = hasAt s cs j := by
  rw [hasAt_eq, hasAt_eq, nodeAt_putW w lw t hl cs j]; simp [hj]

theorem find?_putW (w : Nat) (lw : Layer State) (t : State) (hl : s.layers[w]? = some lw) (cs : List Name)
    (is : List Nat) (hni : w ∉ is) : is.find? (hasAt (putW s w lw t) cs) = is.find? (hasAt s cs) :=
  find_congr_mem _ _ is fun j hj => hasAt_putW_other w lw t hl cs j fun h => hni (h ▸ hj)

/-- `hframe`: the step leaves alone every top-level entry under a name some other layer may hold -/
theorem goodStack_putW (G : GoodStack s) (w : Nat) (lw : Layer State) (hl : s.layers[w]? = some lw)
    (t' : State) (G' : Good t')
    (hframe : ∀ k, ¬ OnlyW s w k → topOf t'.root k = topOf lw.st.root k) :
    GoodStack (putW s w lw t') ∧ ∀ c, OnlyW s w c → OnlyW (putW s w lw t') w c := by
  have Glw := G.good lw (List.mem_of_getElem? hl)
  have hc2 : ∀ (j : Nat) (l : Layer State), j ≠ w → s.layers[j]? = some l → Cons2 t'.root l.st.root := by
    intro j l hjw hlj q x y hx hy
    have hml := List.mem_of_getElem? hlj
    cases q with
    | nil =>
      simp only [Node.get, Option.some.injEq] at hx hy
      rw [← hx, ← hy, G'.dir, (G.good l hml).dir]
    | cons k q =>
      by_cases hk : OnlyW s w k
      · rw [← nodeAt_layer hlj, nodeAt_eq_none (hasAt_of_top k q j (hk j hjw))] at hy
        cases hy
      · rw [get_of_top G'.dir Glw.dir k (hframe k hk) q] at hx
        exact G.cons lw (List.mem_of_getElem? hl) l hml (k :: q) x y hx hy
  refine ⟨⟨G.opn, ?_, ?_, ?_⟩, ?_⟩
  · intro h
    have := congrArg List.length h
    simp only [putW, List.length_set, List.length_nil] at this
    exact G.ne (List.eq_nil_of_length_eq_zero this)
  · intro l hl'
    rcases mem_putW w lw t' hl hl' with rfl | ⟨j, _, hlj⟩
    · exact G'
    · exact G.good l (List.mem_of_getElem? hlj)
  · intro a ha b hb
    rcases mem_putW w lw t' hl ha with rfl | ⟨ja, hja, hla⟩ <;> rcases mem_putW w lw t' hl hb with rfl | ⟨jb, hjb, hlb⟩
    · intro q x y hx hy; rw [hx] at hy; cases hy; rfl
    · exact hc2 jb b hjb hlb
    · exact (hc2 ja a hja hla).symm
    · exact G.cons a (List.mem_of_getElem? hla) b (List.mem_of_getElem? hlb)
  · intro c hU j hj
    rw [hasAt_putW_other w lw t' hl [c] j hj]
    exact hU j hj

/-- **after the step**: the overlay of the new stack shows, at every path, what the reference's step on
the old overlay shows -/
theorem obsEq_putW (G : GoodStack s) (w : Nat) (lw : Layer State) (hl : s.layers[w]? = some lw)
    (t' u' : State) (G' : Good t')
    (hframe_t : ∀ k, ¬ OnlyW s w k → topOf t'.root k = topOf lw.st.root k)
    (hframe_u : ∀ k, ¬ OnlyW s w k → topOf u'.root k = topOf (overlay s).root k)
    (hA : AgreeOn (OnlyW s w) t'.root u'.root) :
    ObsEq (overlay (putW s w lw t')).root u'.root := by
  obtain ⟨G2, hU2⟩ := goodStack_putW G w lw hl t' G' hframe_t
  have hl2 : (putW s w lw t').layers[w]? = some { lw with st := t' } := by rw [putW_get w lw t' hl w]; simp
  have Glw := G.good lw (List.mem_of_getElem? hl)
  intro q
  cases q with
  | nil =>
    rw [TreeLemmas.get_nil, TreeLemmas.get_nil, Option.map_some, Option.map_some,
      shallow_dir (overlay_root_isDir G2), shallow_dir hA.2.1]
  | cons k q =>
    by_cases hk : OnlyW s w k
    · rw [overlay_top G2 w _ hl2 k (hU2 k hk) q]
      exact congrArg _ (agree_get (hA.at hk) q)
    · have h1 : (overlay (putW s w lw t')).root.get (k :: q) = (overlay s).root.get (k :: q) := by
        rw [overlay_get _ G2.cons G2.ne, overlay_get s G.cons G.ne, (putW_cfg w lw t' hl).order]
        congr 1
        apply List.map_congr_left
        intro j _
        rw [nodeAt_putW w lw t' hl (k :: q) j]
        by_cases hj : j = w
        · subst hj
          simp only [if_true, nodeAt_layer hl]
          exact get_of_top G'.dir Glw.dir k (hframe_t k hk) q
        · simp [hj]
      rw [h1, get_of_top hA.2.1 (overlay_root_isDir G) k (hframe_u k hk) q]


end

/-- the refinement statement on the OVERLAY for a mutating call: the reference's verdict; on success its
value, the layer at `w` made the reference's step, nothing else changed, and the new overlay shows what the
reference's resulting tree shows; on failure nothing changed and the class is admissible for the overlay -/
def USim (s : MState State) (w : Nat) (lw : Layer State) (op : Op) (r : MState State × Out) : Prop :=
  (r.2.isOk = (Ref.step (overlay s) op).2.isOk) ∧
  ((Ref.step (overlay s) op).2.isOk = true →
    r.2 = (Ref.step (overlay s) op).2 ∧ r.1 = putW s w lw (Ref.step lw.st op).1 ∧
    ObsEq (overlay r.1).root (Ref.step (overlay s) op).1.root) ∧
  (∀ e, r.2 = .err e → r.1 = s ∧ e ∈ adm (overlay s) op)

end Fs.MultiFsLemmas
