/-
  Lemmas about the walk model (`FsModel/Walk.lean`) for C13: both work-list machines against `WalkSpec`, the
  documented subset as the enumeration of the tree filtered by `chain`, `walk`'s regrouping into Steps.
-/
import FsProofs.Lemmas.TreeWalk

namespace Fs.WalkLemmas
open Fs Fs.Walk Fs.WalkSpec Fs.TreeLemmas

/-! ### predicates of the machine = predicates of the spec -/

theorem check_cascade (a b c d : Bool) :
    (if a then false else if b then false else if !c then false else if !d then false else true) =
      (c && !a && d && !b) := by
  cases a <;> cases b <;> cases c <;> cases d <;> rfl

theorem checkFile_eq (o : Opts) (dir : WPath) (k : Name) : checkFile o dir k = fileSel o dir k :=
  check_cascade _ _ _ _

theorem checkOpenDir_eq (o : Opts) (dir : WPath) (k : Name) : checkOpenDir o dir k = dirSel o dir k :=
  check_cascade _ _ _ _

theorem checkScanDir_eq (o : Opts) (r : Int) : checkScanDir o r = depthOk o r := by
  unfold checkScanDir depthOk
  cases o.maxDepth with
  | none => rfl
  | some m => simp only [← decide_not, ge_iff_le, Int.not_le]

/-! ### resources -/

@[simp] theorem resources_nil : resources [] = [] := rfl

@[simp] theorem resources_cons_some (d : WPath) (i : Info) (evs : List Event) :
    resources ((d, some i) :: evs) = (d ++ [i.1], i.2) :: resources evs := rfl

@[simp] theorem resources_cons_none (d : WPath) (evs : List Event) :
    resources ((d, none) :: evs) = resources evs := rfl

@[simp] theorem resources_append (a b : List Event) : resources (a ++ b) = resources a ++ resources b :=
  List.filterMap_append

/-- what is selected from a whole queue -/
def selQueue (o : Opts) (d0 : Nat) (q : Queue) : List (WPath × Node) :=
  q.flatMap fun x => selEnts o d0 x.1 x.2

@[simp] theorem selQueue_nil (o : Opts) (d0 : Nat) : selQueue o d0 [] = [] := rfl
@[simp] theorem selQueue_cons (o : Opts) (d0 : Nat) (x : WPath × Ents) (q : Queue) :
    selQueue o d0 (x :: q) = selEnts o d0 x.1 x.2 ++ selQueue o d0 q := List.flatMap_cons
@[simp] theorem selQueue_append (o : Opts) (d0 : Nat) (a b : Queue) :
    selQueue o d0 (a ++ b) = selQueue o d0 a ++ selQueue o d0 b := List.flatMap_append

/-- one directory scan of the breadth machine: its events plus what will be selected from the
directories it pushes is a permutation of the documented subset below that directory -/
theorem scanBreadth_perm (o : Opts) (d0 : Nat) (dir : WPath) (es : Ents) :
    (resources (scanBreadth o d0 dir es).1 ++ selQueue o d0 (scanBreadth o d0 dir es).2).Perm
      (selEnts o d0 dir es) := by
  fun_induction scanBreadth o d0 dir es with
  | case1 => rw [selEnts]; exact List.Perm.refl _
  | case2 k sub es r h ih =>
    rw [selEnts, ← checkOpenDir_eq, ← checkScanDir_eq, if_pos h]
    cases checkScanDir o (relDepth d0 dir)
    · exact List.Perm.cons _ ih
    · -- the sub-directory is pushed: what it will yield moves in front of the rest of this scan
      exact List.Perm.cons _ ((List.perm_append_comm_assoc _ _ _).trans (List.Perm.append_left _ ih))
  | case3 k sub es r h ih => rw [selEnts, ← checkOpenDir_eq, if_neg h]; exact ih
  | case4 k b es r h ih => rw [selEnts, ← checkFile_eq, if_pos h]; exact List.Perm.cons _ ih
  | case5 k b es r h ih => rw [selEnts, ← checkFile_eq, if_neg h]; exact ih

theorem bfs_perm (o : Opts) (d0 : Nat) (q : Queue) :
    (resources (walkBreadth o d0 q)).Perm (selQueue o d0 q) := by
  fun_induction walkBreadth o d0 q with
  | case1 => exact List.Perm.refl _
  | case2 dir es q r ih =>
    rw [resources_append, resources_cons_none, selQueue_cons]
    rw [selQueue_append] at ih
    -- res r.1 ++ (selQ q ++ selQ r.2)  ~  selQ q ++ (res r.1 ++ selQ r.2)  ~  selQ q ++ selEnts dir es
    exact (List.Perm.append_left _ ih).trans ((List.perm_append_comm_assoc _ _ _).trans
      ((List.Perm.append_left _ (scanBreadth_perm o d0 dir es)).trans List.perm_append_comm))

/-! ### depth first -/

def parentRes : Option (WPath × Info) → List (WPath × Node)
  | some p => [(p.1 ++ [p.2.1], p.2.2)]
  | none => []

/-- what the depth machine still has to report, frame by frame -/
def dfsSpec (o : Opts) (d0 : Nat) : List Frame → List (WPath × Node)
  | [] => []
  | (dir, es, parent) :: st => selEntsPost o d0 dir es ++ parentRes parent ++ dfsSpec o d0 st

theorem dfs_eq (o : Opts) (d0 : Nat) (st : List Frame) :
    resources (walkDepth o d0 st) = dfsSpec o d0 st := by
  fun_induction walkDepth o d0 st with
  | case1 => rfl
  | case2 dir parent st ih =>
    rw [dfsSpec, selEntsPost, ← ih]
    cases parent <;> rfl
  | case3 dir k sub es parent st h1 h2 ih =>
    -- the pushed frame owes `selEntsPost (dir ++ [k]) sub` and then, as its parent entry, `(dir ++ [k], .dir sub)`:
    -- together the head of `selEntsPost dir ((k, .dir sub) :: es)`
    rw [checkOpenDir_eq] at h1; rw [checkScanDir_eq] at h2
    rw [ih, dfsSpec, dfsSpec, dfsSpec, selEntsPost, if_pos h1, if_pos h2, parentRes]
    simp only [List.append_assoc]
  | case4 dir k sub es parent st h1 h2 ih =>
    rw [checkOpenDir_eq] at h1; rw [checkScanDir_eq] at h2
    simp [dfsSpec, selEntsPost, h1, h2, ih]
  | case5 dir k sub es parent st h1 ih =>
    rw [checkOpenDir_eq] at h1
    simp [dfsSpec, selEntsPost, h1, ih]
  | case6 dir k b es parent st h1 ih =>
    rw [checkFile_eq] at h1
    simp [dfsSpec, selEntsPost, h1, ih]
  | case7 dir k b es parent st h1 ih =>
    rw [checkFile_eq] at h1
    simp [dfsSpec, selEntsPost, h1, ih]

theorem selEntsPost_perm (o : Opts) (d0 : Nat) (dir : WPath) (es : Ents) :
    (selEntsPost o d0 dir es).Perm (selEnts o d0 dir es) := by
  -- `allEnts` recurses as `selEnts` and `selEntsPost` do (into `sub` at `dir ++ [k]`, and into the rest) but behind
  -- no test: its induction gives the three cases of a listing with both hypotheses unconditionally
  fun_induction allEnts dir es with
  | case1 dir => rw [selEntsPost, selEnts]
  | case2 dir k b es ih =>
    rw [selEntsPost, selEnts]
    exact List.Perm.append_left _ ih
  | case3 dir k sub es ih1 ih2 =>
    rw [selEntsPost, selEnts]
    refine List.Perm.append ?_ ih2
    cases dirSel o dir k
    · exact List.Perm.refl _
    · cases depthOk o (relDepth d0 dir)
      · exact List.Perm.refl _
      · exact List.perm_append_comm.trans (List.Perm.cons _ ih1)

/-! ### the documented subset, per resource (`chain`) -/

theorem chain_nil (o : Opts) (d0 : Nat) (n : Node) (dir : WPath) : chain o d0 n dir [] = false := rfl

theorem chain_single (o : Opts) (d0 : Nat) (n : Node) (dir : WPath) (k : Name) :
    chain o d0 n dir [k] = if n.isDir then dirSel o dir k else fileSel o dir k := rfl

theorem chain_cons (o : Opts) (d0 : Nat) (n : Node) (dir : WPath) (k : Name) {r : WPath} (hr : r ≠ []) :
    chain o d0 n dir (k :: r) =
      (dirSel o dir k && depthOk o (relDepth d0 dir) && chain o d0 n (dir ++ [k]) r) := by
  cases r with
  | nil => exact absurd rfl hr
  | cons k' r => rfl

theorem filter_and_left {α : Type} (c : Bool) (f : α → Bool) (l : List α) :
    l.filter (fun x => c && f x) = if c then l.filter f else [] := by
  cases c
  · exact List.filter_eq_nil_iff.2 fun _ _ => Bool.false_ne_true
  · rfl

theorem selEnts_eq_filter (o : Opts) (d0 : Nat) (dir : WPath) (es : Ents) :
    selEnts o d0 dir es =
      (allEnts dir es).filter (fun x => chain o d0 x.2 dir (x.1.drop dir.length)) := by
  fun_induction allEnts dir es with
  | case1 dir => rw [selEnts]; rfl
  | case2 dir k b es ih =>
    rw [selEnts, List.filter_cons, ← ih, List.drop_left, chain_single]
    cases fileSel o dir k <;> rfl
  | case3 dir k sub es ih1 ih2 =>
    -- below the entry `k` the relative path starts with `k`: `chain` from `dir` is the test of `k`
    -- together with `chain` from `dir ++ [k]`
    have hsub : (allEnts (dir ++ [k]) sub).filter (fun x => chain o d0 x.2 dir (x.1.drop dir.length)) =
        if dirSel o dir k && depthOk o (relDepth d0 dir) then selEnts o d0 (dir ++ [k]) sub else [] := by
      rw [ih1, ← filter_and_left]
      refine List.filter_congr fun x hx => ?_
      obtain ⟨k', rest, hp, _⟩ := allEnts_mem_prefix _ sub x.1 x.2 hx
      rw [hp, List.drop_left, List.append_assoc, List.drop_left]
      exact chain_cons o d0 x.2 dir k (List.cons_ne_nil k' rest)
    rw [selEnts, List.filter_cons, List.filter_append, hsub, ← ih2, List.drop_left, chain_single]
    cases dirSel o dir k <;> cases depthOk o (relDepth d0 dir) <;> rfl

/-- the documented subset is a sub-sequence of the full enumeration -/
theorem selEnts_sublist (o : Opts) (d0 : Nat) (dir : WPath) (es : Ents) :
    (selEnts o d0 dir es).Sublist (allEnts dir es) := by
  rw [selEnts_eq_filter]
  exact List.filter_sublist

theorem selEnts_mem_iff (o : Opts) (d0 : Nat) (dir : WPath) (es : Ents) (hwf : entsWf es = true)
    (p : WPath) (n : Node) :
    (p, n) ∈ selEnts o d0 dir es ↔
      ∃ rel, p = dir ++ rel ∧ Node.get rel (.dir es) = some n ∧ chain o d0 n dir rel = true := by
  rw [selEnts_eq_filter, List.mem_filter]
  constructor
  · rintro ⟨hm, hc⟩
    obtain ⟨rel, rfl, _, hg⟩ := allEnts_get dir es hwf p n hm
    exact ⟨rel, rfl, hg, by rwa [List.drop_left] at hc⟩
  · rintro ⟨rel, rfl, hg, hc⟩
    have hne : rel ≠ [] := by rintro rfl; cases hc
    exact ⟨get_allEnts dir es rel n hne hg, by rwa [List.drop_left]⟩

theorem chain_suffix (o : Opts) (d0 : Nat) (n : Node) (dir a : WPath) {r : WPath} (hr : r ≠ [])
    (h : chain o d0 n dir (a ++ r) = true) : chain o d0 n (dir ++ a) r = true := by
  induction a generalizing dir with
  | nil => rwa [List.append_nil]
  | cons c cs ih =>
    rw [List.cons_append, chain_cons _ _ _ _ _ (List.append_ne_nil_of_right_ne_nil _ hr), Bool.and_eq_true] at h
    rw [List.append_cons]
    exact ih (dir ++ [c]) h.2

/-- nothing is selected below a directory that `_check_open_dir` rejects, nor below one that is not
scanned: every proper ancestor on the way to a selected resource was opened and scanned -/
theorem chain_ancestors (o : Opts) (d0 : Nat) (n : Node) (dir a : WPath) (k : Name) (b : WPath)
    (hb : b ≠ []) (h : chain o d0 n dir (a ++ k :: b) = true) :
    dirSel o (dir ++ a) k = true ∧ depthOk o (relDepth d0 (dir ++ a)) = true := by
  have := chain_suffix o d0 n dir a (List.cons_ne_nil k b) h
  rw [chain_cons _ _ _ _ _ hb, Bool.and_eq_true, Bool.and_eq_true] at this
  exact this.1

/-- the last component of a selected relative path passed its own test -/
theorem chain_last (o : Opts) (d0 : Nat) (n : Node) (dir a : WPath) (k : Name)
    (h : chain o d0 n dir (a ++ [k]) = true) :
    (if n.isDir then dirSel o (dir ++ a) k else fileSel o (dir ++ a) k) = true :=
  chain_suffix o d0 n dir a (List.cons_ne_nil k []) h

/-- the documented subset without any recursion: every proper ancestor directory below the start is
opened and scanned, and the last component passes its own test -/
theorem chain_iff (o : Opts) (d0 : Nat) (n : Node) (dir rel : WPath) :
    chain o d0 n dir rel = true ↔
      rel ≠ [] ∧
      (∀ a k b, rel = a ++ k :: b → b ≠ [] →
        dirSel o (dir ++ a) k = true ∧ depthOk o (relDepth d0 (dir ++ a)) = true) ∧
      (∀ a k, rel = a ++ [k] →
        (if n.isDir then dirSel o (dir ++ a) k else fileSel o (dir ++ a) k) = true) := by
  constructor
  · intro h
    refine ⟨(by rintro rfl; cases h), ?_, ?_⟩
    · rintro a k b rfl hb; exact chain_ancestors o d0 n dir a k b hb h
    · rintro a k rfl; exact chain_last o d0 n dir a k h
  · rintro ⟨hne, hanc, hlast⟩
    induction rel generalizing dir with
    | nil => exact absurd rfl hne
    | cons k r ih =>
      by_cases hr : r = []
      · subst hr
        have := hlast [] k rfl
        rwa [List.append_nil] at this
      · have h0 := hanc [] k r rfl hr
        rw [List.append_nil] at h0
        rw [chain_cons _ _ _ _ _ hr, h0.1, h0.2]
        refine ih (dir ++ [k]) hr (fun a k' b hr' hb => ?_) (fun a k' hr' => ?_)
        · rw [List.append_assoc]
          exact hanc (k :: a) k' b (congrArg (k :: ·) hr') hb
        · rw [List.append_assoc]
          exact hlast (k :: a) k' (congrArg (k :: ·) hr')

/-! ### single-option readings of `chain` -/

theorem relOf_eq (start rel p : WPath) (h : p = start ++ rel) : relOf start p = rel := by
  simp [relOf, h]

theorem dirComps_cons2 (n : Node) (k k' : Name) (r : WPath) :
    dirComps n (k :: k' :: r) = k :: dirComps n (k' :: r) := by
  unfold dirComps; split <;> simp [List.dropLast]

/-- options that never prune: the test of the last component decides -/
theorem chain_noprune (o : Opts) (d0 : Nat) (n : Node) (hdir : ∀ d k, dirSel o d k = true)
    (hdep : ∀ r, depthOk o r = true) (dir rel : WPath) (hne : rel ≠ []) :
    chain o d0 n dir rel = (n.isDir || fileSel o (dir ++ rel.dropLast) (rel.getLast hne)) := by
  induction rel generalizing dir with
  | nil => exact absurd rfl hne
  | cons k r ih =>
    cases r with
    | nil =>
      rw [chain_single]
      cases n.isDir <;> simp [hdir]
    | cons k' r' =>
      rw [chain_cons _ _ _ _ _ (List.cons_ne_nil k' r'), hdir, hdep, ih (dir ++ [k]) (List.cons_ne_nil k' r')]
      simp [List.dropLast, List.getLast_cons]

/-- only name tests on directories (`filter_dirs` / `exclude_dirs`): every directory name on the
way must pass -/
theorem chain_dirsOnly (o : Opts) (d0 : Nat) (n : Node) (g : Name → Bool)
    (hdir : ∀ d k, dirSel o d k = g k) (hfile : ∀ d k, fileSel o d k = true)
    (hdep : ∀ r, depthOk o r = true) (dir rel : WPath) (hne : rel ≠ []) :
    chain o d0 n dir rel = (dirComps n rel).all g := by
  induction rel generalizing dir with
  | nil => exact absurd rfl hne
  | cons k r ih =>
    cases r with
    | nil =>
      rw [chain_single]
      unfold dirComps
      cases n.isDir <;> simp [hdir, hfile]
    | cons k' r' =>
      rw [chain_cons _ _ _ _ _ (List.cons_ne_nil k' r'), hdir, hdep, ih (dir ++ [k]) (List.cons_ne_nil k' r'),
        dirComps_cons2]
      simp

theorem relDepth_snoc (d0 : Nat) (dir : WPath) (k : Name) :
    relDepth d0 (dir ++ [k]) = relDepth d0 dir + 1 := by
  simp only [relDepth, List.length_append, List.length_singleton, Int.natCast_add, Int.natCast_one]
  omega

/-- only `max_depth = m`; below the start itself the relative depth `relDepth d0 dir` is 1 -/
theorem chain_maxDepth (o : Opts) (d0 : Nat) (n : Node) (m : Int)
    (hdir : ∀ d k, dirSel o d k = true) (hfile : ∀ d k, fileSel o d k = true)
    (hdep : ∀ r, depthOk o r = decide (r < m)) (dir rel : WPath) (hne : rel ≠ []) :
    chain o d0 n dir rel = decide (rel.length = 1 ∨ relDepth d0 dir + (rel.length : Int) ≤ m + 1) := by
  induction rel generalizing dir with
  | nil => exact absurd rfl hne
  | cons k r ih =>
    cases r with
    | nil =>
      rw [chain_single]
      cases n.isDir <;> simp [hdir, hfile]
    | cons k' r' =>
      rw [chain_cons _ _ _ _ _ (List.cons_ne_nil k' r'), hdir, hdep, ih (dir ++ [k]) (List.cons_ne_nil k' r'),
        relDepth_snoc]
      generalize relDepth d0 dir = R
      rw [Bool.eq_iff_iff]
      simp only [Bool.true_and, Bool.and_eq_true, decide_eq_true_eq, List.length_cons]
      omega

theorem chain_none (d0 : Nat) (n : Node) (dir rel : WPath) (hne : rel ≠ []) : chain {} d0 n dir rel = true := by
  rw [chain_noprune {} d0 n (fun _ _ => rfl) (fun _ => rfl) dir rel hne]
  exact Bool.or_true _

/-- no option at all: the documented subset is everything below the directory -/
theorem selEnts_none (d0 : Nat) (dir : WPath) (es : Ents) : selEnts {} d0 dir es = allEnts dir es := by
  rw [selEnts_eq_filter, List.filter_eq_self]
  intro x hx
  obtain ⟨k, rest, hp, _⟩ := allEnts_mem_prefix dir es x.1 x.2 hx
  rw [hp, List.drop_left]
  exact chain_none d0 x.2 dir _ (List.cons_ne_nil k rest)

/-- for every tree and every start: below a file, or below nothing, both sides are empty -/
theorem selected_eq_filter (o : Opts) (t : Node) (start : WPath) :
    selected o t start = (allBelow t start).filter fun x => chain o start.length x.2 start (relOf start x.1) := by
  unfold selected allBelow
  rcases t.get start with _ | _ | es
  · rfl
  · rfl
  · simp only [Node.walk, ← allEnts_eq_entsWalk, selEnts_eq_filter, relOf]

theorem selected_iff_of_chain {o : Opts} {t : Node} {start : WPath} {es : Ents}
    (hs : t.get start = some (.dir es)) {p : WPath} {n : Node} {Q : Prop}
    (h : ∀ rel, rel ≠ [] → p = start ++ rel → (chain o start.length n start rel = true ↔ Q)) :
    (p, n) ∈ selected o t start ↔ (p, n) ∈ allBelow t start ∧ Q := by
  rw [selected_eq_filter, List.mem_filter]
  refine and_congr_right fun hm => ?_
  simp only [allBelow, hs, Node.walk, ← allEnts_eq_entsWalk] at hm
  obtain ⟨k, rest, hp, _⟩ := allEnts_mem_prefix start es p n hm
  rw [← h (k :: rest) (List.cons_ne_nil k rest) hp, relOf_eq start _ p hp]

theorem mem_selected_append {o : Opts} {t : Node} {start : WPath} (rel : WPath) (n : Node) :
    (start ++ rel, n) ∈ selected o t start ↔
      (start ++ rel, n) ∈ allBelow t start ∧ chain o start.length n start rel = true := by
  rw [selected_eq_filter, List.mem_filter, relOf, List.drop_left]

/-! ### order of the post-order enumeration -/

theorem selEntsPost_mem_prefix (o : Opts) (d0 : Nat) (dir : WPath) (es : Ents) (x : WPath × Node)
    (h : x ∈ selEntsPost o d0 dir es) : ∃ k rest, x.1 = dir ++ k :: rest ∧ k ∈ Ents.names es := by
  have h1 : x ∈ selEnts o d0 dir es := (selEntsPost_perm o d0 dir es).mem_iff.mp h
  have h2 : x ∈ allEnts dir es := (selEnts_sublist o d0 dir es).subset h1
  exact allEnts_mem_prefix dir es x.1 x.2 h2

theorem ite_sublist {α : Type} (c : Bool) (l : List α) : (if c then l else []).Sublist l := by
  cases c
  · exact List.nil_sublist l
  · exact List.Sublist.refl l

theorem selEntsPost_not_prefix {o : Opts} {d0 : Nat} {dir : WPath} {es : Ents} {k : Name}
    (hk : Ents.lookup k es = none) (a : WPath) {y : WPath × Node} (hy : y ∈ selEntsPost o d0 dir es) :
    ¬ (dir ++ k :: a) <+: y.1 := by
  obtain ⟨k', rest, hp, hl⟩ := selEntsPost_mem_prefix o d0 dir es y hy
  rw [hp]
  exact not_prefix_of_ne dir k k' a rest fun e => (mem_names_iff k' es).1 hl (e ▸ hk)

/-- in the post-order enumeration nothing that comes later lies at or below something earlier:
a directory is enumerated only after everything selected inside it -/
theorem selEntsPost_pairwise (o : Opts) (d0 : Nat) (dir : WPath) (es : Ents) (hwf : entsWf es = true) :
    (selEntsPost o d0 dir es).Pairwise (fun x y => ¬ x.1 <+: y.1) := by
  -- the tests only drop elements: it is enough to order the enumeration with every test passed
  fun_induction allEnts dir es with
  | case1 dir => rw [selEntsPost]; exact List.Pairwise.nil
  | case2 dir k b es ih =>
    obtain ⟨_, hk, _, hes⟩ := entsWf_cons.1 hwf
    rw [selEntsPost]
    refine List.Pairwise.sublist (List.Sublist.append_right (ite_sublist _ _) _) ?_
    exact List.pairwise_cons.2 ⟨fun y hy => selEntsPost_not_prefix hk [] hy, ih hes⟩
  | case3 dir k sub es ih1 ih2 =>
    obtain ⟨_, hk, hsub, hes⟩ := entsWf_cons.1 hwf
    have hin : ∀ x ∈ selEntsPost o d0 (dir ++ [k]) sub, ∃ a, a ≠ [] ∧ x.1 = dir ++ k :: a := by
      intro x hx
      obtain ⟨k', r, hp, _⟩ := selEntsPost_mem_prefix o d0 _ sub x hx
      exact ⟨k' :: r, List.cons_ne_nil _ _, by rw [hp, List.append_assoc]; rfl⟩
    rw [selEntsPost]
    refine List.Pairwise.sublist (l₂ := (selEntsPost o d0 (dir ++ [k]) sub ++ [(dir ++ [k], Node.dir sub)]) ++
      selEntsPost o d0 dir es) ?_ ?_
    · exact List.Sublist.append_right
        ((ite_sublist _ _).trans (List.Sublist.append_right (ite_sublist _ _) _)) _
    · refine List.pairwise_append.2 ⟨List.pairwise_append.2 ⟨ih1 (wf_dir.1 hsub), List.pairwise_singleton _ _,
        fun x hx y hy => ?_⟩, ih2 hes, fun x hx y hy => ?_⟩
      · obtain ⟨a, ha, hp⟩ := hin x hx
        cases List.mem_singleton.1 hy
        rw [hp]
        intro hpre
        exact ha (List.prefix_nil.1 (List.cons_prefix_cons.1 ((List.prefix_append_right_inj dir).1 hpre)).2)
      · rcases List.mem_append.1 hx with hx | hx
        · obtain ⟨a, _, hp⟩ := hin x hx
          rw [hp]; exact selEntsPost_not_prefix hk a hy
        · cases List.mem_singleton.1 hx
          exact selEntsPost_not_prefix hk [] hy

/-! ### files / dirs as projections -/

theorem filterMap_resources (q : Node → Bool) (evs : List Event) :
    evs.filterMap (fun e => match e.2 with
      | some i => if q i.2 then some (e.1 ++ [i.1]) else none
      | none => none) = ((resources evs).filter (fun r => q r.2)).map (·.1) := by
  induction evs with
  | nil => rfl
  | cons e evs ih =>
    obtain ⟨d, i⟩ := e
    cases i with
    | none => exact ih
    | some i =>
      rw [resources_cons_some, List.filterMap_cons, List.filter_cons]
      cases hq : q i.2 <;> simp only [hq, ih, Bool.false_eq_true, if_true, if_false, List.map_cons]

/-! ### `Walker.walk`: regrouping the events into Steps -/

def pendFlat (p : Pending) : List (WPath × Info) := p.flatMap (fun kv => kv.2.map (fun i => (kv.1, i)))

def pendKeys (p : Pending) : List WPath := p.map (·.1)

theorem mem_keys_pendAdd (d : WPath) (i : Info) (p : Pending) (k : WPath) :
    k ∈ pendKeys (pendAdd d i p) ↔ k = d ∨ k ∈ pendKeys p := by
  induction p with
  | nil => exact List.mem_singleton.trans ⟨Or.inl, fun h => h.elim id fun h => nomatch h⟩
  | cons kv r ih =>
    obtain ⟨k', v⟩ := kv
    rw [pendAdd]
    split
    · next h => subst h; exact ⟨Or.inr, fun h => h.elim (fun e => e ▸ List.mem_cons_self) id⟩
    · exact List.mem_cons.trans ((or_congr_right ih).trans (or_left_comm.trans (or_congr_right List.mem_cons.symm)))

theorem nodup_keys_pendAdd (d : WPath) (i : Info) (p : Pending) (h : (pendKeys p).Nodup) :
    (pendKeys (pendAdd d i p)).Nodup := by
  induction p with
  | nil => exact List.nodup_cons.2 ⟨List.not_mem_nil, List.nodup_nil⟩
  | cons kv r ih =>
    obtain ⟨k', v⟩ := kv
    obtain ⟨h1, h2⟩ := List.nodup_cons.1 h
    rw [pendAdd]
    split
    · exact h
    · next hk =>
      refine List.nodup_cons.2 ⟨fun hm => ?_, ih h2⟩
      exact ((mem_keys_pendAdd d i r k').1 hm).elim hk h1

theorem pendFlat_add (d : WPath) (i : Info) (p : Pending) :
    (pendFlat (pendAdd d i p)).Perm (pendFlat p ++ [(d, i)]) := by
  induction p with
  | nil => simp [pendAdd, pendFlat]
  | cons kv r ih =>
    obtain ⟨k', v⟩ := kv
    simp only [pendAdd]
    split
    · next h =>
      subst h
      simp only [pendFlat, List.flatMap_cons, List.map_append, List.map_cons, List.map_nil, List.append_assoc]
      exact List.Perm.append_left _ List.perm_append_comm
    · simp only [pendFlat, List.flatMap_cons, List.append_assoc] at ih ⊢
      exact List.Perm.append_left _ ih

theorem mem_keys_pendDel (d : WPath) (p : Pending) (k : WPath) :
    k ∈ pendKeys (pendDel d p) ↔ k ≠ d ∧ k ∈ pendKeys p := by
  simp only [pendKeys, pendDel, List.mem_map, List.mem_filter, decide_eq_true_eq]
  constructor
  · rintro ⟨kv, ⟨h1, h2⟩, rfl⟩; exact ⟨h2, kv, h1, rfl⟩
  · rintro ⟨h, kv, h1, rfl⟩; exact ⟨kv, ⟨h1, h⟩, rfl⟩

theorem nodup_keys_pendDel (d : WPath) (p : Pending) (h : (pendKeys p).Nodup) :
    (pendKeys (pendDel d p)).Nodup :=
  (List.Sublist.map _ (List.filter_sublist (l := p))).nodup h

theorem pendDel_of_not_mem (d : WPath) (p : Pending) (h : d ∉ pendKeys p) : pendDel d p = p := by
  simp only [pendDel, List.filter_eq_self, decide_eq_true_eq]
  intro kv hkv e
  exact h (by simp only [pendKeys, List.mem_map]; exact ⟨kv, hkv, e⟩)

theorem pendDel_cons (d k : WPath) (v : List Info) (r : Pending) :
    pendDel d ((k, v) :: r) = if k = d then pendDel d r else (k, v) :: pendDel d r := by
  by_cases h : k = d <;> simp [pendDel, h]

theorem pendFlat_get_del (d : WPath) (p : Pending) (h : (pendKeys p).Nodup) :
    (pendFlat p).Perm ((pendGet d p).map (fun i => (d, i)) ++ pendFlat (pendDel d p)) := by
  induction p with
  | nil => exact List.Perm.refl _
  | cons kv r ih =>
    obtain ⟨k', v⟩ := kv
    obtain ⟨h1, h2⟩ := List.nodup_cons.1 h
    rw [pendGet, pendDel_cons]
    split
    · next hk => subst hk; rw [pendDel_of_not_mem k' r h1]; exact List.Perm.refl _
    · simp only [pendFlat, List.flatMap_cons] at ih ⊢
      exact (List.Perm.append_left _ (ih h2)).trans (List.perm_append_comm_assoc _ _ _)

@[simp] theorem infoEvents_cons_some (d : WPath) (i : Info) (evs : List Event) :
    infoEvents ((d, some i) :: evs) = (d, i) :: infoEvents evs := rfl
@[simp] theorem infoEvents_cons_none (d : WPath) (evs : List Event) :
    infoEvents ((d, none) :: evs) = infoEvents evs := rfl

/-- conservation: the Steps plus what is left in `dir_info` hold exactly the info events seen
(plus what `dir_info` held before) -/
theorem regroup_conserves (evs : List Event) (p : Pending) (h : (pendKeys p).Nodup) :
    ((regroup evs p).1.flatMap stepFlat ++ pendFlat (regroup evs p).2).Perm (pendFlat p ++ infoEvents evs) := by
  induction evs generalizing p with
  | nil => simp [regroup, infoEvents]
  | cons e evs ih =>
    obtain ⟨d, i⟩ := e
    cases i with
    | none =>
      simp only [regroup, List.flatMap_cons, infoEvents_cons_none, List.append_assoc]
      have h1 := ih (pendDel d p) (nodup_keys_pendDel d p h)
      have h2 := pendFlat_get_del d p h
      have h3 : (stepFlat ⟨d, (pendGet d p).filter (fun i => i.2.isDir), (pendGet d p).filter (fun i => !i.2.isDir)⟩).Perm
          ((pendGet d p).map (fun i => (d, i))) := by
        simp only [stepFlat]
        exact (List.filter_append_perm _ _).map _
      refine (List.Perm.append h3 h1).trans ?_
      rw [← List.append_assoc]
      exact List.Perm.append_right _ h2.symm
    | some i =>
      simp only [regroup, infoEvents_cons_some]
      refine (ih (pendAdd d i p) (nodup_keys_pendAdd d i p h)).trans ?_
      refine (List.Perm.append_right _ (pendFlat_add d i p)).trans ?_
      simp

theorem regroup_paths (evs : List Event) (p : Pending) :
    (regroup evs p).1.map (·.path) = markers evs := by
  induction evs generalizing p with
  | nil => rfl
  | cons e evs ih =>
    obtain ⟨d, i⟩ := e
    cases i with
    | none => exact congrArg (d :: ·) (ih (pendDel d p))
    | some i => exact ih (pendAdd d i p)

theorem regroup_kinds (evs : List Event) (p : Pending) :
    ∀ s ∈ (regroup evs p).1, (∀ i ∈ s.dirs, i.2.isDir = true) ∧ (∀ i ∈ s.files, i.2.isDir = false) := by
  induction evs generalizing p with
  | nil => intro s hs; cases hs
  | cons e evs ih =>
    obtain ⟨d, i⟩ := e
    cases i with
    | none =>
      intro s hs
      rcases List.mem_cons.1 hs with rfl | hs
      · exact ⟨fun i hi => (List.mem_filter.1 hi).2,
          fun i hi => (Bool.not_eq_true' _).mp (List.mem_filter.1 hi).2⟩
      · exact ih _ s hs
    | some i => exact ih (pendAdd d i p)

/-- every info event is later followed by the end marker of its directory -/
def closed : List Event → Prop
  | [] => True
  | (d, some _) :: evs => (d, none) ∈ evs ∧ closed evs
  | (_, none) :: evs => closed evs

theorem regroup_final_empty (evs : List Event) (p : Pending) (hc : closed evs)
    (hk : ∀ k ∈ pendKeys p, ((k, none) : Event) ∈ evs) : (regroup evs p).2 = [] := by
  induction evs generalizing p with
  | nil =>
    cases p with
    | nil => rfl
    | cons kv r => exact nomatch hk kv.1 List.mem_cons_self
  | cons e evs ih =>
    obtain ⟨d, i⟩ := e
    cases i with
    | none =>
      refine ih _ hc fun k hkm => ?_
      obtain ⟨hne, hm⟩ := (mem_keys_pendDel d p k).1 hkm
      exact (List.mem_cons.1 (hk k hm)).resolve_left fun h => hne (Prod.mk.inj h).1
    | some i =>
      refine ih _ hc.2 fun k hkm => ?_
      rcases (mem_keys_pendAdd d i p k).1 hkm with rfl | h
      · exact hc.1
      · exact (List.mem_cons.1 (hk k h)).resolve_left fun h => nomatch h

theorem closed_append_marker (a : List Event) (d : WPath) (rest : List Event)
    (ha : ∀ e ∈ a, e.1 = d) (hr : closed rest) : closed (a ++ (d, none) :: rest) := by
  induction a with
  | nil => exact hr
  | cons e a ih =>
    obtain ⟨d', i⟩ := e
    have hd : d' = d := ha (d', i) (by simp)
    subst hd
    have ih' := ih (fun e he => ha e (by simp [he]))
    cases i with
    | none => exact ih'
    | some i => exact ⟨by simp, ih'⟩

theorem scanBreadth_dir (o : Opts) (d0 : Nat) (dir : WPath) (es : Ents) :
    ∀ e ∈ (scanBreadth o d0 dir es).1, e.1 = dir := by
  fun_induction scanBreadth o d0 dir es with
  | case1 => intro e he; cases he
  | case2 k sub es r h ih => exact List.forall_mem_cons.2 ⟨rfl, ih⟩
  | case3 k sub es r h ih => exact ih
  | case4 k b es r h ih => exact List.forall_mem_cons.2 ⟨rfl, ih⟩
  | case5 k b es r h ih => exact ih

theorem walkBreadth_closed (o : Opts) (d0 : Nat) (q : Queue) : closed (walkBreadth o d0 q) := by
  fun_induction walkBreadth o d0 q with
  | case1 => trivial
  | case2 dir es q r ih => exact closed_append_marker _ dir _ (scanBreadth_dir o d0 dir es) ih

/-- the parent marker of a frame names the directory of the frame below it -/
def stackOk : List Frame → Prop
  | [] => True
  | (_, _, par) :: st => (∀ pd i, par = some (pd, i) → ∃ f st', st = f :: st' ∧ f.1 = pd) ∧ stackOk st

theorem walkDepth_markers (o : Opts) (d0 : Nat) (st : List Frame) :
    ∀ d ∈ st.map (·.1), ((d, none) : Event) ∈ walkDepth o d0 st := by
  fun_induction walkDepth o d0 st with
  | case1 => intro d hd; cases hd
  | case2 dir parent st ih =>
    intro d hd
    refine List.mem_append_right _ ?_
    rcases List.mem_cons.1 hd with rfl | hd
    · exact List.mem_cons_self
    · exact List.mem_cons_of_mem _ (ih d hd)
  | case3 dir k sub es parent st h1 h2 ih => exact fun d hd => ih d (List.mem_cons_of_mem _ hd)
  | case4 dir k sub es parent st h1 h2 ih => exact fun d hd => List.mem_cons_of_mem _ (ih d hd)
  | case5 dir k sub es parent st h1 ih => exact ih
  | case6 dir k b es parent st h1 ih => exact fun d hd => List.mem_cons_of_mem _ (ih d hd)
  | case7 dir k b es parent st h1 ih => exact ih

theorem walkDepth_closed (o : Opts) (d0 : Nat) (st : List Frame) (hok : stackOk st) :
    closed (walkDepth o d0 st) := by
  fun_induction walkDepth o d0 st with
  | case1 => trivial
  | case2 dir parent st ih =>
    cases parent with
    | none => exact ih hok.2
    | some p =>
      -- the parent entry is reported when its directory is still on the stack
      obtain ⟨f, st', rfl, hfd⟩ := hok.1 p.1 p.2 rfl
      exact ⟨List.mem_cons_of_mem _ (walkDepth_markers o d0 _ p.1 (hfd ▸ List.mem_cons_self)), ih hok.2⟩
  | case3 dir k sub es parent st h1 h2 ih =>
    exact ih ⟨fun pd i hp => ⟨_, _, rfl, by cases hp; rfl⟩, hok⟩
  | case4 dir k sub es parent st h1 h2 ih =>
    exact ⟨walkDepth_markers o d0 _ dir List.mem_cons_self, ih hok⟩
  | case5 dir k sub es parent st h1 ih => exact ih hok
  | case6 dir k b es parent st h1 ih =>
    exact ⟨walkDepth_markers o d0 _ dir List.mem_cons_self, ih hok⟩
  | case7 dir k b es parent st h1 ih => exact ih hok

theorem iterWalk_closed {o : Opts} {s : Search} {t : Node} {start : WPath} {evs : List Event}
    (h : iterWalk o s t start = .ok evs) : closed evs := by
  unfold iterWalk at h
  split at h
  · cases h
  · cases h
  · cases h
    cases s
    · exact walkBreadth_closed _ _ _
    · exact walkDepth_closed _ _ _ ⟨fun _ _ h => (nomatch h), trivial⟩

theorem regroup_closed (evs : List Event) (hc : closed evs) :
    ((regroup evs []).1.flatMap stepFlat).Perm (infoEvents evs) := by
  have hcons := regroup_conserves evs [] List.nodup_nil
  rw [regroup_final_empty evs [] hc (fun _ h => nomatch h)] at hcons
  simpa [pendFlat] using hcons

/-! ### `filter_glob`: pruning by prefix acceptance is sound when prefix acceptance is complete -/

theorem chain_glob_complete (o : Opts) (g : GlobFilter) (ho : o.filterGlob = some g)
    (hpc : PrefixComplete g) (d0 : Nat) (b : Bytes) (dir a : WPath) (name : Name)
    (hother : chain { o with filterGlob := none } d0 (.file b) dir (a ++ [name]) = true)
    (hex : g.exact (fileGlobPath (dir ++ a) name) = true) :
    chain o d0 (.file b) dir (a ++ [name]) = true := by
  induction a generalizing dir with
  | nil =>
    rw [List.append_nil] at hex
    simp only [List.nil_append, chain_single, Node.isDir, Bool.false_eq_true, if_false, fileSel, globFileOk,
      Bool.and_true, ho, hex] at hother ⊢
    exact hother
  | cons c cs ih =>
    have hne : cs ++ [name] ≠ [] := List.append_ne_nil_of_right_ne_nil _ (List.cons_ne_nil name [])
    rw [List.cons_append, chain_cons _ _ _ _ _ hne, Bool.and_eq_true, Bool.and_eq_true] at hother ⊢
    obtain ⟨⟨hd, hdep⟩, hrest⟩ := hother
    rw [List.append_cons] at hex
    refine ⟨⟨?_, hdep⟩, ih (dir ++ [c]) hrest hex⟩
    simp only [dirSel, globDirOk, Bool.and_true, ho, hpc dir c cs name (List.append_cons dir c cs ▸ hex)] at hd ⊢
    exact hd

/-! ### the paths-only breadth machine -/

/-- what `scanBreadth` pushes are sub-directories listed in `es` -/
theorem scanBreadth_pushes (o : Opts) (d0 : Nat) (dir : WPath) (es : Ents) :
    ∀ x ∈ (scanBreadth o d0 dir es).2, ∃ k, x.1 = dir ++ [k] ∧ (k, Node.dir x.2) ∈ es := by
  have mono : ∀ {e : Name × Node} {es : Ents} {l : Queue},
      (∀ x ∈ l, ∃ k, x.1 = dir ++ [k] ∧ (k, Node.dir x.2) ∈ es) →
      ∀ x ∈ l, ∃ k, x.1 = dir ++ [k] ∧ (k, Node.dir x.2) ∈ e :: es :=
    fun h x hx => (h x hx).imp fun _ h => ⟨h.1, List.mem_cons_of_mem _ h.2⟩
  fun_induction scanBreadth o d0 dir es with
  | case1 => intro x hx; cases hx
  | case2 k sub es r h ih =>
    cases checkScanDir o (relDepth d0 dir)
    · exact mono ih
    · exact List.forall_mem_cons.2 ⟨⟨k, rfl, List.mem_cons_self⟩, mono ih⟩
  | case3 k sub es r h ih => exact mono ih
  | case4 k b es r h ih => exact mono ih
  | case5 k b es r h ih => exact mono ih

theorem qsize_scan_le (o : Opts) (d0 : Nat) (dir : WPath) (es : Ents) (q : Queue) {fuel : Nat}
    (hf : qsize ((dir, es) :: q) ≤ fuel + 1) : qsize (q ++ (scanBreadth o d0 dir es).2) ≤ fuel := by
  rw [qsize, Nat.add_assoc, Nat.add_comm fuel 1] at hf
  rw [qsize_append, Nat.add_comm]
  exact Nat.le_trans (Nat.add_le_add_right (scanBreadth_qsize o d0 dir es) _) (Nat.le_of_add_le_add_left hf)

/-- the paths-only machine (re-scanning the tree) yields the same events as the machine that
carries the listings, for a well-formed tree and enough fuel -/
theorem walkBreadthPaths_eq (o : Opts) (d0 : Nat) (t : Node) (hwf : t.wf = true) (q : Queue) (fuel : Nat)
    (hq : ∀ x ∈ q, t.get x.1 = some (.dir x.2)) (hf : qsize q ≤ fuel) :
    walkBreadthPaths o d0 t fuel (q.map (·.1)) = walkBreadth o d0 q := by
  fun_induction walkBreadth o d0 q generalizing fuel with
  | case1 => cases fuel <;> rfl
  | case2 dir es q r ih =>
    cases fuel with
    | zero => exact absurd hf (by rw [qsize, Nat.add_assoc, Nat.add_comm]; exact Nat.not_succ_le_zero _)
    | succ fuel =>
      have hd : t.get dir = some (.dir es) := hq (dir, es) List.mem_cons_self
      simp only [List.map_cons, walkBreadthPaths, hd]
      rw [← List.map_append]
      refine congrArg (r.1 ++ (dir, none) :: ·) (ih fuel (fun x hx => ?_) (qsize_scan_le o d0 dir es q hf))
      rcases List.mem_append.1 hx with hx | hx
      · exact hq x (List.mem_cons_of_mem _ hx)
      · -- a pushed sub-directory is found again under its name: names are unique
        obtain ⟨k, h1, h2⟩ := scanBreadth_pushes o d0 dir es x hx
        rw [h1, get_snoc_dir hd, lookup_of_mem (entsWf_of_get hwf hd) h2]

/-! ### breadth order: top of the tree first -/

/-- everything the breadth machine reports strictly extends the path of some queued directory -/
theorem bfs_mem_extends (o : Opts) (d0 : Nat) (q : Queue) (x : WPath × Node)
    (h : x ∈ resources (walkBreadth o d0 q)) : ∃ d ∈ q, d.1.length < x.1.length := by
  obtain ⟨d, hd, hx⟩ := List.mem_flatMap.1 ((bfs_perm o d0 q).mem_iff.1 h)
  obtain ⟨k, rest, hp, _⟩ := allEnts_mem_prefix d.1 d.2 x.1 x.2 ((selEnts_sublist o d0 d.1 d.2).subset hx)
  exact ⟨d, hd, by rw [hp, List.length_append]; exact Nat.lt_add_of_pos_right (Nat.succ_pos _)⟩

/-- the FIFO invariant: queued directories are sorted by depth and span at most two levels -/
def qInv (q : Queue) : Prop :=
  q.Pairwise fun a b => a.1.length ≤ b.1.length ∧ b.1.length ≤ a.1.length + 1

theorem scanBreadth_res_len (o : Opts) (d0 : Nat) (dir : WPath) (es : Ents) :
    ∀ x ∈ resources (scanBreadth o d0 dir es).1, x.1.length = dir.length + 1 := by
  intro x hx
  obtain ⟨e, he, hx⟩ := List.mem_filterMap.1 hx
  rw [scanBreadth_dir o d0 dir es e he] at hx
  cases hi : e.2 with
  | none => rw [hi] at hx; cases hx
  | some i => rw [hi] at hx; cases hx; exact List.length_append

/-- breadth order reports the resources by non-decreasing depth -/
theorem bfs_sorted (o : Opts) (d0 : Nat) (q : Queue) (hq : qInv q) :
    (resources (walkBreadth o d0 q)).Pairwise (fun x y => x.1.length ≤ y.1.length) := by
  fun_induction walkBreadth o d0 q with
  | case1 => exact List.Pairwise.nil
  | case2 dir es q r ih =>
    obtain ⟨hhead, hq⟩ := List.pairwise_cons.1 hq
    have hpush : ∀ p ∈ r.2, p.1.length = dir.length + 1 := by
      intro p hp
      obtain ⟨k, hk, _⟩ := scanBreadth_pushes o d0 dir es p hp
      rw [hk]; exact List.length_append
    have hinv : qInv (q ++ r.2) := by
      refine List.pairwise_append.2 ⟨hq, List.pairwise_of_forall_mem_list fun a ha b hb => ?_, fun a ha b hb => ?_⟩
      · rw [hpush a ha, hpush b hb]; exact ⟨Nat.le_refl _, Nat.le_succ _⟩
      · rw [hpush b hb]; exact ⟨(hhead a ha).2, Nat.succ_le_succ (hhead a ha).1⟩
    rw [resources_append, resources_cons_none, List.pairwise_append]
    refine ⟨List.pairwise_of_forall_mem_list fun a ha b hb => ?_, ih hinv, fun a ha b hb => ?_⟩
    · rw [scanBreadth_res_len o d0 dir es a ha, scanBreadth_res_len o d0 dir es b hb]
      exact Nat.le_refl _
    · rw [scanBreadth_res_len o d0 dir es a ha]
      obtain ⟨d, hd, hlt⟩ := bfs_mem_extends o d0 (q ++ r.2) b hb
      rcases List.mem_append.1 hd with hd | hd
      · exact Nat.succ_le_of_lt (Nat.lt_of_le_of_lt (hhead d hd).1 hlt)
      · exact Nat.le_of_lt (hpush d hd ▸ hlt)

end Fs.WalkLemmas
