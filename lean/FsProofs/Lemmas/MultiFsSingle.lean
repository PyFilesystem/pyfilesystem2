/-
  Helper lemmas for `MultiRefines.multi_single_write_layer_refines_partial`: a MultiFS whose ONLY layer is its
  write layer (the `multi` backend of the harness), over any layer function that refines the reference.
  One layer is the only one that may hold any path: for the mutators the statement (`Sim1`) is the instance `w = 0` of
  `lsim_step`; for the queries it is `stack_query`, the overlay being the layer's tree.
-/
import FsProofs.Lemmas.MultiFsLayer

namespace Fs.MultiFsLemmas
open Fs Fs.Ref Fs.MultiFs Fs.WrapRefines Fs.MemRefines

/-- an open MultiFS with exactly one layer, which is the write layer and is a good reference state -/
structure Single (s : MState State) (l : Layer State) : Prop where
  lay : s.layers = [l]
  wr : s.writeIdx = some l.idx
  opn : s.closed = false
  good : Good l.st

/-- the same MultiFS with the layer's state replaced -/
def put1 (s : MState State) (l : Layer State) (t : State) : MState State :=
  { s with layers := [{ l with st := t }] }

section
variable {s : MState State} {l : Layer State}

theorem put1_self (S : Single s l) : put1 s l l.st = s := by
  obtain ⟨ls, w, si, c, a⟩ := s
  have := S.lay
  simp only at this
  subst this
  rfl

theorem single_order (S : Single s l) : order s = [0] := order_single s l S.lay

theorem single_writePos (S : Single s l) : writePos s = some 0 := by
  simp [writePos, S.wr, S.lay, List.findIdx?_cons]

theorem single_allGood (S : Single s l) : AllGood s := by
  intro x hx; rw [S.lay] at hx; simp at hx; subst hx; exact S.good

theorem single_layer0 (S : Single s l) : s.layers[0]? = some l := by simp [S.lay]

theorem single_set (S : Single s l) (t : State) :
    ({ s with layers := s.layers.set 0 { l with st := t } } : MState State) = put1 s l t := by
  simp [put1, S.lay]

/-- the refinement statement for one call: the reference's outcome with the layer's new state, or both fail,
nothing changes and the class is admissible -/
def Sim1 (s : MState State) (l : Layer State) (op : Op) (r : MState State × Out) : Prop :=
  ((Ref.step l.st op).2.isOk = true ∧ r = (put1 s l (Ref.step l.st op).1, (Ref.step l.st op).2)) ∨
  (∃ e e', (Ref.step l.st op).2 = .err e ∧ r = (s, .err e') ∧ e' ∈ adm l.st op)

theorem single_goodStack (S : Single s l) : GoodStack s := by
  refine ⟨S.opn, by rw [S.lay]; simp, single_allGood S, ?_⟩
  intro a ha b hb cs x y hx hy
  rw [S.lay, List.mem_singleton] at ha hb
  subst ha hb
  rw [hx] at hy; cases hy; rfl

theorem single_overlay (S : Single s l) : overlay s = l.st := by
  rw [overlay_single s l S.lay, S.opn, ← S.good.opn]

theorem sim1_congr {op op' : Op} {r : MState State × Out} (h1 : Ref.step l.st op = Ref.step l.st op')
    (h2 : adm l.st op = adm l.st op') (h : Sim1 s l op' r) : Sim1 s l op r := by
  unfold Sim1 at h ⊢; rw [h1, h2]; exact h

theorem sim1_of_qsim (S : Single s l) {op : Op} (hq : RouteSpec.isQuery op = true) {r : MState State × Out}
    (h : QSim s op r) : Sim1 s l op r := by
  have h' := h.cases (by rw [single_overlay S]; exact S.good.dir) (bulk_of_query hq)
  rw [single_overlay S] at h'
  unfold Sim1
  rwa [RouteLemmas.step_query_state _ _ hq, put1_self S]

end

theorem sim1_step (fuel : Nat) (F : FS State) (hF : RefinesRef F) (s : MState State) (l : Layer State)
    (S : Single s l) (op : Op) (hop : op ≠ .close) (hwk : walker op = false) :
    Sim1 s l op (MultiFs.step fuel F s op) := by
  by_cases hq : RouteSpec.isQuery op = true
  · exact sim1_of_qsim S hq (stack_query fuel F hF (single_goodStack S) op hq)
  have h := lsim_step fuel F hF ⟨S.opn, single_allGood S, single_layer0 S, single_writePos S⟩ op hop
    (Bool.eq_false_iff.2 hq) hwk fun _ _ cs _ j hj => by
      -- no other position holds a layer
      cases j with
      | zero => exact absurd rfl hj
      | succ j => simp [hasAt, S.lay]
  unfold LSim at h
  rwa [putW, single_set S] at h

end Fs.MultiFsLemmas
