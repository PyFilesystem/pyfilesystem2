/-
  Lemmas about `FsModel/Copy.lean` for C19 (`copy_dir_if`; the mirror part is in MirrorLemmas).  The conjuncts of
  `copyDirIf_spec` are C19's `copy_dir_*` theorems.  Declared into the model's namespace `Fs.Copy`.
-/
import FsModel.Copy

namespace Fs.Copy
open Fs

/-! ### association lists -/

@[simp] theorem lookup_nil (k : Name) : lookup k [] = none := rfl

theorem lookup_put_same (k : Name) (v : CNode) (es : CEnts) : lookup k (put k v es) = some v := by
  induction es with
  | nil => simp [put, lookup]
  | cons x xs ih =>
    obtain ⟨a, b⟩ := x
    by_cases h : a = k
    · simp [put, lookup, h]
    · simp [put, lookup, h, ih]

theorem lookup_put_other {k c : Name} (h : k ≠ c) (v : CNode) (es : CEnts) :
    lookup k (put c v es) = lookup k es := by
  induction es with
  | nil => simp [put, lookup]; exact fun h' => absurd h'.symm h
  | cons x xs ih =>
    obtain ⟨a, b⟩ := x
    by_cases h1 : a = c
    · subst h1; simp [put, lookup, Ne.symm h]
    · simp only [put, if_neg h1, lookup, ih]

theorem lookup_put (k c : Name) (v : CNode) (es : CEnts) :
    lookup k (put c v es) = if k = c then some v else lookup k es := by
  by_cases h : k = c
  · subst h; simp [lookup_put_same]
  · simp [h, lookup_put_other h]

theorem lookup_erase_same (k : Name) (es : CEnts) : lookup k (erase k es) = none := by
  induction es with
  | nil => rfl
  | cons x xs ih =>
    obtain ⟨a, b⟩ := x
    by_cases h : a = k
    · simp [erase, h, ih]
    · simp [erase, lookup, h, ih]

theorem lookup_erase_other {k c : Name} (h : k ≠ c) (es : CEnts) :
    lookup k (erase c es) = lookup k es := by
  induction es with
  | nil => rfl
  | cons x xs ih =>
    obtain ⟨a, b⟩ := x
    by_cases h1 : a = c
    · subst h1; simp [erase, lookup, Ne.symm h, ih]
    · simp only [erase, if_neg h1, lookup, ih]

theorem lookup_erase (k c : Name) (es : CEnts) :
    lookup k (erase c es) = if k = c then none else lookup k es := by
  by_cases h : k = c
  · subst h; simp [lookup_erase_same]
  · simp [h, lookup_erase_other h]

theorem lookup_isSome_iff_mem_names (k : Name) (es : CEnts) :
    (lookup k es).isSome = true ↔ k ∈ names es := by
  induction es with
  | nil => simp [names]
  | cons x xs ih =>
    obtain ⟨a, b⟩ := x
    rw [lookup, names, List.map_cons, List.mem_cons]
    by_cases h : a = k
    · rw [if_pos h]; exact ⟨fun _ => Or.inl h.symm, fun _ => rfl⟩
    · rw [if_neg h]
      exact ⟨fun hs => Or.inr (ih.1 hs), fun hm => hm.elim (fun e => absurd e.symm h) ih.2⟩

theorem put_of_lookup {k : Name} {v : CNode} {es : CEnts} (h : lookup k es = some v) : put k v es = es := by
  induction es with
  | nil => simp [lookup] at h
  | cons x xs ih =>
    obtain ⟨a, b⟩ := x
    by_cases h1 : a = k
    · simp [lookup, h1] at h; simp [put, h1, h]
    · simp [lookup, h1] at h; simp [put, h1, ih h]

theorem entsWf_cons {k : Name} {v : CNode} {es : CEnts} (h : entsWf ((k, v) :: es) = true) :
    lookup k es = none ∧ v.wf = true ∧ entsWf es = true := by
  simp [entsWf] at h
  exact ⟨h.1.1.2, h.1.2, h.2⟩

theorem wf_of_lookup {es : CEnts} {k : Name} {v : CNode} (hwf : entsWf es = true) (h : lookup k es = some v) :
    v.wf = true := by
  induction es with
  | nil => simp at h
  | cons x xs ih =>
    obtain ⟨a, b⟩ := x
    obtain ⟨_, hb, hxs⟩ := entsWf_cons hwf
    by_cases hk : a = k
    · simp [lookup, hk] at h; subst h; exact hb
    · simp [lookup, hk] at h; exact ih hxs h

theorem lookup_of_mem {es : CEnts} (hwf : entsWf es = true) {k : Name} {v : CNode} (h : (k, v) ∈ es) :
    lookup k es = some v := by
  induction es with
  | nil => simp at h
  | cons x xs ih =>
    obtain ⟨a, b⟩ := x
    obtain ⟨ha, _, hxs⟩ := entsWf_cons hwf
    rcases List.mem_cons.1 h with h | h
    · cases h; simp [lookup]
    · have := ih hxs h
      have hne : a ≠ k := by intro e; subst e; rw [ha] at this; cases this
      simp [lookup, hne, this]

/-! ### paths -/

@[simp] theorem get_nil (t : CNode) : t.get [] = some t := by cases t <;> rfl

theorem get_cons_dir (c : Name) (cs : List Name) (es : CEnts) :
    (CNode.dir es).get (c :: cs) = (lookup c es).bind (CNode.get cs) := by
  simp only [CNode.get]
  cases lookup c es <;> rfl

@[simp] theorem get_cons_file (c : Name) (cs : List Name) (b : Bytes) (m : Option Int) :
    (CNode.file b m).get (c :: cs) = none := rfl

theorem get_append (p r : List Name) (t : CNode) : t.get (p ++ r) = (t.get p).bind (CNode.get r) := by
  induction p generalizing t with
  | nil => rw [List.nil_append, get_nil, Option.bind_some]
  | cons c cs ih =>
    cases t with
    | file b m => rfl
    | dir es =>
      rw [List.cons_append, get_cons_dir, get_cons_dir]
      cases lookup c es with
      | none => rfl
      | some ch => exact ih ch

theorem set_single (c : Name) (es : CEnts) (v : CNode) : (CNode.dir es).set [c] v = .dir (put c v es) := rfl

theorem set_cons_cons (c d : Name) (cs : List Name) (es : CEnts) (v : CNode) :
    (CNode.dir es).set (c :: d :: cs) v =
      match lookup c es with
      | some ch => .dir (put c (ch.set (d :: cs) v) es)
      | none => .dir es := rfl

@[simp] theorem set_file (p : List Name) (b : Bytes) (m : Option Int) (v : CNode) :
    (CNode.file b m).set p v = .file b m := by
  cases p with
  | nil => rfl
  | cons c cs => cases cs <;> rfl

/-- a node without children: what `upload` and `makedir` put into a directory -/
def leaf : CNode → Prop
  | .file _ _ => True
  | .dir es => es = []

theorem get_leaf {v : CNode} (hv : leaf v) {r : List Name} (hr : r ≠ []) : v.get r = none := by
  cases r with
  | nil => exact absurd rfl hr
  | cons c cs => cases v with
    | file b m => rfl
    | dir es => cases (show es = [] from hv); rfl

/-- after `set`, the path holds the new node — when its parent is a directory -/
theorem get_set_same (p : List Name) (t v : CNode) (hp : p ≠ [])
    (hpar : ∃ es, t.get p.dropLast = some (.dir es)) : (t.set p v).get p = some v := by
  induction p generalizing t with
  | nil => exact absurd rfl hp
  | cons c cs ih =>
    obtain ⟨es', h⟩ := hpar
    cases t with
    | file b m => cases cs <;> cases h
    | dir es =>
      cases cs with
      | nil => rw [set_single, get_cons_dir, lookup_put_same]; rfl
      | cons d ds =>
        rw [List.dropLast_cons_cons, get_cons_dir] at h
        rw [set_cons_cons]
        cases hl : lookup c es with
        | none => rw [hl] at h; cases h
        | some ch =>
          rw [hl] at h
          rw [get_cons_dir, lookup_put_same]
          exact ih ch (List.cons_ne_nil d ds) ⟨es', h⟩

/-- the frame of one write -/
theorem view_get_set_ne (p : List Name) (t v : CNode) (q : List Name) (hne : q ≠ p)
    (hnd : ∀ es, t.get p ≠ some (.dir es)) (hv : leaf v) :
    view ((t.set p v).get q) = view (t.get q) := by
  induction p generalizing t q with
  | nil => cases t <;> rfl
  | cons c cs ih =>
    cases t with
    | file b m => simp
    | dir es =>
      cases q with
      | nil =>
        cases cs with
        | nil => rfl
        | cons d ds => rw [set_cons_cons]; cases lookup c es <;> rfl
      | cons k r =>
        cases cs with
        | nil =>
          rw [set_single, get_cons_dir, get_cons_dir, lookup_put]
          by_cases hk : k = c
          · subst hk
            have hr : r ≠ [] := fun e => hne (by rw [e])
            simp only [if_true, Option.bind_some, get_leaf hv hr]
            -- the old node at `k` is not a directory, so nothing was below it
            cases hl : lookup k es with
            | none => simp
            | some ch =>
              cases ch with
              | file b m => rw [Option.bind_some, get_leaf (v := .file b m) trivial hr]
              | dir es' => exact absurd (by simp [get_cons_dir, hl]) (hnd es')
          · simp [hk]
        | cons d ds =>
          rw [set_cons_cons]
          cases hl : lookup c es with
          | none => rfl
          | some ch =>
            simp only [get_cons_dir, lookup_put]
            by_cases hk : k = c
            · subst hk
              simp only [if_true, Option.bind_some, hl]
              apply ih ch r (fun e => hne (by rw [e]))
              intro es' h'
              exact hnd es' (by simp [get_cons_dir, hl, h'])
            · simp [hk]

theorem view_set_emptyDir {t : CNode} {p : List Name} (hn : t.get p = none) (q : List Name)
    (hq : view (t.get q) ≠ .absent ∨ q ≠ p) : view ((t.set p (.dir [])).get q) = view (t.get q) := by
  refine view_get_set_ne p t (.dir []) q ?_ (by simp [hn]) (show leaf (.dir []) from rfl)
  rintro rfl
  exact hq.elim (fun h => h (by rw [hn]; rfl)) (fun h => h rfl)

/-! ### loops that may fail -/

theorem foldRes_append {σ α : Type} (f : σ → α → Res σ) (s : σ) (xs ys : List α) :
    foldRes f s (xs ++ ys) = match foldRes f s xs with
      | .ok s' => foldRes f s' ys
      | .err e => .err e := by
  induction xs generalizing s with
  | nil => rfl
  | cons x xs ih =>
    simp only [List.cons_append, foldRes]
    cases f s x with
    | ok s' => exact ih s'
    | err e => rfl

/-- an invariant of every successful iteration is an invariant of the successful loop -/
theorem foldRes_inv {σ α : Type} (f : σ → α → Res σ) (P : σ → Prop) (xs : List α)
    (hstep : ∀ s a s', a ∈ xs → P s → f s a = .ok s' → P s') :
    ∀ (s s' : σ), P s → foldRes f s xs = .ok s' → P s' := by
  induction xs with
  | nil => intro s s' hs h; cases h; exact hs
  | cons x xs ih =>
    intro s s' hs h
    rw [foldRes] at h
    cases hf : f s x with
    | ok s1 =>
      rw [hf] at h
      exact ih (fun s a s' ha => hstep s a s' (List.mem_cons_of_mem _ ha)) s1 s'
        (hstep s x s1 (List.mem_cons_self ..) hs hf) h
    | err e => rw [hf] at h; cases h

/-! ### views -/

theorem view_eq_file {x : Option CNode} {b : Bytes} {m : Option Int} (h : view x = .file b m) :
    x = some (.file b m) := by
  cases x with
  | none => cases h
  | some n => cases n with
    | file b' m' => cases h; rfl
    | dir es => cases h

theorem view_eq_dir {x : Option CNode} (h : view x = .dir) : ∃ es, x = some (.dir es) := by
  cases x with
  | none => cases h
  | some n => cases n with
    | file b' m' => cases h
    | dir es => exact ⟨es, rfl⟩

theorem view_eq_absent {x : Option CNode} (h : view x = .absent) : x = none := by
  cases x with
  | none => rfl
  | some n => cases n <;> cases h

theorem statTime_congr (times : Bool) (now : Int) {x y : Option CNode} (h : view x = view y) :
    statTime times now x = statTime times now y := by
  cases x with
  | none => rw [view_eq_absent h.symm]
  | some n => cases n with
    | file b m => rw [view_eq_file h.symm]
    | dir es => obtain ⟨es', h'⟩ := view_eq_dir h.symm; rw [h']; rfl

/-! ### the walk -/

def itemView : Item → View
  | .dir => .dir
  | .file b m => .file b m

def itemOf : CNode → Item
  | .file b m => .file b m
  | .dir _ => .dir

section
variable (w : Walker) (abs : List Name) (d : Nat) (k : Name) (v : CNode)

theorem walkEnts_cons (es : CEnts) :
    walkEnts w abs d ((k, v) :: es) = walkEnts w abs d [(k, v)] ++ walkEnts w abs d es := by
  simp only [walkEnts, List.append_nil]

/-- everything one entry can contribute to the walk -/
def entryWalk : List (List Name × Item) :=
  ([k], itemOf v) :: (walkNode w (abs ++ [k]) (d + 1) v).map (fun x => (k :: x.1, x.2))

theorem walkEnts_single_sublist :
    (walkEnts w abs d [(k, v)]).Sublist (entryWalk w abs d k v) := by
  simp only [walkEnts, List.append_nil, entryWalk]
  cases v with
  | file b m =>
    simp only
    split
    · exact List.Sublist.refl _
    · exact List.nil_sublist _
  | dir sub =>
    simp only
    split
    · split
      · exact List.Sublist.refl _
      · exact (List.nil_sublist _).cons_cons _
    · exact List.nil_sublist _

theorem walkEnts_single_all :
    walkEnts Walker.all abs d [(k, v)] = entryWalk Walker.all abs d k v := by
  cases v <;> simp [walkEnts, walkNode, entryWalk, Walker.all, Walker.scan, itemOf]

end

theorem mem_walkEnts_single {w : Walker} {abs : List Name} {d : Nat} {k : Name} {v : CNode}
    {x : List Name × Item} (hx : x ∈ walkEnts w abs d [(k, v)]) :
    ∃ r, x.1 = k :: r ∧ ((r = [] ∧ x.2 = itemOf v) ∨ (r, x.2) ∈ walkNode w (abs ++ [k]) (d + 1) v) := by
  rcases List.mem_cons.1 ((walkEnts_single_sublist w abs d k v).subset hx) with rfl | hx
  · exact ⟨[], rfl, Or.inl ⟨rfl, rfl⟩⟩
  · obtain ⟨y, hy, rfl⟩ := List.mem_map.1 hx
    exact ⟨y.1, rfl, Or.inr hy⟩

theorem head_of_walkEnts (w : Walker) (abs : List Name) (d : Nat) (es : CEnts) (x : List Name × Item)
    (hx : x ∈ walkEnts w abs d es) : ∃ k r, x.1 = k :: r ∧ (lookup k es).isSome = true := by
  induction es with
  | nil => nomatch hx
  | cons e es ih =>
    obtain ⟨a, v⟩ := e
    rw [walkEnts_cons, List.mem_append] at hx
    rcases hx with hx | hx
    · obtain ⟨r, hr, _⟩ := mem_walkEnts_single hx
      exact ⟨a, r, hr, by rw [lookup, if_pos rfl]; rfl⟩
    · obtain ⟨k, r, hr, hk⟩ := ih hx
      refine ⟨k, r, hr, ?_⟩
      rw [lookup]
      split
      · rfl
      · exact hk

mutual
theorem walkNode_sound (w : Walker) : ∀ (n : CNode) (abs : List Name) (d : Nat), n.wf = true →
    ∀ x, x ∈ walkNode w abs d n → view (n.get x.1) = itemView x.2 ∧ x.1 ≠ []
  | .file _ _, _, _, _, _, hx => nomatch hx
  | .dir es, abs, d, hwf, x, hx => walkEnts_sound w es abs d hwf x hx
theorem walkEnts_sound (w : Walker) : ∀ (es : CEnts) (abs : List Name) (d : Nat), entsWf es = true →
    ∀ x, x ∈ walkEnts w abs d es → view ((CNode.dir es).get x.1) = itemView x.2 ∧ x.1 ≠ []
  | [], _, _, _, x, hx => nomatch hx
  | (k, v) :: es, abs, d, hwf, x, hx => by
    obtain ⟨hk, hv, hes⟩ := entsWf_cons hwf
    rw [walkEnts_cons, List.mem_append] at hx
    rcases hx with hx | hx
    · obtain ⟨p, it⟩ := x
      obtain ⟨r, rfl, h⟩ := mem_walkEnts_single hx
      refine ⟨?_, List.cons_ne_nil k r⟩
      rw [get_cons_dir, lookup, if_pos rfl, Option.bind_some]
      rcases h with ⟨rfl, rfl⟩ | h
      · rw [get_nil]; cases v <;> rfl
      · exact (walkNode_sound w v (abs ++ [k]) (d + 1) hv _ h).1
    · have ih := walkEnts_sound w es abs d hes x hx
      obtain ⟨k', r, hp, hsome⟩ := head_of_walkEnts w abs d es x hx
      have hne : ¬ k = k' := by intro e; subst e; rw [hk] at hsome; cases hsome
      rw [hp] at ih ⊢
      rwa [get_cons_dir, lookup, if_neg hne, ← get_cons_dir]
end

mutual
/-- the walk yields every path at most once -/
theorem walkNode_nodup (w : Walker) : ∀ (n : CNode) (abs : List Name) (d : Nat), n.wf = true →
    ((walkNode w abs d n).map (·.1)).Nodup
  | .file _ _, _, _, _ => List.nodup_nil
  | .dir es, abs, d, hwf => walkEnts_nodup w es abs d hwf
theorem walkEnts_nodup (w : Walker) : ∀ (es : CEnts) (abs : List Name) (d : Nat), entsWf es = true →
    ((walkEnts w abs d es).map (·.1)).Nodup
  | [], _, _, _ => List.nodup_nil
  | (k, v) :: es, abs, d, hwf => by
    obtain ⟨hk, hv, hes⟩ := entsWf_cons hwf
    rw [walkEnts_cons, List.map_append, List.nodup_append]
    refine ⟨?_, walkEnts_nodup w es abs d hes, ?_⟩
    · -- `[k]` is not among the longer paths, and those differ behind `k` as the walk of `v` does
      refine List.Nodup.sublist ((walkEnts_single_sublist w abs d k v).map _) ?_
      rw [entryWalk, List.map_cons, List.nodup_cons, List.Nodup, List.pairwise_map, List.pairwise_map]
      refine ⟨?_, (List.pairwise_map.1 (walkNode_nodup w v (abs ++ [k]) (d + 1) hv)).imp
        (fun h e => h (List.cons.inj e).2)⟩
      intro hmem
      obtain ⟨x, hx, he⟩ := List.mem_map.1 hmem
      obtain ⟨y, hy, rfl⟩ := List.mem_map.1 hx
      exact (walkNode_sound w v (abs ++ [k]) (d + 1) hv y hy).2 (List.cons.inj he).2
    · -- paths of the head entry start with `k`, the others with the name of a later entry
      intro a ha b hb
      obtain ⟨x, hx, rfl⟩ := List.mem_map.1 ha
      obtain ⟨y, hy, rfl⟩ := List.mem_map.1 hb
      obtain ⟨r, hr, _⟩ := mem_walkEnts_single hx
      obtain ⟨k', r', hr', hsome⟩ := head_of_walkEnts w abs d es y hy
      rw [hr, hr']
      intro e
      rw [← (List.cons.inj e).1, hk] at hsome
      cases hsome
end

theorem eq_of_nodup_map {α β : Type} (f : α → β) (l : List α) (h : (l.map f).Nodup) :
    ∀ a b, a ∈ l → b ∈ l → f a = f b → a = b := by
  have hp : l.Pairwise (fun a b => f a = f b → a = b) :=
    (List.pairwise_map.1 h).imp (fun hne he => absurd he hne)
  exact fun a b ha hb => List.Pairwise.forall_of_forall_of_flip (fun _ _ _ => rfl) hp
    (hp.imp (fun h e => (h e.symm).symm)) ha hb

theorem selFiles_nodup (w : Walker) (abs : List Name) (es : CEnts) (hwf : entsWf es = true) :
    ((selFiles w abs es).map (·.1)).Nodup := by
  unfold selFiles
  rw [List.Nodup, List.pairwise_map]
  refine List.Pairwise.filterMap _ ?_ (List.pairwise_map.1 (walkEnts_nodup w es abs 0 hwf))
  intro x y hne f hf g hg
  cases hx : x.2 <;> simp only [hx] at hf <;> cases hf
  cases hy : y.2 <;> simp only [hy] at hg <;> cases hg
  exact hne

theorem mem_selFiles {w : Walker} {abs : List Name} {es : CEnts} {f : List Name × Bytes × Option Int} :
    f ∈ selFiles w abs es ↔ (f.1, Item.file f.2.1 f.2.2) ∈ walkEnts w abs 0 es := by
  unfold selFiles
  simp only [List.mem_filterMap]
  constructor
  · rintro ⟨⟨p, _ | ⟨b, m⟩⟩, hx, h⟩
    · cases h
    · cases h; exact hx
  · exact fun h => ⟨_, h, rfl⟩

theorem mem_selDirs {w : Walker} {abs : List Name} {es : CEnts} {r : List Name} :
    r ∈ selDirs w abs es ↔ (r, Item.dir) ∈ walkEnts w abs 0 es := by
  unfold selDirs
  simp only [List.mem_filterMap]
  constructor
  · rintro ⟨⟨p, _ | ⟨b, m⟩⟩, hx, h⟩
    · cases h; exact hx
    · cases h
  · exact fun h => ⟨_, h, rfl⟩

/-! ### single steps on the destination -/

section
variable {e : Env} {pt : Bool} {t t' : CNode} {p : List Name} {b : Bytes} {m : Option Int}

theorem writeFile_ok (h : writeFile e pt t p b m = .ok t') :
    p ≠ [] ∧ (∃ es, t.get p.dropLast = some (.dir es)) ∧ (∀ es, t.get p ≠ some (.dir es)) ∧
      t' = t.set p (.file b (newTime e pt m)) := by
  unfold writeFile at h
  split at h
  · cases h
  · rename_i hp
    split at h
    · rename_i es hpar
      split at h
      · cases h
      · rename_i hnd
        cases h
        exact ⟨hp, ⟨es, hpar⟩, hnd, rfl⟩
    · cases h

theorem writeFile_self (h : writeFile e pt t p b m = .ok t') : t'.get p = some (.file b (newTime e pt m)) := by
  obtain ⟨hp, hpar, _, rfl⟩ := writeFile_ok h
  exact get_set_same p t _ hp hpar

theorem writeFile_view (h : writeFile e pt t p b m = .ok t') (q : List Name) (hq : q ≠ p) :
    view (t'.get q) = view (t.get q) := by
  obtain ⟨_, _, hnd, rfl⟩ := writeFile_ok h
  exact view_get_set_ne p t _ q hq hnd trivial

theorem makedirR_ok (h : makedirR t p = .ok t') :
    (t' = t ∧ (p = [] ∨ ∃ es, t.get p = some (.dir es))) ∨
    (p ≠ [] ∧ (∃ es, t.get p.dropLast = some (.dir es)) ∧ t.get p = none ∧ t' = t.set p (.dir [])) := by
  unfold makedirR at h
  split at h
  · rename_i hp; cases h; exact Or.inl ⟨rfl, Or.inl hp⟩
  · rename_i hp
    split at h
    · rename_i es hpar
      split at h
      · rename_i es' hd; cases h; exact Or.inl ⟨rfl, Or.inr ⟨es', hd⟩⟩
      · cases h
      · rename_i hn
        cases h
        exact Or.inr ⟨hp, ⟨es, hpar⟩, hn, rfl⟩
    · cases h

theorem makedirR_view (h : makedirR t p = .ok t') (q : List Name)
    (hq : view (t.get q) ≠ .absent ∨ q ≠ p) : view (t'.get q) = view (t.get q) := by
  rcases makedirR_ok h with ⟨rfl, _⟩ | ⟨_, _, hn, rfl⟩
  · rfl
  · exact view_set_emptyDir hn q hq

theorem makedirR_self (h : makedirR t p = .ok t') (hp : p ≠ []) :
    view (t'.get p) = .dir := by
  rcases makedirR_ok h with ⟨rfl, hp' | ⟨es, hd⟩⟩ | ⟨_, hpar, _, rfl⟩
  · exact absurd hp' hp
  · rw [hd]; rfl
  · rw [get_set_same p t _ hp hpar]; rfl

end

theorem makedirsR_view (cs : List Name) : ∀ (pre : List Name) (t t' : CNode), makedirsR pre cs t = .ok t' →
    ∀ q, (view (t.get q) ≠ .absent ∨ ¬ q <+: pre ++ cs) → view (t'.get q) = view (t.get q) := by
  induction cs with
  | nil => intro _ t t' h q _; cases h; rfl
  | cons c cs ih =>
    intro pre t t' h q hq
    rw [List.append_cons] at hq
    simp only [makedirsR] at h
    split at h
    · exact ih (pre ++ [c]) t t' h q hq
    · cases h
    · rename_i hn
      -- the new directory is at a prefix of `pre ++ c :: cs` where nothing was
      have h1 := view_set_emptyDir hn q (hq.imp_right fun hq e => hq (e ▸ List.prefix_append _ _))
      rw [ih (pre ++ [c]) _ t' h q (by rw [h1]; exact hq), h1]

/-! ### the two loops of `copy_dir_if` -/

/-- `copy_structure`'s loop: whatever existed is unchanged; new directories appear only at the
walked paths -/
theorem foldMakedirR_view (dp : List Name) (rels : List (List Name)) (t t' : CNode)
    (h : foldRes (fun t rel => makedirR t (dp ++ rel)) t rels = .ok t') (q : List Name)
    (hq : view (t.get q) ≠ .absent ∨ ∀ rel ∈ rels, q ≠ dp ++ rel) : view (t'.get q) = view (t.get q) := by
  refine foldRes_inv _ (fun s => view (s.get q) = view (t.get q)) rels ?_ t t' rfl h
  intro s rel s' hrel hs hm
  rw [← hs]
  exact makedirR_view hm q (hq.imp (fun h => by rw [hs]; exact h) (fun h => h rel hrel))

theorem foldMakedirR_dirs (dp : List Name) (rels : List (List Name)) : ∀ (t t' : CNode),
    foldRes (fun t rel => makedirR t (dp ++ rel)) t rels = .ok t' →
    (∀ rel ∈ rels, rel ≠ []) → ∀ rel ∈ rels, view (t'.get (dp ++ rel)) = .dir := by
  induction rels with
  | nil => intro _ _ _ _ rel hrel; cases hrel
  | cons r rels ih =>
    intro t t' h hne rel hrel
    rw [foldRes] at h
    cases hm : makedirR t (dp ++ r) with
    | err x => rw [hm] at h; cases h
    | ok t1 =>
      rw [hm] at h
      rcases List.mem_cons.1 hrel with rfl | hrel
      · have hs : view (t1.get (dp ++ rel)) = .dir :=
          makedirR_self hm (by simp [hne rel (List.mem_cons_self ..)])
        rw [foldMakedirR_view dp rels t1 t' h _ (Or.inl (by rw [hs]; simp)), hs]
      · exact ih t1 t' h (fun x hx => hne x (List.mem_cons_of_mem _ hx)) rel hrel

theorem wanted_congr (e : Env) (cond : Str) (dp : List Name) (t t' : CNode) (f : List Name × Bytes × Option Int)
    (h : view (t'.get (dp ++ f.1)) = view (t.get (dp ++ f.1))) : wanted e cond dp t' f = wanted e cond dp t f := by
  unfold wanted; rw [statTime_congr _ _ h]

theorem copyFilesStep_ok {e : Env} {cond : Str} {pt : Bool} {dp : List Name} {st st' : CNode × List (List Name)}
    {f : List Name × Bytes × Option Int} (h : copyFilesStep e cond pt dp st f = .ok st') :
    (wanted e cond dp st.1 f = false ∧ st' = st) ∨
    (wanted e cond dp st.1 f = true ∧ writeFile e pt st.1 (dp ++ f.1) f.2.1 f.2.2 = .ok st'.1 ∧ st'.2 = st.2 ++ [f.1]) := by
  unfold copyFilesStep at h
  unfold wanted
  split at h
  · cases h
  · rename_i hn; cases h; left; rw [hn]; exact ⟨by decide, rfl⟩
  · rename_i hn
    split at h
    · rename_i t hw; cases h; right; rw [hn]; exact ⟨by decide, hw, rfl⟩
    · cases h

/-- the files loop of `copy_dir_if`, from any state: which files are copied is decided by the
state at loop entry; those files are at the destination afterwards; nothing else changes -/
theorem filesLoop (e : Env) (cond : Str) (pt : Bool) (dp : List Name) :
    ∀ (fs : List (List Name × Bytes × Option Int)), (fs.map (·.1)).Nodup →
    ∀ (st st' : CNode × List (List Name)), foldRes (copyFilesStep e cond pt dp) st fs = .ok st' →
      st'.2 = st.2 ++ (fs.filter (wanted e cond dp st.1)).map (·.1) ∧
      (∀ f ∈ fs, wanted e cond dp st.1 f = true →
        st'.1.get (dp ++ f.1) = some (.file f.2.1 (newTime e pt f.2.2))) ∧
      (∀ q, (∀ f ∈ fs, wanted e cond dp st.1 f = true → q ≠ dp ++ f.1) →
        view (st'.1.get q) = view (st.1.get q)) := by
  intro fs
  induction fs with
  | nil =>
    intro _ st st' h
    cases h
    exact ⟨(List.append_nil _).symm, nofun, fun _ _ => rfl⟩
  | cons f fs ih =>
    intro hnd st st' h
    simp only [List.map_cons, List.nodup_cons] at hnd
    simp only [foldRes] at h
    cases hs : copyFilesStep e cond pt dp st f with
    | err x => rw [hs] at h; cases h
    | ok s1 =>
      rw [hs] at h
      obtain ⟨ih1, ih2, ih3⟩ := ih hnd.2 s1 st' h
      have hpne : ∀ g ∈ fs, dp ++ g.1 ≠ dp ++ f.1 := by
        intro g hg e'
        exact hnd.1 (by rw [← List.append_cancel_left e']; exact List.mem_map_of_mem hg)
      rcases copyFilesStep_ok hs with ⟨hw, rfl⟩ | ⟨hw, hwr, hlog⟩
      · refine ⟨?_, ?_, ?_⟩
        · rw [ih1]; simp [hw]
        · intro g hg hwg
          rcases List.mem_cons.1 hg with rfl | hg
          · rw [hw] at hwg; cases hwg
          · exact ih2 g hg hwg
        · intro q hq
          exact ih3 q (fun g hg hwg => hq g (List.mem_cons_of_mem _ hg) hwg)
      · have hsame : ∀ g ∈ fs, wanted e cond dp s1.1 g = wanted e cond dp st.1 g := fun g hg =>
          wanted_congr e cond dp st.1 s1.1 g (writeFile_view hwr _ (hpne g hg))
        refine ⟨?_, ?_, ?_⟩
        · rw [ih1, hlog, List.filter_cons, hw, List.filter_congr hsame]
          simp
        · intro g hg hwg
          rcases List.mem_cons.1 hg with rfl | hg
          · have h3 := ih3 (dp ++ g.1) (fun g' hg' _ => (hpne g' hg').symm)
            rw [writeFile_self hwr] at h3
            exact view_eq_file h3
          · exact ih2 g hg (by rw [hsame g hg]; exact hwg)
        · intro q hq
          rw [ih3 q (fun g hg hwg => hq g (List.mem_cons_of_mem _ hg) (by rw [← hsame g hg]; exact hwg))]
          exact writeFile_view hwr q (hq f (List.mem_cons_self ..) hw)

/-- what `copy_dir_if` does, judged against the *original* destination: neither pass touches a selected file's
path before its turn -/
theorem copyDirIf_spec {e : Env} {w : Walker} {src dst dst' : CNode} {sp dp : List Name} {cond : Str} {pt : Bool}
    {copied : List (List Name)} {es : CEnts} (hsrc : src.get sp = some (.dir es)) (hwf : entsWf es = true)
    (h : copyDirIf e w src sp dst dp cond pt = .ok (dst', copied)) :
    copied = ((selFiles w sp es).filter (wanted e cond dp dst)).map (·.1) ∧
    (∀ f ∈ selFiles w sp es, wanted e cond dp dst f = true →
      dst'.get (dp ++ f.1) = some (.file f.2.1 (newTime e pt f.2.2))) ∧
    (∀ rel ∈ selDirs w sp es, view (dst'.get (dp ++ rel)) = .dir) ∧
    (∀ q, view (dst.get q) = .dir → view (dst'.get q) = .dir) ∧
    (∀ q, (∀ f ∈ selFiles w sp es, wanted e cond dp dst f = true → q ≠ dp ++ f.1) →
      (view (dst.get q) ≠ .absent ∨ (¬ q <+: dp ∧ ∀ rel ∈ selDirs w sp es, q ≠ dp ++ rel)) →
      view (dst'.get q) = view (dst.get q)) := by
  unfold copyDirIf copyStructure at h
  rw [hsrc] at h
  cases hm : makedirsR [] dp dst with
  | err x => rw [hm] at h; cases h
  | ok d0 =>
    rw [hm] at h
    cases hst : foldRes (fun t rel => makedirR t (dp ++ rel)) d0 (selDirs w sp es) with
    | err x => simp only [hst] at h; cases h
    | ok d1 =>
      simp only [hst] at h
      have hstruct : ∀ q, (view (dst.get q) ≠ .absent ∨ (¬ q <+: dp ∧ ∀ rel ∈ selDirs w sp es, q ≠ dp ++ rel)) →
          view (d1.get q) = view (dst.get q) := by
        intro q hq
        have h0 : view (d0.get q) = view (dst.get q) :=
          makedirsR_view dp [] dst d0 hm q (hq.imp id (fun hq => by simpa using hq.1))
        rw [← h0]
        exact foldMakedirR_view dp _ _ _ hst q (hq.imp (fun hq => by rw [h0]; exact hq) (fun hq => hq.2))
      have hsound := walkEnts_sound w es sp 0 hwf
      -- a selected file's path is below `dst_path` and is not a walked directory
      have hwant : ∀ f ∈ selFiles w sp es, wanted e cond dp d1 f = wanted e cond dp dst f := by
        intro f hf
        have hfw := hsound _ (mem_selFiles.1 hf)
        refine wanted_congr e cond dp dst d1 f (hstruct _ (Or.inr ⟨?_, ?_⟩))
        · intro hpre
          exact hfw.2 (List.self_eq_append_right.1 ((List.prefix_append dp f.1).eq_of_length_le hpre.length_le))
        · intro rel hrel e'
          have s2 := (hsound _ (mem_selDirs.1 hrel)).1
          rw [← List.append_cancel_left e', hfw.1] at s2
          cases s2
      obtain ⟨h1, h2, h3⟩ := filesLoop e cond pt dp _ (selFiles_nodup w sp es hwf) _ _ h
      -- directories stay directories through the files loop: no file is written where one is
      have hkeep : ∀ q, view (d1.get q) = .dir → view (dst'.get q) = .dir := by
        intro q hq
        refine foldRes_inv _ (fun s => view (s.1.get q) = .dir) _ ?_ _ _ hq h
        intro s f s' _ hs hstep
        rcases copyFilesStep_ok hstep with ⟨_, rfl⟩ | ⟨_, hwr, _⟩
        · exact hs
        · rw [writeFile_view hwr q ?_]; exact hs
          rintro rfl
          obtain ⟨es', he⟩ := view_eq_dir hs
          exact (writeFile_ok hwr).2.2.1 es' he
      refine ⟨?_, ?_, ?_, ?_, ?_⟩
      · rw [← List.filter_congr hwant]; exact h1
      · exact fun f hf hw => h2 f hf (by rw [hwant f hf]; exact hw)
      · exact fun rel hrel => hkeep _ (foldMakedirR_dirs dp _ _ _ hst
          (fun r hr => (hsound _ (mem_selDirs.1 hr)).2) rel hrel)
      · exact fun q hq => hkeep q (by rw [hstruct q (Or.inl (by rw [hq]; simp)), hq])
      · intro q hq hq'
        rw [← hstruct q hq']
        exact h3 q (fun f hf hw => hq f hf (by rw [← hwant f hf]; exact hw))

/-! ### the unfiltered walker selects everything -/

mutual
theorem walkNode_complete : ∀ (v : CNode) (abs : List Name) (d : Nat) (r : List Name) (n : CNode),
    r ≠ [] → v.get r = some n → (r, itemOf n) ∈ walkNode Walker.all abs d v
  | .file _ _, _, _, r, n, hr, h => by
    cases r with
    | nil => exact absurd rfl hr
    | cons _ _ => simp at h
  | .dir es, abs, d, r, n, hr, h => walkEnts_complete es abs d r n hr h
theorem walkEnts_complete : ∀ (es : CEnts) (abs : List Name) (d : Nat) (q : List Name) (n : CNode),
    q ≠ [] → (CNode.dir es).get q = some n → (q, itemOf n) ∈ walkEnts Walker.all abs d es
  | [], _, _, q, n, hq, h => by
    cases q with
    | nil => exact absurd rfl hq
    | cons c r => simp [get_cons_dir] at h
  | (k, v) :: es, abs, d, q, n, hq, h => by
    cases q with
    | nil => exact absurd rfl hq
    | cons c r =>
      rw [walkEnts_cons, List.mem_append]
      rw [get_cons_dir, lookup] at h
      by_cases hk : k = c
      · subst hk
        rw [if_pos rfl, Option.bind_some] at h
        left
        rw [walkEnts_single_all, entryWalk]
        cases r with
        | nil => rw [get_nil] at h; cases h; exact List.mem_cons_self ..
        | cons c' r' =>
          exact List.mem_cons_of_mem _ (List.mem_map.2
            ⟨_, walkNode_complete v (abs ++ [k]) (d + 1) (c' :: r') n (List.cons_ne_nil _ _) h, rfl⟩)
      · right
        rw [if_neg hk, ← get_cons_dir] at h
        exact walkEnts_complete es abs d (c :: r) n hq h
end

end Fs.Copy
