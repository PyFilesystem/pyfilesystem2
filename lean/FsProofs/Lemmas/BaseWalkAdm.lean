/-
  The calls `FS.removetree` / `FS.copydir` / `FS.movedir` REJECT (argument checks, `getinfo(src)`, `makedirs(dst)` /
  `makedir(dst)`, the first `scandir`), over any primitive interface whose calls before the first write are the
  reference's up to an admissible class (`PrimAdm`; see the header of BaseWalkSim): nothing changes and the class is
  admissible.
-/
import FsProofs.Lemmas.BaseWalkSim
import FsProofs.Lemmas.BaseWalkCopyDir

namespace Fs.BaseWalkAdm
open Fs Fs.Ref Fs.BaseWalk Fs.TreeLemmas Fs.WrapLemmas Fs.BaseWalkPrim Fs.BaseWalkRm Fs.BaseWalkCopyDir
  Fs.BaseWalkSim Fs.BaseWalkLift Fs.WrapRefines Fs.MultiFsLemmas

/-- `getinfo` on a path that validates: the reference's value, or an admissible class -/
theorem getinfo_F {σ : Type} {emb : State → σ} {t : State} {p : Str} {cs : List Name} {r : σ × Out} (G : GoodS t)
    (hv : validate p = .ok cs) (h : CallAdm emb t (.getinfo p) r) :
    match t.root.get cs with
    | none => ∃ e', r = (emb t, .err e') ∧ e' ∈ adm1 t.root cs (.getinfo p)
    | some (.file fb) => r = (emb t, .ok (.info (lastName cs) false fb.length))
    | some (.dir _) => r = (emb t, .ok (.info (lastName cs) true 0)) := by
  have hr : Ref.step t (.getinfo p) = step1 t cs (.getinfo p) := by
    rw [QueryLemmas.step_admitted G.opn rfl hv (by nofun)]
  rcases hg : t.root.get cs with _ | ⟨fb | es⟩
  · obtain ⟨e', hf, ha⟩ := h.2 .ResourceNotFound (by rw [hr]; simp [step1, hg, fail])
    rw [QueryLemmas.adm_one t _ p G.opn rfl (by intro x m e; cases e), hv] at ha
    exact ⟨e', hf, ha⟩
  · exact h.1 t _ (by rw [hr]; simp [step1, hg, done])
  · exact h.1 t _ (by rw [hr]; simp [step1, hg, done])

/-! ### what the checks of the bulk operations need of a primitive interface -/

/-- the calls `FS.copydir` / `FS.movedir` / `FS.removetree` make BEFORE anything is written, on an interface
`P` whose states are `emb t`: `validatepath` and `exists` are the reference's (class included), `getinfo` gives
the reference's value or an admissible class, a refused `makedir` / `makedirs` / `scandir` leaves everything
as it was and its class is admissible -/
structure PrimAdm {σ : Type} (P : Prim σ) (emb : State → σ) : Prop where
  vpath : ∀ t p, GoodS t → P.validatepath (emb t) p = (emb t, match validate p with
      | .err e => .err e
      | .ok cs => .ok (absOf cs))
  exists_ : ∀ t p cs, GoodS t → validate p = .ok cs → P.exists_ (emb t) p = (emb t, .ok (.bool (t.root.get cs).isSome))
  getinfo : ∀ t p cs, GoodS t → validate p = .ok cs →
    match t.root.get cs with
    | none => ∃ e', P.getinfo (emb t) p = (emb t, .err e') ∧ e' ∈ adm1 t.root cs (.getinfo p)
    | some (.file fb) => P.getinfo (emb t) p = (emb t, .ok (.info (lastName cs) false fb.length))
    | some (.dir _) => P.getinfo (emb t) p = (emb t, .ok (.info (lastName cs) true 0))
  makedir_adm : ∀ t p e, GoodS t → (Ref.step t (.makedir p true)).2 = .err e →
    ∃ e', P.makedir (emb t) p = (emb t, .err e') ∧ e' ∈ adm t (.makedir p true)
  makedirs_adm : ∀ t p e, GoodS t → (Ref.step t (.makedirs p true)).2 = .err e →
    ∃ e', P.makedirs (emb t) p = (emb t, .err e') ∧ e' ∈ adm t (.makedirs p true)
  scandir_adm : ∀ t p e, GoodS t → (Ref.step t (.listdir p)).2 = .err e →
    ∃ e', P.scandir (emb t) p = (emb t, .err e') ∧ e' ∈ adm t (.listdir p)

/-- an instance proves both halves (`PrimSim`, `PrimAdm`) from the same facts -/
theorem prim_of_calls {σ : Type} (P : Prim σ) (emb : State → σ)
    (vpath : ∀ t p, GoodS t → P.validatepath (emb t) p = (emb t, match validate p with
      | .err e => .err e
      | .ok cs => .ok (absOf cs)))
    (hex : ∀ t p, GoodS t → CallAdm emb t (.exists_ p) (P.exists_ (emb t) p))
    (hgi : ∀ t p, GoodS t → CallAdm emb t (.getinfo p) (P.getinfo (emb t) p))
    (hmk : ∀ t p, GoodS t → CallAdm emb t (.makedir p true) (P.makedir (emb t) p))
    (hmks : ∀ t p, GoodS t → CallAdm emb t (.makedirs p true) (P.makedirs (emb t) p))
    (hcp : ∀ t a b, GoodS t → CallAdm emb t (.copy a b true) (P.copy (emb t) a b))
    (hrm : ∀ t p, GoodS t → CallAdm emb t (.remove p) (P.remove (emb t) p))
    (hrd : ∀ t p, GoodS t → CallAdm emb t (.removedir p) (P.removedir (emb t) p))
    (hscan : ∀ t p, GoodS t → LiftE emb (P.scandir (emb t) p) (PR.scandir t p))
    (hscanA : ∀ t p e, GoodS t → (Ref.step t (.listdir p)).2 = .err e →
      ∃ e', P.scandir (emb t) p = (emb t, .err e') ∧ e' ∈ adm t (.listdir p)) :
    PrimSim P emb ∧ PrimAdm P emb where
  left := {
    validatepath := fun t p G => by
      show LiftE emb _ (validateOf Ref.step t p)
      rw [vpath t p G, validateOf_ref t G.opn]
      exact liftE_refl emb t _
    exists_ := fun t p G => liftE_of_callAdm (hex t p G)
    getinfo := fun t p G => liftE_of_callAdm (hgi t p G)
    scandir := hscan
    makedir := fun t p G => liftE_of_callAdm (hmk t p G)
    makedirs := fun t p G => liftE_of_callAdm (hmks t p G)
    copy := fun t a b G => liftE_of_callAdm (hcp t a b G)
    remove := fun t p G => liftE_of_callAdm (hrm t p G)
    removedir := fun t p G => liftE_of_callAdm (hrd t p G) }
  right := {
    vpath := vpath
    exists_ := fun t p cs G hv => (hex t p G).1 t _ (by rw [QueryLemmas.step_admitted G.opn rfl hv (by nofun)]; rfl)
    getinfo := fun t p _ G hv => getinfo_F G hv (hgi t p G)
    makedir_adm := fun t p e G he => (hmk t p G).2 e he
    makedirs_adm := fun t p e G he => (hmks t p G).2 e he
    scandir_adm := hscanA }

/-- the primitives of a filesystem that refines the reference -/
theorem prim_of_refines (F : FS State) (hF : RefinesRef F) : PrimSim (primOfStep F) id ∧ PrimAdm (primOfStep F) id :=
  prim_of_calls (primOfStep F) id
    (fun t p G => by
      show validateOf F t p = _
      rw [validateOf_exact F hF t G p, validateOf_ref t G.opn]
      rfl)
    (fun t p G => callAdm_of_refines F hF t G (.exists_ p) rfl)
    (fun t p G => callAdm_of_refines F hF t G (.getinfo p) rfl)
    (fun t p G => callAdm_of_refines F hF t G (.makedir p true) rfl)
    (fun t p G => callAdm_of_refines F hF t G (.makedirs p true) rfl)
    (fun t a b G => callAdm_of_refines F hF t G (.copy a b true) rfl)
    (fun t p G => callAdm_of_refines F hF t G (.remove p) rfl)
    (fun t p G => callAdm_of_refines F hF t G (.removedir p) rfl)
    (fun t p G => lift_scanOf F hF t G p)
    (fun t p e G he => by
      obtain ⟨e', hf, ha⟩ := (callAdm_of_refines F hF t G (.listdir p) rfl).2 e he
      exact ⟨e', by show scanOf F t p = _; simp [scanOf, hf], ha⟩)

theorem primSim_of_refines (F : FS State) (hF : RefinesRef F) : PrimSim (primOfStep F) id := (prim_of_refines F hF).1

theorem primAdm_of_refines (F : FS State) (hF : RefinesRef F) : PrimAdm (primOfStep F) id := (prim_of_refines F hF).2

/-! ### `adm` of the bulk operations contains what their checks report -/

/-- a class admissible for `getinfo(src)` is admissible for the directory argument of a bulk operation -/
theorem getinfo_sub_dirArg (root : Node) (a : List Name) (x : Str) (e : Err) (h : e ∈ adm1 root a (.getinfo x)) :
    e ∈ admDirArg root a := by
  simp only [adm1, admDirArg, List.mem_append] at h ⊢
  rcases h with h | h
  · exact Or.inl h
  · right
    split at h
    · next hb => simp [hb] at h ⊢; exact h
    · simp at h

theorem get_none_of_parent_not_dir {root : Node} {b : List Name} (hne : b ≠ [])
    (hp : ∀ ps, root.get (parentOf b) ≠ some (.dir ps)) : root.get b = none := by
  cases hg : root.get b with
  | none => rfl
  | some n =>
    obtain ⟨ps, hps⟩ := get_parent_dir hne hg
    exact absurd hps (hp ps)

/-- what `makedirs(dst)` may answer is admissible for `copydir`, or is the `ResourceNotFound` given below a file -/
theorem adm_makedirs_sub_copydir {root : Node} {a b : List Name} {x p q : Str} {create : Bool} {e : Err}
    (h : e ∈ adm1 root b (.makedirs x true)) :
    e ∈ adm2 root a b (.copydir p q create) ∨ (e = .ResourceNotFound ∧ blockedByFile root [] b = true) := by
  simp only [adm1, Bool.not_true, Bool.false_eq_true, and_false, if_false, List.nil_append, List.mem_append] at h
  rcases h with h | h
  · left
    split at h
    · next hk => simp at h; subst h; simp [adm2, hk]
    · simp at h
  · split at h
    · next hbl =>
      simp only [List.mem_cons, List.mem_nil_iff, or_false] at h
      rcases h with rfl | rfl
      · left; simp [adm2, hbl]
      · right; exact ⟨rfl, hbl⟩
    · simp at h

theorem adm_makedir_sub_movedir {root : Node} {a b : List Name} {x p q : Str} {create : Bool} {e : Err}
    (hne : a ≠ b) (hbne : b ≠ []) (h : e ∈ adm1 root b (.makedir x true)) :
    e ∈ adm2 root a b (.movedir p q create) := by
  simp only [adm1, Bool.not_true, Bool.false_eq_true, and_false, if_false, List.nil_append, List.mem_append,
    and_true] at h
  simp only [adm2, hne, if_false, List.mem_append]
  rcases h with (h | h) | h
  · -- a file at the destination
    split at h
    · next hk => simp at h; subst h; right; simp [hk]
    · simp at h
  · -- no parent
    split at h
    · next hk =>
      simp at h; subst h
      left; right
      have hpn : ∀ ps, root.get (parentOf b) ≠ some (.dir ps) := by
        intro ps h; simp [kindAt, h] at hk
      have hgb := get_none_of_parent_not_dir hk.1 hpn
      have : kindAt root (parentOf b) ≠ some true := by rw [hk.2]; simp
      have hcond : kindAt root b = none ∧ ((!create) = true ∨ kindAt root (parentOf b) ≠ some true) :=
        ⟨by simp [kindAt, hgb], Or.inr this⟩
      rw [if_pos hcond]; simp
    · simp at h
  · -- a file in the way
    split at h
    · next hbl =>
      have hpn : ∀ ps, root.get (parentOf b) ≠ some (.dir ps) := by
        intro ps h
        rw [TreeLemmas.blocked_parent_dir hbne h] at hbl; cases hbl
      have hgb := get_none_of_parent_not_dir hbne hpn
      have hkp : kindAt root (parentOf b) ≠ some true := QueryLemmas.kindAt_ne_dir hpn
      simp only [List.mem_cons, List.mem_nil_iff, or_false] at h
      rcases h with rfl | rfl
      · right; simp [hbl]
      · left; right
        have hcond : kindAt root b = none ∧ ((!create) = true ∨ kindAt root (parentOf b) ≠ some true) :=
          ⟨by simp [kindAt, hgb], Or.inr hkp⟩
        rw [if_pos hcond]; simp
    · simp at h

section
variable {σ : Type} (P : Prim σ) (emb : State → σ) (A : PrimAdm P emb)
include A

/-- **`FS.removetree` rejects**: the class is `validatepath`'s, or that of the walker's first `scandir`. -/
theorem removetree_P_rejected (fuel : Nat) (t : State) (G : GoodS t) (p : Str) (e0 : Err)
    (h0 : Ref.step t (.removetree p) = (t, .err e0)) :
    ∃ e', removetree P (fuel + 1) (emb t) p = (emb t, .err e') ∧ e' ∈ adm t (.removetree p) := by
  rw [QueryLemmas.step_one t _ p G.opn rfl (by intro x m e; cases e)] at h0
  rw [QueryLemmas.adm_one t _ p G.opn rfl (by intro x m e; cases e)]
  simp only [removetree, A.vpath t p G]
  cases hv : validate p with
  | err ev => exact ⟨ev, rfl, by simp⟩
  | ok cs =>
    have hcs : CleanN cs := TreeLemmas.validate_clean p cs hv
    rw [hv] at h0
    -- the reference fails: nothing, or a file, at the path; so does `listdir`
    have hlist : (Ref.step t (.listdir (absOf cs))).2 = .err e0 := by
      rw [ref_one t G.opn _ hcs rfl]
      by_cases hne : cs = []
      · subst hne
        cases (Prod.mk.inj h0).2
      · simp only [step1, hne, if_false] at h0 ⊢
        rcases hg : t.root.get cs with _ | ⟨fb | es⟩ <;> rw [hg] at h0
        · exact (Prod.mk.inj h0).2
        · exact (Prod.mk.inj h0).2
        · cases (Prod.mk.inj h0).2
    obtain ⟨e', hf, ha⟩ := A.scandir_adm t (absOf cs) e0 G hlist
    rw [QueryLemmas.adm_one t _ _ G.opn rfl (by intro x m e; cases e), validate_absOf hcs] at ha
    exact ⟨e', by simp only [removetreeBody, rmWalk, hf], ha⟩

theorem whenExists_P_rejected (t : State) (G : GoodS t) (x : Str) (b : List Name) (hv : validate x = .ok b)
    (create : Bool) (k : σ → σ × Out) (Q : Err → Prop)
    (hmiss : create = false → t.root.get b = none → Q .ResourceNotFound)
    (body : (t.root.get b = none → create = true) → ∃ e', k (emb t) = (emb t, .err e') ∧ Q e') :
    ∃ e', whenExists create (fun s => P.exists_ s x) (emb t) k = (emb t, .err e') ∧ Q e' := by
  rw [whenExists_eq (A.exists_ t x b G hv)]
  cases create with
  | true => exact body fun _ => rfl
  | false =>
    cases hgb : t.root.get b with
    | none => exact ⟨.ResourceNotFound, rfl, hmiss rfl hgb⟩
    | some n => exact body fun h => by rw [hgb] at h; cases h

/-- **`FS.copydir` rejects**: every case in which the source is not a directory or the destination cannot
be made a directory.  Nothing changes; the class is admissible for `copydir` — or it is the
`ResourceNotFound` a filesystem may answer to `makedirs` below a file. -/
theorem copydir_P_rejected (fuel : Nat) (t : State) (G : GoodS t) (p q : Str) (create : Bool) (a b : List Name)
    (hva : validate p = .ok a) (hvb : validate q = .ok b) (hab : ¬ a <+: b) (hno : ¬ CopyRuns t a b create) :
    ∃ e', copydir P fuel (emb t) p q create = (emb t, .err e') ∧
      (e' ∈ adm t (.copydir p q create) ∨ (e' = .ResourceNotFound ∧ blockedByFile t.root [] b = true)) := by
  have ha : CleanN a := TreeLemmas.validate_clean p a hva
  have hb : CleanN b := TreeLemmas.validate_clean q b hvb
  rw [QueryLemmas.adm_two t _ p q G.opn rfl, hva, hvb]
  simp only [copydir, A.vpath t p G, A.vpath t q G, hva, hvb, isbase_absOf_false ha hb hab,
    Bool.false_eq_true, if_false]
  -- the source check and `copy_dir` up to `makedirs`
  have body : (t.root.get b = none → create = true) →
      ∃ e', (whenDir (P.getinfo (emb t) (absOf a)) fun t1 => copyDir P fuel t1 (absOf a) (absOf b)) = (emb t, .err e') ∧
        (e' ∈ adm2 t.root a b (.copydir p q create) ∨ (e' = .ResourceNotFound ∧ blockedByFile t.root [] b = true)) := by
    intro hcr
    have hgi := A.getinfo t (absOf a) a G (validate_absOf ha)
    rcases hga : t.root.get a with _ | ⟨fa | es⟩
    · rw [hga] at hgi
      obtain ⟨e', hf, he'⟩ := hgi
      refine ⟨e', by simp [whenDir, hf], Or.inl ?_⟩
      have := getinfo_sub_dirArg _ _ _ _ he'
      simp only [adm2, List.mem_append]; exact Or.inl (Or.inl (Or.inl this))
    · rw [hga] at hgi
      refine ⟨.DirectoryExpected, by simp [whenDir, hgi], Or.inl ?_⟩
      simp [adm2, admDirArg, kindAt, hga]
    · rw [hga] at hgi
      simp only [whenDir, hgi, copyDir, normRes_absOf ha, normRes_absOf hb, A.vpath t _ G, validate_absOf ha,
        validate_absOf hb, isbase_absOf_false ha hb hab, Bool.false_eq_true, if_false]
      -- `makedirs(dst, recreate=True)` is refused
      have hmkR : ∃ e, (Ref.step t (.makedirs (absOf b) true)).2 = .err e := by
        rw [ref_one t G.opn _ hb rfl]
        simp only [step1]
        cases hbl : blockedByFile t.root [] b
        · rcases hgb : t.root.get b with _ | ⟨fb | ds⟩
          · exact absurd ⟨⟨es, hga⟩, Or.inr ⟨hgb, hcr hgb, hbl⟩⟩ hno
          · exact ⟨.DirectoryExpected, by simp [fail]⟩
          · exact absurd ⟨⟨es, hga⟩, Or.inl ⟨ds, hgb⟩⟩ hno
        · exact ⟨.DirectoryExpected, by simp [fail]⟩
      obtain ⟨e, he⟩ := hmkR
      obtain ⟨e', hf, he'⟩ := A.makedirs_adm t (absOf b) e G he
      refine ⟨e', by rw [hf], ?_⟩
      rw [QueryLemmas.adm_one t _ _ G.opn rfl (by intro x m e; cases e), validate_absOf hb] at he'
      exact adm_makedirs_sub_copydir he'
  refine whenExists_P_rejected P emb A t G (absOf b) b (validate_absOf hb) create _ _ (fun hc hgb => Or.inl ?_) body
  simp [adm2, kindAt, hc, hgb]

/-- **`FS.movedir` rejects**: the source is not a directory, or the destination is missing and not to be
created / has no parent directory, or is a file.  Nothing changes and the class is admissible. -/
theorem movedir_P_rejected (rt : σ → Str → σ × Out) (fuel : Nat) (t : State) (G : GoodS t) (p q : Str)
    (create : Bool) (a b : List Name) (hva : validate p = .ok a) (hvb : validate q = .ok b) (hne : a ≠ b)
    (hab : ¬ a <+: b)
    (hno : ¬ BaseWalkLaws.MoveRuns t a b create) :
    ∃ e', movedir P rt fuel (emb t) p q create = (emb t, .err e') ∧ e' ∈ adm t (.movedir p q create) := by
  have ha : CleanN a := TreeLemmas.validate_clean p a hva
  have hb : CleanN b := TreeLemmas.validate_clean q b hvb
  have hne' : absOf a ≠ absOf b := fun e => hne ((absOf_inj ha hb).1 e)
  rw [QueryLemmas.adm_two t _ p q G.opn rfl, hva, hvb]
  simp only [movedir, A.vpath t p G, A.vpath t q G, hva, hvb, hne', isbase_absOf_false ha hb hab,
    Bool.false_eq_true, if_false]
  have body : (t.root.get b = none → create = true) →
      ∃ e', moveDir P rt fuel (emb t) p q = (emb t, .err e') ∧ e' ∈ adm2 t.root a b (.movedir p q create) := by
    intro hcr
    have hgi := A.getinfo t p a G hva
    rcases hga : t.root.get a with _ | ⟨fa | es⟩
    · rw [hga] at hgi
      obtain ⟨e', hf, he'⟩ := hgi
      refine ⟨e', by simp [moveDir, whenDir, hf], ?_⟩
      have := getinfo_sub_dirArg _ _ _ _ he'
      simp only [adm2, hne, if_false, List.mem_append]; exact Or.inl (Or.inl (Or.inl this))
    · rw [hga] at hgi
      refine ⟨.DirectoryExpected, by simp [moveDir, whenDir, hgi], ?_⟩
      simp [adm2, hne, admDirArg, kindAt, hga]
    · rw [hga] at hgi
      simp only [moveDir, whenDir, hgi, moveDirBody]
      -- `makedir(dst, recreate=True)` is refused
      have hbne : b ≠ [] := by
        rintro rfl
        exact hno ⟨⟨es, hga⟩, Or.inl (by
          obtain ⟨rs, hrs⟩ := TreeLemmas.root_dir G.dir
          exact ⟨rs, by simp [Node.get, hrs]⟩)⟩
      have hmkR : ∃ e, (Ref.step t (.makedir q true)).2 = .err e := by
        rw [QueryLemmas.step_admitted G.opn rfl hvb (by nofun)]
        simp only [step1, hbne, if_false]
        rcases hpar : t.root.get (parentOf b) with _ | ⟨pf | ps⟩
        · exact ⟨.ResourceNotFound, by simp [fail]⟩
        · exact ⟨.ResourceNotFound, by simp [fail]⟩
        · rcases hgb : t.root.get b with _ | ⟨fb | ds⟩
          · exact absurd ⟨⟨es, hga⟩, Or.inr ⟨hgb, hcr hgb, ps, hpar⟩⟩ hno
          · exact ⟨.DirectoryExpected, by simp [fail]⟩
          · exact absurd ⟨⟨es, hga⟩, Or.inl ⟨ds, hgb⟩⟩ hno
      obtain ⟨e, he⟩ := hmkR
      obtain ⟨e', hf, he'⟩ := A.makedir_adm t q e G he
      refine ⟨e', by simp only [andThen, hf], ?_⟩
      rw [QueryLemmas.adm_one t _ _ G.opn rfl (by intro x m e; cases e), hvb] at he'
      exact adm_makedir_sub_movedir hne hbne he'
  refine whenExists_P_rejected P emb A t G q b hvb create _ _ (fun hc hgb => ?_) body
  simp [adm2, hne, kindAt, hc, hgb]

end

end Fs.BaseWalkAdm
