/-
  SubFS over the reference itself, exactly (helper lemmas for `WrapRefines.sub_simulates`):
  `Sub.stepOpen (absOf sub) Ref.step s op = graft s sub (Ref.step (V es) op)` — the same outcome
  INCLUDING the error class — outside three exception classes (`nulRootTest`, `excOpenbin`, `excCopydir`).
  Namespace `Fs.WrapLemmas`, as in WrapLemmas.lean.
-/
import FsProofs.Lemmas.WrapSimOps

namespace Fs.WrapLemmas
open Fs Fs.Ref Fs.TreeLemmas Fs.MemRefines
open Fs.MemLemmas (Agree)

section Exact

/-- what the results below need of `delegate_path`: a valid path is handed to the parent as a path that
validates to `sub ++` its components, and so is what the `removetree` loop joins to the root's -/
structure Prefixes (dp : Wrap.Delegate) (sub : List Name) : Prop where
  ok : ∀ {p cs}, validate p = .ok cs → ∃ q, dp p = .ok q ∧ validate q = .ok (sub ++ cs)
  child : ∀ {p q k}, validate p = .ok [] → dp p = .ok q → cleanName k = true →
    ∃ ip, Path.join [q, k] = .ok ip ∧ validate ip = .ok (sub ++ [k])

theorem prefixes_sub {sub : List Name} (hsub : ∀ c ∈ sub, cleanName c = true) :
    Prefixes (Wrap.Sub.delegate (absOf sub)) sub where
  ok hv := ⟨_, (delegate_valid hsub hv).1, validate_fdel hsub hv⟩
  child hv hd hk := by
    rw [(delegate_valid hsub hv).1, fdel_ok hv, List.append_nil] at hd
    cases hd
    exact join_child_valid hsub hk

variable {sub : List Name} {s : State} {es : Ents} (hc : s.closed = false)
  (hdir : s.root.get sub = some (.dir es))
include hc hdir

/-- `SubFS` at `sub`, and `WrapFS` itself with `sub = []`.  The six methods of `WrapSimOps` with `A = []`: every inner
call is exact (`inner_exact`); in the `copydir` exception class both fail, the wrapper with another, admissible
class than the reference's. -/
theorem wrap_exact {dp : Wrap.Delegate} (hdp : Prefixes dp sub) (hsub : ∀ c ∈ sub, cleanName c = true)
    (hwf : s.root.wf = true) (op : Op) (hop : op ≠ .close)
    (hval : ∀ p ∈ op.paths, ∃ cs, validate p = .ok cs) :
    Wrap.stepOpen dp Ref.step s op = graft s sub (Ref.step (V es) op) ∨
      (excCopydir es op ∧ Agree (adm (V es) op) s (Wrap.stepOpen dp Ref.step s op) (graft s sub (Ref.step (V es) op))) := by
  let f : Str → Str := fun p => match dp p with | .ok q => q | .err _ => p
  have hf : ∀ {p cs}, validate p = .ok cs → dp p = .ok (f p) ∧ validate (f p) = .ok (sub ++ cs) := by
    intro p cs hv
    obtain ⟨q, hq, hvq⟩ := hdp.ok hv
    have : f p = q := by simp only [f, hq]
    rw [this]; exact ⟨hq, hvq⟩
  have inner : ∀ op', op' ≠ .close → (∀ p ∈ op'.paths, ∃ cs, validate p = .ok cs) →
      (rootSpecial op' = false ∨ ∀ p ∈ op'.paths, validate p ≠ .ok []) →
      Agree [] s (Ref.step s (mapPaths f op')) (graft s sub (Ref.step (V es) op')) := fun op' h1 h2 h3 =>
    .inl (inner_exact hc hdir f op' h1 (fun p hp => by obtain ⟨cs, hv⟩ := h2 p hp; exact ⟨cs, hv, (hf hv).2⟩) h3)
  have hroot : ∀ {p}, validate p = .ok [] → ∃ n, Ref.step s (.getinfo (f p)) = (s, .ok (.info n true 0)) :=
    fun hv => ⟨_, ref_getinfo_dir hc (hf hv).2 (by rwa [List.append_nil])⟩
  cases op with
  | close => exact absurd rfl hop
  | getinfo p =>
    obtain ⟨cs, hv⟩ := hval p (List.mem_singleton_self p)
    exact .inl (agree_nil (getinfo_agree hc hdir hv (hf hv).1 (fun h => hroot (h ▸ hv))
      fun hcs => inner (.getinfo p) (by simp) hval (Or.inr (nonroot_one rfl hv hcs))))
  | isempty p =>
    obtain ⟨cs, hv⟩ := hval p (List.mem_singleton_self p)
    exact .inl (agree_nil (isempty_agree (hf hv).1 (inner (.listdir p) (by simp) hval (Or.inl rfl))))
  | removedir p =>
    obtain ⟨cs, hv⟩ := hval p (List.mem_singleton_self p)
    exact .inl (agree_nil (removedir_agree hc hdir hv (hf hv).1
      fun hcs => inner (.removedir p) (by simp) hval (Or.inr (nonroot_one rfl hv hcs))))
  | removetree p =>
    obtain ⟨cs, hv⟩ := hval p (List.mem_singleton_self p)
    exact .inl (agree_nil (removetree_agree hc hdir hv (hf hv).1 (fun _ => inner (.listdir p) (by simp) hval (Or.inl rfl))
      (fun h => rmLoop_sim (pth := []) sim_ref (fun k hk => hdp.child (h ▸ hv) (hf hv).1 hk) es s ⟨hc, hwf, hdir, hsub⟩)
      fun hcs => inner (.removetree p) (by simp) hval (Or.inr (nonroot_one rfl hv hcs))))
  | copy a b ow =>
    obtain ⟨ca, ha⟩ := hval a (by simp [Op.paths])
    obtain ⟨cb, hb⟩ := hval b (by simp [Op.paths])
    exact .inl (agree_nil (copy_agree hc hdir ow ha hb (hf ha).1 (hf hb).1
      (inner (.exists_ b) (by simp) (valid_one rfl hb) (Or.inl rfl)) (inner (.copy a b true) (by simp) hval (Or.inl rfl))))
  | copydir a b c =>
    obtain ⟨ca, ha⟩ := hval a (by simp [Op.paths])
    obtain ⟨cb, hb⟩ := hval b (by simp [Op.paths])
    exact (copydir_agree hc hdir c ha hb (hf ha).1 (hf hb).1
      (inner (.exists_ b) (by simp) (valid_one rfl hb) (Or.inl rfl)) (fun h => hroot (h ▸ ha))
      (fun hca => inner (.getinfo a) (by simp) (valid_one rfl ha) (Or.inr (nonroot_one rfl ha hca)))
      fun _ => inner (.copydir a b true) (by simp) hval (Or.inl rfl)).imp_left agree_nil
  | move a b o | movedir a b o =>
    obtain ⟨ca, ha⟩ := hval a (by simp [Op.paths])
    obtain ⟨cb, hb⟩ := hval b (by simp [Op.paths])
    rw [← agree_nil (inner _ hop hval (Or.inl rfl))]
    simp only [Wrap.stepOpen, Wrap.direct2, (hf ha).1, (hf hb).1, mapPaths, true_or]
  | _ =>
    all_goals
      obtain ⟨cs, hv⟩ := hval _ (List.mem_singleton_self _)
      rw [← agree_nil (inner _ hop hval (Or.inl rfl))]
      simp only [Wrap.stepOpen, Wrap.direct1, (hf hv).1, mapPaths, true_or]

/-- **SubFS over the reference, exactly** -/
theorem sub_exact (hsub : ∀ c ∈ sub, cleanName c = true) (hwf : s.root.wf = true) (op : Op) (hop : op ≠ .close)
    (hnn : ¬ nulRootTest op) (hx1 : ¬ excOpenbin op) (hx2 : ¬ excCopydir es op) :
    Wrap.Sub.stepOpen (absOf sub) Ref.step s op = graft s sub (Ref.step (V es) op) := by
  rcases QueryLemmas.firstErr_cases validate op.paths with hval | ⟨e0, hinv⟩
  · exact (wrap_exact hc hdir (prefixes_sub hsub) hsub hwf op hop hval).resolve_right fun h => hx2 h.1
  · -- a path that does not validate (climbing, NUL)
    obtain ⟨e, hW, he⟩ := stepOpen_invalid Ref.step sub (clean_of_cleanName hsub) s op hinv
    obtain ⟨-, e', hR, he'⟩ := ref_of_firstErr (v := V es) rfl hinv
    rw [hW, hR, he hnn, he' hx1, graft_fail_V hc hdir]
    rfl

end Exact

/-! ### NUL-free paths: the view only ever sees the NORMALISED path -/

section Norm
open Fs.Path Fs.PathSpec Fs.PathLemmas

/-- the normalised absolute spelling of a path that resolves (what `delegate_path` keeps of it) -/
def normPath (p : Str) : Str :=
  match resolve (splitSlash p) with
  | some cs => absOf cs
  | none => p

theorem normPath_of_resolve {p : Str} {cs : List Name} (h : resolve (splitSlash p) = some cs) :
    normPath p = absOf cs ∧ resolve (splitSlash (normPath p)) = some cs := by
  have hc := resolve_result_clean p cs h
  have h1 : normPath p = absOf cs := by simp [normPath, h]
  refine ⟨h1, ?_⟩
  rw [h1, absOf, splitSlash, resolve_splitOn_mkp hc]

/-- `SubFS` cannot tell a NUL-free path from its normalised spelling: both are delegated to the same parent
path and pass the same root test. -/
theorem stepOpen_norm {σ : Type} (F : Wrap.FS σ) (sub : List Name) (hs : Clean sub) (s : σ) (op : Op)
    (hnn : noNul op) (hall : ∀ p ∈ op.paths, ∃ cs, resolve (splitSlash p) = some cs) :
    Wrap.Sub.stepOpen (absOf sub) F s op = Wrap.Sub.stepOpen (absOf sub) F s (mapPaths normPath op) := by
  have hd : ∀ p ∈ op.paths, Wrap.Sub.delegate (absOf sub) (normPath p) = Wrap.Sub.delegate (absOf sub) p ∧
      Wrap.isRootPath (normPath p) = Wrap.isRootPath p := by
    intro p hp
    obtain ⟨cs, hr⟩ := hall p hp
    obtain ⟨hnp, hr'⟩ := normPath_of_resolve hr
    have hn' : '\x00' ∉ normPath p := by
      rw [hnp]
      exact nul_not_mem_absOf fun c hc hm => hnn p hp (PathLemmas.mem_of_mem_resolve hr c hc _ hm)
    exact ⟨by rw [delegate_of_resolve hs (hnn p hp) hr, delegate_of_resolve hs hn' hr'],
      by rw [isRootPath_of_resolve hr, isRootPath_of_resolve hr']⟩
  cases op
  case close => rfl
  case move a b o =>
    simp only [Wrap.Sub.stepOpen, Wrap.stepOpen, Wrap.direct2, mapPaths,
      (hd a (by simp [Op.paths])).1, (hd b (by simp [Op.paths])).1]
  case movedir a b o =>
    simp only [Wrap.Sub.stepOpen, Wrap.stepOpen, Wrap.direct2, mapPaths,
      (hd a (by simp [Op.paths])).1, (hd b (by simp [Op.paths])).1]
  case copy a b o =>
    simp only [Wrap.Sub.stepOpen, Wrap.stepOpen, Wrap.copy, mapPaths,
      (hd a (by simp [Op.paths])).1, (hd b (by simp [Op.paths])).1]
  case copydir a b o =>
    simp only [Wrap.Sub.stepOpen, Wrap.stepOpen, Wrap.copydir, mapPaths,
      (hd a (by simp [Op.paths])).1, (hd b (by simp [Op.paths])).1]
  all_goals
    simp only [Wrap.Sub.stepOpen, Wrap.stepOpen, Wrap.direct1, Wrap.getinfo, Wrap.isempty, Wrap.removedir,
      Wrap.removetree, mapPaths, (hd _ (List.mem_singleton_self _)).1, (hd _ (List.mem_singleton_self _)).2]

end Norm

/-! ### the frame, for every operation and every path argument -/

/-- `t` differs from `s` at most below `sub`, where it holds a directory -/
def ChangedBelow (s : State) (sub : List Name) (t : State) : Prop :=
  ∃ x, t = { s with root := setAt s.root sub (.dir x) }

theorem changedBelow_refl {s : State} {sub : List Name} {es : Ents} (h : s.root.get sub = some (.dir es)) : ChangedBelow s sub s :=
  ⟨es, by rw [setAt_self _ _ _ h]⟩

/-- **the frame, universally** (any operation, any path strings: climbing, NUL, the exception classes): a call
either fails before the parent is touched or is the reference's call on the sub-tree, grafted -/
theorem stepOpen_framed {s : State} {sub : List Name} {es : Ents} (hsub : ∀ c ∈ sub, cleanName c = true)
    (h : s.root.get sub = some (.dir es)) (hc : s.closed = false) (hwf : s.root.wf = true) (op : Op) :
    ChangedBelow s sub (Wrap.Sub.stepOpen (absOf sub) Ref.step s op).1 := by
  by_cases hop : op = .close
  · subst hop; exact changedBelow_refl h
  rcases QueryLemmas.firstErr_cases validate op.paths with hval | ⟨e0, hinv⟩
  · have hA : Agree (adm (V es) op) s _ _ :=
      (wrap_exact hc h (prefixes_sub hsub) hsub hwf op hop hval).elim .inl (·.2)
    rcases hA with hW | ⟨e, -, hW, -⟩
    · rw [Wrap.Sub.stepOpen, hW]
      have hd := QueryLemmas.step_root_isDir (V es) op rfl
      cases hr : (Ref.step (V es) op).1.root with
      | file b => rw [hr] at hd; cases hd
      | dir x => exact ⟨x, by rw [graft, hr]⟩
    · rw [Wrap.Sub.stepOpen, hW]; exact changedBelow_refl h
  · obtain ⟨e, hW, -⟩ := stepOpen_invalid Ref.step sub (clean_of_cleanName hsub) s op hinv
    rw [hW]; exact changedBelow_refl h

section WrapId
open Fs.Path Fs.PathSpec Fs.PathLemmas

theorem prefixes_id : Prefixes Wrap.idDelegate [] where
  ok hv := ⟨_, rfl, hv⟩
  child {p q k} hv hd hk := by
    cases hd
    have hk' : ∀ c ∈ [k], cleanName c = true := fun c hc => List.mem_singleton.1 hc ▸ hk
    -- `join(_delegate_path, info.name)`, the (raw) delegate path naming the root
    exact ⟨_, join_of_resolve (bs := [k]) (validate_ok_resolve hv) (clean_of_cleanName hk'), validate_mkp _ hk'⟩

/-- **WrapFS over the reference is the identity** on every operation whose path arguments are valid
(outside the `copydir` class-order exception) -/
theorem wrap_id_exact (es : Ents) (hwf : entsWf es = true) (op : Op) (hop : op ≠ .close)
    (hval : ∀ p ∈ op.paths, ∃ cs, validate p = .ok cs) (hx2 : ¬ excCopydir es op) :
    Wrap.stepOpen Wrap.idDelegate Ref.step (V es) op = Ref.step (V es) op := by
  rw [(wrap_exact (s := V es) (sub := []) rfl rfl prefixes_id (fun _ h => nomatch h) hwf op hop hval).resolve_right fun h => hx2 h.1]
  exact graft_nil _ _ (QueryLemmas.step_closed_same _ _ hop)

end WrapId

end Fs.WrapLemmas
