/-
  Helper lemmas for FsProofs/C14.lean: the flat regex matcher as "∃ split" statements, what the
  items of a token list match (the token view of `wildcard._translate` / `glob._translate` itself
  is `Lemmas/PatTokens.lean`), and the component-wise reading of a rendered path.  The three lemmas on
  `Glob.splitSS` at the top are declared into `Fs.RegexParseLemmas`, the namespace of the parser round trip; they
  stand here because `comp_rel` below needs `splitSS_noSS` for the printer as well as for the parser.
-/
import FsProofs.Lemmas.PatTokens
import FsProofs.Lemmas.PathLemmas

namespace Fs.RegexParseLemmas
open Fs

/-! the pieces of `component.split("**")` contain no `**` -/

theorem hasSS_cons (x y : Char) (r : Str) (h : ¬ (x = '*' ∧ y = '*')) :
    Glob.hasSS (x :: y :: r) = Glob.hasSS (y :: r) := by
  rw [Glob.hasSS]
  intro r' hx hy
  simp at hy; exact h ⟨hx, hy.1⟩

theorem splitSS_head (r : Str) : ∃ h t, Glob.splitSS r = h :: t ∧ (h = [] ∨ h.head? = r.head?) := by
  fun_induction Glob.splitSS r with
  | case1 => exact ⟨[], [], rfl, .inl rfl⟩
  | case2 r ih => exact ⟨[], _, rfl, .inl rfl⟩
  | case3 c r hne h t hs ih => exact ⟨c :: h, t, rfl, .inr rfl⟩
  | case4 c r hne hs ih => exact ⟨[c], [], rfl, .inr rfl⟩

theorem splitSS_noSS (c : Str) : ∀ p ∈ Glob.splitSS c, Glob.hasSS p = false := by
  fun_induction Glob.splitSS c with
  | case1 => intro p hp; simp at hp; subst hp; rfl
  | case2 r ih =>
    intro p hp
    rcases List.mem_cons.1 hp with rfl | hp
    · rfl
    · exact ih p hp
  | case3 c r hne h t hs ih =>
    intro p hp
    rcases List.mem_cons.1 hp with rfl | hp
    · -- `c` in front of the first piece of `r`: that piece is empty or starts like `r`, and `c :: r` does not start with `**`
      have hh := ih h (hs ▸ List.mem_cons_self)
      obtain ⟨h', t', hs', hd⟩ := splitSS_head r
      rw [hs] at hs'; cases hs'
      cases h with
      | nil => simp [Glob.hasSS]
      | cons z h' =>
        rw [hasSS_cons c z h' fun ⟨hc, hz⟩ => ?_]
        · exact hh
        · rcases hd with hd | hd
          · cases hd
          · cases r with
            | nil => simp at hd
            | cons y r' => simp at hd; subst hd; exact hne r' hc (by rw [hz])
    · exact ih p (hs ▸ List.mem_cons_of_mem _ hp)
  | case4 c r hne hs ih => intro p hp; simp at hp; subst hp; simp [Glob.hasSS]

end Fs.RegexParseLemmas

namespace Fs.GlobLemmas
open Fs Fs.Regex Fs.Path Fs.WildSpec Fs.GlobSpec Fs.PathLemmas Fs.PathSpec Fs.PatTokens

/-! ### the matcher -/

theorem starLoop_congr (ok : Char → Bool) (k k' : Option Char → Str → Bool)
    (h : ∀ p q s, k p s = k' q s) : ∀ p q s, starLoop ok k p s = starLoop ok k' q s := by
  intro p q s
  induction s generalizing p q with
  | nil => simp [starLoop, h p q]
  | cons c cs ih => simp [starLoop, h p q, ih (some c) (some c)]

theorem matchG_congr (ok : Atom → Char → Bool) (body : List GItem) (k k' : Option Char → Str → Bool)
    (h : ∀ p q s, k p s = k' q s) : ∀ p q s, matchG ok body k p s = matchG ok body k' q s := by
  induction body with
  | nil => intro p q s; simp [matchG, h p q]
  | cons g r ih =>
    intro p q s
    cases g with
    | one a =>
      cases s with
      | nil => simp [matchG]
      | cons c cs => simp only [matchG]; rw [ih (some c) (some c) cs]
    | plus a =>
      cases s with
      | nil => simp [matchG]
      | cons c cs => simp only [matchG]; rw [starLoop_congr _ _ _ ih (some c) (some c) cs]

theorem groupLoop_congr (ok : Atom → Char → Bool) (body : List GItem) (k k' : Option Char → Str → Bool)
    (h : ∀ p q s, k p s = k' q s) : ∀ fuel p q s, groupLoop ok body k fuel p s = groupLoop ok body k' fuel q s := by
  intro fuel
  induction fuel with
  | zero => intro p q s; simp [groupLoop, h p q]
  | succ n ih =>
    intro p q s
    simp only [groupLoop]
    rw [h p q s]
    congr 1
    apply matchG_congr
    intro p' q' s'
    rw [ih p' q' s']

/-- the continuation `groupLoop` hands to the body of the group does not look at the previous character either -/
theorem groupRound_prev (ok : Atom → Char → Bool) (body : List GItem) (k : Option Char → Str → Bool)
    (hk : ∀ p q s, k p s = k q s) (fuel len : Nat) (p q : Option Char) (s' : Str) :
    (fun p (s' : Str) => decide (s'.length < len) && groupLoop ok body k fuel p s') p s' =
      (fun p s' => decide (s'.length < len) && groupLoop ok body k fuel p s') q s' := by
  simp only
  rw [groupLoop_congr ok body k k hk fuel p q s']

/-- items other than `^` never look at the previous character -/
theorem matchItems_prev (f : Flags) (items : List Item) (h : Item.bol ∉ items) :
    ∀ p q s, matchItems f items p s = matchItems f items q s := by
  induction items with
  | nil => intro p q s; simp [matchItems]
  | cons it r ih =>
    have hr : Item.bol ∉ r := fun hm => h (List.mem_cons_of_mem _ hm)
    have ih' := ih hr
    intro p q s
    cases it with
    | one a => cases s <;> simp [matchItems]
    | star a l => simp only [matchItems]; exact starLoop_congr _ _ _ ih' p q s
    | plus a l => cases s <;> simp [matchItems]
    | opt a l => cases s <;> simp [matchItems, ih' p q]
    | bol => exact absurd (List.mem_cons_self) h
    | eol => simp [matchItems, ih' p q]
    | endZ => simp [matchItems, ih' p q]
    | notAhead a => cases s <;> simp [matchItems, ih' p q]
    | starGroup body => simp only [matchItems]; exact groupLoop_congr _ _ _ _ ih' _ p q s

/-- a search that may stop (`k`) at every suffix it reaches, and steps over `c` only if `g c` -/
theorem guarded_search_iff {α} (g : α → Bool) (run k : List α → Bool) (h0 : run [] = k [])
    (hc : ∀ c cs, run (c :: cs) = (k (c :: cs) || (g c && run cs))) (s : List α) :
    run s = true ↔ ∃ u t, s = u ++ t ∧ (∀ c ∈ u, g c = true) ∧ k t = true := by
  induction s with
  | nil =>
    rw [h0]
    constructor
    · intro h; exact ⟨[], [], rfl, by simp, h⟩
    · rintro ⟨u, t, hs, _, hkt⟩
      have : u = [] ∧ t = [] := by simpa using hs.symm
      rw [this.2] at hkt; exact hkt
  | cons c cs ih =>
    rw [hc, Bool.or_eq_true, Bool.and_eq_true]
    constructor
    · rintro (h | ⟨hg, h⟩)
      · exact ⟨[], c :: cs, rfl, by simp, h⟩
      · obtain ⟨u, t, hs, hu, hkt⟩ := ih.1 h
        refine ⟨c :: u, t, by rw [hs]; rfl, ?_, hkt⟩
        intro x hx
        rcases List.mem_cons.1 hx with rfl | hx
        · exact hg
        · exact hu x hx
    · rintro ⟨u, t, hs, hu, hkt⟩
      cases u with
      | nil => left; simp only [List.nil_append] at hs; rw [hs]; exact hkt
      | cons x u =>
        simp only [List.cons_append, List.cons.injEq] at hs
        obtain ⟨rfl, rfl⟩ := hs
        right
        exact ⟨hu _ List.mem_cons_self,
          ih.2 ⟨u, t, rfl, fun y hy => hu y (List.mem_cons_of_mem _ hy), hkt⟩⟩

theorem starLoop_iff (ok : Char → Bool) (k : Option Char → Str → Bool)
    (hk : ∀ p q s, k p s = k q s) (prev : Option Char) (s : Str) :
    starLoop ok k prev s = true ↔
      ∃ u t, s = u ++ t ∧ (∀ c ∈ u, ok c = true) ∧ k none t = true := by
  rw [starLoop_congr ok k k hk prev none]
  exact guarded_search_iff ok (starLoop ok k none) (k none) rfl
    (fun c cs => by simp only [starLoop]; rw [starLoop_congr ok k k hk (some c) none]) s

theorem suffix_search_iff {α} (run : List α → Bool) (k : List α → Bool) (h0 : run [] = k [])
    (hc : ∀ c cs, run (c :: cs) = (k (c :: cs) || run cs)) (s : List α) :
    run s = true ↔ ∃ u t, s = u ++ t ∧ k t = true :=
  (guarded_search_iff (fun _ => true) run k h0 (fun c cs => by rw [hc, Bool.true_and]) s).trans
    ⟨fun ⟨u, t, e, _, h⟩ => ⟨u, t, e, h⟩, fun ⟨u, t, e, h⟩ => ⟨u, t, e, fun _ _ => rfl, h⟩⟩

theorem starRun_iff (k : Str → Bool) (s : Str) :
    starRun k s = true ↔ ∃ u t, s = u ++ t ∧ k t = true :=
  suffix_search_iff (starRun k) k rfl (fun _ _ => rfl) s

theorem ssRun_iff (k : List Str → Bool) (ns : List Str) :
    GlobSpec.ssRun k ns = true ↔ ∃ u t, ns = u ++ t ∧ k t = true :=
  suffix_search_iff (GlobSpec.ssRun k) k rfl (fun _ _ => rfl) ns

/-! ### characters -/

/-- a case mapping that moves the letters `lo..hi` only, none of them onto `/`, and `/` is no such letter -/
theorem caseMap_eq_slash (lo hi : Char) (g : Nat → Nat) (c : Char)
    (hg : ∀ n, n < hi.toNat + 1 → lo.toNat ≤ n → Char.ofNat (g n) ≠ '/') (hs : ¬ (lo ≤ '/' ∧ '/' ≤ hi)) :
    (if lo ≤ c ∧ c ≤ hi then Char.ofNat (g c.toNat) else c) = '/' ↔ c = '/' := by
  split
  · rename_i h
    exact ⟨fun e => absurd e (hg c.toNat (Nat.lt_succ_of_le h.2) h.1), fun e => absurd (e ▸ h) hs⟩
  · rfl

theorem lower_eq_slash (c : Char) : lower c = '/' ↔ c = '/' :=
  caseMap_eq_slash 'A' 'Z' (· + 32) c (by decide) (by decide)

theorem upper_eq_slash (c : Char) : upper c = '/' ↔ c = '/' :=
  caseMap_eq_slash 'a' 'z' (· - 32) c (by decide) (by decide)

/-- the flags of the regex `wildcard.match` / `imatch` compile: `(?ms)` plus IGNORECASE on request -/
def flagsOf (cs : Bool) : Flags := { dotall := true, multiline := true, ic := !cs }

theorem flags_ms (cs : Bool) (items : List Item) :
    ({ inline := ['m', 's'], ic := !cs, items := items } : Regex).flags = flagsOf cs := by
  cases cs <;> rfl

theorem setHas_nil (c : Char) : setHas [] c = false := rfl
theorem setHas_cons (x : SetItem) (l : List SetItem) (c : Char) :
    setHas (x :: l) c = (x.has c || setHas l c) := by simp [setHas]

theorem notSlash_ok (cs : Bool) (c : Char) : Wild.notSlash.ok (flagsOf cs) c = (c != '/') := by
  have hl := lower_eq_slash c
  have hu := upper_eq_slash c
  by_cases hc : c = '/'
  · subst hc; cases cs <;> decide
  · have h1 : lower c ≠ '/' := fun e => hc (hl.1 e)
    have h2 : upper c ≠ '/' := fun e => hc (hu.1 e)
    have e1 : ('/' == lower c) = false := beq_eq_false_iff_ne.2 (Ne.symm h1)
    have e2 : ('/' == upper c) = false := beq_eq_false_iff_ne.2 (Ne.symm h2)
    have e3 : ('/' == c) = false := beq_eq_false_iff_ne.2 (Ne.symm hc)
    have e4 : (c != '/') = true := by simp [hc]
    cases cs <;>
      simp [Wild.notSlash, Atom.ok, flagsOf, setHas_cons, setHas_nil, SetItem.has, e1, e2, e3, e4]

/-! ### bracket expressions -/

theorem rawItems_has (body : Str) (first : Bool) :
    ∀ l, Wild.rawItems body first = .ok l → ∀ c, setHas l c = inBody body c := by
  fun_induction Wild.rawItems body first with
  | case1 first => intro l h c; cases h; simp [setHas, inBody]
  | case2 a b rest first hlt => intro l h; cases h
  | case3 a b rest first hlt l' hl ih =>
    intro l h c
    cases h
    rw [setHas_cons, ih l' hl c]
    simp only [inBody, SetItem.has, Wild.rawChar]
    rfl
  | case4 a b rest first hlt e he ih => intro l h; cases h
  | case5 a rest first hne l' hl ih =>
    intro l h c
    cases h
    rw [setHas_cons, ih l' hl c]
    rw [inBody]
    · simp [SetItem.has, Wild.rawChar]
    · exact hne
  | case6 a rest first hne e he ih => intro l h; cases h

theorem mapM'_cons_ok {α β} {f : α → TR β} {a : α} {as : List α} {l : List β}
    (h : Glob.mapM' f (a :: as) = .ok l) : ∃ b bs, f a = .ok b ∧ Glob.mapM' f as = .ok bs ∧ l = b :: bs := by
  rw [mapM'_cons] at h
  cases hb : f a with
  | err e => rw [hb] at h; cases h
  | ok b => rw [hb] at h; obtain ⟨bs, hbs, rfl⟩ := TR.map_ok h; exact ⟨b, bs, rfl, hbs, rfl⟩

theorem wild_tok_ok (cs : Bool) (t : Tok) (ht : t ≠ .star) (it : Item) (h : wildItem t = .ok it) :
    ∃ a, it = .one a ∧ ∀ c, a.ok (flagsOf cs) c = tokOk cs t c := by
  cases t with
  | star => exact absurd rfl ht
  | any => cases h; exact ⟨_, rfl, fun c => by simp [Atom.ok, flagsOf, tokOk]⟩
  | lit x =>
    cases h
    refine ⟨_, rfl, fun c => ?_⟩
    cases cs <;> simp [Atom.ok, flagsOf, tokOk, fold, LChar.lit]
  | cls neg body =>
    obtain ⟨l, hr, rfl⟩ := TR.map_ok h
    refine ⟨_, rfl, fun c => ?_⟩
    have hh := rawItems_has body (!neg) l hr
    cases cs <;> simp [Atom.ok, flagsOf, tokOk, inBodyCI, hh]

theorem tokMatch_cons (cs : Bool) (t : Tok) (toks : List Tok) (ht : t ≠ .star) (s : Str) :
    tokMatch cs (t :: toks) s =
      (match s with
       | c :: s' => tokOk cs t c && tokMatch cs toks s'
       | [] => false) := by
  cases t with
  | star => exact absurd rfl ht
  | any => rfl
  | cls neg body => rfl
  | lit x => rfl

theorem starLoop_eq_starRun (ok : Char → Bool) (k : Option Char → Str → Bool) (k' : Str → Bool)
    (s : Str) (hok : ∀ c ∈ s, ok c = true)
    (hk : ∀ p t, (∀ c ∈ t, c ∈ s) → k p t = k' t) :
    ∀ prev, starLoop ok k prev s = starRun k' s := by
  induction s with
  | nil => intro prev; simp [starLoop, starRun, hk]
  | cons c cs ih =>
    intro prev
    simp only [starLoop, starRun]
    rw [hk prev (c :: cs) (fun _ h => h), hok c List.mem_cons_self, Bool.true_and]
    rw [ih (fun x hx => hok x (List.mem_cons_of_mem _ hx))
      (fun p t ht => hk p t (fun x hx => List.mem_cons_of_mem _ (ht x hx)))]

theorem wild_tokens_match (cs : Bool) (toks : List Tok) :
    ∀ items, seqItems false toks = .ok items → ∀ prev s, '/' ∉ s →
      matchItems (flagsOf cs) (items ++ [.endZ]) prev s = tokMatch cs toks s := by
  induction toks with
  | nil =>
    intro items h prev s _
    cases h
    simp [matchItems, tokMatch]
  | cons t toks ih =>
    intro items h prev s hs
    obtain ⟨it, items', hit, hr, rfl⟩ := seqRes_ok h
    by_cases ht : t = .star
    · subst ht
      cases hit
      simp only [List.cons_append, List.nil_append, matchItems, tokMatch]
      apply starLoop_eq_starRun
      · intro c hc
        rw [notSlash_ok]
        have : c ≠ '/' := fun e => hs (e ▸ hc)
        simp [this]
      · intro p t ht
        exact ih items' hr p t (fun hm => hs (ht _ hm))
    · rw [tokItems_wild] at hit
      obtain ⟨i, hw, rfl⟩ := TR.map_ok hit
      obtain ⟨a, rfl, hok⟩ := wild_tok_ok cs t ht i hw
      rw [tokMatch_cons cs t toks ht]
      cases s with
      | nil => rfl
      | cons c s' =>
        have hs' : '/' ∉ s' := fun hm => hs (List.mem_cons_of_mem _ hm)
        simp only [List.cons_append, List.nil_append, matchItems]
        rw [hok c, ih items' hr (some c) s' hs']

/-- the flags of the regex `_translate_glob` builds: `(?s)` plus IGNORECASE on request -/
def flagsG (cs : Bool) : Flags := { dotall := true, multiline := false, ic := !cs }

theorem flags_s (cs : Bool) (items : List Item) :
    ({ inline := ['s'], ic := !cs, items := items } : Regex).flags = flagsG cs := by
  cases cs <;> rfl

/-- single-character tests do not depend on MULTILINE -/
theorem atom_ok_flagsG (cs : Bool) (a : Atom) (c : Char) : a.ok (flagsG cs) c = a.ok (flagsOf cs) c := by
  cases a <;> rfl

theorem lower_slash : lower '/' = '/' := (lower_eq_slash '/').2 rfl
theorem upper_slash : upper '/' = '/' := (upper_eq_slash '/').2 rfl

theorem slash_ok (cs : Bool) (c : Char) : Glob.slash.ok (flagsG cs) c = true ↔ c = '/' := by
  cases cs
  · simp only [Glob.slash, Atom.ok, flagsG, Bool.not_false, if_true, lower_slash, beq_iff_eq]
    constructor
    · intro h; exact (lower_eq_slash c).1 h.symm
    · intro h; subst h; exact lower_slash.symm
  · simp only [Glob.slash, Atom.ok, flagsG, Bool.not_true, Bool.false_eq_true, if_false, beq_iff_eq]
    exact eq_comm

theorem slash_ok_b (cs : Bool) (c : Char) : Glob.slash.ok (flagsG cs) c = (c == '/') :=
  Bool.eq_iff_iff.2 ((slash_ok cs c).trans beq_iff_eq.symm)

theorem notSlash_okG (cs : Bool) (c : Char) : Wild.notSlash.ok (flagsG cs) c = (c != '/') := by
  rw [atom_ok_flagsG, notSlash_ok]

/-- what the items of one token (other than `*`) do: consume one character that is not the
separator and that the token accepts -/
theorem globItem_step (cs : Bool) (t : Tok) (ht : t ≠ .star) (hlit : ∀ x, t = .lit x → x ≠ '/')
    (its : List Item) (h : globItem t = .ok its) (R : List Item) (prev : Option Char) (s : Str) :
    matchItems (flagsG cs) (its ++ R) prev s =
      (match s with
       | c :: s' => (c != '/' && tokOk cs t c) && matchItems (flagsG cs) R (some c) s'
       | [] => false) := by
  cases t with
  | star => exact absurd rfl ht
  | any =>
    cases h
    cases s with
    | nil => simp [matchItems]
    | cons c s' => simp [matchItems, notSlash_okG, tokOk]
  | lit x =>
    cases h
    have hx := hlit x rfl
    cases s with
    | nil => simp [matchItems]
    | cons c s' =>
      simp only [List.cons_append, List.nil_append, matchItems]
      congr 1
      by_cases hc : c = '/'
      · subst hc
        have h1 : lower x ≠ '/' := fun e => hx ((lower_eq_slash x).1 e)
        cases cs <;> simp [Atom.ok, flagsG, tokOk, fold, LChar.lit, lower_slash, hx, h1]
      · cases cs <;> simp [Atom.ok, flagsG, tokOk, fold, LChar.lit, hc]
  | cls neg body =>
    obtain ⟨l, hr, rfl⟩ := TR.map_ok h
    have hw : wildItem (.cls neg body) = .ok (.one (.set neg l)) := by simp [wildItem, hr, TR.map]
    obtain ⟨a, ha, hok⟩ := wild_tok_ok cs (.cls neg body) (by simp) _ hw
    cases ha
    cases s with
    | nil => simp [matchItems]
    | cons c s' =>
      simp only [List.cons_append, List.nil_append, matchItems]
      rw [slash_ok_b, atom_ok_flagsG, hok c]
      simp only [bne, Bool.and_assoc]

theorem globItem_no_bol (t : Tok) (its : List Item) (h : globItem t = .ok its) : Item.bol ∉ its := by
  cases t with
  | star => cases h; simp
  | any => cases h; simp
  | lit x => cases h; simp
  | cls neg body => obtain ⟨l, _, rfl⟩ := TR.map_ok h; simp

def Consumes (f : Flags) (X : List Item) (L : Str → Prop) : Prop :=
  Item.bol ∉ X ∧ ∀ K, Item.bol ∉ K → ∀ prev s,
    (matchItems f (X ++ K) prev s = true ↔
      ∃ n rest, s = n ++ rest ∧ L n ∧ matchItems f K none rest = true)

theorem Consumes.nil (f : Flags) : Consumes f [] (· = []) := by
  refine ⟨by simp, fun K hK prev s => ?_⟩
  rw [List.nil_append, matchItems_prev f K hK prev none]
  constructor
  · intro h; exact ⟨[], s, rfl, rfl, h⟩
  · rintro ⟨n, rest, rfl, rfl, h⟩; exact h

theorem Consumes.append {f : Flags} {X Y : List Item} {L M : Str → Prop}
    (hX : Consumes f X L) (hY : Consumes f Y M) :
    Consumes f (X ++ Y) (fun n => ∃ a b, n = a ++ b ∧ L a ∧ M b) := by
  refine ⟨fun h => (List.mem_append.1 h).elim hX.1 hY.1, fun K hK prev s => ?_⟩
  have hYK : Item.bol ∉ Y ++ K := fun h => (List.mem_append.1 h).elim hY.1 hK
  rw [List.append_assoc, hX.2 _ hYK]
  constructor
  · rintro ⟨a, r, rfl, hL, hm⟩
    obtain ⟨b, rest, rfl, hM, hk⟩ := (hY.2 K hK none r).1 hm
    exact ⟨a ++ b, rest, by simp, ⟨a, b, rfl, hL, hM⟩, hk⟩
  · rintro ⟨n, rest, rfl, ⟨a, b, rfl, hL, hM⟩, hk⟩
    exact ⟨a, b ++ rest, by simp, hL, (hY.2 K hK none _).2 ⟨b, rest, rfl, hM, hk⟩⟩

theorem Consumes.mono {f : Flags} {X : List Item} {L M : Str → Prop}
    (h : Consumes f X L) (hLM : ∀ n, L n ↔ M n) : Consumes f X M := by
  have : L = M := funext fun n => propext (hLM n)
  exact this ▸ h

theorem consumes_star (f : Flags) (a : Atom) (l : Bool) :
    Consumes f [.star a l] (fun u => ∀ c ∈ u, a.ok f c = true) :=
  ⟨by simp, fun K hK prev s => starLoop_iff _ _ (matchItems_prev f K hK) prev s⟩

/-- a block that tests one character (the shape of `globItem_step`) -/
theorem consumes_char (f : Flags) (X : List Item) (g : Char → Bool) (hX : Item.bol ∉ X)
    (h : ∀ R prev s, matchItems f (X ++ R) prev s =
      (match s with
       | c :: s' => g c && matchItems f R (some c) s'
       | [] => false)) :
    Consumes f X (fun n => ∃ c, n = [c] ∧ g c = true) := by
  refine ⟨hX, fun K hK prev s => ?_⟩
  rw [h]
  cases s with
  | nil =>
    refine ⟨fun h => (by cases h), ?_⟩
    rintro ⟨n, rest, e, ⟨c, rfl, _⟩, _⟩; cases e
  | cons c s' =>
    simp only [Bool.and_eq_true]
    rw [matchItems_prev f K hK (some c) none]
    constructor
    · rintro ⟨hc, hm⟩; exact ⟨[c], s', rfl, ⟨c, rfl, hc⟩, hm⟩
    · rintro ⟨n, rest, e, ⟨c', rfl, hc⟩, hm⟩; cases e; exact ⟨hc, hm⟩

/-! ### one component: a separator-free name that the tokens match in full -/

theorem seg_consumes (cs : Bool) (toks : List Tok) (hlit : ∀ x, Tok.lit x ∈ toks → x ≠ '/') :
    ∀ l, Glob.mapM' globItem toks = .ok l →
      Consumes (flagsG cs) l.flatten (fun n => '/' ∉ n ∧ tokMatch cs toks n = true) := by
  induction toks with
  | nil =>
    intro l h; cases h
    refine (Consumes.nil _).mono fun n => ⟨fun e => e ▸ ⟨by simp, rfl⟩, fun h => ?_⟩
    simpa [tokMatch] using h.2
  | cons t toks ih =>
    intro l h
    obtain ⟨its, l', hit, hr, rfl⟩ := mapM'_cons_ok h
    have ih' := ih (fun x hx => hlit x (List.mem_cons_of_mem _ hx)) l' hr
    rw [List.flatten_cons]
    by_cases ht : t = .star
    · subst ht; cases hit
      refine ((consumes_star _ _ _).append ih').mono fun n => ?_
      simp only [tokMatch, starRun_iff, notSlash_okG, bne_iff_ne, ne_eq]
      constructor
      · rintro ⟨u, b, rfl, hu, hb, hm⟩
        exact ⟨List.not_mem_append (fun h => hu _ h rfl) hb, u, b, rfl, hm⟩
      · rintro ⟨hn, u, b, rfl, hm⟩
        exact ⟨u, b, rfl, fun c hc e => hn (e ▸ List.mem_append_left _ hc),
          fun h => hn (List.mem_append_right _ h), hm⟩
    · have hstep := globItem_step cs t ht (fun x hx => hlit x (hx ▸ List.mem_cons_self)) its hit
      refine ((consumes_char _ its _ (globItem_no_bol t its hit) hstep).append ih').mono fun n => ?_
      rw [tokMatch_cons cs t toks ht]
      simp only [Bool.and_eq_true, bne_iff_ne, ne_eq]
      constructor
      · rintro ⟨a, b, rfl, ⟨c, rfl, hc, hok⟩, hb, hm⟩
        refine ⟨?_, by
          show (tokOk cs t c && tokMatch cs toks b) = true
          rw [hok, hm]; rfl⟩
        intro hmem
        rcases List.mem_cons.1 hmem with e | hmem
        · exact hc e.symm
        · exact hb hmem
      · rintro ⟨hn, hm⟩
        cases n with
        | nil => cases hm
        | cons c n' =>
          rw [Bool.and_eq_true] at hm
          exact ⟨[c], n', rfl, ⟨c, rfl, fun e => hn (e ▸ List.mem_cons_self), hm.1⟩,
            fun h => hn (List.mem_cons_of_mem _ h), hm.2⟩

/-- the items of one component followed by `K` match `s` exactly when `s` splits into a
separator-free name that the component's tokens match in full, and a rest that `K` matches -/
theorem seg_split (cs : Bool) (toks : List Tok) (hlit : ∀ x, Tok.lit x ∈ toks → x ≠ '/') :
    ∀ l, Glob.mapM' globItem toks = .ok l → ∀ (K : List Item), Item.bol ∉ K →
    ∀ prev s, matchItems (flagsG cs) (l.flatten ++ K) prev s = true ↔
      ∃ n rest, s = n ++ rest ∧ '/' ∉ n ∧ tokMatch cs toks n = true ∧
        matchItems (flagsG cs) K none rest = true := by
  intro l h K hK prev s
  simpa only [and_assoc] using (seg_consumes cs toks hlit l h).2 K hK prev s

/-! ### rendered paths -/

theorem render_nil (d : Bool) : render [] d = if d then ['/'] else [] := by simp [render]

theorem render_cons (n : Str) (ns : List Str) (d : Bool) :
    render (n :: ns) d = '/' :: (n ++ render ns d) := by simp [render]

theorem render_append (us ts : List Str) (d : Bool) :
    render (us ++ ts) d = render us false ++ render ts d := by
  induction us with
  | nil => simp [render]
  | cons u us ih => rw [List.cons_append, render_cons, render_cons, ih]; simp

/-! ### the pieces of `_translate_glob` -/

/-- the items appended for one component of the pattern -/
def pcItems : PComp → TR (List Item)
  | .starstar => .ok [.starGroup Glob.levelGroup]
  | .seg toks => (Glob.mapM' globItem toks).map fun l => Item.one Glob.slash :: l.flatten

def tailItems (ends : Bool) : List Item :=
  if ends then [.one Glob.slash, .endZ] else [Glob.optSlash, .endZ]

theorem tail_no_bol (ends : Bool) : Item.bol ∉ tailItems ends := by
  cases ends <;> simp [tailItems, Glob.optSlash]

/-! ### `(?:/[^/]+)*` -/

/-- one round of the group: `/`, then a non-empty separator-free run -/
theorem level_iter (cs : Bool) (k : Option Char → Str → Bool) (hk : ∀ p q s, k p s = k q s)
    (prev : Option Char) (s : Str) :
    matchG (fun a => a.ok (flagsG cs)) Glob.levelGroup k prev s = true ↔
      ∃ m t, s = '/' :: (m ++ t) ∧ m ≠ [] ∧ '/' ∉ m ∧ k none t = true := by
  simp only [Glob.levelGroup, matchG]
  cases s with
  | nil => simp
  | cons c s1 =>
    cases s1 with
    | nil =>
      simp only [Bool.and_false, Bool.false_eq_true, false_iff]
      rintro ⟨m, t, hs, hm, _, _⟩
      simp only [List.cons.injEq] at hs
      have := congrArg List.length hs.2
      cases m with
      | nil => exact hm rfl
      | cons x m => simp at this
    | cons c2 s2 =>
      simp only [Bool.and_eq_true]
      rw [starLoop_iff _ _ hk]
      constructor
      · rintro ⟨hc, hc2, u, t, hs, hu, hkt⟩
        have e1 := (slash_ok cs c).1 hc
        subst e1
        refine ⟨c2 :: u, t, by rw [hs]; rfl, by simp, ?_, hkt⟩
        intro hmem
        rcases List.mem_cons.1 hmem with e | hmem
        · rw [← e, notSlash_okG] at hc2; simp at hc2
        · have := hu _ hmem; rw [notSlash_okG] at this; simp at this
      · rintro ⟨m, t, hs, hm, hnm, hkt⟩
        simp only [List.cons.injEq] at hs
        obtain ⟨rfl, hs⟩ := hs
        cases m with
        | nil => exact absurd rfl hm
        | cons x m =>
          simp only [List.cons_append, List.cons.injEq] at hs
          obtain ⟨rfl, rfl⟩ := hs
          refine ⟨(slash_ok cs '/').2 rfl, ?_, m, t, rfl, ?_, hkt⟩
          · rw [notSlash_okG]
            have : c2 ≠ '/' := fun e => hnm (e ▸ List.mem_cons_self)
            simp [this]
          · intro y hy
            rw [notSlash_okG]
            have : y ≠ '/' := fun e => hnm (e ▸ List.mem_cons_of_mem _ hy)
            simp [this]

/-- names a starred group iteration can consume -/
def LevelNames (ms : List Str) : Prop := ∀ m ∈ ms, m ≠ [] ∧ '/' ∉ m

theorem levelNames_nil : LevelNames [] := by intro m hm; cases hm

theorem group_sound (cs : Bool) (k : Option Char → Str → Bool) (hk : ∀ p q s, k p s = k q s) :
    ∀ fuel prev s, groupLoop (fun a => a.ok (flagsG cs)) Glob.levelGroup k fuel prev s = true →
      ∃ ms rest, LevelNames ms ∧ s = render ms false ++ rest ∧ k none rest = true := by
  intro fuel
  induction fuel with
  | zero =>
    intro prev s h
    simp only [groupLoop] at h
    exact ⟨[], s, levelNames_nil, by simp [render], by rw [hk none prev]; exact h⟩
  | succ n ih =>
    intro prev s h
    simp only [groupLoop, Bool.or_eq_true] at h
    rcases h with h | h
    · exact ⟨[], s, levelNames_nil, by simp [render], by rw [hk none prev]; exact h⟩
    · obtain ⟨m, t, hs, hm, hnm, hkt⟩ := (level_iter cs _ (groupRound_prev _ _ k hk n _) prev s).1 h
      simp only [Bool.and_eq_true] at hkt
      obtain ⟨ms, rest, hms, ht, hrest⟩ := ih none t hkt.2
      refine ⟨m :: ms, rest, ?_, ?_, hrest⟩
      · intro x hx
        rcases List.mem_cons.1 hx with e | hx
        · subst e; exact ⟨hm, hnm⟩
        · exact hms x hx
      · rw [hs, ht, render_cons]; simp

theorem group_complete (cs : Bool) (k : Option Char → Str → Bool) (hk : ∀ p q s, k p s = k q s)
    (ms : List Str) : LevelNames ms → ∀ rest, k none rest = true → ∀ fuel, ms.length ≤ fuel → ∀ prev,
      groupLoop (fun a => a.ok (flagsG cs)) Glob.levelGroup k fuel prev (render ms false ++ rest) = true := by
  induction ms with
  | nil =>
    intro _ rest hr fuel _ prev
    simp only [render, List.map_nil, List.flatten_nil, Bool.false_eq_true, if_false, List.append_nil, List.nil_append]
    cases fuel with
    | zero => simp only [groupLoop]; rw [hk prev none]; exact hr
    | succ n => simp only [groupLoop, Bool.or_eq_true]; left; rw [hk prev none]; exact hr
  | cons m ms ih =>
    intro hms rest hr fuel hf prev
    cases fuel with
    | zero => simp at hf
    | succ n =>
      have hm := hms m List.mem_cons_self
      have hms' : LevelNames ms := fun x hx => hms x (List.mem_cons_of_mem _ hx)
      simp only [groupLoop, Bool.or_eq_true]
      right
      apply (level_iter cs _ (groupRound_prev _ _ k hk n _) prev _).2
      refine ⟨m, render ms false ++ rest, by rw [render_cons]; simp, hm.1, hm.2, ?_⟩
      simp only [Bool.and_eq_true, decide_eq_true_eq]
      refine ⟨?_, ih hms' rest hr n (by simp at hf; omega) none⟩
      rw [render_cons]; simp; omega

/-- literal tokens of the pattern's components are never the separator -/
def LitOk (ps : List PComp) : Prop := ∀ toks, PComp.seg toks ∈ ps → ∀ x, Tok.lit x ∈ toks → x ≠ '/'

def Renders (P : List Str → Prop) (n : Str) : Prop := ∃ ms, P ms ∧ n = render ms false

/-- the names one component of the pattern can stand for -/
def PcNames (cs : Bool) : PComp → List Str → Prop
  | .starstar, ms => LevelNames ms
  | .seg toks, ms => ∃ n, ms = [n] ∧ '/' ∉ n ∧ tokMatch cs toks n = true

def PcsNames (cs : Bool) : List PComp → List Str → Prop
  | [], ms => ms = []
  | p :: ps, ms => ∃ a b, ms = a ++ b ∧ PcNames cs p a ∧ PcsNames cs ps b

theorem length_le_render (l : List Str) : l.length ≤ (render l false).length := by
  induction l with
  | nil => simp
  | cons a l ih => rw [render_cons]; simp; omega

theorem group_consumes (cs : Bool) :
    Consumes (flagsG cs) [.starGroup Glob.levelGroup] (Renders LevelNames) := by
  refine ⟨by simp, fun K hK prev s => ?_⟩
  have hk := matchItems_prev (flagsG cs) K hK
  simp only [List.cons_append, List.nil_append, matchItems]
  constructor
  · intro h
    obtain ⟨ms, rest, hms, hs, hr⟩ := group_sound cs _ hk _ _ _ h
    exact ⟨_, rest, hs, ⟨ms, hms, rfl⟩, hr⟩
  · rintro ⟨n, rest, rfl, ⟨ms, hms, rfl⟩, hr⟩
    exact group_complete cs _ hk ms hms rest hr _
      (by have := length_le_render ms; simp; omega) prev

theorem pc_consumes (cs : Bool) (p : PComp)
    (hlit : ∀ toks, p = .seg toks → ∀ x, Tok.lit x ∈ toks → x ≠ '/')
    (its : List Item) (h : pcItems p = .ok its) :
    Consumes (flagsG cs) its (Renders (PcNames cs p)) := by
  cases p with
  | starstar => cases h; exact group_consumes cs
  | seg toks =>
    obtain ⟨l, hl, rfl⟩ := TR.map_ok h
    have h1 : Consumes (flagsG cs) [Item.one Glob.slash] (fun n => ∃ c, n = [c] ∧ (c == '/') = true) :=
      consumes_char _ _ _ (by simp) (fun R prev s => by cases s <;> simp [matchItems, slash_ok_b])
    refine (h1.append (seg_consumes cs toks (hlit toks rfl) l hl)).mono fun n => ?_
    simp only [Renders, PcNames, beq_iff_eq]
    constructor
    · rintro ⟨a, b, rfl, ⟨c, rfl, rfl⟩, hb, hm⟩
      exact ⟨[b], ⟨b, rfl, hb, hm⟩, by simp [render]⟩
    · rintro ⟨ms, ⟨b, rfl, hb, hm⟩, rfl⟩
      exact ⟨['/'], b, by simp [render], ⟨'/', rfl, rfl⟩, hb, hm⟩

theorem pieces_consumes (cs : Bool) (ps : List PComp) (hlit : LitOk ps) :
    ∀ pieces, Glob.mapM' pcItems ps = .ok pieces →
      Consumes (flagsG cs) pieces.flatten (Renders (PcsNames cs ps)) := by
  induction ps with
  | nil =>
    intro pieces h; cases h
    refine (Consumes.nil _).mono fun n => ⟨fun e => ⟨[], rfl, by simpa [render] using e⟩, ?_⟩
    rintro ⟨ms, rfl, e⟩; simpa [render] using e
  | cons p ps ih =>
    intro pieces h
    obtain ⟨its, pieces', hit, hr, rfl⟩ := mapM'_cons_ok h
    rw [List.flatten_cons]
    refine ((pc_consumes cs p (fun toks e => hlit toks (e ▸ List.mem_cons_self)) its hit).append
      (ih (fun toks ht => hlit toks (List.mem_cons_of_mem _ ht)) pieces' hr)).mono fun n => ?_
    simp only [Renders, PcsNames]
    constructor
    · rintro ⟨_, _, rfl, ⟨a, ha, rfl⟩, b, hb, rfl⟩
      exact ⟨a ++ b, ⟨a, b, rfl, ha, hb⟩, (render_append a b false).symm⟩
    · rintro ⟨ms, ⟨a, b, rfl, ha, hb⟩, rfl⟩
      exact ⟨_, _, render_append a b false, ⟨a, ha, rfl⟩, b, hb, rfl⟩

theorem tail_iff (cs ends : Bool) (prev : Option Char) (t : Str) :
    matchItems (flagsG cs) (tailItems ends) prev t = true ↔ t = ['/'] ∨ (ends = false ∧ t = []) := by
  rcases t with _ | ⟨c, t'⟩ <;> cases ends <;>
    simp [tailItems, matchItems, Glob.optSlash, slash_ok_b]

theorem pattern_iff (cs ends : Bool) (ps : List PComp) (hlit : LitOk ps)
    (pieces : List (List Item)) (h : Glob.mapM' pcItems ps = .ok pieces) (prev : Option Char) (s : Str) :
    matchItems (flagsG cs) (pieces.flatten ++ tailItems ends) prev s = true ↔
      ∃ ms, PcsNames cs ps ms ∧ (s = render ms true ∨ (ends = false ∧ s = render ms false)) := by
  rw [(pieces_consumes cs ps hlit pieces h).2 _ (tail_no_bol ends)]
  simp only [tail_iff, Renders]
  constructor
  · rintro ⟨_, t, rfl, ⟨ms, hms, rfl⟩, rfl | ⟨he, rfl⟩⟩
    · exact ⟨ms, hms, Or.inl (by simp [render])⟩
    · exact ⟨ms, hms, Or.inr ⟨he, by simp⟩⟩
  · rintro ⟨ms, hms, rfl | ⟨he, rfl⟩⟩
    · exact ⟨_, ['/'], by simp [render], ⟨ms, hms, rfl⟩, Or.inl rfl⟩
    · exact ⟨_, [], by simp, ⟨ms, hms, rfl⟩, Or.inr ⟨he, rfl⟩⟩

theorem pcsNames_length (cs : Bool) (ps : List PComp) (hseg : ∀ p ∈ ps, p ≠ .starstar) :
    ∀ ms, PcsNames cs ps ms → ms.length = ps.length := by
  induction ps with
  | nil => rintro ms rfl; rfl
  | cons p ps ih =>
    rintro ms ⟨a, b, rfl, ha, hb⟩
    have h1 := ih (fun x hx => hseg x (List.mem_cons_of_mem _ hx)) b hb
    cases p with
    | starstar => exact absurd rfl (hseg _ List.mem_cons_self)
    | seg toks => obtain ⟨n, rfl, _⟩ := ha; simp [h1]

theorem allSS_emptyTail (ps : List PComp) (h : ps.all (· == .starstar) = true) : emptyTail ps = false := by
  induction ps with
  | nil => rfl
  | cons p ps ih =>
    simp only [List.all_cons, Bool.and_eq_true, beq_iff_eq] at h
    obtain ⟨rfl, h⟩ := h
    simp only [emptyTail]; exact ih h

theorem tokMatch_nil (cs : Bool) (toks : List Tok) : tokMatch cs toks [] = toks.all isStar := by
  induction toks with
  | nil => rfl
  | cons t toks ih => cases t <;> simp [tokMatch, starRun, isStar, ih]

/-! ### rendered paths parse in one way only -/

/-- a rendered path splits at `/` into its names -/
theorem splitOn_render (n : Str) (ns : List Str) (hn : '/' ∉ n) (h : ∀ m ∈ ns, '/' ∉ m) :
    splitOn '/' (n ++ render ns false) = n :: ns := by
  induction ns generalizing n with
  | nil => rw [render_nil, if_neg Bool.false_ne_true, List.append_nil, splitOn_of_not_mem '/' n hn]
  | cons m ms ih =>
    rw [render_cons, splitOn_append_sep '/' n _ hn,
      ih m (h m List.mem_cons_self) fun x hx => h x (List.mem_cons_of_mem _ hx)]

theorem render_inj : ∀ (a b : List Str), (∀ m ∈ a, '/' ∉ m) → (∀ m ∈ b, '/' ∉ m) →
    render a false = render b false → a = b := by
  intro a b ha hb e
  have := splitOn_render [] a (by simp) ha
  rw [e, splitOn_render [] b (by simp) hb] at this
  exact (List.cons.inj this).2.symm

theorem render_true (ms : List Str) : render ms true = render (ms ++ [[]]) false := by
  rw [render_append]; simp [render]

theorem pcsNames_slashFree (cs : Bool) (ps : List PComp) :
    ∀ ms, PcsNames cs ps ms → ∀ m ∈ ms, '/' ∉ m := by
  induction ps with
  | nil => rintro ms rfl m hm; cases hm
  | cons p ps ih =>
    rintro ms ⟨a, b, rfl, ha, hb⟩ m hm
    rcases List.mem_append.1 hm with hm | hm
    · cases p with
      | starstar => exact (ha m hm).2
      | seg toks =>
        obtain ⟨n, rfl, hn, _⟩ := ha
        rw [List.mem_singleton] at hm
        exact hm ▸ hn
    · exact ih b hb m hm

theorem pcsNames_iff (cs : Bool) (ps : List PComp) :
    ∀ ns, (∀ n ∈ ns, FsName n) → (PcsNames cs ps ns ↔ compsMatch cs ps ns = true) := by
  induction ps with
  | nil => intro ns _; simp [PcsNames, compsMatch]
  | cons p ps ih =>
    intro ns hns
    cases p with
    | starstar =>
      simp only [PcsNames, PcNames, compsMatch, ssRun_iff]
      constructor
      · rintro ⟨a, b, rfl, _, hb⟩
        exact ⟨a, b, rfl, (ih b (fun n hn => hns n (List.mem_append_right _ hn))).1 hb⟩
      · rintro ⟨a, b, rfl, hb⟩
        exact ⟨a, b, rfl, fun n hn => hns n (List.mem_append_left _ hn),
          (ih b (fun n hn => hns n (List.mem_append_right _ hn))).2 hb⟩
    | seg toks =>
      simp only [PcsNames, PcNames, compsMatch]
      constructor
      · rintro ⟨a, b, rfl, ⟨n, rfl, _, hn⟩, hb⟩
        simp only [List.cons_append, List.nil_append, Bool.and_eq_true]
        exact ⟨hn, (ih b (fun n hn => hns n (List.mem_cons_of_mem _ hn))).1 hb⟩
      · intro h
        cases ns with
        | nil => cases h
        | cons n ns' =>
          simp only [Bool.and_eq_true] at h
          exact ⟨[n], ns', rfl, ⟨n, rfl, (hns n List.mem_cons_self).2, h.1⟩,
            (ih ns' (fun n hn => hns n (List.mem_cons_of_mem _ hn))).2 h.2⟩

theorem pcsNames_nil (cs : Bool) (ps : List PComp) (h : PcsNames cs ps []) :
    ps.all (· == .starstar) = true := by
  induction ps with
  | nil => rfl
  | cons p ps ih =>
    obtain ⟨a, b, e, ha, hb⟩ := h
    obtain ⟨rfl, rfl⟩ : a = [] ∧ b = [] := by simpa using e.symm
    cases p with
    | starstar => simpa using ih hb
    | seg toks => obtain ⟨n, e, _⟩ := ha; cases e

/-- the one way the `/` appended to a directory can be read as an (empty) name -/
theorem pcsNames_snoc_nil (cs : Bool) (ps : List PComp) :
    ∀ ns, PcsNames cs ps (ns ++ [[]]) → emptyTail ps = true := by
  induction ps with
  | nil => intro ns h; simp [PcsNames] at h
  | cons p ps ih =>
    rintro ns ⟨a, b, e, ha, hb⟩
    cases p with
    | starstar =>
      simp only [emptyTail]
      rcases List.append_eq_append_iff.1 e with ⟨z, h1, h2⟩ | ⟨z, h1, h2⟩
      · cases z with
        | nil => rw [List.nil_append] at h2; rw [← h2] at hb; exact ih [] hb
        | cons x z =>
          simp only [List.cons_append, List.cons.injEq] at h2
          exact absurd h2.1.symm (ha x (by rw [h1]; simp)).1
      · rw [h2] at hb; exact ih z hb
    | seg toks =>
      obtain ⟨n, rfl, _, hn⟩ := ha
      cases ns with
      | nil =>
        simp only [List.nil_append, List.cons_append, List.cons.injEq] at e
        obtain ⟨rfl, rfl⟩ := e
        simp only [emptyTail, pcsNames_nil cs ps hb, if_true]
        rw [← tokMatch_nil cs]; exact hn
      | cons n' ns' =>
        simp only [List.nil_append, List.cons_append, List.cons.injEq] at e
        obtain ⟨rfl, rfl⟩ := e
        have := ih ns' hb
        simp only [emptyTail]
        split
        · rename_i hall; rw [allSS_emptyTail ps hall] at this; cases this
        · exact this

/-- the regex of a whole pattern on a rendered path is the documented component-wise `compsMatch` -/
theorem glob_items_match (cs ends d : Bool) (ps : List PComp) :
    ∀ pieces, Glob.mapM' pcItems ps = .ok pieces → LitOk ps →
    (d = true → ends = false → emptyTail ps = false) →
    ∀ ns, (∀ n ∈ ns, FsName n) → ∀ prev,
    (matchItems (flagsG cs) (pieces.flatten ++ tailItems ends) prev (render ns d) = true ↔
      (compsMatch cs ps ns = true ∧ (!ends || d) = true)) := by
  intro pieces h hlit hET ns hns prev
  have hsf : ∀ n ∈ ns, '/' ∉ n := fun n hn => (hns n hn).2
  have snoc : ∀ l : List Str, (∀ n ∈ l, '/' ∉ n) → ∀ n ∈ l ++ [[]], '/' ∉ n := fun l hl n hn => by
    rcases List.mem_append.1 hn with hn | hn
    · exact hl n hn
    · rw [List.mem_singleton] at hn; rw [hn]; simp
  have hsf' := snoc ns hsf
  rw [pattern_iff cs ends ps hlit pieces h, ← pcsNames_iff cs ps ns hns]
  constructor
  · rintro ⟨ms, hms, e | ⟨he, e⟩⟩
    · have hm := pcsNames_slashFree cs ps ms hms
      have hm' := snoc ms hm
      cases d with
      | true =>
        rw [render_true, render_true] at e
        have := List.append_cancel_right (render_inj _ _ hsf' hm' e)
        subst this; exact ⟨hms, by simp⟩
      | false =>
        rw [render_true] at e
        have := render_inj _ _ hsf hm' e
        exact absurd rfl (hns [] (by rw [this]; simp)).1
    · have hm := pcsNames_slashFree cs ps ms hms
      cases d with
      | true =>
        rw [render_true] at e
        have := render_inj _ _ hsf' hm e
        subst this
        rw [pcsNames_snoc_nil cs ps ns hms] at hET
        exact absurd (hET rfl he) (by simp)
      | false =>
        have := render_inj _ _ hsf hm e
        subst this; exact ⟨hms, by simp [he]⟩
  · rintro ⟨hms, hc⟩
    refine ⟨ns, hms, ?_⟩
    cases d with
    | true => exact Or.inl rfl
    | false => exact Or.inr ⟨by simpa using hc, rfl⟩

theorem mapM'_append {α β} (f : α → TR β) (a b : List α) :
    Glob.mapM' f (a ++ b) =
      (match Glob.mapM' f a with
       | .err e => .err e
       | .ok x => (Glob.mapM' f b).map (x ++ ·)) := by
  induction a with
  | nil => simp only [List.nil_append, Glob.mapM']; cases Glob.mapM' f b <;> simp [TR.map]
  | cons x a ih =>
    rw [List.cons_append, mapM'_cons, mapM'_cons, ih]
    cases f x with
    | err e => rfl
    | ok y =>
      cases Glob.mapM' f a with
      | err e => rfl
      | ok ys => cases Glob.mapM' f b <;> simp [TR.map]

theorem iteratepath_nodots (p : Str) (h : (splitSlash p).any isDots = false) :
    iteratepath p = .ok ((splitSlash p).filter (fun c => c ≠ [])) := by
  apply ConfineLemmas.iteratepath_of_resolve
  unfold resolve; rw [foldl_step_nodots _ _ h]; rfl

theorem hasSS_ss : Glob.hasSS ss = true := by decide

theorem countSlash_append (a b : Str) : Glob.countSlash (a ++ b) = Glob.countSlash a + Glob.countSlash b := by
  simp [Glob.countSlash]

theorem countSlash_of_not_mem (a : Str) (h : '/' ∉ a) : Glob.countSlash a = 0 := by
  simp [Glob.countSlash, List.count_eq_zero, h]

theorem tokenize_lit_mem (s : Str) (n : Nat) (x : Char) (h : Tok.lit x ∈ tokenize s n) : x ∈ s :=
  tokenize_forall (· ∈ s) (fun t => ∀ x, t = .lit x → x ∈ s) (fun c cs hc x hx => lex_lit c cs x hx ▸ hc) s n
    (fun _ hc => hc) _ h x rfl

theorem foldl_step_mem (cs : List Str) : ∀ s r, cs.foldl step (some s) = some r →
    ∀ x ∈ r, x ∈ s ∨ x ∈ cs := fun s r h x hx =>
  (PathLemmas.foldl_step_mem cs s r h x hx).imp_right And.left

theorem foldl_step_length (p : Str → Bool) (hp : ∀ c, p c = true ↔ c ≠ []) (cs : List Str) :
    ∀ s r, cs.foldl step (some s) = some r → r.length ≤ s.length + (cs.filter p).length := by
  induction cs with
  | nil => intro s r h; simp at h; subst h; simp
  | cons c cs ih =>
    intro s r h
    rw [List.foldl_cons] at h
    cases hst : step (some s) c with
    | none => rw [hst, foldl_step_none] at h; cases h
    | some s' =>
      rw [hst] at h
      have := ih s' r h
      have key : (List.filter p (c :: cs)).length = (if p c = true then 1 else 0) + (List.filter p cs).length := by
        rw [List.filter_cons]; split <;> simp <;> omega
      rw [key]
      simp only [step] at hst
      split at hst
      · cases hst; omega
      · rename_i hc
        have hne : p c = true := (hp c).2 (fun e => hc (Or.inl e))
        rw [if_pos hne]
        split at hst
        · split at hst
          · cases hst
          · cases hst; simp at this; omega
        · cases hst; simp at this; omega

theorem countSlash_render (ns : List Str) (d : Bool) (h : ∀ n ∈ ns, '/' ∉ n) :
    Glob.countSlash (render ns d) = ns.length + (if d = true then 1 else 0) := by
  induction ns with
  | nil => rw [render_nil]; cases d <;> rfl
  | cons n ns ih =>
    rw [render_cons, show ('/' :: (n ++ render ns d)) = ['/'] ++ (n ++ render ns d) from rfl,
      countSlash_append, countSlash_append, countSlash_of_not_mem n (h n List.mem_cons_self),
      ih (fun x hx => h x (List.mem_cons_of_mem _ hx))]
    simp [Glob.countSlash]; omega

theorem mapM'_length {α β} (f : α → TR β) (l : List α) : ∀ r, Glob.mapM' f l = .ok r → r.length = l.length := by
  induction l with
  | nil => intro r h; cases h; rfl
  | cons a l ih =>
    intro r h
    obtain ⟨b, bs, _, hbs, rfl⟩ := mapM'_cons_ok h
    rw [List.length_cons, List.length_cons, ih bs hbs]

/-! ### the shape of `_translate_glob`'s output -/

theorem pcomp_ss : pcomp ss = .starstar := by decide

theorem pcomp_seg (c : Str) (h : Glob.hasSS c = false) : pcomp c = .seg (tokenize c 0) := by
  have : c ≠ ss := by intro e; rw [e, hasSS_ss] at h; cases h
  simp only [pcomp]
  rw [if_neg]
  exact this

theorem compItems_pc (c : Str) (h : c = ss ∨ Glob.hasSS c = false) : Glob.compItems c = pcItems (pcomp c) := by
  rcases h with rfl | h
  · rfl
  · have hne : c ≠ ['*', '*'] := by intro e; rw [e] at h; exact absurd h (by decide)
    rw [pcomp_seg c h]
    simp only [Glob.compItems, hne, if_false, h, Bool.false_eq_true, Glob.translate, glob_go_seq c 0 h, seqItems_glob, pcItems]
    cases Glob.mapM' globItem (tokenize c 0) <;> rfl

theorem mapM'_congr_map {α β γ} (f : α → TR γ) (g : β → TR γ) (m : α → β) (l : List α)
    (h : ∀ a ∈ l, f a = g (m a)) : Glob.mapM' f l = Glob.mapM' g (l.map m) := by
  induction l with
  | nil => rfl
  | cons a l ih =>
    rw [List.map_cons, mapM'_cons, mapM'_cons, h a List.mem_cons_self,
      ih (fun x hx => h x (List.mem_cons_of_mem _ hx))]

/-- `_translate_glob`, once: the components, `levels`, and — when every component is `**` or free of `**` — the regex
as the matcher call the theorems of C14 speak about -/
theorem translateGlob_ok (pat : Str) (cs : Bool) (c : Glob.Compiled)
    (hc : Glob.translateGlob pat cs = .ok c) :
    ∃ comps, iteratepath pat = .ok comps ∧ c.levels = Glob.levelsOf pat (comps.any Glob.hasSS) ∧
      ((∀ x ∈ comps, x = ss ∨ Glob.hasSS x = false) → ∃ pieces,
        Glob.mapM' pcItems (comps.map pcomp) = .ok pieces ∧ LitOk (comps.map pcomp) ∧
        ∀ s, c.re.matches s =
          matchItems (flagsG cs) (pieces.flatten ++ tailItems (endsWithSlash pat)) none s) := by
  unfold Glob.translateGlob at hc
  cases hit : iteratepath pat with
  | err e => rw [hit] at hc; cases hc
  | ok comps =>
    rw [hit] at hc
    simp only [Glob.liftRes] at hc
    cases hp : Glob.mapM' Glob.compItems comps with
    | err e => rw [hp] at hc; cases hc
    | ok pieces =>
      rw [hp] at hc
      simp only [TR.ok.injEq] at hc
      subst hc
      refine ⟨comps, rfl, rfl, fun hshape => ⟨pieces, ?_, ?_, fun s => ?_⟩⟩
      · rw [← mapM'_congr_map Glob.compItems pcItems pcomp comps fun a ha => compItems_pc a (hshape a ha)]
        exact hp
      · -- a literal token is a character of its component, and `iteratepath` returns components without `/`
        intro toks htoks x hx e
        obtain ⟨comp, hcomp, hpc⟩ := List.mem_map.1 htoks
        rcases hshape comp hcomp with rfl | hh
        · rw [pcomp_ss] at hpc; cases hpc
        · rw [pcomp_seg comp hh] at hpc
          cases hpc
          exact ((ConfineLemmas.iteratepath_ok pat comps hit).2 comp hcomp).2.2.2 (e ▸ tokenize_lit_mem comp 0 x hx)
      · have htail : (if endsWithSlash pat = true then [Item.one Glob.slash, Item.endZ]
            else [Glob.optSlash, Item.endZ]) = tailItems (endsWithSlash pat) := by unfold tailItems; rfl
        simp only [Regex.matches, flags_s, htail, List.cons_append, matchItems, atBol,
          beq_self_eq_true, Bool.true_or, Bool.true_and]

/-! ### levels -/

theorem endsWithSlash_render (ns : List Str) (d : Bool) (hns : ∀ n ∈ ns, FsName n)
    (h : endsWithSlash (render ns d) = true) : d = true := by
  induction ns with
  | nil => rw [render_nil] at h; cases d <;> simp_all [endsWithSlash, startsWithSlash]
  | cons n ns ih =>
    have hn := hns n List.mem_cons_self
    rw [render_cons] at h
    by_cases hr : render ns d = []
    · rw [hr, List.append_nil] at h
      have h2 : endsWithSlash (['/'] ++ n) = endsWithSlash n := endsWithSlash_append ['/'] n hn.1
      rw [show ('/' :: n) = ['/'] ++ n from rfl, h2, endsWithSlash_of_not_mem n hn.2] at h
      cases h
    · have h2 : endsWithSlash (('/' :: n) ++ render ns d) = endsWithSlash (render ns d) :=
        endsWithSlash_append _ _ hr
      rw [show ('/' :: (n ++ render ns d)) = ('/' :: n) ++ render ns d from rfl, h2] at h
      exact ih (fun x hx => hns x (List.mem_cons_of_mem _ hx)) h

/-- a match of a pattern without `**` has one `/` per component (one more if it ends in `/`) -/
theorem count_slash (cs ends : Bool) (ps : List PComp) (hseg : ∀ p ∈ ps, p ≠ .starstar) (hlit : LitOk ps) :
    ∀ pieces, Glob.mapM' pcItems ps = .ok pieces → ∀ prev s,
      matchItems (flagsG cs) (pieces.flatten ++ tailItems ends) prev s = true →
      (Glob.countSlash s = ps.length + 1 ∧ endsWithSlash s = true) ∨
        (ends = false ∧ Glob.countSlash s = ps.length) := by
  intro pieces h prev s hm
  obtain ⟨ms, hms, hs⟩ := (pattern_iff cs ends ps hlit pieces h prev s).1 hm
  have hlen := pcsNames_length cs ps hseg ms hms
  have hsl := pcsNames_slashFree cs ps ms hms
  rcases hs with rfl | ⟨he, rfl⟩
  · left
    rw [countSlash_render ms true hsl, hlen]
    refine ⟨rfl, ?_⟩
    rw [show render ms true = render ms false ++ ['/'] by simp [render],
      endsWithSlash_append _ _ (by simp)]
    rfl
  · right
    rw [countSlash_render ms false hsl, hlen]
    exact ⟨he, rfl⟩

/-! ### the LRU cache -/

theorem mem_odSet {κ ν} [DecidableEq κ] (l : List (κ × ν)) (k : κ) (v : ν) :
    ∀ x ∈ LRU.odSet l k v, x ∈ l ∨ x = (k, v) := by
  induction l with
  | nil => intro x hx; simp [LRU.odSet] at hx; exact Or.inr hx
  | cons a l ih =>
    intro x hx
    obtain ⟨k', v'⟩ := a
    simp only [LRU.odSet] at hx
    split at hx
    · rcases List.mem_cons.1 hx with e | hx
      · exact Or.inr e
      · exact Or.inl (List.mem_cons_of_mem _ hx)
    · rcases List.mem_cons.1 hx with e | hx
      · exact Or.inl (e ▸ List.mem_cons_self)
      · rcases ih x hx with h | h
        · exact Or.inl (List.mem_cons_of_mem _ h)
        · exact Or.inr h

theorem lookup_mem {κ ν} [DecidableEq κ] (c : LRU.Cache κ ν) (k : κ) (v : ν)
    (h : LRU.lookup c k = some v) : (k, v) ∈ c.entries := by
  unfold LRU.lookup at h
  cases hf : c.entries.find? (·.1 = k) with
  | none => rw [hf] at h; cases h
  | some e =>
    rw [hf] at h
    simp only [Option.map_some, Option.some.injEq] at h
    have h1 := List.mem_of_find?_eq_some hf
    have h2 := List.find?_some hf
    simp only [decide_eq_true_eq] at h2
    obtain ⟨a, b⟩ := e
    simp only at h h2
    subst h; subst h2
    exact h1

theorem get_inv {κ ν} [DecidableEq κ] (P : κ × ν → Prop) (c : LRU.Cache κ ν) (hv : ∀ e ∈ c.entries, P e)
    (k : κ) (v : ν) (c' : LRU.Cache κ ν) (h : LRU.get c k = some (v, c')) :
    P (k, v) ∧ ∀ e ∈ c'.entries, P e := by
  unfold LRU.get at h
  cases hl : LRU.lookup c k with
  | none => rw [hl] at h; cases h
  | some v' =>
    rw [hl] at h
    cases h
    have hp := hv _ (lookup_mem c k v hl)
    refine ⟨hp, fun e he => ?_⟩
    rcases mem_odSet _ _ _ e he with h | h
    · exact hv e ((List.filter_sublist).subset h)
    · exact h ▸ hp

theorem set_inv {κ ν} [DecidableEq κ] (P : κ × ν → Prop) (c : LRU.Cache κ ν) (hv : ∀ e ∈ c.entries, P e)
    (k : κ) (v : ν) (hp : P (k, v)) : ∀ e ∈ (LRU.set c k v).entries, P e := by
  intro e he
  unfold LRU.set at he
  rcases mem_odSet _ _ _ e he with h | h
  · split at h
    · exact hv e (List.mem_of_mem_tail h)
    · exact hv e h
  · exact h ▸ hp

/-- the access `glob.match` and `wildcard.match` make to their cache: the entry for `k`, else `comp k`, stored when
it succeeds -/
theorem cached_transparent {κ ν β} [DecidableEq κ] (comp : κ → TR ν) (f : ν → β) (c : LRU.Cache κ ν)
    (hv : ∀ e ∈ c.entries, comp e.1 = .ok e.2) (k : κ) (r : TR β × LRU.Cache κ ν)
    (hr : r = match LRU.get c k with
      | some (v, c') => (.ok (f v), c')
      | none =>
        match comp k with
        | .err e => (.err e, c)
        | .ok v => (.ok (f v), LRU.set c k v)) :
    r.1 = (comp k).map f ∧ ∀ e ∈ r.2.entries, comp e.1 = .ok e.2 := by
  subst hr
  cases hg : LRU.get c k with
  | some p =>
    obtain ⟨v, c'⟩ := p
    obtain ⟨hc, hv'⟩ := get_inv (fun e => comp e.1 = .ok e.2) c hv k v c' hg
    exact ⟨by rw [show comp k = .ok v from hc]; rfl, hv'⟩
  | none =>
    cases hc : comp k with
    | err e => exact ⟨rfl, hv⟩
    | ok v => exact ⟨rfl, set_inv (fun e => comp e.1 = .ok e.2) c hv k v hc⟩

/-! ### the printer: the AST prints to the text the code builds -/

theorem itemsToPy_cons (i : Item) (l : List Item) : itemsToPy (i :: l) = i.toPy ++ itemsToPy l := by
  simp [itemsToPy]

theorem wild_prints (s : Str) (k : Nat) : Prints (.ok (Wild.textGo s k)) (Wild.go s k) := by
  rw [wild_textGo_eq, wild_go_seq]
  exact tokens_prints false _ (tokenize_ok s k)

theorem translate_prints (p : Str) (h : Glob.hasSS p = false) : Prints (Glob.translateText p) (Glob.translate p) := by
  rw [Glob.translateText, Glob.translate, glob_textGo_eq p 0 h, glob_go_seq p 0 h]
  exact tokens_prints true _ (tokenize_ok p 0)

/-! ### `_translate_glob` puts its text and its items together alike

What holds of the pieces (`R`: "prints as" here, "parses to" in RegexParseItems) and is kept by putting one after the
other (`happ`) holds of a component split at `**`, of a component, of all components. -/

section
variable (R : TR Str → TR (List Item) → Prop)
  (happ : ∀ {f1 f2 : TR Str} {r1 r2 : TR (List Item)}, R f1 r1 → R f2 r2 →
    R (RegexParseLemmas.seqRes f1 f2) (RegexParseLemmas.seqRes r1 r2))
  (hnil : R (.ok []) (.ok []))
  (htr : ∀ p, Glob.hasSS p = false → R (Glob.translateText p) (Glob.translate p))
  (hany : R (.ok ".*".toList) (.ok [Glob.anyRun])) (hopt : R (.ok "/?".toList) (.ok [Glob.optSlash]))
  (hslash : R (.ok ['/']) (.ok [.one Glob.slash]))
  (hgroup : R (.ok "(?:/[^/]+)*".toList) (.ok [.starGroup Glob.levelGroup]))
include happ hnil htr hany hopt

theorem join_rel (L : List Str) (h : ∀ p ∈ L, Glob.hasSS p = false) :
    R ((Glob.mapM' Glob.translateText L).map fun l => Glob.joinStr ".*/?".toList l)
      ((Glob.mapM' Glob.translate L).map fun l => Glob.joinItems [Glob.anyRun, Glob.optSlash] l) := by
  induction L with
  | nil => exact hnil
  | cons a rest ih =>
    have ha := htr a (h a List.mem_cons_self)
    cases rest with
    | nil =>
      rw [mapM'_join_single Glob.joinStr (fun _ _ => rfl), mapM'_join_single Glob.joinItems (fun _ _ => rfl)]
      exact ha
    | cons b rest' =>
      rw [mapM'_join_cons Glob.joinStr (fun _ _ _ _ => rfl), mapM'_join_cons Glob.joinItems (fun _ _ _ _ => rfl)]
      exact happ ha (happ (happ hany hopt) (ih fun p hp => h p (List.mem_cons_of_mem _ hp)))

include hslash hgroup

theorem comp_rel (c : Str) : R (Glob.compText c) (Glob.compItems c) := by
  unfold Glob.compText Glob.compItems
  by_cases h1 : c = ['*', '*']
  · simp only [h1, if_true]
    exact hgroup
  · simp only [h1, if_false]
    by_cases h2 : Glob.hasSS c = true
    · simp only [h2, if_true]
      have := happ hopt (join_rel R happ hnil htr hany hopt (Glob.splitSS c) (RegexParseLemmas.splitSS_noSS c))
      rw [seqRes_ok_map, seqRes_ok_map] at this
      exact this
    · have h2' : Glob.hasSS c = false := by simpa using h2
      simp only [h2', Bool.false_eq_true, if_false]
      exact happ hslash (htr c h2')

/-- all components: `"".join(re_patterns)` / `pieces.flatten` -/
theorem comps_rel (L : List Str) :
    R ((Glob.mapM' Glob.compText L).map List.flatten) ((Glob.mapM' Glob.compItems L).map List.flatten) := by
  induction L with
  | nil => exact hnil
  | cons a rest ih =>
    rw [mapM'_flatten_cons, mapM'_flatten_cons]
    exact happ (comp_rel R happ hnil htr hany hopt hslash hgroup a) ih

end

theorem comps_prints (L : List Str) :
    Prints ((Glob.mapM' Glob.compText L).map List.flatten) ((Glob.mapM' Glob.compItems L).map List.flatten) :=
  comps_rel Prints Prints.append (prints_ok []) translate_prints (prints_ok _) (prints_ok _) (prints_ok _) (prints_ok _) L

end Fs.GlobLemmas
