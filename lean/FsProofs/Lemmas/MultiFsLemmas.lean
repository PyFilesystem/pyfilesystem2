/-
  Helper lemmas for FsProofs/MultiRefines.lean: the functor model of MultiFS (FsModel.MultiFs).

  `order` is a permutation of the positions; a layer call changes one layer's state and nothing else.
  A layer that refines `Ref` (`RefinesRef`): every call is the reference's or fails with an admissible class and an
  unchanged state (`refines_cases`); `exists` is exact (`exists_exact`).
  On a stack of good layers `_delegate` finds the first layer in `iterate_fs` order that has the path (`delegate_spec`);
  the methods built on it and on layer calls are given as equations; `_delegate` is the loop of the C17 routing
  model (`delegateLoop_route`).
-/
import FsModel.MultiFs
import FsProofs.Lemmas.WrapSimLemmas
import FsProofs.Lemmas.RouteLemmas
import FsProofs.Lemmas.MultiFsAgree

namespace Fs.MultiFsLemmas
open Fs Fs.Ref Fs.MultiFs Fs.WrapRefines Fs.MemRefines

section Config
variable {σ : Type}

theorem entriesFrom_map_fs (i : Nat) (ls : List (Layer σ)) :
    (entriesFrom i ls).map (·.fs) = List.range' i ls.length := by
  induction ls generalizing i with
  | nil => rfl
  | cons l ls ih => simp [entriesFrom, ih, List.range'_succ]

/-- `iterate_fs` visits every layer exactly once -/
theorem order_perm (s : MState σ) : (order s).Perm (List.range s.layers.length) := by
  unfold order entries
  have h := (RouteLemmas.MultiL.sortDesc_perm (entriesFrom 0 s.layers)).map (·.fs)
  rw [entriesFrom_map_fs, ← List.range_eq_range'] at h
  exact h

theorem order_lt (s : MState σ) (i : Nat) (h : i ∈ order s) : i < s.layers.length := by
  have := (order_perm s).mem_iff.1 h
  simpa using this

theorem order_nodup (s : MState σ) : (order s).Nodup :=
  (order_perm s).nodup_iff.2 List.nodup_range

theorem mem_order (s : MState σ) (i : Nat) (h : i < s.layers.length) : i ∈ order s :=
  (order_perm s).mem_iff.2 (by simpa using h)

theorem order_ne_nil_of_layers {s : MState σ} (hne : s.layers ≠ []) : order s ≠ [] := by
  intro h
  have := (order_perm s).length_eq
  rw [h, List.length_range] at this
  exact hne (List.eq_nil_of_length_eq_zero this.symm)

theorem exists_layer {s : MState σ} {i : Nat} (hi : i < s.layers.length) : ∃ l, s.layers[i]? = some l :=
  ⟨_, List.getElem?_eq_getElem hi⟩

theorem order_single (s : MState σ) (l : Layer σ) (hl : s.layers = [l]) : order s = [0] := by
  simp [order, entries, hl, entriesFrom, Multi.sortDesc, Multi.insertDesc]

/-- the part of a layer that `iterate_fs` and `write_fs` look at -/
def lmeta (l : Layer σ) : Str × Int × Nat := (l.name, l.prio, l.idx)

theorem entriesFrom_congr (i : Nat) (ls ls' : List (Layer σ)) (h : ls'.map lmeta = ls.map lmeta) :
    entriesFrom i ls' = entriesFrom i ls := by
  induction ls generalizing i ls' with
  | nil => cases ls' <;> simp_all [entriesFrom]
  | cons l ls ih =>
    cases ls' with
    | nil => simp at h
    | cons l' ls' =>
      simp only [List.map_cons, List.cons.injEq, lmeta, Prod.mk.injEq] at h
      obtain ⟨⟨h1, h2, h3⟩, h4⟩ := h
      simp [entriesFrom, h1, h2, h3, ih _ _ h4]

theorem findIdx_congr (w : Nat) (ls ls' : List (Layer σ)) (h : ls'.map lmeta = ls.map lmeta) :
    ls'.findIdx? (fun l => l.idx == w) = ls.findIdx? (fun l => l.idx == w) := by
  induction ls generalizing ls' with
  | nil => cases ls' <;> simp_all
  | cons l ls ih =>
    cases ls' with
    | nil => simp at h
    | cons l' ls' =>
      simp only [List.map_cons, List.cons.injEq, lmeta, Prod.mk.injEq] at h
      obtain ⟨⟨_, _, h3⟩, h4⟩ := h
      simp [List.findIdx?_cons, h3, ih _ h4]

/-- same configuration: the same layers up to their states, the same flags -/
structure SameCfg (s s' : MState σ) : Prop where
  metas : s'.layers.map lmeta = s.layers.map lmeta
  widx : s'.writeIdx = s.writeIdx
  sidx : s'.sortIndex = s.sortIndex
  closed : s'.closed = s.closed
  auto : s'.autoClose = s.autoClose

theorem SameCfg.refl (s : MState σ) : SameCfg s s := ⟨rfl, rfl, rfl, rfl, rfl⟩

theorem SameCfg.trans {a b c : MState σ} (h1 : SameCfg a b) (h2 : SameCfg b c) : SameCfg a c :=
  ⟨h2.metas.trans h1.metas, h2.widx.trans h1.widx, h2.sidx.trans h1.sidx, h2.closed.trans h1.closed,
   h2.auto.trans h1.auto⟩

theorem SameCfg.order {s s' : MState σ} (h : SameCfg s s') : order s' = order s := by
  unfold MultiFs.order entries; rw [entriesFrom_congr 0 _ _ h.metas]

theorem SameCfg.writePos {s s' : MState σ} (h : SameCfg s s') : writePos s' = writePos s := by
  unfold MultiFs.writePos; rw [h.widx]
  cases s.writeIdx with
  | none => rfl
  | some w => exact findIdx_congr w _ _ h.metas

theorem SameCfg.length {s s' : MState σ} (h : SameCfg s s') : s'.layers.length = s.layers.length := by
  have := congrArg List.length h.metas; simpa using this

theorem set_map_lmeta (ls : List (Layer σ)) (i : Nat) (l : Layer σ) (t : σ) (h : ls[i]? = some l) :
    (ls.set i { l with st := t }).map lmeta = ls.map lmeta := by
  induction ls generalizing i with
  | nil => simp
  | cons x xs ih =>
    cases i with
    | zero => simp at h; subst h; simp [lmeta]
    | succ j => simp at h; simp [ih j h]

theorem callLayer_cfg (F : FS σ) (s : MState σ) (i : Nat) (op : Op) : SameCfg s (callLayer F s i op).1 := by
  unfold callLayer
  cases h : s.layers[i]? with
  | none => exact SameCfg.refl s
  | some l => exact ⟨set_map_lmeta _ _ _ _ h, rfl, rfl, rfl, rfl⟩

/-- what a layer call does: the layer at position `i` makes one step, nothing else changes -/
theorem callLayer_some (F : FS σ) (s : MState σ) (i : Nat) (op : Op) (l : Layer σ) (h : s.layers[i]? = some l) :
    callLayer F s i op =
      ({ s with layers := s.layers.set i { l with st := (F l.st op).1 } }, (F l.st op).2) := by
  simp [callLayer, h]

theorem set_st_self (ls : List (Layer σ)) (i : Nat) (l : Layer σ) (h : ls[i]? = some l) :
    ls.set i { l with st := l.st } = ls := by
  obtain ⟨hlt, rfl⟩ := List.getElem?_eq_some_iff.1 h
  exact List.set_getElem_self hlt

/-- a layer call that leaves the layer's state alone leaves the MultiFS alone -/
theorem callLayer_pure (F : FS σ) (s : MState σ) (i : Nat) (op : Op) (l : Layer σ) (h : s.layers[i]? = some l)
    (hp : (F l.st op).1 = l.st) : callLayer F s i op = (s, (F l.st op).2) := by
  rw [callLayer_some F s i op l h, hp, set_st_self _ _ _ h]

theorem step_open (fuel : Nat) (F : FS σ) (s : MState σ) (hc : s.closed = false) (op : Op) (hop : op ≠ .close) :
    MultiFs.step fuel F s op = stepOpen fuel F s op := by
  unfold MultiFs.step
  split
  · exact absurd rfl hop
  · rw [hc, if_neg Bool.false_ne_true]

end Config


/-! ## a layer that refines the reference -/

/-- a layer state the refinement hypothesis `RefinesRef` speaks about -/
structure Good (t : State) : Prop where
  opn : t.closed = false
  dir : t.root.isDir = true
  wf : t.root.wf = true

theorem good_step {t : State} (G : Good t) (op : Op) (hop : op ≠ .close) : Good (Ref.step t op).1 :=
  ⟨(QueryLemmas.step_closed_same t op hop).trans G.opn, QueryLemmas.step_root_isDir t op G.dir,
   QueryLemmas.step_wf t op G.wf⟩

theorem nodupTop_good {t : State} (G : Good t) : NodupTop t.root := by
  unfold NodupTop
  cases hr : t.root with
  | file b => simp [Node.entries, Ents.names]
  | dir es =>
    have := G.wf
    rw [hr] at this
    exact TreeLemmas.names_nodup (es := es) (by simpa [Node.wf] using this)

theorem not_dev (op : Op) (hb : bulk op = false) : ¬ knownDeviation op := by
  cases op <;> simp [bulk] at hb <;> simp [knownDeviation]

/-- the single interface to a layer `F` that refines the reference: a call is the reference's call,
or both fail, the layer's state is unchanged and its class is admissible -/
theorem refines_cases (F : FS State) (hF : RefinesRef F) (t : State) (G : Good t) (op : Op) (hb : bulk op = false) :
    ((Ref.step t op).2.isOk = true ∧ F t op = Ref.step t op) ∨
    (∃ e e', Ref.step t op = (t, .err e) ∧ F t op = (t, .err e') ∧ e' ∈ adm t op) := by
  obtain ⟨h1, h2, h3⟩ := hF t op G.opn G.dir G.wf (not_dev op hb) (not_loose t op hb)
  exact (MemLemmas.refines_cases h1 h2 h3).imp_right fun ⟨e', e, hf, hr, ha⟩ =>
    ⟨e, e', Prod.ext (QueryLemmas.step_err_state hr) hr, hf, ha⟩

open Fs.WrapLemmas in
/-- a path that validates normalises to the absolute join of its components -/
theorem normRes_of_validate {p : Str} {cs : List Name} (h : validate p = .ok cs) :
    normRes p = .ok (absOf cs) := by
  simp only [normRes, (TreeLemmas.validate_ok h).2,
    PathLemmas.abspath_mkp (TreeLemmas.clean_of_cleanName (TreeLemmas.validate_ok h).1), absOf]

theorem ref_exists (t : State) (hc : t.closed = false) (p : Str) :
    Ref.step t (.exists_ p) = match validate p with
      | .err e => (t, .err e)
      | .ok cs => (t, .ok (.bool (t.root.get cs).isSome)) := by
  rw [QueryLemmas.step_one t _ p hc rfl (by nofun)]
  cases validate p <;> rfl

/-- `exists` of a layer that refines the reference IS the reference's (class included) -/
theorem exists_exact (F : FS State) (hF : RefinesRef F) (t : State) (G : Good t) (p : Str) :
    F t (.exists_ p) = Ref.step t (.exists_ p) := by
  rcases refines_cases F hF t G (.exists_ p) rfl with ⟨_, h⟩ | ⟨e, e', hr, hf, ha⟩
  · exact h
  · rw [hf, hr]
    rw [QueryLemmas.adm_one t _ p G.opn rfl (by nofun)] at ha
    rw [ref_exists t G.opn] at hr
    cases hv : validate p with
    | ok cs => rw [hv] at hr; simp at hr
    | err e0 =>
      rw [hv] at hr ha
      simp at hr ha
      rw [ha, hr]

/-- "the reference's outcome `o` with the state `x`, or both fail, the state stays `s` and the class is in `A`" (the form of
`refines_cases`, `callLayer_cases`), read as verdict / on success / on failure (the form of the property theorems) -/
theorem outcome_split {α : Type} {r : α × Out} {x s : α} {o : Out} {A : List Err}
    (h : (o.isOk = true ∧ r = (x, o)) ∨ ∃ e e', o = .err e ∧ r = (s, .err e') ∧ e' ∈ A) :
    r.2.isOk = o.isOk ∧ (o.isOk = true → r = (x, o)) ∧ ∀ e, r.2 = .err e → r.1 = s ∧ e ∈ A := by
  rcases h with ⟨hok, rfl⟩ | ⟨e, e', rfl, rfl, ha⟩
  · exact ⟨rfl, fun _ => rfl, fun e he => by rw [show o = .err e from he] at hok; cases hok⟩
  · exact ⟨rfl, fun hk => (by cases hk), fun x hx => by cases hx; exact ⟨rfl, ha⟩⟩

/-! ## a stack of good layers: `_delegate` and the methods that are `_delegate`, then one call -/

def AllGood (s : MState State) : Prop := ∀ l ∈ s.layers, Good l.st

/-- the layer at position `i` has the path -/
def hasAt (s : MState State) (cs : List Name) (i : Nat) : Bool :=
  match s.layers[i]? with
  | some l => (l.st.root.get cs).isSome
  | none => false

theorem callLayer_exists (F : FS State) (hF : RefinesRef F) (s : MState State) (hg : AllGood s) (p : Str)
    (i : Nat) (hi : i < s.layers.length) :
    callLayer F s i (.exists_ p) = (s, match validate p with
      | .err e => .err e
      | .ok cs => .ok (.bool (hasAt s cs i))) := by
  obtain ⟨l, hl⟩ := exists_layer hi
  have G : Good l.st := hg l (List.mem_of_getElem? hl)
  have hx := exists_exact F hF l.st G p
  rw [ref_exists l.st G.opn] at hx
  have hst : (F l.st (.exists_ p)).1 = l.st := by rw [hx]; cases validate p <;> rfl
  rw [callLayer_pure F s i _ l hl hst, hx]
  cases validate p <;> simp [hasAt, hl]

theorem delegateLoop_spec (F : FS State) (hF : RefinesRef F) (s : MState State) (hg : AllGood s) (p : Str) :
    ∀ (is : List Nat), (∀ i ∈ is, i < s.layers.length) →
    delegateLoop F p is s = (s, match validate p with
      | .err e => if is = [] then .ok none else .err e
      | .ok cs => .ok (is.find? (hasAt s cs))) := by
  intro is
  induction is with
  | nil => intro _; cases validate p <;> simp [delegateLoop]
  | cons i is ih =>
    intro hlt
    have hi := hlt i (by simp)
    have ih' := ih (fun j hj => hlt j (by simp [hj]))
    rw [delegateLoop, callLayer_exists F hF s hg p i hi]
    cases hv : validate p with
    | err e => simp
    | ok cs =>
      rw [hv] at ih'
      cases hh : hasAt s cs i with
      | true => simp [hh]
      | false => simp only [List.find?_cons, hh]; exact ih'

theorem delegate_spec (F : FS State) (hF : RefinesRef F) (s : MState State) (hg : AllGood s) (p : Str) :
    delegate F s p = (s, match validate p with
      | .err e => if order s = [] then .ok none else .err e
      | .ok cs => .ok ((order s).find? (hasAt s cs))) :=
  delegateLoop_spec F hF s hg p (order s) (fun i hi => order_lt s i hi)

theorem onDelegate_eq (F : FS State) (hF : RefinesRef F) (s : MState State) (hg : AllGood s) (p : Str) (op : Op)
    (onNone : Out) :
    onDelegate F s p op onNone = match validate p with
      | .err e => if order s = [] then (s, onNone) else (s, .err e)
      | .ok cs =>
        match (order s).find? (hasAt s cs) with
        | none => (s, onNone)
        | some i => callLayer F s i op := by
  unfold onDelegate
  rw [delegate_spec F hF s hg p]
  cases hv : validate p with
  | err e => by_cases ho : order s = [] <;> simp [ho]
  | ok cs => dsimp only; generalize (order s).find? (hasAt s cs) = o; cases o <;> simp

theorem getinfoM_eq (F : FS State) (hF : RefinesRef F) (s : MState State) (hg : AllGood s) (p : Str) :
    getinfoM F s p = match validate p with
      | .err e => if order s = [] then (s, .err .ResourceNotFound) else (s, .err e)
      | .ok cs =>
        match (order s).find? (hasAt s cs) with
        | none => (s, .err .ResourceNotFound)
        | some i => callLayer F s i (.getinfo (WrapLemmas.absOf cs)) := by
  unfold getinfoM
  rw [delegate_spec F hF s hg p]
  cases hv : validate p with
  | err e => by_cases ho : order s = [] <;> simp [ho]
  | ok cs =>
    dsimp only
    generalize (order s).find? (hasAt s cs) = o
    cases o with
    | none => simp
    | some i => simp [normRes_of_validate hv]

/-! ### mode strings: `Mode(mode)` against `parseBinMode` -/

theorem noRepeat_eq_nodup : ∀ (m : Str), Route.noRepeat m = decide m.Nodup
  | [] => rfl
  | c :: cs => by simp [Route.noRepeat, noRepeat_eq_nodup cs]

/-- a mode string `Mode(mode)` rejects is rejected by `Mode.validate_bin` -/
theorem parse_none_of_not_modeOk (m : Str) (h : Route.modeOk m = false) : parseBinMode m = none := by
  cases m with
  | nil => rfl
  | cons c cs =>
    simp only [Route.modeOk, Bool.and_eq_false_iff, noRepeat_eq_nodup] at h
    unfold parseBinMode
    -- the five clauses of `modeOk` in order; when one fails, the test of `parseBinMode` of the same number fires (the
    -- third: a mode with `t` and `b` has a `t`)
    rcases h with (((h | h) | h) | h) | h
    · simp only [h, Bool.not_false, if_true]
    · simp only [h, Bool.not_false, if_true, ite_self]
    · simp only [Bool.not_eq_false', Bool.and_eq_true] at h
      simp only [h.1, if_true, ite_self]
    · simp only [h, Bool.not_false, if_true, ite_self]
    · simp only [bne, h, Bool.not_false, if_true, ite_self]

/-- a non-creating mode on a missing path: ResourceNotFound -/
theorem step1_openbin_missing (t : State) (cs : List Name) (p m : Str) (md : Mode) (hm : parseBinMode m = some md)
    (hcr : md.create = false) (hg : t.root.get cs = none) :
    step1 t cs (.openbin p m) = (t, .err .ResourceNotFound) := by
  have hne : cs ≠ [] := by rintro rfl; simp [Node.get] at hg
  simp only [step1, hm, hne, if_false]
  split
  · rfl
  · rfl
  · simp [hg, hcr, fail]

/-- a call on the layer at position `i` of a stack of good layers: the reference's call on that layer,
or both fail, nothing changes and the class is admissible for that layer -/
theorem callLayer_cases (F : FS State) (hF : RefinesRef F) (s : MState State) (hg : AllGood s) (i : Nat)
    (l : Layer State) (hl : s.layers[i]? = some l) (op : Op) (hb : bulk op = false) :
    ((Ref.step l.st op).2.isOk = true ∧
      callLayer F s i op =
        ({ s with layers := s.layers.set i { l with st := (Ref.step l.st op).1 } }, (Ref.step l.st op).2)) ∨
    (∃ e e', Ref.step l.st op = (l.st, .err e) ∧ callLayer F s i op = (s, .err e') ∧ e' ∈ adm l.st op) := by
  have G : Good l.st := hg l (List.mem_of_getElem? hl)
  rcases refines_cases F hF l.st G op hb with ⟨hok, h⟩ | ⟨e, e', hr, hf, ha⟩
  · left; refine ⟨hok, ?_⟩; rw [callLayer_some F s i op l hl, h]
  · right; refine ⟨e, e', hr, ?_, ha⟩
    rw [callLayer_pure F s i op l hl (by rw [hf]), hf]

/-- a query answered by the reference: the layer answers the same and nothing changes -/
theorem callLayer_query (F : FS State) (hF : RefinesRef F) (s : MState State) (hg : AllGood s) (i : Nat)
    (l : Layer State) (hl : s.layers[i]? = some l) (op : Op) (hb : bulk op = false)
    (hq : (Ref.step l.st op).1 = l.st) (hok : (Ref.step l.st op).2.isOk = true) :
    callLayer F s i op = (s, (Ref.step l.st op).2) := by
  rcases callLayer_cases F hF s hg i l hl op hb with ⟨_, h⟩ | ⟨e, _, hr, _, _⟩
  · rw [h, hq, set_st_self _ _ _ hl]
  · rw [hr] at hok; cases hok

open Fs.WrapLemmas in
theorem ref_getinfo_abs (t : State) (hc : t.closed = false) (cs : List Name) (hcl : ∀ c ∈ cs, cleanName c = true) :
    Ref.step t (.getinfo (absOf cs)) = step1 t cs (.getinfo (absOf cs)) := by
  rw [QueryLemmas.step_one t _ (absOf cs) hc rfl (by nofun), validate_absOf hcl]

/-- some layer (in `iterate_fs` order) has the path -/
def anyHas (s : MState State) (cs : List Name) : Bool := ((order s).find? (hasAt s cs)).isSome

theorem find_hasAt {s : MState State} {cs : List Name} {i : Nat} (h : (order s).find? (hasAt s cs) = some i) :
    ∃ l n, s.layers[i]? = some l ∧ l.st.root.get cs = some n := by
  have h1 := List.find?_some h
  unfold hasAt at h1
  cases hl : s.layers[i]? with
  | none => rw [hl] at h1; cases h1
  | some l =>
    rw [hl] at h1
    simp only at h1
    cases hn : l.st.root.get cs with
    | none => rw [hn] at h1; cases h1
    | some n => exact ⟨l, n, rfl, hn⟩

open Fs.WrapLemmas in
/-- `getinfo` on a stack of good layers: the `Info` of the first layer that has the path -/
theorem getinfoM_has (F : FS State) (hF : RefinesRef F) (s : MState State) (hg : AllGood s) (p : Str)
    (cs : List Name) (hv : validate p = .ok cs) (i : Nat) (hf : (order s).find? (hasAt s cs) = some i)
    (l : Layer State) (n : Node) (hl : s.layers[i]? = some l) (hn : l.st.root.get cs = some n) :
    getinfoM F s p = (s, .ok (match n with
      | .file b => .info (lastName cs) false b.length
      | .dir _ => .info (lastName cs) true 0)) := by
  have G : Good l.st := hg l (List.mem_of_getElem? hl)
  have hcl := TreeLemmas.validate_clean p cs hv
  rw [getinfoM_eq F hF s hg p, hv]
  simp only [hf]
  have href : Ref.step l.st (.getinfo (absOf cs)) = (l.st, .ok (match n with
      | .file b => .info (lastName cs) false b.length
      | .dir _ => .info (lastName cs) true 0)) := by
    rw [ref_getinfo_abs l.st G.opn cs hcl]
    cases n <;> simp [step1, hn, done]
  rw [callLayer_query F hF s hg i l hl _ rfl (by rw [href]) (by rw [href]; rfl), href]

/-- `FS.exists` on a stack of good layers -/
theorem existsM_eq (F : FS State) (hF : RefinesRef F) (s : MState State) (hg : AllGood s) (p : Str) :
    existsM F s p = (s, match validate p with
      | .err e => if order s = [] then .ok (.bool false) else .err e
      | .ok cs => .ok (.bool (anyHas s cs))) := by
  unfold existsM
  cases hv : validate p with
  | err e =>
    rw [getinfoM_eq F hF s hg p, hv]
    by_cases ho : order s = []
    · simp [ho]
    · simp only [ho, if_false]
      rcases QueryLemmas.validate_err_cases p e hv with rfl | rfl <;> rfl
  | ok cs =>
    cases hf : (order s).find? (hasAt s cs) with
    | none =>
      rw [getinfoM_eq F hF s hg p, hv]; simp [hf, anyHas]
    | some i =>
      obtain ⟨l, n, hl, hn⟩ := find_hasAt hf
      rw [getinfoM_has F hF s hg p cs hv i hf l n hl hn]
      simp [anyHas, hf]

open Fs.WrapLemmas in
/-- `MultiFS.validatepath` with a write layer: the reference's `validate`, the absolute normal form -/
theorem validateM_eq (F : FS State) (hF : RefinesRef F) (s : MState State) (hg : AllGood s) (p : Str)
    (w : Nat) (hw : writePos s = some w) (hlt : w < s.layers.length) :
    validateM F s p = (s, match validate p with
      | .err e => .err e
      | .ok cs => .ok (absOf cs)) := by
  unfold validateM
  rw [hw]
  simp only
  rw [callLayer_exists F hF s hg p w hlt]
  cases hv : validate p with
  | err e => rfl
  | ok cs => simp [normRes_of_validate hv]


theorem createM_eq (F : FS State) (hF : RefinesRef F) (s : MState State) (hg : AllGood s) (w : Nat)
    (hwp : writePos s = some w) (hne : order s ≠ []) (p : Str) (wipe : Bool) :
    createM F s p wipe =
      if wipe then mapOut (fun _ => .bool true) (callLayer F s w (.openbin p ['w', 'b']))
      else match validate p with
        | .err e => (s, .err e)
        | .ok cs =>
          if anyHas s cs then (s, .ok (.bool false))
          else mapOut (fun _ => .bool true) (callLayer F s w (.openbin p ['w', 'b'])) := by
  have hmk : createM F s p true = mapOut (fun _ => .bool true) (callLayer F s w (.openbin p ['w', 'b'])) := by
    simp only [createM, if_true, onWrite, hwp]
    generalize callLayer F s w (.openbin p ['w', 'b']) = r
    obtain ⟨t, _ | _⟩ := r <;> rfl
  cases wipe with
  | true => exact hmk
  | false =>
    simp only [createM, if_true, onWrite, hwp] at hmk
    simp only [createM, Bool.false_eq_true, if_false]
    rw [existsM_eq F hF s hg p]
    cases validate p with
    | err e => simp only [hne, if_false]
    | ok cs => cases h : anyHas s cs <;> simp only [h, onWrite, hwp, hmk, Bool.false_eq_true, if_false, if_true]

theorem touchM_eq (F : FS State) (hF : RefinesRef F) (s : MState State) (hg : AllGood s) (w : Nat)
    (hwp : writePos s = some w) (hne : order s ≠ []) (p : Str) :
    touchM F s p = match validate p with
      | .err e => (s, .err e)
      | .ok cs =>
        mapOut (fun _ => .unit)
          (callLayer F s w (if anyHas s cs then .settimes p else .openbin p ['w', 'b'])) := by
  unfold touchM
  rw [createM_eq F hF s hg w hwp hne p false]
  cases validate p with
  | err e => rfl
  | ok cs =>
    cases h : anyHas s cs with
    | true =>
      simp only [h, Bool.false_eq_true, if_false, if_true, onWrite, hwp]
      generalize callLayer F s w (.settimes p) = r
      obtain ⟨t, _ | _⟩ := r <;> rfl
    | false =>
      simp only [h, Bool.false_eq_true, if_false]
      generalize callLayer F s w (.openbin p ['w', 'b']) = r
      obtain ⟨t, _ | _⟩ := r <;> rfl

theorem callLayer_settimes (F : FS State) (hF : RefinesRef F) (s : MState State) (hg : AllGood s) (i : Nat)
    (l : Layer State) (hl : s.layers[i]? = some l) (p : Str) (cs : List Name) (hv : validate p = .ok cs)
    (n : Node) (hget : l.st.root.get cs = some n) : callLayer F s i (.settimes p) = (s, .ok .unit) := by
  have hset : Ref.step l.st (.settimes p) = (l.st, .ok .unit) := by
    rw [QueryLemmas.step_one l.st (.settimes p) p (hg l (List.mem_of_getElem? hl)).opn rfl nofun, hv]
    simp [step1, hget, done]
  rw [callLayer_query F hF s hg i l hl _ rfl (by rw [hset]) (by rw [hset]; rfl), hset]


/-! ## `close`, the C17 routing model -/

section
variable {σ : Type}

theorem closeLoop_all (F : FS σ) : ∀ (post pre : List (Layer σ)) (s : MState σ), s.layers = pre ++ post →
    (∀ l ∈ post, (F l.st .close).2.isOk = true) →
    closeLoop F (List.range' pre.length post.length) s =
      ({ s with layers := pre ++ post.map fun l => { l with st := (F l.st .close).1 } }, .ok .unit) := by
  intro post
  induction post with
  | nil =>
    intro pre s hs _
    simp only [List.length_nil, List.range'_zero, closeLoop, List.map_nil, List.append_nil]
    rw [← List.append_nil pre, ← hs]
  | cons l post ih =>
    intro pre s hs hok
    have hl : s.layers[pre.length]? = some l := by simp [hs]
    rw [List.length_cons, List.range'_succ, closeLoop, callLayer_some F s _ _ l hl]
    have h1 := hok l (by simp)
    cases hr : (F l.st .close).2 with
    | err e => rw [hr] at h1; cases h1
    | ok v =>
      simp only
      have hset : s.layers.set pre.length { l with st := (F l.st .close).1 } =
          (pre ++ [{ l with st := (F l.st .close).1 }]) ++ post := by
        rw [hs]; simp
      have := ih (pre ++ [{ l with st := (F l.st .close).1 }])
        { s with layers := s.layers.set pre.length { l with st := (F l.st .close).1 } } hset
        (fun x hx => hok x (by simp [hx]))
      simp only [List.length_append, List.length_singleton] at this
      rw [this]
      simp

end

theorem ofList_get (s : MState State) (i : Nat) (l : Layer State) (h : s.layers[i]? = some l) :
    Route.Fss.ofList (s.layers.map (·.st)) i = l.st := by
  simp [Route.Fss.ofList, h]

theorem delegateLoop_route (s : MState State) (p : Str) : ∀ (es : List Multi.Entry),
    (∀ e ∈ es, e.fs < s.layers.length) → ∀ f : Route.Fss, (∀ i, f i = Route.Fss.ofList (s.layers.map (·.st)) i) →
    delegateLoop Ref.step p (es.map (·.fs)) s = (s, (Multi.delegateLoop f p es).2.1) := by
  intro es
  induction es with
  | nil => intro _ f _; rfl
  | cons e es ih =>
    intro hlt f hf
    have hi := hlt e (by simp)
    obtain ⟨l, hl⟩ := exists_layer hi
    have hpure : (Ref.step l.st (.exists_ p)).1 = l.st := RouteLemmas.step_query_state _ _ rfl
    have hfe : f e.fs = l.st := by rw [hf, ofList_get s _ l hl]
    simp only [List.map_cons, delegateLoop, Multi.delegateLoop, Route.memberCall]
    rw [callLayer_pure Ref.step s e.fs _ l hl hpure, hfe]
    have hf' : ∀ i, (f.set e.fs (Ref.step l.st (.exists_ p)).1) i = Route.Fss.ofList (s.layers.map (·.st)) i := by
      intro i
      rw [hpure, ← hfe, RouteLemmas.set_self]; exact hf i
    have ih' := ih (fun x hx => hlt x (by simp [hx])) _ hf'
    cases hr : (Ref.step l.st (.exists_ p)).2 with
    | err er => simp
    | ok v =>
      cases v with
      | bool b => cases b <;> simp [ih']
      | _ => simp [ih']

theorem entries_fs_lt (s : MState State) : ∀ e ∈ entries s, e.fs < s.layers.length := by
  intro e he
  have : e.fs ∈ (entries s).map (·.fs) := List.mem_map_of_mem he
  rw [entries, entriesFrom_map_fs] at this
  simpa using this


theorem find_congr_mem {α : Type} (p q : α → Bool) : ∀ (l : List α), (∀ x ∈ l, p x = q x) → l.find? p = l.find? q
  | [], _ => rfl
  | x :: xs, h => by
    simp only [List.find?_cons, h x (by simp)]
    rw [find_congr_mem p q xs (fun y hy => h y (by simp [hy]))]


end Fs.MultiFsLemmas
