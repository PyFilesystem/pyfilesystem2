/-
  Helper lemmas for C09 (the bulk Copier): list facts, and the transitions of the body, of a worker
  and of the producer as relations.  `BulkInv`, `BulkEff`, `BulkDest` and `BulkFinal` continue this file
  and declare into the same namespace `Fs.BulkLemmas`.
-/
import FsModel.Bulk

namespace Fs.BulkLemmas
open Fs Fs.Bulk

/-! ## list facts -/

theorem count_flatMap_set {α β : Type} [BEq β] [LawfulBEq β] (g : α → List β) (x : β) :
    ∀ (l : List α) (w : Nat) (a b : α), l[w]? = some a →
      List.count x (g a) + List.count x ((l.set w b).flatMap g)
        = List.count x (g b) + List.count x (l.flatMap g)
  | [], w, a, b, h => by simp at h
  | y :: ys, 0, a, b, h => by
    simp at h; subst h
    simp [List.flatMap_cons, List.count_append]; omega
  | y :: ys, w + 1, a, b, h => by
    simp at h
    have := count_flatMap_set g x ys w a b h
    simp [List.flatMap_cons, List.count_append]; omega

theorem count_le_flatMap {α β : Type} [BEq β] [LawfulBEq β] (g : α → List β) (x : β) (l : List α) (w : Nat) (a : α)
    (h : l[w]? = some a) : List.count x (g a) ≤ List.count x (l.flatMap g) :=
  (List.sublist_flatten_of_mem (List.mem_map_of_mem (List.mem_of_getElem? h))).count_le x

theorem count_flatMap_set_sub {α β : Type} [BEq β] [LawfulBEq β] (g : α → List β) (x : β) {l : List α} {w : Nat}
    {a : α} (b : α) (h : l[w]? = some a) :
    List.count x ((l.set w b).flatMap g) = List.count x (l.flatMap g) + List.count x (g b) - List.count x (g a) := by
  have := count_flatMap_set g x l w a b h
  omega

theorem eq_nil_of_count_zero {β : Type} [BEq β] [LawfulBEq β] (l : List β)
    (h : ∀ x, List.count x l = 0) : l = [] :=
  List.eq_nil_iff_forall_not_mem.2 fun x => List.count_eq_zero.1 (h x)

theorem flatMap_replicate_nil {α β : Type} (g : α → List β) (a : α) (h : g a = []) (n : Nat) :
    (List.replicate n a).flatMap g = [] :=
  List.flatMap_eq_nil_iff.2 fun _ hx => List.eq_of_mem_replicate hx ▸ h

def b2n (b : Bool) : Nat := if b then 1 else 0
@[simp] theorem b2n_true : b2n true = 1 := rfl
@[simp] theorem b2n_false : b2n false = 0 := rfl
theorem b2n_le (b : Bool) : b2n b ≤ 1 := by cases b <;> simp

/-- the head's share as an atom for `omega` (the library's `if` makes `omega` split cases) -/
theorem count_cons_b2n {α : Type} [BEq α] (x a : α) (l : List α) :
    List.count x (a :: l) = List.count x l + b2n (a == x) := by
  rw [List.count_cons]; rfl

theorem count_erase_b2n {α : Type} [BEq α] [LawfulBEq α] (x a : α) (l : List α) :
    List.count x (l.erase a) = List.count x l - b2n (a == x) := by
  rw [List.count_erase]; rfl

/-! ## the transitions as relations (proof device; `*_sound` ties them to the executable step) -/

/-- one step of a transfer body -/
inductive BTrans (c : Cfg) (s : St) (i : Nat) (a : Side) : Phase → BNext → Ev → St → Prop
  | readFail (k) : c.fails i (.read k) = true →
      BTrans c s i a (.reading k) (.cont (.closeA true)) (.read i k 0 false) { s with nfail := s.nfail + 1 }
  | readEof (k) : c.fails i (.read k) = false → (c.chunkOf i k).isEmpty = true →
      BTrans c s i a (.reading k) (.cont (.closeA false)) (.read i k 0 true) s
  | readData (k) : c.fails i (.read k) = false → (c.chunkOf i k).isEmpty = false →
      BTrans c s i a (.reading k) (.cont (.writing k)) (.read i k (c.chunkOf i k).length true) s
  | writeFail (k) : c.fails i (.write k) = true →
      BTrans c s i a (.writing k) (.cont (.closeA true)) (.write i k false) { s with nfail := s.nfail + 1 }
  | writeOk (k) : c.fails i (.write k) = false →
      BTrans c s i a (.writing k) (.cont (.reading (k + 1))) (.write i k true)
        { s with dest := s.dest.append (c.dstp i) (c.chunkOf i k) }
  | closeAFail (exc) : c.fails i (.close a) = true →
      BTrans c s i a (.closeA exc) (.cont (.closeB true)) (.close i a false)
        { s with opened := s.opened.erase (i, a), nfail := s.nfail + 1 }
  | closeAOk (exc) : c.fails i (.close a) = false →
      BTrans c s i a (.closeA exc) (.cont (.closeB exc)) (.close i a true)
        { s with opened := s.opened.erase (i, a) }
  | closeBFail (exc) : c.fails i (.close a.other) = true →
      BTrans c s i a (.closeB exc) (.fin true) (.close i a.other false)
        { s with opened := s.opened.erase (i, a.other), nfail := s.nfail + 1 }
  | closeBOk (exc) : c.fails i (.close a.other) = false →
      BTrans c s i a (.closeB exc) (.fin exc) (.close i a.other true)
        { s with opened := s.opened.erase (i, a.other) }

theorem bodyStep_sound (c : Cfg) (s : St) (i : Nat) (a : Side) (ph : Phase) :
    BTrans c s i a ph (bodyStep c s i a ph).1 (bodyStep c s i a ph).2.1 (bodyStep c s i a ph).2.2 := by
  cases ph with
  | reading k =>
    simp only [bodyStep]
    split
    · exact .readFail k (by assumption)
    · split
      · exact .readEof k (by simp_all) (by assumption)
      · exact .readData k (by simp_all) (by simp_all)
  | writing k =>
    simp only [bodyStep]
    split
    · exact .writeFail k (by assumption)
    · exact .writeOk k (by simp_all)
  | closeA exc =>
    simp only [bodyStep]
    split
    · exact .closeAFail exc (by assumption)
    · exact .closeAOk exc (by simp_all)
  | closeB exc =>
    simp only [bodyStep]
    split
    · exact .closeBFail exc (by assumption)
    · exact .closeBOk exc (by simp_all)

/-- a body step touches only `dest`, `opened`, `nfail` -/
theorem BTrans.eq_update {c : Cfg} {s s1 : St} {i : Nat} {a : Side} {ph : Phase} {nx : BNext} {e : Ev}
    (h : BTrans c s i a ph nx e s1) : ∃ d o k, s1 = { s with dest := d, opened := o, nfail := k } := by
  cases h <;> exact ⟨_, _, _, rfl⟩

def W.ofItem : Option Nat → W
  | some i => .run i (.reading 0)
  | none => .stopping

def W.ofNext (i : Nat) : BNext → W
  | .cont ph => .run i ph
  | .fin exc => .ending i exc

/-- the transitions of worker `w` -/
inductive WTrans (c : Cfg) (s : St) (w : Nat) : St → Ev → Prop
  | get (x q) : s.workers[w]? = some .idle → s.queue = x :: q →
      WTrans c s w { s with queue := q, workers := s.workers.set w (W.ofItem x) } (.get x)
  | body (i ph nx e s1) : s.workers[w]? = some (.run i ph) → BTrans c s i .src ph nx e s1 →
      WTrans c s w { s1 with workers := s1.workers.set w (W.ofNext i nx) } e
  | endTask (i exc) : s.workers[w]? = some (.ending i exc) →
      WTrans c s w { s with workers := s.workers.set w .idle,
                            errors := if exc then s.errors ++ [i] else s.errors,
                            done := s.done ++ [i] } (.endTask i exc)
  | exitW : s.workers[w]? = some .stopping →
      WTrans c s w { s with workers := s.workers.set w .exited } .exitW

theorem workerStep_sound {c : Cfg} {s s' : St} {w : Nat} {e : Ev}
    (hs : workerStep c s w = some (s', e)) : WTrans c s w s' e := by
  unfold workerStep at hs
  split at hs
  · cases hs
  · next hw =>
    split at hs
    · cases hs
    · next i q hq => cases hs; exact .get (some i) q hw hq
    · next q hq => cases hs; exact .get none q hw hq
  · next i ph hw =>
    have hb := bodyStep_sound c s i .src ph
    split at hs
    · next ph' e1 s1 heq =>
      cases hs
      rw [heq] at hb; exact .body i ph (.cont ph') _ _ hw hb
    · next exc e1 s1 heq =>
      cases hs
      rw [heq] at hb; exact .body i ph (.fin exc) _ _ hw hb
  · next i exc hw => cases hs; exact .endTask i exc hw
  · next hw => cases hs; exact .exitW hw
  · cases hs

/-- the transitions of the producer -/
inductive PTrans (c : Cfg) (s : St) : St → Ev → Prop
  | inlOpen1Fail (i rest) : s.prod = .loop i rest → c.n = 0 → c.fails i (.open (firstSide c)) = true →
      PTrans c s (raiseP c { s with nfail := s.nfail + 1 } (i :: rest)) (.open i (firstSide c) false)
  | inlOpen1Ok (i rest) : s.prod = .loop i rest → c.n = 0 → c.fails i (.open (firstSide c)) = false →
      PTrans c s { s with prod := .inl i .second rest, opened := (i, firstSide c) :: s.opened,
                          dest := openEffect c s.dest i (firstSide c) } (.open i (firstSide c) true)
  | openSrcFail (i rest) : s.prod = .loop i rest → c.n ≠ 0 → c.fails i (.open .src) = true →
      PTrans c s (raiseP c { s with nfail := s.nfail + 1 } (i :: rest)) (.open i .src false)
  | openSrcOk (i rest) : s.prod = .loop i rest → c.n ≠ 0 → c.fails i (.open .src) = false →
      PTrans c s { s with prod := .srcOpen i rest, opened := (i, .src) :: s.opened } (.open i .src true)
  | openDstFail (i rest) : s.prod = .srcOpen i rest → c.fails i (.open .dst) = true →
      PTrans c s { s with prod := .failClose i rest, nfail := s.nfail + 1 } (.open i .dst false)
  | openDstOk (i rest) : s.prod = .srcOpen i rest → c.fails i (.open .dst) = false →
      PTrans c s { s with prod := .bothOpen i rest, allTasks := s.allTasks ++ [i],
                          opened := (i, .dst) :: s.opened,
                          dest := openEffect c s.dest i .dst } (.open i .dst true)
  | failCloseFail (i rest) : s.prod = .failClose i rest → c.fails i (.close .src) = true →
      PTrans c s (raiseP c { s with opened := s.opened.erase (i, .src), nfail := s.nfail + 1 } (i :: rest))
        (.close i .src false)
  | failCloseOk (i rest) : s.prod = .failClose i rest → c.fails i (.close .src) = false →
      PTrans c s (raiseP c { s with opened := s.opened.erase (i, .src) } (i :: rest)) (.close i .src true)
  | put (i rest) : s.prod = .bothOpen i rest → s.queue.length < c.n →
      PTrans c s { s with prod := nextLoop c rest, queue := s.queue ++ [some i] } (.put (some i))
  | inlOpen2Fail (i rest) : s.prod = .inl i .second rest → c.fails i (.open (firstSide c).other) = true →
      PTrans c s { s with prod := .inl i .failClose rest, nfail := s.nfail + 1 }
        (.open i (firstSide c).other false)
  | inlOpen2Ok (i rest) : s.prod = .inl i .second rest → c.fails i (.open (firstSide c).other) = false →
      PTrans c s { s with prod := .inl i (.body (.reading 0)) rest,
                          opened := (i, (firstSide c).other) :: s.opened,
                          dest := openEffect c s.dest i (firstSide c).other }
        (.open i (firstSide c).other true)
  | inlFailCloseFail (i rest) : s.prod = .inl i .failClose rest → c.fails i (.close (firstSide c)) = true →
      PTrans c s (raiseP c { s with opened := s.opened.erase (i, firstSide c), nfail := s.nfail + 1 } (i :: rest))
        (.close i (firstSide c) false)
  | inlFailCloseOk (i rest) : s.prod = .inl i .failClose rest → c.fails i (.close (firstSide c)) = false →
      PTrans c s (raiseP c { s with opened := s.opened.erase (i, firstSide c) } (i :: rest))
        (.close i (firstSide c) true)
  | inlBodyCont (i rest ph ph' e s1) : s.prod = .inl i (.body ph) rest →
      BTrans c s i (firstSide c).other ph (.cont ph') e s1 →
      PTrans c s { s1 with prod := .inl i (.body ph') rest } e
  | inlBodyRaise (i rest ph e s1) : s.prod = .inl i (.body ph) rest →
      BTrans c s i (firstSide c).other ph (.fin true) e s1 →
      PTrans c s (raiseP c { s1 with done := s1.done ++ [i] } rest) e
  | inlBodyToPtime (i rest ph e s1) : s.prod = .inl i (.body ph) rest →
      BTrans c s i (firstSide c).other ph (.fin false) e s1 → c.preserveTime = true →
      PTrans c s { s1 with prod := .inl i .ptime rest } e
  | inlBodyNext (i rest ph e s1) : s.prod = .inl i (.body ph) rest →
      BTrans c s i (firstSide c).other ph (.fin false) e s1 → c.preserveTime = false →
      PTrans c s { s1 with prod := nextLoop c rest, done := s1.done ++ [i] } e
  | inlPtimeFail (i rest) : s.prod = .inl i .ptime rest →
      (c.fails i .ptime || (s.dest.get (c.dstp i)).isNone) = true →
      PTrans c s (raiseP c { s with done := s.done ++ [i], nfail := s.nfail + 1 } rest) (.ptime i false)
  | inlPtimeOk (i rest) : s.prod = .inl i .ptime rest →
      (c.fails i .ptime || (s.dest.get (c.dstp i)).isNone) = false →
      PTrans c s { s with prod := nextLoop c rest, done := s.done ++ [i], timed := s.timed ++ [i] }
        (.ptime i true)
  | putSentinel (k exc) : s.prod = .sentinels k exc → s.queue.length < c.n →
      PTrans c s { s with prod := if k + 1 < c.n then .sentinels (k + 1) exc else .joining 0 exc,
                          queue := s.queue ++ [none] } (.put none)
  | join (k exc) : s.prod = .joining k exc → s.workers[k]? = some .exited →
      PTrans c s { s with prod := if k + 1 < c.n then .joining (k + 1) exc
                                  else afterJoin c s.allTasks exc } (.join k)
  | ptimesFail (i todo exc) : s.prod = .ptimes i todo exc →
      (c.fails i .ptime || (s.dest.get (c.dstp i)).isNone) = true →
      PTrans c s { s with prod := .exiting true, nfail := s.nfail + 1 } (.ptime i false)
  | ptimesOk (i todo exc) : s.prod = .ptimes i todo exc →
      (c.fails i .ptime || (s.dest.get (c.dstp i)).isNone) = false →
      PTrans c s { s with prod := ptimesNext todo exc, timed := s.timed ++ [i] } (.ptime i true)
  | qjoin (exc) : s.prod = .qjoin exc → unfinished s = 0 →
      PTrans c s { s with prod := .exiting exc } .qjoin
  | exit (exc) : s.prod = .exiting exc →
      PTrans c s { s with prod := .finished (if exc then .other else if s.errors.isEmpty then .ok else .bulk) }
        (.exit (if exc then .other else if s.errors.isEmpty then .ok else .bulk))

theorem prodStep_sound {c : Cfg} {s s' : St} {e : Ev}
    (hs : prodStep c s = some (s', e)) : PTrans c s s' e := by
  unfold prodStep at hs
  split at hs
  · next i rest hp =>
    split at hs
    · next hn =>
      split at hs
      · next hf => cases hs; exact .inlOpen1Fail i rest hp hn hf
      · next hf => cases hs; exact .inlOpen1Ok i rest hp hn (by simp_all)
    · next hn =>
      split at hs
      · next hf => cases hs; exact .openSrcFail i rest hp hn hf
      · next hf => cases hs; exact .openSrcOk i rest hp hn (by simp_all)
  · next i rest hp =>
    split at hs
    · next hf => cases hs; exact .openDstFail i rest hp hf
    · next hf => cases hs; exact .openDstOk i rest hp (by simp_all)
  · next i rest hp =>
    split at hs
    · next hf => cases hs; exact .failCloseFail i rest hp hf
    · next hf => cases hs; exact .failCloseOk i rest hp (by simp_all)
  · next i rest hp =>
    split at hs
    · next hq => cases hs; exact .put i rest hp hq
    · cases hs
  · next i rest hp =>
    split at hs
    · next hf => cases hs; exact .inlOpen2Fail i rest hp hf
    · next hf => cases hs; exact .inlOpen2Ok i rest hp (by simp_all)
  · next i rest hp =>
    split at hs
    · next hf => cases hs; exact .inlFailCloseFail i rest hp hf
    · next hf => cases hs; exact .inlFailCloseOk i rest hp (by simp_all)
  · next i ph rest hp =>
    have hb := bodyStep_sound c s i (firstSide c).other ph
    split at hs
    · next ph' e1 s1 heq =>
      simp at hs; obtain ⟨rfl, rfl⟩ := hs
      rw [heq] at hb; exact .inlBodyCont i rest ph ph' e1 s1 hp hb
    · next e1 s1 heq =>
      simp at hs; obtain ⟨rfl, rfl⟩ := hs
      rw [heq] at hb; exact .inlBodyRaise i rest ph e1 s1 hp hb
    · next e1 s1 heq =>
      rw [heq] at hb
      split at hs
      · next hpt => cases hs; exact .inlBodyToPtime i rest ph _ _ hp hb hpt
      · next hpt => cases hs; exact .inlBodyNext i rest ph _ _ hp hb (by simp_all)
  · next i rest hp =>
    split at hs
    · next hf => cases hs; exact .inlPtimeFail i rest hp hf
    · next hf => cases hs; exact .inlPtimeOk i rest hp (Bool.eq_false_iff.mpr hf)
  · next k exc hp =>
    split at hs
    · next hq => cases hs; exact .putSentinel k exc hp hq
    · cases hs
  · next k exc hp =>
    split at hs
    · next hj => cases hs; exact .join k exc hp hj
    · cases hs
  · next i todo exc hp =>
    split at hs
    · next hf => cases hs; exact .ptimesFail i todo exc hp hf
    · next hf => cases hs; exact .ptimesOk i todo exc hp (Bool.eq_false_iff.mpr hf)
  · next exc hp =>
    split at hs
    · next hu => cases hs; exact .qjoin exc hp hu
    · cases hs
  · next exc hp => cases hs; exact .exit exc hp
  · cases hs

end Fs.BulkLemmas
