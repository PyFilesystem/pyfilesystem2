/-
  The two breadth-first phases of `copy_dir` (`BaseWalkSpec.recNode .struct`, then `.files`) against the
  reference merge `Ref.mergeEnts`: same failures, same result up to the order of entries (`ObsEq`).

  Each phase is an overlay (`IsOvl`, from `Lemmas/Overlay.lean`) that writes the source directories resp. the source
  files, the merge the one that writes both; what each shows at every path and when it fails comes from there, and
  the comparison theorems `merge_some` / `merge_none` follow.
-/
import FsProofs.Lemmas.Overlay

namespace Fs.BaseWalkMerge
open Fs Fs.Ref Fs.BaseWalkSpec Fs.TreeLemmas

/-! ### one level -/

def lvl1 : Phase → Node → Option Node → Option (Option Node)
  | .struct, .file _, _ => some none
  | .struct, .dir _, none => some (some (.dir []))
  | .struct, .dir _, some (.dir _) => some none
  | .struct, .dir _, some (.file _) => none
  | .files, .dir _, _ => some none
  | .files, .file _, some (.dir _) => none
  | .files, .file b, _ => some (some (.file b))

theorem lvl_eq_fold (ph : Phase) : ∀ (es ds : Ents), lvl ph es ds = foldEnts (lvl1 ph) es ds
  | [], _ => by cases ph <;> rfl
  | (k, v) :: es, ds => by
    cases ph <;> cases v <;> simp only [lvl, foldEnts] <;> rcases Ents.lookup k ds with _ | ⟨_ | _⟩ <;>
      first | rfl | exact lvl_eq_fold _ es _

theorem lvl_wf (ph : Phase) (es ds d1 : Ents) (he : entsWf es = true) (hd : entsWf ds = true)
    (h : lvl ph es ds = some d1) : entsWf d1 = true := by
  rw [lvl_eq_fold] at h
  refine foldEnts_wf es ds d1 he hd (fun k v o n _ _ hn => ?_) h
  cases ph <;> cases v <;> rcases o with _ | ⟨_ | _⟩ <;> cases hn <;> rfl

def own : Phase → Node → Bool
  | .struct, .dir _ => true
  | .files, .file _ => true
  | _, _ => false

theorem lvl1_dir {ph : Phase} {e : Ents} {o : Option Node} {r : Option Node} (h : lvl1 ph (.dir e) o = some r) :
    (∃ d, o = some (.dir d) ∧ r = none) ∨ (ph = .struct ∧ o = none ∧ r = some (.dir [])) ∨
    (ph = .files ∧ r = none) := by
  cases ph <;> rcases o with _ | ⟨_ | _⟩ <;> cases h <;> simp

theorem lvl_spec (ph : Phase) (es ds d1 : Ents) (he : entsWf es = true) (h : lvl ph es ds = some d1) (k : Name) :
    match Ents.lookup k es with
    | none => Ents.lookup k d1 = Ents.lookup k ds
    | some v => ∃ r, lvl1 ph v (Ents.lookup k ds) = some r ∧ Ents.lookup k d1 = r.or (Ents.lookup k ds) :=
  foldEnts_spec es ds d1 he (lvl_eq_fold ph es ds ▸ h) k

/-! ### the sub-directories -/

def kid1 (ph : Phase) : Node → Option Node → Option (Option Node)
  | .file _, _ => some none
  | .dir _, none => none
  | .dir e, some dn => (recNode ph (.dir e) dn).map some

theorem recKids_eq_fold (ph : Phase) : ∀ (es ds : Ents), recKids ph es ds = foldEnts (kid1 ph) es ds
  | [], _ => by rw [recKids, foldEnts]
  | (k, .file _) :: es, ds => by rw [recKids, foldEnts, kid1, recKids_eq_fold ph es]
  | (k, .dir e) :: es, ds => by
    rw [recKids, foldEnts]
    rcases Ents.lookup k ds with _ | dn
    · rfl
    · simp only [kid1]
      rcases recNode ph (.dir e) dn with _ | m
      · rfl
      · exact recKids_eq_fold ph es _

/-- what `recKids` does to the entry of each name -/
theorem recKids_spec (ph : Phase) (es d1 d2 : Ents) (he : entsWf es = true) (h : recKids ph es d1 = some d2)
    (k : Name) :
    (∀ e, Ents.lookup k es = some (.dir e) →
      ∃ dn m, Ents.lookup k d1 = some dn ∧ recNode ph (.dir e) dn = some m ∧ Ents.lookup k d2 = some m) ∧
    ((∀ e, Ents.lookup k es ≠ some (.dir e)) → Ents.lookup k d2 = Ents.lookup k d1) := by
  rw [recKids_eq_fold] at h
  have hs := foldEnts_spec es d1 d2 he h k
  rcases hle : Ents.lookup k es with _ | ⟨b | e⟩ <;> rw [hle] at hs
  · exact ⟨fun e he => (by cases he), fun _ => hs⟩
  · obtain ⟨r, hr, hd⟩ := hs
    cases hr
    exact ⟨fun e he => (by cases he), fun _ => hd⟩
  · obtain ⟨r, hr, hd⟩ := hs
    refine ⟨fun e' he' => ?_, fun hne => absurd rfl (hne e)⟩
    cases he'
    rcases hld : Ents.lookup k d1 with _ | dn <;> rw [hld] at hr hd
    · cases hr
    · obtain ⟨m, hm, rfl⟩ := Option.map_eq_some_iff.1 hr
      exact ⟨dn, m, rfl, hm, hd⟩

theorem recKids_none (ph : Phase) (es d1 : Ents) (he : entsWf es = true) (h : recKids ph es d1 = none) :
    ∃ k e, Ents.lookup k es = some (.dir e) ∧
      (Ents.lookup k d1 = none ∨ ∃ dn, Ents.lookup k d1 = some dn ∧ recNode ph (.dir e) dn = none) := by
  rw [recKids_eq_fold] at h
  obtain ⟨k, v, hle, hn⟩ := foldEnts_none es d1 he h
  cases v with
  | file b => cases hn
  | dir e =>
    refine ⟨k, e, hle, ?_⟩
    rcases hld : Ents.lookup k d1 with _ | dn
    · exact Or.inl rfl
    · rw [hld] at hn
      exact Or.inr ⟨dn, rfl, Option.map_eq_none_iff.1 hn⟩

/-- a successful `recNode` is one level followed by the sub-directories, on two directories -/
theorem recNode_inv {ph : Phase} {S D D1 : Node} (h : recNode ph S D = some D1) :
    ∃ es ds d1 d2, S = .dir es ∧ D = .dir ds ∧ lvl ph es ds = some d1 ∧
      recKids ph es d1 = some d2 ∧ D1 = .dir d2 := by
  cases S with
  | file b => simp [recNode] at h
  | dir es =>
    cases D with
    | file b => simp [recNode] at h
    | dir ds =>
      simp only [recNode] at h
      cases hl : lvl ph es ds with
      | none => simp [hl] at h
      | some d1 =>
        simp only [hl, Option.map_eq_some_iff] at h
        obtain ⟨d2, h2, rfl⟩ := h
        exact ⟨es, ds, d1, d2, rfl, rfl, hl, h2, rfl⟩

theorem kid1_wf {ph : Phase} {v : Node} {o : Option Node} {n : Node}
    (hrec : ∀ e dn, v = .dir e → dn.wf = true → recNode ph (.dir e) dn = some n → n.wf = true)
    (ho : ∀ x, o = some x → x.wf = true) (hn : kid1 ph v o = some (some n)) : n.wf = true := by
  cases v with
  | file b => cases hn
  | dir e =>
    rcases o with _ | dn
    · cases hn
    · obtain ⟨m, hm, hmn⟩ := Option.map_eq_some_iff.1 hn
      cases hmn
      exact hrec e dn rfl (ho dn rfl) hm

theorem recNode_wf_dir (ph : Phase) (es : Ents) : ∀ (D D1 : Node), entsWf es = true → D.wf = true →
    recNode ph (.dir es) D = some D1 → D1.wf = true := by
  induction es using ents_induction with
  | step es ih =>
    intro D D1 he hD h
    obtain ⟨_, ds, d1, d2, hes, rfl, hl, hk, rfl⟩ := recNode_inv h
    cases hes
    rw [recKids_eq_fold] at hk
    refine wf_dir.2 (foldEnts_wf es d1 d2 he (lvl_wf ph es ds d1 he (wf_dir.1 hD) hl) ?_ hk)
    intro k v o n hle ho hn
    refine kid1_wf (fun e dn hv hdn hm => ?_) ho hn
    subst hv
    exact ih k e hle dn n (wf_dir.1 (lookup_wf _ _ _ he hle)) hdn hm

theorem recNode_wf (ph : Phase) (S D D1 : Node) (hS : S.wf = true) (hD : D.wf = true)
    (h : recNode ph S D = some D1) : D1.wf = true := by
  obtain ⟨es, _, _, _, rfl, _⟩ := recNode_inv h
  exact recNode_wf_dir ph es D D1 (wf_dir.1 hS) hD h

theorem recKids_wf' : ∀ (ph : Phase) (es ds d2 : Ents), entsWf es = true → entsWf ds = true →
    recKids ph es ds = some d2 → entsWf d2 = true := by
  intro ph es ds d2 he hd h
  rw [recKids_eq_fold] at h
  refine foldEnts_wf es ds d2 he hd (fun k v o n hle ho hn => kid1_wf (fun e dn hv hdn hm => ?_) ho hn) h
  subst hv
  exact recNode_wf ph _ dn n (lookup_wf _ _ _ he hle) hdn hm

def recE (ph : Phase) (es ds : Ents) : Option Ents := (lvl ph es ds).bind (recKids ph es)

theorem recNode_dir (ph : Phase) (es ds : Ents) : recNode ph (.dir es) (.dir ds) = (recE ph es ds).map .dir := by
  simp only [recNode, recE]
  cases lvl ph es ds <;> rfl

theorem lvl1_eq_ovl1 (ph : Phase) (b : Bytes) (o : Option Node) :
    lvl1 ph (.file b) o = ovl1 (own ph) (recE ph) (.file b) o := by
  cases ph <;> rcases o with _ | ⟨_ | _⟩ <;> rfl

theorem isOvl_phase (ph : Phase) : IsOvl (own ph) (recE ph) where
  spec := by
    intro es ds m he h k
    obtain ⟨d1, hl, hk⟩ := Option.bind_eq_some_iff.1 h
    have hs := lvl_spec ph es ds d1 he hl k
    have hr := recKids_spec ph es d1 m he hk k
    rcases hle : Ents.lookup k es with _ | ⟨b | e⟩ <;> rw [hle] at hs <;> simp only
    · rw [hr.2 (by simp [hle]), hs]
    · obtain ⟨r0, hr0, hd1⟩ := hs
      exact ⟨r0, by rw [← lvl1_eq_ovl1, hr0], by rw [hr.2 (by simp [hle]), hd1]⟩
    · obtain ⟨r0, hr0, hd1⟩ := hs
      obtain ⟨dn, mm, hdn, hrec, hd2⟩ := hr.1 e hle
      rw [hd1] at hdn
      -- the level leaves a directory `dn` at `k` (the old one, or a new empty one); `recKids` overlays it
      have key : ∀ d, dn = .dir d → (Ents.lookup k ds = some (.dir d) ∨ (Ents.lookup k ds = none ∧ d = [] ∧ own ph (.dir e) = true)) →
          ∃ r, ovl1 (own ph) (recE ph) (.dir e) (Ents.lookup k ds) = some r ∧ Ents.lookup k m = r.or (Ents.lookup k ds) := by
        rintro d rfl hd
        rw [recNode_dir] at hrec
        obtain ⟨m', hm', rfl⟩ := Option.map_eq_some_iff.1 hrec
        refine ⟨some (.dir m'), ?_, hd2⟩
        rcases hd with hd | ⟨hd, rfl, ho⟩ <;> rw [hd]
        · simp [ovl1, hm']
        · simp [ovl1, hm', ho]
      -- by destination entry and phase.  Left: no entry in `struct` (the level made `dir []`), a file in `files`
      -- (`recNode` fails on it, against `hrec`), a directory in either phase; a file in `struct` has no `r0`, no entry
      -- in `files` no `dn`
      rcases hld : Ents.lookup k ds with _ | ⟨b1 | d⟩ <;> rw [hld] at hr0 hdn key <;> cases ph <;> cases hr0 <;> cases hdn
      · exact key [] rfl (Or.inr ⟨rfl, rfl, rfl⟩)
      · simp [recNode] at hrec
      · exact key d rfl (Or.inl rfl)
      · exact key d rfl (Or.inl rfl)
  fail := by
    intro es ds he h
    rcases hl : lvl ph es ds with _ | d1
    · rw [lvl_eq_fold] at hl
      obtain ⟨k, v, hle, hn⟩ := foldEnts_none es ds he hl
      refine ⟨k, v, hle, ?_⟩
      -- `lvl1` is `none` in two of the twelve cases, a source directory over a file in `struct` and a source file over
      -- a directory in `files`; `ovl1` is `none` there too
      cases ph <;> cases v <;> rcases hld : Ents.lookup k ds with _ | ⟨_ | _⟩ <;> rw [hld] at hn <;>
        first | (cases hn; done) | rfl | simp [ovl1, own]
    · have hk : recKids ph es d1 = none := by simpa [recE, hl] using h
      obtain ⟨k, e, hle, hcc⟩ := recKids_none ph es d1 he hk
      have hs := lvl_spec ph es ds d1 he hl k
      rw [hle] at hs
      obtain ⟨r0, hr0, hd1⟩ := hs
      rw [hd1] at hcc
      refine ⟨k, .dir e, hle, ?_⟩
      have key : ∀ d, recNode ph (.dir e) (.dir d) = none → recE ph e d = none := fun d hd => by
        rw [recNode_dir] at hd
        exact Option.map_eq_none_iff.1 hd
      -- `ovl1` is `none` by itself on no entry in `files` and on a file; left: no entry in `struct`, a directory in
      -- either phase, where `recKids` failed on the directory the level left (`hcc`)
      rcases hld : Ents.lookup k ds with _ | ⟨b1 | d⟩ <;> rw [hld] at hr0 hcc <;> cases ph <;> cases hr0 <;>
        simp only [ovl1, own, Bool.false_eq_true, if_false, if_true]
      · rcases hcc with hcc | ⟨dn, hcc, hrec⟩ <;> cases hcc
        rw [key [] hrec]; rfl
      · rcases hcc with hcc | ⟨dn, hcc, hrec⟩ <;> cases hcc
        rw [key d hrec]; rfl
      · rcases hcc with hcc | ⟨dn, hcc, hrec⟩ <;> cases hcc
        rw [key d hrec]; rfl

theorem recNode_some {ph : Phase} {S D D1 : Node} (h : recNode ph S D = some D1) :
    ∃ es ds m, S = .dir es ∧ D = .dir ds ∧ D1 = .dir m ∧ recE ph es ds = some m := by
  obtain ⟨es, ds, _, m, rfl, rfl, _, _, rfl⟩ := recNode_inv h
  rw [recNode_dir] at h
  obtain ⟨_, hm, hm'⟩ := Option.map_eq_some_iff.1 h
  cases hm'
  exact ⟨es, ds, m, rfl, rfl, rfl, hm⟩

theorem phase_get (ph : Phase) {S D D1 : Node} (hS : S.wf = true) (h : recNode ph S D = some D1) (q : List Name) :
    (D1.get q).map shallow = obs (own ph) (S.get q) ((D.get q).map shallow) := by
  obtain ⟨es, ds, m, rfl, rfl, rfl, hm⟩ := recNode_some h
  exact ovl_get (isOvl_phase ph) q es ds m (wf_dir.1 hS) hm

theorem map_shallow_dir {o : Option Node} (h : o.map shallow = some none) : ∃ d, o = some (.dir d) := by
  cases o with
  | none => simp at h
  | some n =>
    cases n with
    | file b => simp [shallow] at h
    | dir d => exact ⟨d, rfl⟩

open Classical in
/-- the `struct` phase, at every path: a source directory is a directory; any other position is unchanged -/
theorem struct_get (es ds : Ents) (D1 : Node) (hS : entsWf es = true) (_hD : entsWf ds = true)
    (h : recNode .struct (.dir es) (.dir ds) = some D1) (q : List Name) :
    (D1.get q).map shallow =
      if (∃ e, (Node.dir es).get q = some (.dir e)) then some none
      else ((Node.dir ds).get q).map shallow := by
  rw [phase_get .struct (wf_dir.mpr hS) h q]
  rcases (Node.dir es).get q with _ | ⟨b | e⟩
  · rw [if_neg (by simp)]; rfl
  · rw [if_neg (by simp)]; rfl
  · rw [if_pos ⟨e, rfl⟩]; rfl

/-- the `files` phase, at every path: a source file is there with its bytes; any other position is unchanged -/
theorem files_get (es ds : Ents) (D1 : Node) (hS : entsWf es = true) (_hD : entsWf ds = true)
    (_hc : Cov (.dir es) (.dir ds) []) (h : recNode .files (.dir es) (.dir ds) = some D1)
    (q : List Name) :
    (D1.get q).map shallow =
      match (Node.dir es).get q with
      | some (.file b) => some (some b)
      | _ => ((Node.dir ds).get q).map shallow := by
  rw [phase_get .files (wf_dir.mpr hS) h q]
  rcases (Node.dir es).get q with _ | ⟨b | e⟩ <;> rfl

theorem cov_nil {S D : Node} :
    Cov S D [] ↔ ∀ x e, S.get x = some (.dir e) → ∃ d, D.get x = some (.dir d) := Iff.rfl

theorem struct_cov (S D D1 : Node) (hS : S.wf = true)
    (h : recNode .struct S D = some D1) : Cov S D1 [] :=
  cov_nil.mpr fun x _ hx => map_shallow_dir (by rw [phase_get .struct hS h x, hx]; rfl)

/-- `_hc` is not needed: the `files` phase fails on a source directory that has no destination directory -/
theorem files_cov (S D D1 : Node) (hS : S.wf = true) (_hD : D.wf = true) (_hc : Cov S D [])
    (h : recNode .files S D = some D1) : Cov S D1 [] := by
  refine cov_nil.mpr fun x e hx => map_shallow_dir ?_
  obtain ⟨es, ds, m, rfl, rfl, rfl, hm⟩ := recNode_some h
  obtain ⟨d, hd⟩ := ovl_covered (isOvl_phase .files) x es ds m (wf_dir.1 hS) hm e hx rfl
  rw [phase_get .files hS h x, hx, hd]
  rfl

/-! ### the reference merge, pointwise -/

theorem merge_get (es ds m : Ents) (he : entsWf es = true) (_hd : entsWf ds = true)
    (hm : mergeEnts es ds = some m) (q : List Name) :
    ((Node.dir m).get q).map shallow =
      match ((Node.dir es).get q).map shallow with
      | some x => some x
      | none => ((Node.dir ds).get q).map shallow := by
  rw [ovl_get isOvl_merge q es ds m he hm]
  cases (Node.dir es).get q <;> rfl

theorem phase_none_iff (ph : Phase) (es ds : Ents) (he : entsWf es = true)
    (hc : ph = .files → Cov (.dir es) (.dir ds) []) :
    recNode ph (.dir es) (.dir ds) = none ↔ Conflict (own ph) (.dir es) (.dir ds) := by
  rw [recNode_dir, Option.map_eq_none_iff]
  constructor
  · intro h
    rcases ovl_none_conflict (isOvl_phase ph) (fun _ _ => by cases ph <;> rfl) es ds he h with hcf | ⟨q, e, h1, ho, h2⟩
    · exact hcf
    · cases ph with
      | struct => cases ho
      | files =>
        obtain ⟨d, hd⟩ := cov_nil.1 (hc rfl) q e h1
        exact absurd hd (h2 d)
  · rintro ⟨q, n, d, h1, h2, ho, hk⟩
    cases h : recE ph es ds with
    | none => rfl
    | some m => exact (ovl_no_conflict (isOvl_phase ph) q es ds m he h n d h1 h2 ho hk).elim

theorem struct_none_iff (es ds : Ents) (he : entsWf es = true) (_hd : entsWf ds = true) :
    recNode .struct (.dir es) (.dir ds) = none ↔
      ∃ q e b, (Node.dir es).get q = some (.dir e) ∧ (Node.dir ds).get q = some (.file b) := by
  rw [phase_none_iff .struct es ds he (fun h => by cases h)]
  constructor
  · rintro ⟨q, n, d, h1, h2, ho, hk⟩
    cases n <;> cases d <;> first | exact ⟨q, _, _, h1, h2⟩ | exact absurd rfl hk | cases ho
  · rintro ⟨q, e, b, h1, h2⟩
    exact ⟨q, _, _, h1, h2, rfl, by simp [Node.isDir]⟩

theorem files_none_iff (es ds : Ents) (he : entsWf es = true) (_hd : entsWf ds = true)
    (hc : Cov (.dir es) (.dir ds) []) :
    recNode .files (.dir es) (.dir ds) = none ↔
      ∃ q b e, (Node.dir es).get q = some (.file b) ∧ (Node.dir ds).get q = some (.dir e) := by
  rw [phase_none_iff .files es ds he (fun _ => hc)]
  constructor
  · rintro ⟨q, n, d, h1, h2, ho, hk⟩
    cases n <;> cases d <;> first | exact ⟨q, _, _, h1, h2⟩ | exact absurd rfl hk | cases ho
  · rintro ⟨q, b, e, h1, h2⟩
    exact ⟨q, _, _, h1, h2, rfl, by simp [Node.isDir]⟩

/-! ### the two phases against the reference merge

The merge writes every source node, so a conflict of either phase is a conflict of the merge; and the `struct` phase
leaves the positions of source files alone, so a conflict of the `files` phase after it was there before it. -/

theorem merge_some (es ds m : Ents) (he : entsWf es = true) (hd : entsWf ds = true)
    (hm : mergeEnts es ds = some m) :
    ∃ m1 m2, recNode .struct (.dir es) (.dir ds) = some (.dir m1) ∧
      recNode .files (.dir es) (.dir m1) = some (.dir m2) ∧
      entsWf m1 = true ∧ entsWf m2 = true ∧ ObsEq (.dir m2) (.dir m) := by
  have hSw : (Node.dir es).wf = true := wf_dir.mpr he
  have noc : ∀ {own : Node → Bool}, ¬ Conflict own (.dir es) (.dir ds) :=
    fun ⟨q, n, d, h1, h2, _, hk⟩ => ovl_no_conflict isOvl_merge q es ds m he hm n d h1 h2 rfl hk
  cases h1 : recNode .struct (.dir es) (.dir ds) with
  | none => exact (noc ((phase_none_iff .struct es ds he (fun h => by cases h)).1 h1)).elim
  | some D1 =>
    obtain ⟨_, _, _, m1, _, _, _, _, rfl⟩ := recNode_inv h1
    have hm1 : entsWf m1 = true := wf_dir.mp (recNode_wf .struct _ _ _ hSw (wf_dir.mpr hd) h1)
    cases h2 : recNode .files (.dir es) (.dir m1) with
    | none =>
      obtain ⟨q, n, d, x1, x2, ho, hk⟩ := (phase_none_iff .files es m1 he (fun _ => struct_cov _ _ _ hSw h1)).1 h2
      have hx := phase_get .struct hSw h1 q
      rw [x1, x2] at hx
      cases n with
      | dir _ => cases ho
      | file b =>
        cases d with
        | file _ => exact absurd rfl hk
        | dir d' =>
          obtain ⟨d0, hd0⟩ := map_shallow_dir hx.symm
          exact (noc (own := fun _ => true) ⟨q, _, _, x1, hd0, rfl, hk⟩).elim
    | some D2 =>
      obtain ⟨_, _, _, m2, _, _, _, _, rfl⟩ := recNode_inv h2
      have hm2 : entsWf m2 = true := wf_dir.mp (recNode_wf .files _ _ _ hSw (wf_dir.mpr hm1) h2)
      refine ⟨m1, m2, rfl, h2, hm1, hm2, fun q => ?_⟩
      rw [phase_get .files hSw h2 q, phase_get .struct hSw h1 q, ovl_get isOvl_merge q es ds m he hm]
      rcases (Node.dir es).get q with _ | ⟨_ | _⟩ <;> rfl

-- `hd` is not needed
set_option linter.unusedVariables false in
theorem merge_none (es ds : Ents) (he : entsWf es = true) (hd : entsWf ds = true)
    (hm : mergeEnts es ds = none) :
    recNode .struct (.dir es) (.dir ds) = none ∨
      ∃ m1, recNode .struct (.dir es) (.dir ds) = some (.dir m1) ∧
        recNode .files (.dir es) (.dir m1) = none := by
  have hSw : (Node.dir es).wf = true := wf_dir.mpr he
  cases h1 : recNode .struct (.dir es) (.dir ds) with
  | none => exact Or.inl rfl
  | some D1 =>
    obtain ⟨_, _, _, m1, _, _, _, _, rfl⟩ := recNode_inv h1
    refine Or.inr ⟨m1, rfl, (phase_none_iff .files es m1 he (fun _ => struct_cov _ _ _ hSw h1)).2 ?_⟩
    rcases ovl_none_conflict isOvl_merge (fun _ _ => rfl) es ds he hm with ⟨q, n, d, x1, x2, _, hk⟩ | ⟨_, _, _, ho, _⟩
    · cases n with
      | dir e =>
        have := (phase_none_iff .struct es ds he (fun h => by cases h)).2 ⟨q, _, _, x1, x2, rfl, hk⟩
        rw [h1] at this
        cases this
      | file b =>
        have hx := phase_get .struct hSw h1 q
        rw [x1, x2] at hx
        cases d with
        | file _ => exact absurd rfl hk
        | dir d' =>
          obtain ⟨d1, hd1⟩ := map_shallow_dir hx
          exact ⟨q, _, _, x1, hd1, rfl, hk⟩
    · cases ho

/-- `opMerge` (both phases) and the reference merge fail together -/
theorem opMerge_none_iff (es ds : Ents) (he : entsWf es = true) (hd : entsWf ds = true) :
    opMerge (.dir es) (.dir ds) = none ↔ mergeEnts es ds = none := by
  constructor
  · intro h
    cases hm : mergeEnts es ds with
    | none => rfl
    | some m =>
      obtain ⟨m1, m2, h1, h2, _⟩ := merge_some es ds m he hd hm
      simp [opMerge, h1, h2] at h
  · intro hm
    rcases merge_none es ds he hd hm with h1 | ⟨m1, h1, h2⟩
    · simp [opMerge, h1]
    · simp [opMerge, h1, h2]

/-- `opMerge` (both phases) shows what the reference merge shows -/
theorem opMerge_some (es ds m : Ents) (he : entsWf es = true) (hd : entsWf ds = true)
    (hm : mergeEnts es ds = some m) :
    ∃ m2, opMerge (.dir es) (.dir ds) = some (.dir m2) ∧ entsWf m2 = true ∧
      ObsEq (.dir m2) (.dir m) := by
  obtain ⟨m1, m2, h1, h2, _, hw, ho⟩ := merge_some es ds m he hd hm
  exact ⟨m2, by simp [opMerge, h1, h2], hw, ho⟩

end Fs.BaseWalkMerge
