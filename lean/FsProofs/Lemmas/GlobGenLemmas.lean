/-
  Helper lemmas for `FsProofs/GlobGenEq.lean`; nothing here mentions the generated definitions.
  `glob._translate` is `wildcard._translate` with three differences (a `**` raises ValueError, `?` is `[^/]`,
  a bracket expression is preceded by `(?!/)`): its loop is the other instance of `WildGenLemmas.pyWhile_lexStep`.
  For `_split_pattern_by_sep`: `sepIdx` are the indices the code collects, `slices_eq` the slices between them.
-/
import FsProofs.Lemmas.WildGenLemmas

namespace Fs.GlobGenLemmas
open Fs Fs.PyStr Fs.PyLoop Fs.PyRe Fs.PyStrLemmas Fs.PathGenLemmas Fs.WildGenLemmas Fs.Regex Fs.RegexParseLemmas Fs.PatTokens

/-- one round of the outer loop of `glob._translate` -/
def gstep (pat : Str) (s : Nat × List Str) : Flow (Nat × List Str) Empty :=
  match pat[s.1]? with
  | none => .brk s
  | some c =>
    if c = '*' then
      (if pat[s.1 + 1]? = some '*' then .exc .ValueError
       else .next (s.1 + 1, s.2 ++ [['[', '^', '/', ']', '*']]))
    else if c = '?' then .next (s.1 + 1, s.2 ++ [['[', '^', '/', ']']])
    else if c = '[' then
      (if bracketEnd pat (s.1 + 1) < pat.length then
        .next (bracketEnd pat (s.1 + 1) + 1,
          s.2 ++ [['(', '?', '!', '/', ')'] ++
            Wild.classText ['^'] ((pat.take (bracketEnd pat (s.1 + 1))).drop (s.1 + 1))])
       else .next (s.1 + 1, s.2 ++ [['\\', '[']]))
    else .next (s.1 + 1, s.2 ++ [Wild.reEscape c])

theorem gstep_eq_lexStep (pat : Str) (s : Nat × List Str) : gstep pat s = lexStep emitG pat s := by
  rw [lexStep_eq]
  simp only [emitTo, emitG_clsTok]
  rw [gstep]
  cases pat[s.1]? with
  | none => rfl
  | some c =>
    simp only [emitG, List.head?_drop]
    by_cases h1 : c = '*'
    · rw [if_pos h1, if_pos h1]; split <;> rfl
    · rw [if_neg h1, if_neg h1]; rfl

theorem pyWhile_gstep (pat : Str) (f : Nat × List Str → Flow (Nat × List Str) Empty)
    (hf : ∀ s, f s = gstep pat s) (fuel i : Nat) (res : List Str) (h : pat.length - i < fuel) :
    lout res (Glob.textGo (pat.drop i) 0) (pyWhile fuel (i, res) f) :=
  pyWhile_lexStep emitG Glob.textGo (fun _ => rfl) (fun _ _ _ => rfl) glob_textGo_lex
    pat f (fun s => (hf s).trans (gstep_eq_lexStep pat s)) fuel i res h

/-! ### `_translate_glob` -/

/-- a result of the hand model in the vocabulary of generated code (inverse of `toTR` on what occurs) -/
def ofTR : TR α → Res α
  | .ok a => .ok a
  | .err e => .err (errOfTErr e)

theorem toTR_ofTR (r : TR α) : toTR (ofTR r) = r := by
  cases r with
  | ok a => rfl
  | err e => cases e <;> rfl

theorem gtextGo_err (s : Str) (k : Nat) (e : TErr) (h : Glob.textGo s k = .err e) : e = .valueError := by
  induction s generalizing k with
  | nil => cases h
  | cons c r ih =>
    cases k with
    | succ k => exact ih k h
    | zero =>
      rw [glob_textGo_lex] at h
      cases he : emitG r (lex c r).1 with
      | err e' =>
        rw [he] at h; cases h
        generalize (lex c r).1 = t at he
        cases t with
        | star => rw [emitG] at he; split at he <;> cases he; rfl
        | _ => cases he
      | ok x =>
        rw [he] at h
        cases hr : Glob.textGo r (lex c r).2 with
        | ok t => rw [hr] at h; cases h
        | err e' => rw [hr] at h; cases h; exact ih _ hr

/-- the third case of `Glob.hasSS` / `Glob.splitSS`: the text does not start with `**` -/
theorem startsWith_ss (c : Char) (r : Str) (hne : ∀ r', c = '*' → r = '*' :: r' → False) :
    Path.startsWith (c :: r) ['*', '*'] = false := by
  cases r with
  | nil => simp [Path.startsWith]
  | cons y r' =>
    simp only [Path.startsWith, PathLemmas.startsWith_nil, Bool.and_true, Bool.and_eq_false_iff, beq_eq_false_iff_ne]
    by_cases hc : c = '*'
    · exact .inr fun hy => hne r' hc (by rw [hy])
    · exact .inl hc

/-- `"**" in component` -/
theorem pyIn_ss (c : Str) : pyIn ['*', '*'] c = Glob.hasSS c := by
  fun_induction Glob.hasSS c with
  | case1 => rfl
  | case2 r => simp [pyIn, Path.startsWith, PathLemmas.startsWith_nil]
  | case3 c r hne ih => rw [pyIn, startsWith_ss c r hne, ih]; rfl

/-- `component.split("**")` -/
theorem pySplitS_ss (c : Str) : pySplitS c ['*', '*'] = Glob.splitSS c := by
  unfold pySplitS
  fun_induction Glob.splitSS c with
  | case1 => rfl
  | case2 r ih => rw [← ih]; simp [splitSGo, Path.startsWith, PathLemmas.startsWith_nil]
  | case3 c r hne h t hs ih => rw [splitSGo]; simp [startsWith_ss c r hne, ih, hs]
  | case4 c r hne hs ih => rw [splitSGo]; simp [startsWith_ss c r hne, ih, hs]

theorem pyJoinS_eq_joinStr (sep : Str) (l : List Str) : pyJoinS sep l = Glob.joinStr sep l := by
  induction l with
  | nil => rfl
  | cons a r ih =>
    cases r with
    | nil => rfl
    | cons b r' => simp only [pyJoinS, Glob.joinStr]; rw [ih]

theorem pyMapM_ofTR {α β} (g : α → TR β) (l : List α) :
    pyMapM l (fun a => ofTR (g a)) = ofTR (Glob.mapM' g l) := by
  induction l with
  | nil => rfl
  | cons a r ih =>
    simp only [pyMapM, Glob.mapM']
    rw [ih]
    cases g a with
    | err e => rfl
    | ok b => cases Glob.mapM' g r <;> rfl

/-- one round of the component loop of `_translate_glob`: state = (recursive, re_patterns) -/
def compStep (c : Str) (s : Bool × List Str) : Flow (Bool × List Str) Empty :=
  match ofTR (Glob.compText c) with
  | .err e => .exc e
  | .ok t => .next (s.1 || Glob.hasSS c, s.2 ++ [t])

theorem pyFor_compStep (f : Str → Bool × List Str → Flow (Bool × List Str) Empty)
    (hf : ∀ c s, f c s = compStep c s) (comps : List Str) (rec_ : Bool) (pats : List Str) :
    pyFor comps (rec_, pats) f =
      (match ofTR (Glob.mapM' Glob.compText comps) with
       | .err e => .exc e
       | .ok pieces => .done (rec_ || comps.any Glob.hasSS, pats ++ pieces)) := by
  induction comps generalizing rec_ pats with
  | nil => simp [pyFor, Glob.mapM', ofTR]
  | cons c cs ih =>
    rw [pyFor, hf, compStep, Glob.mapM']
    cases hct : Glob.compText c with
    | err e => rfl
    | ok t =>
      simp only [ofTR]
      rw [ih]
      cases Glob.mapM' Glob.compText cs with
      | err e => rfl
      | ok pieces => simp [ofTR, TR.map, Bool.or_assoc]

/-! ### `get_matcher(..., accept_prefix=True)`: the loops that build the prefix patterns -/

/-- a loop whose body only appends to its accumulator -/
theorem pyFor_append {α β : Type} (h : α → List β) (f : α → List β → Flow (List β) Empty)
    (hf : ∀ x s, f x s = .next (s ++ h x)) (xs : List α) (acc : List β) :
    pyFor xs acc f = .done (acc ++ xs.flatMap h) := by
  rw [pyFor_fold (fun s x => s ++ h x) f hf]
  congr 1
  induction xs generalizing acc with
  | nil => simp
  | cons x xs ih => rw [List.foldl_cons, ih, List.flatMap_cons, List.append_assoc]

/-- `for i, component in enumerate(split): if "**" in component: append(g i); break` -/
theorem pyFor_firstSS (g : Nat → Str) (f : Nat × Str → List Str → Flow (List Str) Empty)
    (hf : ∀ x s, f x s = if Glob.hasSS x.2 then .brk (s ++ [g x.1]) else .next s)
    (l : List Str) (off : Nat) (acc : List Str) :
    pyFor ((List.range' off l.length).zip l) acc f =
      .done (acc ++ (match Glob.firstSS l off with | some i => [g i] | none => [])) := by
  induction l generalizing off with
  | nil => simp [pyFor, Glob.firstSS]
  | cons c cs ih =>
    simp only [List.length_cons, List.range'_succ, List.zip_cons_cons, pyFor, hf, Glob.firstSS]
    by_cases hc : Glob.hasSS c = true
    · simp [hc]
    · simp only [hc, Bool.false_eq_true, if_false]
      exact ih (off + 1)

theorem pyEnumerate_eq {α} (l : List α) : pyEnumerate l = (List.range' 0 l.length).zip l := by
  simp [pyEnumerate, List.range_eq_range']

/-- what `get_matcher` adds for one pattern -/
def prefixOf (pat : Str) : List Str :=
  let split := Path.splitSlash pat
  ((List.range split.length).tail.flatMap fun i =>
      [Path.joinSlash (split.take i), Path.joinSlash (split.take i) ++ ['/']]) ++
    (match Glob.firstSS split 0 with
     | some i => [Path.joinSlash (split.take i ++ [['*', '*']])]
     | none => []) ++ [pat]

theorem prefixPatterns_eq (ps : List Str) : Glob.prefixPatterns ps = ps.flatMap prefixOf := by
  induction ps with
  | nil => rfl
  | cons p ps ih =>
    simp only [Glob.prefixPatterns, List.flatMap_cons, prefixOf, ih]
    simp only [List.append_assoc, List.cons_append, List.nil_append, List.append_cancel_left_eq]
    cases Glob.firstSS (Path.splitSlash p) 0 <;> rfl

/-! ### `_split_pattern_by_sep`: indices of the separating slashes, then slices between them -/

/-- absolute positions (counted from `k`) of the `/` outside brackets -/
def sepIdx : Str → Bool → Nat → List Nat
  | [], _, _ => []
  | c :: cs, o, k =>
    if c = '/' ∧ o = false then k :: sepIdx cs o (k + 1)
    else if c = '[' then sepIdx cs true (k + 1)
    else if c = ']' then sepIdx cs false (k + 1)
    else sepIdx cs o (k + 1)

/-- one round of `for i, c in enumerate(pattern)`, with the tests as Python makes them (on one-character strings) -/
def sepStep (x : Nat × Str) (s : List Int × Bool) : Flow (List Int × Bool) Empty :=
  if x.2 == ['/'] && !s.2 then .next (s.1 ++ [Int.ofNat x.1], s.2)
  else if x.2 == ['['] then .next (s.1, true)
  else if x.2 == [']'] then .next (s.1, false)
  else .next s

theorem pyFor_sepStep (f : Nat × Str → List Int × Bool → Flow (List Int × Bool) Empty)
    (hf : ∀ x s, f x s = sepStep x s) (cs : Str) (off : Nat) (idx : List Int) (o : Bool) :
    ∃ o', pyFor ((List.range' off cs.length).zip (pyChars cs)) (idx, o) f =
      .done (idx ++ (sepIdx cs o off).map Int.ofNat, o') := by
  induction cs generalizing off idx o with
  | nil => exact ⟨o, by simp [pyFor, pyChars, sepIdx]⟩
  | cons c cs ih =>
    have hp : pyChars (c :: cs) = [c] :: pyChars cs := rfl
    simp only [List.length_cons, List.range'_succ, hp, List.zip_cons_cons, pyFor, hf, sepStep, sepIdx, single_beq,
      Bool.and_eq_true, beq_iff_eq, Bool.not_eq_true']
    by_cases h1 : c = '/' ∧ o = false
    · obtain ⟨o', h⟩ := ih (off + 1) (idx ++ [Int.ofNat off]) o
      exact ⟨o', by rw [if_pos h1, if_pos h1]; exact h.trans (by rw [List.append_assoc]; rfl)⟩
    · rw [if_neg h1, if_neg h1]
      by_cases h2 : c = '['
      · rw [if_pos h2, if_pos h2]; exact ih (off + 1) idx true
      · rw [if_neg h2, if_neg h2]
        by_cases h3 : c = ']'
        · rw [if_pos h3, if_pos h3]; exact ih (off + 1) idx false
        · rw [if_neg h3, if_neg h3]; exact ih (off + 1) idx o

theorem zip_take_tail {α} (l : List α) : (l.take (l.length - 1)).zip l.tail = l.zip l.tail := by
  rw [List.zip_eq_zip_take_min (l₁ := l), List.length_tail, Nat.min_eq_right (Nat.sub_le ..),
    List.take_of_length_le (l := l.tail) (by simp)]

theorem pySliceTo_neg_one {α} (l : List α) : pySliceTo l (-1 : Int) = l.take (l.length - 1) := by
  have : clampIdx l.length (-1 : Int) = l.length - 1 := by
    simp only [clampIdx]
    have h0 : ((-1 : Int) < 0) := by decide
    simp only [h0, if_true, Int.ofNat_eq_natCast]
    omega
  rw [pySliceTo, this]

theorem pySlice_ofNat {α} (s : List α) (b k : Nat) (hk : k ≤ s.length) :
    pySlice s (Int.ofNat b - 1 + Int.ofNat 1) (Int.ofNat k) = (s.take k).drop b := by
  have e : (Int.ofNat b - 1 + Int.ofNat 1) = Int.ofNat b := by simp
  rw [e, pySlice, clampIdx_ofNat _ _ hk]
  by_cases hb : b ≤ s.length
  · rw [clampIdx_ofNat _ _ hb]
  · have h0 : ¬ (Int.ofNat b < 0) := by simp
    have : clampIdx s.length (Int.ofNat b) = s.length := by
      simp only [clampIdx, h0, if_false]; exact Nat.min_eq_right (by simp; omega)
    rw [this, List.drop_eq_nil_of_le (by simp; omega), List.drop_eq_nil_of_le (by simp; omega)]

/-- consecutive pairs -/
def zipPairs (I : List Int) : List (Int × Int) := I.zip I.tail

theorem sepIdx_ge (cs : Str) (o : Bool) (k : Nat) : ∀ x ∈ sepIdx cs o k, k ≤ x ∧ x < k + cs.length := by
  induction cs generalizing o k with
  | nil => intro x hx; simp [sepIdx] at hx
  | cons c cs ih =>
    intro x hx
    simp only [sepIdx] at hx
    split at hx
    · rcases List.mem_cons.1 hx with rfl | h
      · simp
      · have := ih _ _ x h; simp; omega
    · split at hx
      · have := ih _ _ x hx; simp; omega
      · split at hx
        · have := ih _ _ x hx; simp; omega
        · have := ih _ _ x hx; simp; omega

theorem slices_eq (pat : Str) : ∀ (cs pre : Str) (o : Bool) (cur : Str) (b : Nat),
    pat = pre ++ cs → b ≤ pre.length → cur.reverse = (pat.take pre.length).drop b →
    Glob.splitSepGo cs o cur =
      (zipPairs ((Int.ofNat b - 1) :: ((sepIdx cs o pre.length).map Int.ofNat ++ [Int.ofNat pat.length]))).map
        (fun x => pySlice pat (x.1 + Int.ofNat 1) x.2) := by
  intro cs
  induction cs with
  | nil =>
    intro pre o cur b hp hb hc
    simp only [Glob.splitSepGo, sepIdx, List.map_nil, List.nil_append, zipPairs, List.tail_cons,
      List.zip_cons_cons, List.zip_nil_right, List.map_cons, List.map_nil]
    rw [pySlice_ofNat _ _ _ (Nat.le_refl _), hc]
    have : pre.length = pat.length := by rw [hp]; simp
    rw [this]
  | cons c cs ih =>
    intro pre o cur b hp hb hc
    have hp' : pat = (pre ++ [c]) ++ cs := by rw [hp]; simp
    have hlen : (pre ++ [c]).length = pre.length + 1 := by simp
    have hk : pre.length < pat.length := by rw [hp]; simp
    have htake : pat.take (pre.length + 1) = pat.take pre.length ++ [c] := by
      rw [List.take_add_one, hp, List.getElem?_append_right (Nat.le_refl _), Nat.sub_self]; rfl
    simp only [Glob.splitSepGo, sepIdx]
    by_cases h1 : c = '/' ∧ o = false
    · simp only [h1, and_self, if_true, List.map_cons, List.cons_append, zipPairs, List.tail_cons,
        List.zip_cons_cons, List.map_cons]
      rw [pySlice_ofNat _ _ _ (by omega), hc]
      congr 1
      have := ih (pre ++ [c]) false [] (pre.length + 1) hp' (by simp) (by simp [hlen])
      rw [hlen] at this
      obtain ⟨rfl, rfl⟩ := h1
      rw [this]
      simp [zipPairs]
    · simp only [h1, if_false]
      have hcur : (c :: cur).reverse = (pat.take (pre ++ [c]).length).drop b := by
        rw [hlen, htake, List.reverse_cons, hc, List.drop_append_of_le_length (by simp; omega)]
      by_cases h2 : c = '['
      · simp only [h2, if_true]
        have := ih (pre ++ [c]) true (c :: cur) b hp' (by simp; omega) hcur
        rw [hlen, h2] at this; exact this
      · by_cases h3 : c = ']'
        · simp only [h3, if_true]
          have := ih (pre ++ [c]) false (c :: cur) b hp' (by simp; omega) hcur
          rw [hlen, h3] at this; exact this
        · simp only [h2, h3, if_false]
          have := ih (pre ++ [c]) o (c :: cur) b hp' (by simp; omega) hcur
          rw [hlen] at this; exact this

theorem pyFor_enumerate_sepStep (f : Nat × Str → List Int × Bool → Flow (List Int × Bool) Empty)
    (hf : ∀ x s, f x s = sepStep x s) (cs : Str) (idx : List Int) (o : Bool) :
    ∃ o', pyFor (pyEnumerate (pyChars cs)) (idx, o) f = .done (idx ++ (sepIdx cs o 0).map Int.ofNat, o') := by
  have hl : (pyChars cs).length = cs.length := List.length_map _
  rw [pyEnumerate_eq, hl]
  exact pyFor_sepStep f hf cs 0 idx o

/-- the list comprehension over `zip(indices[:-1], indices[1:])` -/
theorem slices_final (pat : Str) (S : List Nat) (hS : S = sepIdx pat false 0) :
    List.map (fun it' : Int × Int => pySlice pat (it'.1 + Int.ofNat 1) it'.2)
      (List.zip (pySliceTo (([(-1 : Int)] ++ S.map Int.ofNat) ++ [Int.ofNat pat.length]) (-1 : Int))
        (List.drop 1 (([(-1 : Int)] ++ S.map Int.ofNat) ++ [Int.ofNat pat.length]))) =
      Glob.splitPatternBySep pat := by
  rw [pySliceTo_neg_one, List.drop_one, zip_take_tail]
  have := slices_eq pat pat [] false [] 0 rfl (Nat.le_refl _) rfl
  rw [Glob.splitPatternBySep, this, hS]
  rfl

end Fs.GlobGenLemmas
