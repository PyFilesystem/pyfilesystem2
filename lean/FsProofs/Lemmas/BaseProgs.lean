/-
  The fs/base.py defaults as programs over the methods a composite filesystem defines
  (`Route.Prog`, FsModel/RouteBase.lean), run over ANY primitive semantics that refines the reference
  (`PrimSem`): each program then refines the reference's compound operation.  Instantiated with the
  MountFS primitives (`MountLemmas.prim_spec`) in FsProofs/MountRefines.lean.
-/
import FsProofs.Lemmas.MountPrims

namespace Fs.BaseProgs
open Fs Fs.Path Fs.PathSpec Fs.PathLemmas Fs.Ref Fs.Route Fs.MountLemmas Fs.WrapLemmas Fs.TreeLemmas

/-- a filesystem given by the methods it defines (`sem`), read through `abs` on the states of `inv`:
every method refines its reference meaning, `validatepath` is the reference's `validate` -/
structure PrimSem {σ : Type} (sem : Sem σ) (abs : σ → State) (inv : σ → Prop) (fix : σ → List (List Name)) : Prop where
  std : ∀ s, inv s → sem.closed s = false ∧ (abs s).closed = false ∧ (abs s).root.wf = true ∧ (abs s).root.isDir = true
  prim : ∀ s pr, inv s → usedPrim pr = true → ¬ hitsFixture (fix s) (primOp pr) →
    inv (sem.prim s pr).1 ∧ fix (sem.prim s pr).1 = fix s ∧
    abs (sem.prim s pr).1 = (Ref.step (abs s) (primOp pr)).1 ∧
    OutRel (abs s) (primOp pr) (sem.prim s pr).2.1 (Ref.step (abs s) (primOp pr)).2
  validate : ∀ s p, inv s →
    (sem.validate s p).1 = (match validate p with | .ok _ => .ok () | .err e => .err e)

section
variable {σ : Type} {sem : Sem σ} {abs : σ → State} {inv : σ → Prop} {fix : σ → List (List Name)}

/-- a run refines the reference's `op` from state `s` -/
def ProgOk (abs : σ → State) (inv : σ → Prop) (fix : σ → List (List Name)) (op : Op) (s : σ)
    (st : σ) (o : Out) : Prop :=
  inv st ∧ fix st = fix s ∧ abs st = (Ref.step (abs s) op).1 ∧ OutRel (abs s) op o (Ref.step (abs s) op).2

/-- a program that is one method call -/
theorem one_ok (H : PrimSem sem abs inv fix) (pr : Prim) (s : σ) (hs : inv s) (hu : usedPrim pr = true)
    (hfix : ¬ hitsFixture (fix s) (primOp pr)) :
    ProgOk abs inv fix (primOp pr) s ((one pr).run sem s).1 ((one pr).run sem s).2.1 :=
  H.prim s pr hs hu hfix

theorem step_eq_fail {s : State} {op : Op} {e : Err} (h : (Ref.step s op).2 = .err e) : Ref.step s op = fail s e :=
  Prod.ext (QueryLemmas.step_err_state h) h

/-- a failing outcome with an admissible class and an unchanged reading refines a failing reference step -/
theorem progOk_fail {op : Op} {s st : σ} {e e' : Err} (hi : inv st) (hf : fix st = fix s) (ha : abs st = abs s)
    (hstep : Ref.step (abs s) op = fail (abs s) e') (hadm : e ∈ adm (abs s) op) (hex : ¬ exactOp op) :
    ProgOk abs inv fix op s st (.err e) := by
  refine ⟨hi, hf, by rw [ha, hstep]; rfl, ?_⟩
  rw [hstep]
  exact ⟨fun h => (by cases h), fun e'' _ => ⟨e, rfl, hadm, fun h => absurd h hex⟩⟩

theorem progOk_ok {op : Op} {s st : σ} {v : Val} {A : State} (hi : inv st) (hf : fix st = fix s)
    (hstep : Ref.step (abs s) op = (A, .ok v)) (ha : abs st = A) : ProgOk abs inv fix op s st (.ok v) := by
  refine ⟨hi, hf, by rw [ha, hstep], ?_⟩
  rw [hstep]
  exact ⟨fun _ => rfl, fun e' he' => by cases he'⟩

theorem validate_fail_ok {op : Op} {p : Str} {e : Err} {s st : σ} (hc : (abs s).closed = false)
    (hp : op.paths = [p]) (hno : ∀ q m, op ≠ .openbin q m) (hv : validate p = .err e)
    (hi : inv st) (hf : fix st = fix s) (ha : abs st = abs s) (hex : ¬ exactOp op) :
    ProgOk abs inv fix op s st (.err e) := by
  obtain ⟨h1, h2⟩ := QueryLemmas.step_refused hc hp hv fun q m h => absurd h (hno q m)
  exact progOk_fail hi hf ha h1 (h2 ▸ List.mem_singleton_self e) hex

/-- `validatepath(p)` in front of `k`: an invalid path ends the program with its error, from `s` -/
theorem progOk_validate (H : PrimSem sem abs inv fix) (s : σ) (hs : inv s) (p : Str)
    (k : Prog) (op : Op)
    (herr : ∀ e, validate p = .err e → ProgOk abs inv fix op s s (.err e))
    (hok : ∀ cs, validate p = .ok cs → ProgOk abs inv fix op s (k.run sem s).1 (k.run sem s).2.1) :
    ProgOk abs inv fix op s ((Prog.validate p k).run sem s).1 ((Prog.validate p k).run sem s).2.1 := by
  have hv := H.validate s p hs
  simp only [Prog.run]
  generalize sem.validate s p = vr at hv
  obtain ⟨v, t⟩ := vr
  cases h : validate p with
  | err e => rw [h] at hv; cases hv; exact herr e h
  | ok cs => rw [h] at hv; cases hv; exact hok cs h

/-- **a method call in front of a continuation**: `k` runs on an admissible class of the reference's error with the
reading unchanged, or on the reference's value with the reference's state -/
theorem progOk_call (H : PrimSem sem abs inv fix) {op op' : Op} {s s1 : σ} {A : State} (hs1 : inv s1)
    (hf1 : fix s1 = fix s) (hA : abs s1 = A) (pr : Prim) (k : Out → Prog) (hu : usedPrim pr = true)
    (hop : primOp pr = op') (hfx : ¬ hitsFixture (fix s) op')
    (herr : ∀ e' e s2, (Ref.step A op').2 = .err e' → e ∈ adm A op' → (exactOp op' → e = e') → inv s2 →
      fix s2 = fix s → abs s2 = A → ProgOk abs inv fix op s ((k (.err e)).run sem s2).1 ((k (.err e)).run sem s2).2.1)
    (hok : ∀ v s2, (Ref.step A op').2 = .ok v → inv s2 → fix s2 = fix s → abs s2 = (Ref.step A op').1 →
      ProgOk abs inv fix op s ((k (.ok v)).run sem s2).1 ((k (.ok v)).run sem s2).2.1) :
    ProgOk abs inv fix op s ((Prog.call pr k).run sem s1).1 ((Prog.call pr k).run sem s1).2.1 := by
  subst hA hop
  obtain ⟨m1, m2, m3, m4⟩ := H.prim s1 pr hs1 hu (by rw [hf1]; exact hfx)
  show ProgOk abs inv fix op s ((k (sem.prim s1 pr).2.1).run sem (sem.prim s1 pr).1).1
    ((k (sem.prim s1 pr).2.1).run sem (sem.prim s1 pr).1).2.1
  cases hr : (Ref.step (abs s1) (primOp pr)).2 with
  | err e' =>
    obtain ⟨e, g1, g2, g3⟩ := m4.2 e' hr
    rw [g1]
    exact herr e' e _ hr g2 g3 m1 (m2.trans hf1) (m3.trans (QueryLemmas.step_err_state hr))
  | ok v =>
    rw [m4.1 (by rw [hr]; rfl), hr]
    exact hok v _ hr m1 (m2.trans hf1) m3

/-- `if self.exists(p)` (`getinfo`, `ResourceNotFound` caught) in front of `k` -/
theorem progOk_existsThen (H : PrimSem sem abs inv fix) (s : σ) (hs : inv s) (p : Str)
    (k : Bool → Prog) (op : Op)
    (herr : ∀ e s', inv s' → fix s' = fix s → abs s' = abs s → validate p = .err e →
      ProgOk abs inv fix op s s' (.err e))
    (hok : ∀ cs s', inv s' → fix s' = fix s → abs s' = abs s → validate p = .ok cs →
      ProgOk abs inv fix op s ((k ((abs s).root.get cs).isSome).run sem s').1
        ((k ((abs s).root.get cs).isSome).run sem s').2.1) :
    ProgOk abs inv fix op s ((existsThen p k).run sem s).1 ((existsThen p k).run sem s).2.1 := by
  obtain ⟨_, hc, _, _⟩ := H.std s hs
  have hq : (Ref.step (abs s) (.getinfo p)).1 = abs s := RouteLemmas.step_query_state _ _ rfl
  refine progOk_call H hs rfl rfl (op' := .getinfo p) (.getinfo p) _ rfl rfl (fun h => h) ?_ ?_
  · intro e' e s2 hr _ hx i1 i2 i3
    cases hx trivial
    cases hv : validate p with
    | err ev =>
      rw [QueryLemmas.step_one _ _ p hc rfl (by simp), hv] at hr
      rcases QueryLemmas.validate_err_cases p ev hv with h | h <;> subst h <;> cases hr <;>
        exact herr _ s2 i1 i2 i3 hv
    | ok cs =>
      rw [QueryLemmas.getinfo_eq hc hv] at hr
      have h := hok cs s2 i1 i2 i3 hv
      rcases hg : (abs s).root.get cs with _ | ⟨_ | _⟩ <;> rw [hg] at hr h <;> cases hr
      exact h
  · intro v s2 hr i1 i2 i3
    rw [hq] at i3
    cases hv : validate p with
    | err ev => rw [QueryLemmas.step_one _ _ p hc rfl (by simp), hv] at hr; cases hr
    | ok cs =>
      rw [QueryLemmas.getinfo_eq hc hv] at hr
      have h := hok cs s2 i1 i2 i3 hv
      rcases hg : (abs s).root.get cs with _ | ⟨_ | _⟩ <;> rw [hg] at hr h <;> cases hr <;> exact h

/-- `abspath(normpath(p))` of a path that validates: the absolute spelling of its components -/
theorem absnorm_of_validate {p : Str} {cs : List Name} (h : validate p = .ok cs) : absnorm p = mkp true cs := by
  have hc : Clean cs := clean_of_cleanName (validate_clean p cs h)
  simp only [absnorm, (validate_ok h).2, abspath_mkp hc]

theorem validate_absnorm {p : Str} {cs : List Name} (h : validate p = .ok cs) : validate (absnorm p) = .ok cs := by
  rw [absnorm_of_validate h]; exact validate_mkp true (validate_clean p cs h)

theorem noNul_absnorm {p : Str} {cs : List Name} (h : validate p = .ok cs) : '\x00' ∉ absnorm p := by
  rw [absnorm_of_validate h]; exact not_mem_mkp (by decide) true (noNul_of_cleanName (validate_clean p cs h))

theorem absnorm_eq_iff {p q : Str} {a b : List Name} (hp : validate p = .ok a) (hq : validate q = .ok b) :
    absnorm p = absnorm q ↔ a = b := by
  rw [absnorm_of_validate hp, absnorm_of_validate hq]
  exact absOf_inj (validate_clean p a hp) (validate_clean q b hq)

/-- **`FS.exists`** over refining primitives refines the reference's `exists` -/
theorem exists_ok (H : PrimSem sem abs inv fix) (s : σ) (hs : inv s) (p : Str) :
    ProgOk abs inv fix (.exists_ p) s ((baseExists p).run sem s).1 ((baseExists p).run sem s).2.1 := by
  obtain ⟨_, hc, _, _⟩ := H.std s hs
  refine progOk_existsThen H s hs p _ _ ?_ ?_
  · intro e s' i1 i2 i3 hv
    exact validate_fail_ok hc rfl (by simp) hv i1 i2 i3 (fun h => h)
  · intro cs s' i1 i2 i3 hv
    exact progOk_ok i1 i2 (by rw [QueryLemmas.step_admitted hc rfl hv (by nofun)]; rfl) i3

/-- **the common frame of `FS.copy` and `FS.move`**: `validatepath` ×2, then (unless `overwrite`) the
`exists(dst)` test, then `body` on the normalised spellings -/
theorem progOk_srcdst (H : PrimSem sem abs inv fix) (s : σ) (hs : inv s) (op : Op) (src dst : Str) (ow : Bool)
    (body : Prog) (hop : op.paths = [src, dst]) (hnex : ¬ exactOp op)
    (hdst : ∀ a b, ow = false → ((abs s).root.get b).isSome = true → ∃ e', step2 (abs s) a b op = fail (abs s) e')
    (hadm : ∀ a b, ow = false → kindAt (abs s).root b ≠ none → Err.DestinationExists ∈ adm2 (abs s).root a b op)
    (hbody : ∀ a b s1, validate src = .ok a → validate dst = .ok b → inv s1 → fix s1 = fix s → abs s1 = abs s →
      (ow = true ∨ ((abs s).root.get b).isSome = false) →
      ProgOk abs inv fix op s (body.run sem s1).1 (body.run sem s1).2.1) :
    let prog := Prog.validate src (.validate dst
      (if ow then body else existsThen (absnorm dst) fun b => if b then .ret (.err .DestinationExists) else body))
    ProgOk abs inv fix op s (prog.run sem s).1 (prog.run sem s).2.1 := by
  obtain ⟨_, hc, _, _⟩ := H.std s hs
  refine progOk_validate H s hs src _ _ ?_ ?_
  · intro e hv1
    obtain ⟨h1, h2⟩ := QueryLemmas.refused hc (e := e) (by rw [QueryLemmas.refusal_two hop, hv1])
    exact progOk_fail hs rfl rfl h1 h2 hnex
  intro a hv1
  refine progOk_validate H s hs dst _ _ ?_ ?_
  · intro e hv2
    obtain ⟨h1, h2⟩ := QueryLemmas.refused hc (e := e) (by rw [QueryLemmas.refusal_two hop, hv1, hv2])
    exact progOk_fail hs rfl rfl h1 h2 hnex
  intro b hv2
  obtain ⟨hstep, hadm2⟩ := QueryLemmas.step_two_admitted hc hop hv1 hv2
  cases ow with
  | true => exact hbody a b s hv1 hv2 hs rfl rfl (Or.inl rfl)
  | false =>
    simp only [Bool.false_eq_true, if_false]
    refine progOk_existsThen H s hs (absnorm dst) _ _ ?_ ?_
    · intro e s' _ _ _ hre
      rw [validate_absnorm hv2] at hre; cases hre
    · intro cs s' i1 i2 i3 hvb
      cases (validate_absnorm hv2).symm.trans hvb
      cases hre : ((abs s).root.get b).isSome with
      | true =>
        -- the reference fails too (for the source's reason or for this one); its class may differ
        obtain ⟨e', he'⟩ := hdst a b rfl hre
        exact progOk_fail i1 i2 i3 (e' := e') (hstep.trans he') (hadm2 ▸ hadm a b rfl (QueryLemmas.kindAt_ne_none hre)) hnex
      | false => exact hbody a b s' hv1 hv2 i1 i2 i3 (Or.inr hre)

/-- the body of `FS.copy` after the destination test -/
def copyBody (ns nd : Str) : Prog :=
  if ns = nd then .ret (.err .IllegalDestination)
  else .call (.openRead ns) fun
    | .err e => .ret (.err e)
    | .ok rd => one (.upload nd (bytesOf (.ok rd)))

theorem baseCopy_eq (src dst : Str) (ow : Bool) :
    baseCopy src dst ow = .validate src (.validate dst
      (if ow then copyBody (absnorm src) (absnorm dst)
       else existsThen (absnorm dst) fun b =>
         if b then .ret (.err .DestinationExists) else copyBody (absnorm src) (absnorm dst))) := rfl

theorem copy_eq {A : State} {a b : List Name} {na nb : Str} (p q : Str) {ow : Bool} (hc : A.closed = false)
    (hva : validate na = .ok a) (hvb : validate nb = .ok b) (hab : a ≠ b)
    (hnd : (!ow && (A.root.get b).isSome) = false) :
    step2 A a b (.copy p q ow) =
      match (Ref.step A (.readbytes na)).2 with
      | .err e => fail A e
      | .ok v => Ref.step A (.writebytes nb (bytesOf (.ok v))) := by
  rw [(QueryLemmas.readbytes_eq hc hva).1]
  rcases hga : A.root.get a with _ | ⟨data | _⟩
  · simp only [step2, hnd, hab, hga, Bool.false_eq_true, if_false]; rfl
  · exact (QueryLemmas.step2_copy_write A a b p q ow data hga hab hnd).trans (QueryLemmas.writebytes_eq data hc hvb).1.symm
  · simp only [step2, hnd, hab, hga, Bool.false_eq_true, if_false]; rfl

/-- **`FS.copy`** over refining primitives (`validatepath` ×2, `exists(dst)`, same-path test,
`open(src, "rb")`, `upload(dst)`) refines the reference's `copy` — whichever filesystems own the two paths -/
theorem copy_ok (H : PrimSem sem abs inv fix) (s : σ) (hs : inv s) (src dst : Str) (ow : Bool) :
    ProgOk abs inv fix (.copy src dst ow) s ((baseCopy src dst ow).run sem s).1
      ((baseCopy src dst ow).run sem s).2.1 := by
  obtain ⟨_, hc, _, _⟩ := H.std s hs
  have hnex : ¬ exactOp (.copy src dst ow) := fun h => h
  rw [baseCopy_eq]
  refine progOk_srcdst H s hs _ src dst ow _ rfl hnex ?_ ?_ ?_
  · intro a b how hre
    exact ⟨.DestinationExists, by simp [step2, how, hre]⟩
  · intro a b how hk
    simp [adm2, how, hk]
  intro a b s1 hv1 hv2 j1 j2 j3 hex
  have hnd : (!ow && ((abs s).root.get b).isSome) = false := by rcases hex with h | h <;> simp [h]
  obtain ⟨hstep, hadm⟩ := QueryLemmas.step_two_admitted hc (op := .copy src dst ow) rfl hv1 hv2
  have hva := validate_absnorm hv1
  have hvb := validate_absnorm hv2
  unfold copyBody
  by_cases hab : a = b
  · rw [if_pos ((absnorm_eq_iff hv1 hv2).2 hab)]
    refine progOk_fail j1 j2 j3 (e' := .IllegalDestination) ?_ ?_ hnex
    · rw [hstep]; simp [step2, hnd, hab]
    · rw [hadm]; simp [adm2, hab]
  rw [if_neg (fun h => hab ((absnorm_eq_iff hv1 hv2).1 h))]
  have hcopy := hstep.trans (copy_eq src dst hc hva hvb hab hnd)
  refine progOk_call H j1 j2 j3 (op' := .readbytes (absnorm src)) (.openRead (absnorm src)) _ rfl rfl (fun h => h) ?_ ?_
  · intro e' e s2 hr he _ i1 i2 i3
    refine progOk_fail i1 i2 i3 (e' := e') (by rw [hcopy, hr]) ?_ hnex
    rw [hadm]
    exact (QueryLemmas.adm2_src ((QueryLemmas.readbytes_eq hc hva).2 ▸ he)).1
  · intro v s2 hr i1 i2 i3
    rw [RouteLemmas.step_query_state _ _ rfl] at i3
    refine progOk_call H i1 i2 i3 (op' := .writebytes (absnorm dst) (bytesOf (.ok v)))
      (.upload (absnorm dst) (bytesOf (.ok v))) _ rfl rfl (fun h => h) ?_ ?_
    · intro e' e s3 hr2 he _ k1 k2 k3
      refine progOk_fail k1 k2 k3 (e' := e') (by rw [hcopy, hr]; exact step_eq_fail hr2) ?_ hnex
      rw [hadm]
      exact (QueryLemmas.adm2_dst hab ((QueryLemmas.writebytes_eq _ hc hvb).2 ▸ he)).1
    · intro v' s3 hr2 k1 k2 k3
      exact progOk_ok k1 k2 (by rw [hcopy, hr]; exact Prod.ext rfl hr2) k3

/-! ### `FS.move` -/

/-- the body of `FS.move` after the destination test -/
def moveBody (ns nd : Str) : Prog :=
  .call (.getinfo ns) fun
    | .err e => .ret (.err e)
    | .ok v =>
      if isDirInfo v then .ret (.err .FileExpected)
      else if ns = nd then .ret (.ok .unit)
      else .call (.openRead ns) fun
        | .err e => .ret (.err e)
        | .ok rd => .call (.upload nd (bytesOf (.ok rd))) fun
          | .err e => .ret (.err e)
          | .ok _ => one (.remove ns)

theorem baseMove_eq (src dst : Str) (ow : Bool) :
    baseMove src dst ow = .validate src (.validate dst
      (if ow then moveBody (absnorm src) (absnorm dst)
       else existsThen (absnorm dst) fun b =>
         if b then .ret (.err .DestinationExists) else moveBody (absnorm src) (absnorm dst))) := rfl

theorem remove_eq {s : State} {p : Str} {a : List Name} (hc : s.closed = false) (hv : validate p = .ok a) :
    Ref.step s (.remove p) = step1 s a (.remove p) := QueryLemmas.step_admitted hc rfl hv nofun

/-- the reference's `move` of a file is `writebytes` at the destination, then a `remove` of the source that cannot fail -/
theorem move_eq {A : State} {a b : List Name} {na nb : Str} {data : Bytes} (p q : Str) {ow : Bool}
    (hc : A.closed = false) (hd : A.root.isDir = true) (hva : validate na = .ok a) (hvb : validate nb = .ok b)
    (hab : a ≠ b) (hnd : (!ow && (A.root.get b).isSome) = false) (hga : A.root.get a = some (.file data)) :
    (∀ e, (Ref.step A (.writebytes nb data)).2 = .err e → step2 A a b (.move p q ow) = fail A e) ∧
    (∀ v, (Ref.step A (.writebytes nb data)).2 = .ok v →
      (Ref.step (Ref.step A (.writebytes nb data)).1 (.remove na)).2 = .ok .unit ∧
      step2 A a b (.move p q ow) = ((Ref.step (Ref.step A (.writebytes nb data)).1 (.remove na)).1, .ok .unit)) := by
  have hsh := QueryLemmas.writeFile_shape A b (fun _ => data) .unit
  have hkeep := writeFile_frame A b a (fun _ => data) .unit data hga hab
  have hcl : (writeFile A b (fun _ => data)).1.closed = false := hsh.closed.trans hc
  have herr := fun e => hsh.err_state (e := e)
  rw [(QueryLemmas.writebytes_eq data hc hvb).1, QueryLemmas.step2_move_write A a b p q ow data hga hab hnd]
  generalize writeFile A b (fun _ => data) = r at hkeep hcl herr ⊢
  obtain ⟨t', o⟩ := r
  refine ⟨fun e he => ?_, fun v hw => ?_⟩
  · obtain rfl : o = .err e := he
    obtain rfl : t' = A := herr e rfl
    rfl
  · obtain rfl : o = .ok v := hw
    have hrm : Ref.step t' (.remove na) = upd t' (t'.root.del a) := by
      rw [remove_eq hcl hva]
      simp [step1, ne_nil_of_file hd hga, hkeep]
    rw [hrm]
    exact ⟨rfl, rfl⟩

/-- **`FS.move`** over refining primitives (`validatepath` ×2, `exists(dst)`, `getinfo(src)`, same-path
exit, `open(src, "rb")`, `upload(dst)`, `remove(src)`) refines the reference's `move` — whichever
filesystems own the two paths; the source must not be a fixture -/
theorem move_ok (H : PrimSem sem abs inv fix) (s : σ) (hs : inv s) (src dst : Str) (ow : Bool)
    (hfx : ∀ a, validate src = .ok a → a ∉ fix s) :
    ProgOk abs inv fix (.move src dst ow) s ((baseMove src dst ow).run sem s).1
      ((baseMove src dst ow).run sem s).2.1 := by
  obtain ⟨_, hc, _, hd⟩ := H.std s hs
  have hnex : ¬ exactOp (.move src dst ow) := fun h => h
  rw [baseMove_eq]
  refine progOk_srcdst H s hs _ src dst ow _ rfl hnex ?_ ?_ ?_
  · intro a b how hre
    simp only [step2]
    rcases (abs s).root.get a with _ | ⟨_ | _⟩
    · exact ⟨_, rfl⟩
    · exact ⟨.DestinationExists, by simp [how, hre]⟩
    · exact ⟨_, rfl⟩
  · intro a b how hk
    simp [adm2, how, hk]
  intro a b s1 hv1 hv2 j1 j2 j3 hex
  have hnd : (!ow && ((abs s).root.get b).isSome) = false := by rcases hex with h | h <;> simp [h]
  obtain ⟨hstep, hadm⟩ := QueryLemmas.step_two_admitted hc (op := .move src dst ow) rfl hv1 hv2
  have hva := validate_absnorm hv1
  have hvb := validate_absnorm hv2
  unfold moveBody
  -- getinfo(src)
  refine progOk_call H j1 j2 j3 (op' := .getinfo (absnorm src)) (.getinfo (absnorm src)) _ rfl rfl (fun h => h) ?_ ?_
  · intro e' e s2 hr _ hx i1 i2 i3
    rw [QueryLemmas.getinfo_eq hc hva] at hr
    cases hx trivial
    rcases hga : (abs s).root.get a with _ | ⟨_ | _⟩ <;> rw [hga] at hr <;> cases hr
    refine progOk_fail i1 i2 i3 (e' := .ResourceNotFound) ?_ ?_ hnex
    · rw [hstep]; simp [step2, hga]
    · rw [hadm]; simp [adm2, admFileArg, kindAt, hga]
  intro v s2 hr i1 i2 i3
  rw [RouteLemmas.step_query_state _ _ rfl] at i3
  rw [QueryLemmas.getinfo_eq hc hva] at hr
  rcases hga : (abs s).root.get a with _ | ⟨data | es⟩ <;> rw [hga] at hr <;> cases hr
  rotate_left
  · exact progOk_fail i1 i2 i3 (e' := .FileExpected) (by rw [hstep]; simp [step2, hga])
      (by rw [hadm]; simp [adm2, admFileArg, kindAt, hga]) hnex
  simp only [isDirInfo, Bool.false_eq_true, if_false]
  by_cases hab : a = b
  · rw [if_pos ((absnorm_eq_iff hv1 hv2).2 hab)]
    refine progOk_ok i1 i2 (A := abs s) ?_ i3
    rw [hstep]
    simp only [step2, hga, hnd, Bool.false_eq_true, if_false]
    simp [hab, done]
  rw [if_neg (fun h => hab ((absnorm_eq_iff hv1 hv2).1 h))]
  obtain ⟨mfail, mok⟩ := move_eq src dst (ow := ow) hc hd hva hvb hab hnd hga
  -- open(src, "rb")
  refine progOk_call H i1 i2 i3 (op' := .readbytes (absnorm src)) (.openRead (absnorm src)) _ rfl rfl (fun h => h) ?_ ?_
  · intro e' e s3 hr _ _ _ _ _
    rw [(QueryLemmas.readbytes_eq hc hva).1, hga] at hr
    cases hr
  intro v s3 hr k1 k2 k3
  rw [RouteLemmas.step_query_state _ _ rfl] at k3
  rw [(QueryLemmas.readbytes_eq hc hva).1, hga] at hr
  cases hr
  -- upload(dst)
  refine progOk_call H k1 k2 k3 (op' := .writebytes (absnorm dst) data) (.upload (absnorm dst) data) _ rfl rfl
    (fun h => h) ?_ ?_
  · intro e' e s4 hr he _ l1 l2 l3
    refine progOk_fail l1 l2 l3 (e' := e') (hstep.trans (mfail e' hr)) ?_ hnex
    rw [hadm]
    exact (QueryLemmas.adm2_dst hab ((QueryLemmas.writebytes_eq _ hc hvb).2 ▸ he)).2
  intro v s4 hr l1 l2 l3
  obtain ⟨hrm, hmove⟩ := mok v hr
  -- remove(src): not a fixture
  refine progOk_call H l1 l2 l3 (op' := .remove (absnorm src)) (.remove (absnorm src)) _ rfl rfl
    (fun ⟨cs, h1, h2⟩ => by cases hva.symm.trans h1; exact hfx a hv1 h2) ?_ ?_
  · intro e' e s5 hr5 _ _ _ _ _
    rw [hrm] at hr5
    cases hr5
  · intro v5 s5 hr5 n1 n2 n3
    cases hrm.symm.trans hr5
    exact progOk_ok n1 n2 (hstep.trans hmove) n3

/-! ### `FS.create`, `FS.touch` -/

/-- **`with self.open(p, "wb"): pass`** refines an `op` (a `create` or a `touch` that has to make the file) that writes
an empty file and returns `v` -/
theorem progOk_make (H : PrimSem sem abs inv fix) {op : Op} {s s1 : σ} (hs : inv s) (j1 : inv s1) (j2 : fix s1 = fix s)
    (j3 : abs s1 = abs s) (p : Str) (v : Val) (hp : op.paths = [p]) (hno : ∀ q m, op ≠ .openbin q m)
    (hnex : ¬ exactOp op) (hadm : ∀ cs, adm1 (abs s).root cs op = admFileTarget (abs s).root cs)
    (hstep : ∀ cs, validate p = .ok cs → step1 (abs s) cs op = writeFile (abs s) cs (fun _ => []) v) :
    let prog := Prog.call (.openWrite p) fun
      | .ok _ => .ret (.ok v)
      | .err e => .ret (.err e)
    ProgOk abs inv fix op s (prog.run sem s1).1 (prog.run sem s1).2.1 := by
  obtain ⟨_, hc, _, _⟩ := H.std s hs
  have href := MultiFsLemmas.ref_make_rel (abs s) hc op p v hp hno hstep
  have hadm' := MultiFsLemmas.adm_write_wb (abs s) hc op p hp hno hadm
  refine progOk_call H j1 j2 j3 (op' := .openbin p ['w', 'b']) (.openWrite p) _ rfl rfl (fun h => h) ?_ ?_
  · intro e' e s2 hr he _ i1 i2 i3
    refine progOk_fail i1 i2 i3 (e' := e') ?_ (hadm' ▸ he) hnex
    rw [href, step_eq_fail hr]
    rfl
  · intro v0 s2 hr i1 i2 i3
    refine progOk_ok i1 i2 ?_ i3
    rw [href]
    generalize Ref.step (abs s) (.openbin p ['w', 'b']) = r at hr ⊢
    obtain ⟨t, o⟩ := r
    cases (hr : o = .ok v0)
    rfl

/-- **`FS.create`** over refining primitives refines the reference's `create` -/
theorem create_ok (H : PrimSem sem abs inv fix) (s : σ) (hs : inv s) (p : Str) (w : Bool) :
    ProgOk abs inv fix (.create p w) s ((baseCreate p w).run sem s).1 ((baseCreate p w).run sem s).2.1 := by
  obtain ⟨_, hc, _, _⟩ := H.std s hs
  have hnex : ¬ exactOp (.create p w) := fun h => h
  cases w with
  | true => exact progOk_make H hs hs rfl rfl p (.bool true) rfl nofun hnex (fun _ => rfl) fun _ _ => rfl
  | false =>
    simp only [baseCreate, createThen, Bool.false_eq_true, if_false]
    refine progOk_existsThen H s hs p _ _ (fun e s' i1 i2 i3 hv => validate_fail_ok hc rfl (by nofun) hv i1 i2 i3 hnex) ?_
    intro cs s' i1 i2 i3 hv
    have href := QueryLemmas.step_admitted hc (op := .create p false) rfl hv nofun
    cases hb : ((abs s).root.get cs).isSome with
    | true => exact progOk_ok i1 i2 (by rw [href]; simp [step1, hb, done]) i3
    | false =>
      exact progOk_make H hs i1 i2 i3 p (.bool true) rfl nofun hnex (fun _ => rfl) fun cs' hv' => by
        cases hv.symm.trans hv'; simp [step1, hb]

/-- **`FS.touch`** over refining primitives refines the reference's `touch` -/
theorem touch_ok (H : PrimSem sem abs inv fix) (s : σ) (hs : inv s) (p : Str) :
    ProgOk abs inv fix (.touch p) s ((baseTouch p).run sem s).1 ((baseTouch p).run sem s).2.1 := by
  obtain ⟨_, hc, _, _⟩ := H.std s hs
  have hnex : ¬ exactOp (.touch p) := fun h => h
  simp only [baseTouch, createThen, Bool.false_eq_true, if_false]
  refine progOk_existsThen H s hs p _ _ (fun e s' i1 i2 i3 hv => validate_fail_ok hc rfl (by nofun) hv i1 i2 i3 hnex) ?_
  intro cs s' i1 i2 i3 hv
  have href := QueryLemmas.step_admitted hc (op := .touch p) rfl hv nofun
  cases hb : ((abs s).root.get cs).isSome with
  | true =>
    -- the file exists: `setinfo(path, {... times ...})`
    have hset : Ref.step (abs s) (.settimes p) = done (abs s) := by
      rw [QueryLemmas.step_admitted hc rfl hv (by nofun)]; simp [step1, hb]
    refine progOk_call H i1 i2 i3 (op' := .settimes p) (.setinfo p) _ rfl rfl (fun h => h) ?_ ?_
    · intro e' e s2 hr _ _ _ _ _
      rw [hset] at hr
      cases hr
    · intro v s2 hr j1 j2 j3
      rw [hset] at hr j3
      cases hr
      exact progOk_ok j1 j2 (by rw [href]; simp [step1, hb, done]) j3
  | false =>
    exact progOk_make H hs i1 i2 i3 p .unit rfl nofun hnex (fun _ => rfl) fun cs' hv' => by
      cases hv.symm.trans hv'; simp [step1, hb]

end
end Fs.BaseProgs
