/-
  ReadZipFS at the level of its API: what every query answers at a validated path, given the
  kinds of the rebuilt directory and the members the zip names resolve to.
-/
import FsProofs.Lemmas.ArchiveLemmas

namespace Fs.ZipLemmas
open Fs Fs.Path Fs.PathSpec Fs.PathLemmas Fs.Archive Fs.ArchiveLemmas Fs.TreeLemmas Fs.MultiFsLemmas

section
variable (z : ZipFS) (p : Str) (cs : List Name) (hv : Ref.validate p = .ok cs)
include hv

/-- a query on the directory `MemoryFS` at a validated path is its row of `act1` -/
theorem dq_eq (op : Ref.Op) (hp : op.paths = [p]) (ho : ∀ q m, op ≠ .openbin q m) :
    z.dq op = (applyAct ⟨z.dir, false⟩ cs (act1 cs (z.dir.get cs) (parentKind z.dir cs)
      (Ref.blockedByFile z.dir [] cs) op)).2 := by
  rw [ZipFS.dq, QueryLemmas.step_admitted rfl hp hv fun q m h => absurd h (ho q m), step1_act]

theorem dq_exists : z.dq (.exists_ p) = .ok (.bool (z.dir.get cs).isSome) :=
  dq_eq z p cs hv _ rfl nofun
theorem dq_isdir : z.dq (.isdir p) =
    .ok (.bool (match z.dir.get cs with | some (.dir _) => true | _ => false)) :=
  dq_eq z p cs hv _ rfl nofun
theorem dq_isfile : z.dq (.isfile p) =
    .ok (.bool (match z.dir.get cs with | some (.file _) => true | _ => false)) :=
  dq_eq z p cs hv _ rfl nofun
theorem dq_listdir : z.dq (.listdir p) =
    (match z.dir.get cs with
     | none => .err .ResourceNotFound
     | some (.file _) => .err .DirectoryExpected
     | some (.dir es) => .ok (.names (Ents.names es))) := by
  rw [dq_eq z p cs hv (.listdir p) rfl nofun]
  rcases z.dir.get cs with _ | _ | _ <;> rfl
theorem dq_getinfo : z.dq (.getinfo p) =
    (match z.dir.get cs with
     | none => .err .ResourceNotFound
     | some (.file b) => .ok (.info (Ref.lastName cs) false b.length)
     | some (.dir _) => .ok (.info (Ref.lastName cs) true 0)) :=
  QueryLemmas.getinfo_eq rfl hv
end

theorem zip_listdir_ok {z : ZipFS} {p : Str} {l : List Name} (h : z.listdir p = .ok l) :
    ∃ cs es, Ref.validate p = .ok cs ∧ z.dir.get cs = some (.dir es) ∧ l = Ents.names es := by
  cases hv : Ref.validate p with
  | err e =>
    rw [ZipFS.listdir, ZipFS.dq, QueryLemmas.step_one _ (.listdir p) p rfl rfl nofun, hv] at h
    cases h
  | ok cs =>
    rw [ZipFS.listdir, dq_listdir _ p cs hv] at h
    cases hg : z.dir.get cs with
    | none => rw [hg] at h; cases h
    | some n =>
      rw [hg] at h
      cases n with
      | file b => cases h
      | dir es => cases h; exact ⟨cs, es, rfl, hg, rfl⟩

theorem assocGet_mem {k v : Str} {nm : List (Str × Str)} (h : assocGet k nm = some v) : (k, v) ∈ nm := by
  induction nm with
  | nil => simp [assocGet] at h
  | cons e nm ih =>
    obtain ⟨k', v'⟩ := e
    simp only [assocGet] at h
    by_cases hk : k' = k
    · subst hk; simp at h; subst h; exact List.mem_cons_self
    · simp only [hk, if_false] at h
      exact List.mem_cons_of_mem _ (ih h)

/-- when every remembered stored name is the normalised name itself, the lookup is the identity -/
theorem stored_eq {z : ZipFS} (h : ∀ e ∈ z.names, e.1 = e.2) (x : Str) : z.stored x = x := by
  unfold ZipFS.stored
  cases hg : assocGet x z.names with
  | none => rfl
  | some v => exact (h _ (assocGet_mem hg)).symm

theorem zip_file_answers {z : ZipFS} {p : Str} {cs : List Name} {b : Bytes} (hv : Ref.validate p = .ok cs)
    (hc : cs ≠ []) (hg : z.dir.get cs = some (.file b)) {m : Member}
    (hm : lookupLast z.members (z.stored (mkp false cs)) = some m) :
    z.openRead p = .ok m.data ∧ z.readbytes p = .ok m.data ∧
      z.details p = .ok ⟨Ref.lastName cs, false, some m.data.length, some m.mtime⟩ := by
  obtain ⟨hac, hnorm⟩ := validate_ok hv
  have hcl := clean_of_cleanName hac
  have hvt : Ref.validate (mkp true cs) = .ok cs := validate_mkp true hac
  have hvf : Ref.validate (mkp false cs) = .ok cs := validate_mkp false hac
  have habs : abspath (mkp (startsWithSlash p) cs) = mkp true cs := abspath_mkp hcl
  have hrel : relpath (mkp (startsWithSlash p) cs) = mkp false cs := relpath_mkp hcl
  have hzn : z.zipNameOf p = .ok (z.stored (mkp false cs)) := by
    simp only [ZipFS.zipNameOf, hnorm, hrel, dq_isdir _ _ cs hvf, hg]
  refine ⟨?_, ?_, ?_⟩
  · simp only [ZipFS.openRead, dq_exists _ p cs hv, dq_isdir _ p cs hv, hg, hzn, ZipFS.memberOf, hm]
    simp [Res.map]
  · simp only [ZipFS.readbytes, dq_isfile _ p cs hv, hg, hzn, ZipFS.memberOf, hm]
    simp [Res.map]
  · simp only [ZipFS.details, hnorm, habs, mkp_true_beq hcl, hc, decide_false, Bool.false_eq_true, if_false,
      dq_getinfo _ _ cs hvt, hg, hzn, hm]

/-- everything `ReadZipFS` answers at a validated path, from the kinds of its directory and the
members its zip names resolve to -/
theorem zip_obs_agree {t : Node} {z : ZipFS} (mt : List Name → Int)
    (ht : t.wf = true) (hd : t.isDir = true) (hzw : z.dir.wf = true)
    (hk : ∀ q, kindAt z.dir q = kindAt t q) (hnames : ∀ e ∈ z.names, e.1 = e.2)
    (hm : ∀ cs n, cs ≠ [] → t.get cs = some n →
      lookupLast z.members (zipName cs n.isDir) =
        some ⟨zipName cs n.isDir, n.isDir, fileBytes n, zipTime (mt cs)⟩)
    {p : Str} {cs : List Name} (hv : Ref.validate p = .ok cs) :
    Agree t (zipTime (mt cs)) cs (z.obs p) := by
  obtain ⟨hac, hnorm⟩ := validate_ok hv
  have hcl := clean_of_cleanName hac
  have hvt : Ref.validate (mkp true cs) = .ok cs := validate_mkp true hac
  have hvf : Ref.validate (mkp false cs) = .ok cs := validate_mkp false hac
  have habs : abspath (mkp (startsWithSlash p) cs) = mkp true cs := abspath_mkp hcl
  have hrel : relpath (mkp (startsWithSlash p) cs) = mkp false cs := relpath_mkp hcl
  have hkc := hk cs
  -- the basic namespace
  have hbasic : z.basic p = match z.dir.get cs with
      | none => .err .ResourceNotFound
      | some n => .ok (Ref.lastName cs, n.isDir) := by
    simp only [ZipFS.basic, hnorm, habs, mkp_true_beq hcl]
    by_cases hc : cs = []
    · subst hc
      have hr : z.dir.isDir = true := by
        have := hk []
        simpa [kindAt, get_nil, hd] using this
      simp [get_nil, hr, Ref.lastName]
    · simp only [hc, decide_false, Bool.false_eq_true, if_false, dq_getinfo z _ cs hvt]
      cases z.dir.get cs with
      | none => rfl
      | some n => cases n <;> rfl
  have hzn : z.zipNameOf p = match z.dir.get cs with
      | some (.dir _) => .ok (forcedir (mkp false cs))
      | _ => .ok (mkp false cs) := by
    simp only [ZipFS.zipNameOf, hnorm, hrel, dq_isdir z _ cs hvf, stored_eq hnames]
    cases z.dir.get cs with
    | none => rfl
    | some n => cases n <;> rfl
  unfold Agree
  cases hg : t.get cs with
  | none =>
    have hzg : z.dir.get cs = none := kindAt_eq_none.1 (hkc.trans (kindAt_eq_none.2 hg))
    simp only [ZipFS.obs, ZipFS.exists_, ZipFS.isdir, ZipFS.isfile, ZipFS.listdir, ZipFS.openRead,
      ZipFS.readbytes, ZipFS.details, hbasic, hzg, dq_listdir z p cs hv, dq_exists z p cs hv,
      dq_isfile z p cs hv, Option.isSome_none, hnorm, habs, mkp_true_beq hcl]
    have hc : cs ≠ [] := by
      intro e; subst e; rw [get_nil] at hg; cases hg
    simp [hc, dq_getinfo z _ cs hvt, hzg]
  | some n =>
    cases n with
    | file b =>
      obtain ⟨b', hzg⟩ := kindAt_eq_false.1 (hkc.trans (kindAt_eq_false.2 ⟨b, hg⟩))
      have hc : cs ≠ [] := ne_nil_of_file hd hg
      have hlk := hm cs (.file b) hc hg
      simp only [Node.isDir, zipName_file hcl, fileBytes] at hlk
      have hans := zip_file_answers hv hc hzg (by rw [stored_eq hnames]; exact hlk)
      refine ⟨?_, ?_, ?_, ?_, hans.1, hans.2.1, hans.2.2⟩
      all_goals simp [ZipFS.obs, ZipFS.exists_, ZipFS.isdir, ZipFS.isfile, ZipFS.listdir, hbasic, hzg,
        dq_listdir z p cs hv, Node.isDir]
    | dir es =>
      obtain ⟨es', hzg⟩ := kindAt_eq_true.1 (hkc.trans (kindAt_eq_true.2 ⟨es, hg⟩))
      have hperm := names_perm_of_kinds hzw ht hk hzg hg
      simp only [ZipFS.obs, ZipFS.exists_, ZipFS.isdir, ZipFS.isfile, ZipFS.listdir, ZipFS.openRead,
        ZipFS.details, hbasic, hzg, dq_listdir z p cs hv, dq_exists z p cs hv,
        dq_isdir z p cs hv, hnorm, habs, mkp_true_beq hcl, Node.isDir]
      refine ⟨by simp, by simp, by simp, ⟨_, rfl, hperm⟩, by simp, ?_⟩
      by_cases hc : cs = []
      · simp [hc]
      · have hlk := hm cs (.dir es) hc hg
        simp only [Node.isDir, zipName_dir hcl hc, fileBytes] at hlk
        simp [hc, dq_getinfo z _ cs hvt, hzg, hzn, forcedir_mkp_false hcl hc, hlk]

/-! ### any member list: every listed file has a stored name that is in the archive -/

/-- one round of the loop adds no file, except the one named by a member processed without error
whose name does not end in `/` -/
theorem dirStep_files (s : Ref.State) (name : Str) {r : List Name}
    (hr : kindAt (dirStep s name).1.root r = some false) :
    kindAt s.root r = some false ∨
      ((dirStep s name).2 = none ∧ endsWithSlash name = false ∧ Ref.validate name = .ok r) := by
  have hmk : ∀ {p : Str} {s' : Ref.State} {o : Ref.Out}, Ref.step s (.makedirs p true) = (s', o) →
      kindAt s'.root r = some false → kindAt s.root r = some false := fun {p _ _} h hr' =>
    (step_files_from s (op := .makedirs p true) (Or.inl ⟨p, true, rfl⟩) (by rw [h]; exact hr')).resolve_right
      fun ⟨_, _, _, e, _⟩ => nomatch e
  rcases dirStep_eq s name with ⟨_, s', o, h1, h2⟩ | ⟨_, s', e, h1, h2⟩ | ⟨hes, s1, v, s2, o, h1, h2, h3⟩
  · rw [h2] at hr; exact Or.inl (hmk h1 hr)
  · rw [h2] at hr; exact Or.inl (hmk h1 hr)
  · rw [h3] at hr ⊢
    rcases step_files_from s1 (Or.inr ⟨name, false, rfl⟩) (by rw [h2]; exact hr) with h | ⟨p, w, v', e, hv, hok⟩
    · exact Or.inl (hmk h1 h)
    · cases e
      rw [h2] at hok
      exact Or.inr ⟨by rw [show o = .ok v' from hok]; rfl, hes, hv⟩

theorem dirStep_ok_validate (s : Ref.State) (name : Str) (h : (dirStep s name).2 = none) :
    ∃ cs, Ref.validate name = .ok cs := by
  rcases dirStep_eq s name with ⟨_, s', o, h1, h2⟩ | ⟨_, s', e, h1, h2⟩ | ⟨_, s1, v, s2, o, h1, h2, h3⟩
  · rw [h2] at h
    cases o with
    | ok v =>
      exact (QueryLemmas.step_q_ok s (.makedirs name true) name v rfl nofun (congrArg Prod.snd h1)).imp fun _ h => h.2
    | err e => cases h
  · rw [h2] at h; cases h
  · rw [h3] at h
    cases o with
    | ok v' =>
      exact (QueryLemmas.step_q_ok s1 (.create name false) name v' rfl nofun (congrArg Prod.snd h2)).imp fun _ h => h.2
    | err e => cases h

theorem zipKey_of_validate {name : Str} {cs : List Name} (hv : Ref.validate name = .ok cs) :
    zipKey name = .ok (if endsWithSlash name then forcedir (mkp false cs) else mkp false cs) := by
  obtain ⟨hac, hn⟩ := validate_ok hv
  rw [zipKey, hn]
  simp only [relpath_mkp (clean_of_cleanName hac)]

/-- every file of the directory is remembered under its normalised path, with a stored name from `seen` -/
def Named (T : Node) (nm : List (Str × Str)) (seen : List Str) : Prop :=
  ∀ cs, kindAt T cs = some false → ∃ st, assocGet (mkp false cs) nm = some st ∧ st ∈ seen

/-- the only file a processed member can have added is the one with its key, and files that were there
keep their entries unless the new key shadows them -/
theorem dirStep_named {s : Ref.State} {nm : List (Str × Str)} {seen : List Str} (hN : Named s.root nm seen)
    (name k : Str) (hk : zipKey name = .ok k) :
    Named (dirStep s name).1.root ((k, name) :: nm) (name :: seen) := by
  intro cs hcs
  by_cases hcc : k = mkp false cs
  · exact ⟨name, by rw [assocGet, if_pos hcc], List.mem_cons_self⟩
  · have hold : kindAt s.root cs = some false :=
      (dirStep_files s name hcs).resolve_right fun ⟨_, hes, hv⟩ => hcc (by
        rw [zipKey_of_validate hv, hes] at hk
        cases hk
        rfl)
    obtain ⟨st, h1, h2⟩ := hN cs hold
    exact ⟨st, by rw [assocGet, if_neg hcc]; exact h1, List.mem_cons_of_mem _ h2⟩

theorem buildDir_names (names : List Str) (s : Ref.State) (nm : List (Str × Str)) (seen : List Str)
    (hN : Named s.root nm seen) :
    Named (buildDir s nm names).1.root (buildDir s nm names).2.1 (names.reverse ++ seen) := by
  fun_induction buildDir s nm names generalizing seen with
  | case1 s nm => exact hN
  | case2 s nm n ns s' e h =>
    -- aborted: the failing member leaves no file behind
    intro cs hcs
    have hcs' : kindAt (dirStep s n).1.root cs = some false := by rw [h]; exact hcs
    obtain ⟨st, h1, h2⟩ := hN cs ((dirStep_files s n hcs').resolve_right fun h' => by rw [h] at h'; cases h'.1)
    exact ⟨st, h1, List.mem_append_right _ h2⟩
  | case3 s nm n ns s' h e hk =>
    obtain ⟨cs, hv⟩ := dirStep_ok_validate s n (by rw [h])
    rw [zipKey_of_validate hv] at hk
    cases hk
  | case4 s nm n ns s' h k hk ih =>
    have hnamed := dirStep_named hN n k hk
    rw [h] at hnamed
    rw [List.reverse_cons, List.append_assoc]
    exact ih (n :: seen) hnamed

-- `buildDir_names` with two hypotheses on `s` (`hs`, `hc`) that it does not need
set_option linter.unusedVariables false in
theorem buildDir_named (names : List Str) (s : Ref.State) (hs : s.root.wf = true) (hc : s.closed = false)
    (nm : List (Str × Str)) (seen : List Str) (hN : Named s.root nm seen) :
    Named (buildDir s nm names).1.root (buildDir s nm names).2.1 (names.reverse ++ seen) :=
  buildDir_names names s nm seen hN

theorem lookupLast_of_mem_names {ms : List Member} {st : Str} (h : st ∈ ms.map (·.name)) :
    ∃ m, m ∈ ms ∧ m.name = st ∧ lookupLast ms st = some m := by
  obtain ⟨m0, hm0, hn0⟩ := List.mem_map.1 h
  obtain ⟨m, hm, hP, hf⟩ := find?_reverse_of_mem (P := fun m => m.name == st) hm0 (beq_iff_eq.2 hn0)
  exact ⟨m, hm, eq_of_beq hP, hf⟩

/-- the directory of any archive remembers, for each of its files, a stored name that is a member -/
theorem readZip_named (ms : List Member) : Named (readZip ms).dir (readZip ms).names (ms.map (·.name)) := by
  have h0 : Named (Ref.State.empty).root [] [] := by
    intro cs hcs
    cases cs with
    | nil => simp [kindAt, Ref.State.empty, get_nil, Node.isDir] at hcs
    | cons c cs => simp [kindAt, Ref.State.empty, get_cons_dir, Ents.lookup] at hcs
  have := buildDir_names (ms.map (·.name)) Ref.State.empty [] [] h0
  intro cs hcs
  obtain ⟨st, h1, h2⟩ := this cs hcs
  refine ⟨st, h1, ?_⟩
  simpa using h2

end Fs.ZipLemmas
