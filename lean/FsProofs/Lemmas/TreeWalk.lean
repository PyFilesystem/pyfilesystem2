/-
  `entsWalk` / `Node.walk` restated by a single recursion (`allEnts`; `fun_induction allEnts` also
  serves as the recursion scheme over `Ents`): it lists exactly what `get` reaches, each path once.
  Namespace `Fs.WalkLemmas`: this is the part of WalkLemmas.lean that speaks of the tree alone, before any walker
  or filter (of FsModel.Walk it takes the type `WPath` only).
-/
import FsModel.Walk
import FsProofs.Lemmas.TreeLemmas

namespace Fs.WalkLemmas
open Fs Fs.Walk Fs.PathSpec Fs.TreeLemmas

/-- every resource below a directory, parents first, in listing order (single recursion; equals
`entsWalk` of FsModel.Tree) -/
def allEnts (dir : WPath) : Ents → List (WPath × Node)
  | [] => []
  | (k, .file b) :: es => (dir ++ [k], Node.file b) :: allEnts dir es
  | (k, .dir sub) :: es => (dir ++ [k], Node.dir sub) :: (allEnts (dir ++ [k]) sub ++ allEnts dir es)

theorem allEnts_eq_entsWalk (dir : WPath) (es : Ents) : allEnts dir es = entsWalk dir es := by
  fun_induction allEnts dir es with
  | case1 dir => rfl
  | case2 dir k b es ih => rw [entsWalk, Node.walk, ih]; rfl
  | case3 dir k sub es ih1 ih2 => rw [entsWalk, Node.walk, ih1, ih2]

/-- every enumerated path extends `dir` by a name that is listed in `es` -/
theorem allEnts_mem_prefix (dir : WPath) (es : Ents) (p : WPath) (n : Node)
    (h : (p, n) ∈ allEnts dir es) : ∃ k rest, p = dir ++ k :: rest ∧ k ∈ Ents.names es := by
  fun_induction allEnts dir es with
  | case1 dir => cases h
  | case2 dir k b es ih =>
    rcases List.mem_cons.1 h with heq | h
    · cases heq; exact ⟨k, [], rfl, List.mem_cons_self⟩
    · obtain ⟨k', rest, hp, hl⟩ := ih h
      exact ⟨k', rest, hp, List.mem_cons_of_mem _ hl⟩
  | case3 dir k sub es ih1 ih2 =>
    rcases List.mem_cons.1 h with heq | h
    · cases heq; exact ⟨k, [], rfl, List.mem_cons_self⟩
    · rcases List.mem_append.1 h with h | h
      · obtain ⟨k', rest, hp, _⟩ := ih1 h
        exact ⟨k, k' :: rest, by rw [hp, List.append_assoc]; rfl, List.mem_cons_self⟩
      · obtain ⟨k', rest, hp, hl⟩ := ih2 h
        exact ⟨k', rest, hp, List.mem_cons_of_mem _ hl⟩

theorem allEnts_path_name {dir : WPath} {es : Ents} {k : Name} {r : WPath}
    (h : dir ++ k :: r ∈ (allEnts dir es).map (·.1)) : k ∈ Ents.names es := by
  obtain ⟨⟨p, n⟩, hm, hp⟩ := List.mem_map.1 h
  obtain ⟨k', rest, hp', hl⟩ := allEnts_mem_prefix dir es p n hm
  cases List.append_cancel_left (hp.symm.trans hp')
  exact hl

theorem allEnts_nodup (dir : WPath) (es : Ents) (hwf : entsWf es = true) :
    ((allEnts dir es).map (·.1)).Nodup := by
  fun_induction allEnts dir es with
  | case1 dir => exact List.nodup_nil
  | case2 dir k b es ih =>
    obtain ⟨_, hk, _, hes⟩ := entsWf_cons.1 hwf
    exact List.nodup_cons.2 ⟨fun h => (mem_names_iff k es).1 (allEnts_path_name h) hk, ih hes⟩
  | case3 dir k sub es ih1 ih2 =>
    obtain ⟨_, hk, hsub, hes⟩ := entsWf_cons.1 hwf
    have hk' : ∀ r, dir ++ k :: r ∉ (allEnts dir es).map (·.1) :=
      fun r h => (mem_names_iff k es).1 (allEnts_path_name h) hk
    have hsubp : ∀ x ∈ (allEnts (dir ++ [k]) sub).map (·.1), ∃ k' r, x = dir ++ k :: k' :: r := by
      intro x hx
      obtain ⟨⟨p, n⟩, hm, rfl⟩ := List.mem_map.1 hx
      obtain ⟨k', r, hp, _⟩ := allEnts_mem_prefix _ sub p n hm
      exact ⟨k', r, by rw [hp, List.append_assoc]; rfl⟩
    rw [List.map_cons, List.map_append, List.nodup_cons, List.mem_append, List.nodup_append]
    refine ⟨fun h => h.elim (fun h => ?_) (hk' []), ih1 (wf_dir.1 hsub), ih2 hes, fun a ha b hb hab => ?_⟩
    · obtain ⟨k', r, hx⟩ := hsubp _ h
      cases List.append_cancel_left hx
    · obtain ⟨k', r, rfl⟩ := hsubp a ha
      exact hk' _ (hab ▸ hb)

/-- under well-formedness every enumerated pair is what `get` finds at that path -/
theorem allEnts_get (dir : WPath) (es : Ents) (hwf : entsWf es = true) (p : WPath) (n : Node)
    (h : (p, n) ∈ allEnts dir es) :
    ∃ rel, p = dir ++ rel ∧ rel ≠ [] ∧ Node.get rel (.dir es) = some n := by
  fun_induction allEnts dir es with
  | case1 dir => cases h
  | case2 dir k b es ih =>
    obtain ⟨_, hk, _, hes⟩ := entsWf_cons.1 hwf
    rcases List.mem_cons.1 h with heq | h
    · cases heq; exact ⟨[k], rfl, List.cons_ne_nil _ _, get_cons_self k _ es []⟩
    · obtain ⟨rel, hp, hne, hg⟩ := ih hes h
      exact ⟨rel, hp, hne, get_cons_skip hk _ hne hg⟩
  | case3 dir k sub es ih1 ih2 =>
    obtain ⟨_, hk, hsub, hes⟩ := entsWf_cons.1 hwf
    rcases List.mem_cons.1 h with heq | h
    · cases heq; exact ⟨[k], rfl, List.cons_ne_nil _ _, get_cons_self k _ es []⟩
    · rcases List.mem_append.1 h with h | h
      · obtain ⟨rel, hp, _, hg⟩ := ih1 (wf_dir.1 hsub) h
        exact ⟨k :: rel, by rw [hp, List.append_assoc]; rfl, List.cons_ne_nil _ _,
          (get_cons_self k _ es rel).trans hg⟩
      · obtain ⟨rel, hp, hne, hg⟩ := ih2 hes h
        exact ⟨rel, hp, hne, get_cons_skip hk _ hne hg⟩

/-- completeness: everything `get` can reach below a directory is enumerated -/
theorem get_allEnts (dir : WPath) (es : Ents) (rel : WPath) (n : Node) (hne : rel ≠ [])
    (hg : Node.get rel (.dir es) = some n) : (dir ++ rel, n) ∈ allEnts dir es := by
  cases rel with
  | nil => exact absurd rfl hne
  | cons c cs =>
    fun_induction allEnts dir es generalizing c cs with
    | case1 dir => cases hg
    | case2 dir k b es ih =>
      by_cases hkc : k = c
      · subst hkc
        rw [get_cons_self] at hg
        cases cs with
        | nil => cases hg; exact List.mem_cons_self
        | cons c' cs' => cases hg
      · rw [get_cons_dir, lookup_cons, if_neg hkc, ← get_cons_dir] at hg
        exact List.mem_cons_of_mem _ (ih c cs (List.cons_ne_nil _ _) hg)
    | case3 dir k sub es ih1 ih2 =>
      by_cases hkc : k = c
      · subst hkc
        rw [get_cons_self] at hg
        cases cs with
        | nil => cases hg; exact List.mem_cons_self
        | cons c' cs' =>
          have := ih1 c' cs' (List.cons_ne_nil _ _) hg
          rw [List.append_assoc] at this
          exact List.mem_cons_of_mem _ (List.mem_append_left _ this)
      · rw [get_cons_dir, lookup_cons, if_neg hkc, ← get_cons_dir] at hg
        exact List.mem_cons_of_mem _ (List.mem_append_right _ (ih2 c cs (List.cons_ne_nil _ _) hg))

end Fs.WalkLemmas
