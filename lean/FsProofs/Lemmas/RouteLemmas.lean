/-
  Lemmas for C17 (MountFS / MultiFS routing).  `run_chain`: what a program over primitives does follows from what
  each primitive does; `Routes`: the three facts about their primitives that MountFS and MultiFS share, and from which
  the frame theorems of C17 follow.  Each MountFS primitive routes by `_delegate`; each MultiFS primitive asks, calls
  the write member or removes where `_delegate` found the path (`prim_fine` in either case, hence `mountRoutes`,
  `multiRoutes`).  The sub-namespaces `MountL` and `MultiL` keep the parallel names (`SameCfg`, `Fine`, `prim_fine`,
  `step_some`, …) apart.
-/
import FsModel.Mount
import FsModel.Multi
import FsModel.RouteSpec
import FsProofs.Lemmas.PathLemmas
import FsProofs.Lemmas.ConfineLemmas
import FsProofs.Lemmas.Queries

namespace Fs.RouteLemmas
open Fs Fs.Path Fs.PathSpec Fs.PathLemmas Fs.Ref Fs.Route Fs.RouteSpec

/-! ## the mount table: string prefixes of forcedir'ed keys are component prefixes -/

theorem absOf_eq_mkp (cs : List Str) : absOf cs = mkp true cs := rfl

theorem mountKey_mkp {a : Bool} {cs : List Str} (h : Clean cs) :
    Mount.mountKey (mkp a cs) = '/' :: dirs cs := by
  rw [Mount.mountKey, abspath_mkp h, forcedir_mkp_true h]

theorem dirs_length_drop (ms rest : List Str) :
    ('/' :: dirs (ms ++ rest)).drop ('/' :: dirs ms).length = dirs rest := by
  rw [dirs_append]
  simp

theorem startsWith_keys {ms cs : List Str} (hm : Clean ms) (hc : Clean cs) :
    startsWith ('/' :: dirs cs) ('/' :: dirs ms) = ms.isPrefixOf cs := by
  rw [Bool.eq_iff_iff, startsWith_iff_prefix, List.cons_prefix_cons, List.isPrefixOf_iff_prefix]
  simp [dirs_prefix_iff hm hc]

theorem routeSpec_eq_find (t : List (List Str × Nat)) (cs : List Str) :
    routeSpec t cs = (t.find? fun e => e.1.isPrefixOf cs).map fun e => (e.2, cs.drop e.1.length) := by
  induction t with
  | nil => rfl
  | cons e t ih =>
    simp only [routeSpec, List.find?_cons]
    split <;> simp [*]

theorem findMount_tableOf (t : List (List Str × Nat)) (ht : ∀ e ∈ t, Clean e.1) (cs : List Str)
    (hc : Clean cs) :
    Mount.findMount ('/' :: dirs cs) (tableOf t) =
      (routeSpec t cs).map fun r => (r.1, joinWith '/' r.2) := by
  induction t with
  | nil => rfl
  | cons e rest ih =>
    obtain ⟨ms, i⟩ := e
    have hm : Clean ms := ht (ms, i) (by simp)
    have ih' := ih (fun e he => ht e (by simp [he]))
    simp only [tableOf, List.map_cons, Mount.findMount, routeSpec] at ih' ⊢
    rw [absOf_eq_mkp, mountKey_mkp hm, startsWith_keys hm hc]
    by_cases hp : ms.isPrefixOf cs = true
    · simp only [hp, if_true, Option.map_some]
      obtain ⟨rest', rfl⟩ := List.isPrefixOf_iff_prefix.1 hp
      rw [dirs_length_drop, List.drop_left, ConfineLemmas.rstripSlash_dirs (clean_append.1 hc).2]
    · simp only [hp, Bool.false_eq_true, if_false]
      exact ih'

theorem delegate_nul {t : Mount.Table} {p : Str} (hn : '\x00' ∈ p) :
    Mount.delegate t p = .err .InvalidCharsInPath := by
  simp [Mount.delegate, hn]

theorem delegate_noNul {t : Mount.Table} {p : Str} (hn : '\x00' ∉ p) :
    Mount.delegate t p =
      (match normpath p with
       | .err e => .err e
       | .ok n =>
         match Mount.findMount (Mount.mountKey n) t with
         | some r => .ok r
         | none => .ok (0, p)) := by
  have : p.contains '\x00' = false := by simpa using hn
  simp only [Mount.delegate, this, Bool.false_eq_true, if_false]
  rfl

theorem delegate_tableOf (t : List (List Str × Nat)) (ht : ∀ e ∈ t, Clean e.1) (p : Str) (a : Bool)
    (cs : List Str) (hc : Clean cs) (hn : '\x00' ∉ p) (hp : normpath p = .ok (mkp a cs)) :
    Mount.delegate (tableOf t) p =
      match routeSpec t cs with
      | some (i, rest) => .ok (i, joinWith '/' rest)
      | none => .ok (0, p) := by
  rw [delegate_noNul hn]
  rw [hp]
  simp only
  rw [mountKey_mkp hc, findMount_tableOf t ht cs hc]
  cases routeSpec t cs with
  | none => rfl
  | some r => rfl


theorem any_startsWith_tableOf (t : List (List Str × Nat)) (ht : ∀ e ∈ t, Clean e.1) (cs : List Str)
    (hc : Clean cs) :
    (tableOf t).any (fun m => startsWith ('/' :: dirs cs) m.1) = t.any (fun e => e.1.isPrefixOf cs) := by
  induction t with
  | nil => rfl
  | cons e rest ih =>
    have hm : Clean e.1 := ht e (by simp)
    simp only [tableOf, List.map_cons, List.any_cons] at ih ⊢
    rw [absOf_eq_mkp, mountKey_mkp hm, startsWith_keys hm hc, ih (fun e he => ht e (by simp [he]))]

theorem any_isPrefixOf_iff (t : List (List Str × Nat)) (cs : List Str) :
    t.any (fun e => e.1.isPrefixOf cs) = true ↔ ∃ e ∈ t, e.1 <+: cs := by
  simp only [List.any_eq_true, List.isPrefixOf_iff_prefix]

theorem tableOf_append (t u : List (List Str × Nat)) : tableOf (t ++ u) = tableOf t ++ tableOf u := by
  simp [tableOf]

/-! ## member calls that are queries change nothing (over `step_query_state`, Lemmas/Queries.lean) -/

theorem set_same (f : Fss) (i : Nat) (v : Ref.State) : (f.set i v) i = v := by simp [Fss.set]

theorem set_other (f : Fss) (i j : Nat) (v : Ref.State) (h : j ≠ i) : (f.set i v) j = f j := by
  simp [Fss.set, h]

theorem set_self (f : Fss) (i : Nat) : f.set i (f i) = f := by
  funext j; by_cases h : j = i <;> simp [Fss.set, h]

/-- a member call leaves member `j` alone when it goes elsewhere or is a query -/
theorem memberCall_frame (f : Fss) (i : Nat) (meth : Meth) (path : Str) (op : Ref.Op) (j : Nat)
    (h : i = j → isQuery op = true) : (memberCall f i meth path op).1 j = f j := by
  simp only [memberCall]
  by_cases hij : j = i
  · subst hij
    rw [set_same, step_query_state _ _ (h rfl)]
  · exact set_other _ _ _ _ hij

theorem memberCall_query (f : Fss) (i : Nat) (meth : Meth) (path : Str) (op : Ref.Op)
    (h : isQuery op = true) : (memberCall f i meth path op).1 = f := by
  funext j
  exact memberCall_frame f i meth path op j (fun _ => h)

theorem memberCall_exists (f : Fss) (i : Nat) (p : Str) : (memberCall f i .exists_ p (.exists_ p)).1 = f :=
  memberCall_query _ _ _ _ _ rfl

theorem memberCall_listdir (f : Fss) (i : Nat) (meth : Meth) (p : Str) : (memberCall f i meth p (.listdir p)).1 = f :=
  memberCall_query _ _ _ _ _ rfl

theorem memberCall_call (f : Fss) (i : Nat) (meth : Meth) (path : Str) (op : Ref.Op) :
    (memberCall f i meth path op).2.2 = ⟨i, meth, path, op⟩ := rfl

/-- `x` is what a loop returns that only asked the members of `f` queries -/
def Asked {α : Type} (f : Fss) (x : Fss × α × List Call) : Prop :=
  x.1 = f ∧ ∀ c ∈ x.2.2, isQuery c.op = true

theorem asked_none {α : Type} (f : Fss) (r : α) : Asked f (f, r, []) := ⟨rfl, fun _ h => nomatch h⟩

theorem asked_last {α : Type} (f : Fss) (r : α) {c : Call} (hq : isQuery c.op = true) : Asked f (f, r, [c]) :=
  ⟨rfl, List.forall_mem_singleton.2 hq⟩

theorem Asked.after {α : Type} {f : Fss} {x : Fss × α × List Call} (h : Asked f x) {c : Call}
    (hq : isQuery c.op = true) : Asked f (x.1, x.2.1, c :: x.2.2) :=
  ⟨h.1, List.forall_mem_cons.2 ⟨hq, h.2⟩⟩

theorem binMode_contains (m : Str) (c : Char) (hc : c ≠ 't') : (binMode m).contains c = m.contains c := by
  rw [Bool.eq_iff_iff]
  simp [binMode, hc]

/-- `isQuery` and `Prim.writes` spell out the body of `checkWritable` for `openbin` / `open` -/
theorem isQuery_openbin (r m : Str) : isQuery (.openbin r m) = !checkWritable m := rfl

theorem writes_openbin (p m : Str) : (Prim.openbin p m).writes = checkWritable m := rfl

theorem writes_open (p m : Str) (d : Option Bytes) : (Prim.open_ p m d).writes = checkWritable m := rfl

theorem checkWritable_binMode (m : Str) : checkWritable (binMode m) = checkWritable m := by
  unfold checkWritable
  rw [binMode_contains m 'w' (by decide), binMode_contains m 'a' (by decide),
    binMode_contains m '+' (by decide), binMode_contains m 'x' (by decide)]

theorem openCall_call (f : Fss) (i : Nat) (r bm : Str) (d : Option Bytes) :
    (openCall f i r bm d).2.2 = ⟨i, .open_, r, .openbin r bm⟩ := by
  unfold openCall
  simp only
  split <;> rfl

theorem writeEffect_none_of_query (r bm : Str) (d : Option Bytes) (old : Bytes)
    (h : isQuery (.openbin r bm) = true) : writeEffect r bm d old = none := by
  cases d with
  | none => rfl
  | some d => exact if_pos ((isQuery_openbin r bm).symm.trans h)

theorem openCall_frame (f : Fss) (i : Nat) (r bm : Str) (d : Option Bytes) (j : Nat)
    (h : i = j → isQuery (.openbin r bm) = true) : (openCall f i r bm d).1 j = f j := by
  by_cases hij : j = i
  · subst hij
    have hq := h rfl
    unfold openCall
    simp only [writeEffect_none_of_query r bm d _ hq]
    split
    · next heq => simp at heq
    · exact (set_same _ _ _).trans (step_query_state _ _ hq)
  · unfold openCall
    simp only
    split <;> exact set_other _ _ _ _ hij

theorem forward_call (f : Fss) (i : Nat) (pr : Prim) (path : Str) :
    (forward f i pr path).2.2 = ⟨i, pr.meth, path, pr.memberOp path⟩ := by
  cases pr <;> first | rfl | exact openCall_call _ _ _ _ _

theorem forward_frame (f : Fss) (i : Nat) (pr : Prim) (path : Str) (j : Nat)
    (h : i = j → isQuery (pr.memberOp path) = true) : (forward f i pr path).1 j = f j := by
  cases pr <;> first
    | exact memberCall_frame _ _ _ _ _ _ h
    | exact openCall_frame _ _ _ _ _ _ h

theorem forward_query (f : Fss) (i : Nat) (pr : Prim) (path : Str)
    (h : isQuery (pr.memberOp path) = true) : (forward f i pr path).1 = f := by
  funext j
  exact forward_frame f i pr path j (fun _ => h)

/-! ## programs over primitives -/

/-- every primitive the program can issue (whatever the results of earlier calls) satisfies `P` -/
def AllPrims (P : Prim → Prop) : Prog → Prop
  | .ret _ => True
  | .call p k => P p ∧ ∀ o, AllPrims P (k o)
  | .validate _ k => AllPrims P k
  | .check k => AllPrims P k

/-- every path handed to `validatepath` satisfies `V` -/
def AllValidates (V : Str → Prop) : Prog → Prop
  | .ret _ => True
  | .call _ k => ∀ o, AllValidates V (k o)
  | .validate p k => V p ∧ AllValidates V k
  | .check k => AllValidates V k

theorem allPrims_true : ∀ prog, AllPrims (fun _ => True) prog := by
  intro prog
  induction prog with
  | ret o => trivial
  | call p k ih => exact ⟨trivial, ih⟩
  | validate p k ih => exact ih
  | check k ih => exact ih

theorem allValidates_true : ∀ prog, AllValidates (fun _ => True) prog := by
  intro prog
  induction prog with
  | ret o => trivial
  | call p k ih => exact ih
  | validate p k ih => exact ⟨trivial, ih⟩
  | check k ih => exact ih

/-- a run is a chain of primitive calls and validations: a relation between the state before, the state after and
the calls made in between that holds of no link, of every link, and of two chains in a row, holds of the run -/
theorem run_chain {σ : Type} (sem : Sem σ) {P : Prim → Prop} {V : Str → Prop} {R : σ → σ → List Call → Prop}
    (refl : ∀ s, R s s [])
    (trans : ∀ {s s1 s2 t1 t2}, R s s1 t1 → R s1 s2 t2 → R s s2 (t1 ++ t2))
    (hprim : ∀ s p, P p → R s (sem.prim s p).1 (sem.prim s p).2.2)
    (hval : ∀ s p, V p → R s s (sem.validate s p).2) :
    ∀ (prog : Prog) (s : σ), AllPrims P prog → AllValidates V prog →
      R s (prog.run sem s).1 (prog.run sem s).2.2 := by
  intro prog
  induction prog with
  | ret o => intro s _ _; exact refl s
  | call p k ih => intro s hP hV; exact trans (hprim s p hP.1) (ih _ _ (hP.2 _) (hV _))
  | validate p k ih =>
    intro s hP hV
    have hv := hval s p hV.1
    simp only [Prog.run]
    split
    · next heq => rw [heq] at hv; exact hv
    · next heq => rw [heq] at hv; exact trans hv (ih s hP hV.2)
  | check k ih =>
    intro s hP hV
    simp only [Prog.run]
    split
    · exact refl s
    · exact ih s hP hV

/-- frame rule for arbitrary programs: a member is unchanged when every call it receives is a
query (in particular when it receives none), provided the primitives have that property -/
theorem run_frame {σ : Type} (sem : Sem σ) (proj : σ → Fss)
    (hp : ∀ s p j, (∀ c ∈ (sem.prim s p).2.2, c.fs = j → isQuery c.op = true) →
      proj (sem.prim s p).1 j = proj s j) :
    ∀ (prog : Prog) (s : σ) (j : Nat),
      (∀ c ∈ (prog.run sem s).2.2, c.fs = j → isQuery c.op = true) →
      proj (prog.run sem s).1 j = proj s j :=
  fun prog s j =>
    run_chain sem (R := fun s s' t => (∀ c ∈ t, c.fs = j → isQuery c.op = true) → proj s' j = proj s j)
      (fun _ _ => rfl)
      (fun h1 h2 h => (h2 fun c hc => h c (List.mem_append_right _ hc)).trans
        (h1 fun c hc => h c (List.mem_append_left _ hc)))
      (fun s p _ => hp s p j) (fun _ _ _ _ => rfl) prog s (allPrims_true prog) (allValidates_true prog)

/-- what the calls of a program look like, from what the calls of its primitives look like;
`Inv` is any property of the composite's own state that the primitives preserve -/
theorem run_calls {σ : Type} (sem : Sem σ) (Inv : σ → Prop) (P : Prim → Prop) (V : Str → Prop)
    (Q : Call → Prop)
    (hinv : ∀ s p, Inv s → Inv (sem.prim s p).1)
    (hprim : ∀ s p, Inv s → P p → ∀ c ∈ (sem.prim s p).2.2, Q c)
    (hval : ∀ s p, Inv s → V p → ∀ c ∈ (sem.validate s p).2, Q c) :
    ∀ (prog : Prog) (s : σ), Inv s → AllPrims P prog → AllValidates V prog →
      (∀ c ∈ (prog.run sem s).2.2, Q c) ∧ Inv (prog.run sem s).1 :=
  fun prog s hi hP hV =>
    run_chain sem (R := fun s s' t => Inv s → (∀ c ∈ t, Q c) ∧ Inv s')
      (fun _ hi => ⟨fun _ h => (nomatch h), hi⟩)
      (fun h1 h2 hi => ⟨List.forall_mem_append.2 ⟨(h1 hi).1, (h2 (h1 hi).2).1⟩, (h2 (h1 hi).2).2⟩)
      (fun s p hp hi => ⟨hprim s p hi hp, hinv s p hi⟩) (fun s p hv hi => ⟨hval s p hi hv, hi⟩) prog s hP hV hi

theorem allPrims_mono {P P' : Prim → Prop} (h : ∀ p, P p → P' p) :
    ∀ prog, AllPrims P prog → AllPrims P' prog := by
  intro prog
  induction prog with
  | ret o => intro _; trivial
  | call p k ih => intro hp; exact ⟨h p hp.1, fun o => ih o (hp.2 o)⟩
  | validate p k ih => intro hp; exact ih hp
  | check k ih => intro hp; exact ih hp

/-! ### the inherited programs only hand on the paths they were given -/

def Uses (P : Prim → Prop) (V : Str → Prop) (prog : Prog) : Prop := AllPrims P prog ∧ AllValidates V prog

theorem Uses.ret {P : Prim → Prop} {V : Str → Prop} (o : Out) : Uses P V (.ret o) := ⟨trivial, trivial⟩

theorem Uses.call {P : Prim → Prop} {V : Str → Prop} {p : Prim} {k : Out → Prog} (hp : P p)
    (hk : ∀ o, Uses P V (k o)) : Uses P V (.call p k) :=
  ⟨⟨hp, fun o => (hk o).1⟩, fun o => (hk o).2⟩

theorem Uses.validate {P : Prim → Prop} {V : Str → Prop} {p : Str} {k : Prog} (hp : V p) (hk : Uses P V k) :
    Uses P V (.validate p k) :=
  ⟨hk.1, hp, hk.2⟩

theorem Uses.check {P : Prim → Prop} {V : Str → Prop} {k : Prog} (hk : Uses P V k) : Uses P V (.check k) := hk

theorem Uses.one {P : Prim → Prop} {V : Str → Prop} {pr : Prim} (h : P pr) : Uses P V (one pr) :=
  Uses.call h Uses.ret

local macro "bsplit" : tactic => `(tactic| ((try dsimp only); split))

theorem uses_existsThen {P : Prim → Prop} {V : Str → Prop} {p : Str} {k : Bool → Prog} (hp : P (.getinfo p))
    (hk : ∀ b, Uses P V (k b)) : Uses P V (existsThen p k) := by
  refine Uses.call hp fun o => ?_
  bsplit
  · exact hk true
  · exact hk false
  · exact Uses.ret _

theorem uses_createThen {P : Prim → Prop} {V : Str → Prop} {p : Str} {w : Bool} {k : Bool → Prog}
    (h1 : P (.getinfo p)) (h2 : P (.openWrite p)) (hk : ∀ b, Uses P V (k b)) :
    Uses P V (createThen p w k) := by
  unfold createThen
  -- `doCreate`, which runs at once (`wipe`) or when the path does not exist
  suffices hd : Uses P V _ by
    bsplit
    · exact hd
    · refine uses_existsThen h1 fun b => ?_
      bsplit
      · exact hk false
      · exact hd
  refine Uses.call h2 fun o => ?_
  bsplit
  · exact hk true
  · exact Uses.ret _

/-- the programs for one-path operations call primitives on that very path, and never
`validatepath` -/
theorem commonProg_single (op : Ref.Op) (pr : Prog) (p : Str) (h : commonProg op = some pr)
    (hp : op.paths = [p]) :
    AllPrims (fun q => q.path = p) pr ∧ AllValidates (fun _ => False) pr := by
  cases op <;> cases hp <;> cases h
  case exists_ => exact uses_existsThen rfl (fun _ => Uses.ret _)
  case create => exact uses_createThen rfl rfl (fun _ => Uses.ret _)
  case touch =>
    refine uses_createThen rfl rfl (fun b => ?_)
    cases b
    · exact Uses.one rfl
    · exact Uses.ret _
  all_goals exact Uses.one rfl

theorem commonProg_query {op : Ref.Op} {pr : Prog} (hq : isQuery op = true) (h : commonProg op = some pr) :
    AllPrims (fun q => ∀ r, isQuery (q.memberOp r) = true) pr := by
  cases op <;> first | exact absurd hq Bool.false_ne_true | cases h
  case exists_ => exact (uses_existsThen (V := fun _ => True) (fun _ => rfl) (fun _ => Uses.ret _)).1
  case openbin => exact (Uses.one (V := fun _ => True) (fun _ => hq)).1
  all_goals exact (Uses.one (V := fun _ => True) (fun _ => rfl)).1

/-- `P` holds of the five primitives the body of `baseMove` calls -/
def MovePrims (P : Prim → Prop) (ns nd : Str) : Prop :=
  P (.getinfo ns) ∧ P (.getinfo nd) ∧ P (.openRead ns) ∧ (∀ b, P (.upload nd b)) ∧ P (.remove ns)

/-- the destination test `move` and `copy` share -/
theorem uses_unlessExists {P : Prim → Prop} {V : Str → Prop} {nd : Str} {ow : Bool} {body : Prog}
    (h : P (.getinfo nd)) (hb : Uses P V body) :
    Uses P V (if ow then body else existsThen nd fun b => if b then .ret (.err .DestinationExists) else body) := by
  split
  · exact hb
  · refine uses_existsThen h fun b => ?_
    split
    · exact Uses.ret _
    · exact hb

theorem uses_baseMove {P : Prim → Prop} {V : Str → Prop} (src dst : Str) (ow : Bool)
    (h : MovePrims P (absnorm src) (absnorm dst)) (hs : V src) (hd : V dst) : Uses P V (baseMove src dst ow) := by
  obtain ⟨h1, h2, h3, h4, h5⟩ := h
  refine Uses.validate hs (Uses.validate hd (uses_unlessExists h2 (Uses.call h1 fun o => ?_)))
  bsplit
  · exact Uses.ret _
  · bsplit
    · exact Uses.ret _
    · bsplit
      · exact Uses.ret _
      · refine Uses.call h3 fun o => ?_
        bsplit
        · exact Uses.ret _
        · refine Uses.call (h4 _) fun o => ?_
          bsplit
          · exact Uses.ret _
          · exact Uses.one h5

theorem uses_baseCopy {P : Prim → Prop} {V : Str → Prop} (src dst : Str) (ow : Bool)
    (h2 : P (.getinfo (absnorm dst))) (h3 : P (.openRead (absnorm src)))
    (h4 : ∀ b, P (.upload (absnorm dst) b)) (hs : V src) (hd : V dst) : Uses P V (baseCopy src dst ow) := by
  refine Uses.validate hs (Uses.validate hd (uses_unlessExists h2 ?_))
  bsplit
  · exact Uses.ret _
  · refine Uses.call h3 fun o => ?_
    bsplit
    · exact Uses.ret _
    · exact Uses.one (h4 _)

theorem uses_makeLoop {V : Str → Prop} (L : List Str) (p : Str) (rc : Bool) (hp : p ∈ L) :
    ∀ ds : List Str, (∀ d ∈ ds, d ∈ L) → Uses (fun q => q.path ∈ L) V (makeLoop p rc ds) := by
  intro ds
  induction ds with
  | nil =>
    intro _
    refine Uses.call hp fun o => ?_
    -- `opendir`, after `makedir` succeeded or was tolerated
    suffices hopen : Uses (fun q => q.path ∈ L) V _ by
      bsplit
      · exact hopen
      · split
        · exact hopen
        · exact Uses.ret _
      · exact Uses.ret _
    refine Uses.call hp fun o => ?_
    bsplit
    · split <;> exact Uses.ret _
    · exact Uses.ret _
  | cons d ds ih =>
    intro h
    refine Uses.call (h d (by simp)) fun o => ?_
    have ih' := ih (fun x hx => h x (by simp [hx]))
    bsplit
    · exact ih'
    · split
      · exact ih'
      · exact Uses.ret _
    · exact Uses.ret _

theorem uses_interLoop {V : Str → Prop} (L : List Str) (p : Str) (rc : Bool) (hp : p ∈ L) :
    ∀ (qs acc : List Str), (∀ q ∈ qs, q ∈ L ∧ abspath q ∈ L) → (∀ a ∈ acc, a ∈ L) →
      Uses (fun q => q.path ∈ L) V (interLoop p rc qs acc) := by
  intro qs
  induction qs with
  | nil =>
    intro acc _ hacc
    apply uses_makeLoop L p rc hp
    intro d hd
    exact hacc d (List.mem_reverse.1 (List.dropLast_subset _ hd))
  | cons q qs ih =>
    intro acc hqs hacc
    refine Uses.call (hqs q (by simp)).1 fun o => ?_
    bsplit
    · apply ih
      · exact fun x hx => hqs x (by simp [hx])
      · intro a ha
        simp only [List.mem_append, List.mem_singleton] at ha
        rcases ha with ha | rfl
        · exact hacc a ha
        · exact (hqs q (by simp)).2
    · exact Uses.ret _
    · split
      · apply uses_makeLoop L p rc hp
        intro d hd
        exact hacc d (List.mem_reverse.1 (List.dropLast_subset _ hd))
      · exact Uses.ret _

theorem uses_baseMakedirs (V : Str → Prop) (p : Str) (rc : Bool) :
    Uses (fun q => q.path ∈ makedirsPaths p) V (baseMakedirs p rc) := by
  unfold baseMakedirs
  refine Uses.check ?_
  cases hr : recursepath (abspath p) true with
  | err e => exact Uses.ret _
  | ok l =>
    apply uses_interLoop _ p rc (by simp [makedirsPaths])
    · intro q hq
      simp only [makedirsPaths, hr, List.mem_cons, List.mem_append, List.mem_map]
      exact ⟨Or.inr (Or.inl hq), Or.inr (Or.inr ⟨q, hq, rfl⟩)⟩
    · simp

/-! ### what MountFS and MultiFS share -/

/-- a composite whose primitives leave alone every member they send only queries to, forward their own operation
(anything else they send is a query), and validate by queries -/
structure Routes {σ : Type} (sem : Sem σ) (fs : σ → Fss) : Prop where
  frame : ∀ s p j, (∀ c ∈ (sem.prim s p).2.2, c.fs = j → isQuery c.op = true) → fs (sem.prim s p).1 j = fs s j
  forwards : ∀ s p, ∀ c ∈ (sem.prim s p).2.2, isQuery c.op = true ∨ c.op = p.memberOp c.path
  validates : ∀ s p, ∀ c ∈ (sem.validate s p).2, isQuery c.op = true

section
variable {σ : Type} {sem : Sem σ} {fs : σ → Fss}

theorem Routes.frame_any (R : Routes sem fs) (prog : Prog) (s : σ) (j : Nat)
    (h : ∀ c ∈ (prog.run sem s).2.2, c.fs = j → isQuery c.op = true) : fs (prog.run sem s).1 j = fs s j :=
  run_frame sem fs R.frame prog s j h

/-- a member to which the primitives a program calls send nothing but queries is unchanged (what it validates is
asked by queries anyway); `Inv` as in `run_calls` -/
theorem Routes.confined (R : Routes sem fs) (Inv : σ → Prop) (P : Prim → Prop) (j : Nat)
    (hinv : ∀ s p, Inv s → Inv (sem.prim s p).1)
    (hprim : ∀ s p, Inv s → P p → ∀ c ∈ (sem.prim s p).2.2, c.fs = j → isQuery c.op = true)
    (prog : Prog) (s : σ) (hi : Inv s) (hP : AllPrims P prog) : fs (prog.run sem s).1 j = fs s j :=
  R.frame_any prog s j
    (run_calls sem Inv P (fun _ => True) (fun c => c.fs = j → isQuery c.op = true) hinv hprim
      (fun s p _ _ c hc _ => R.validates s p c hc) prog s hi hP (allValidates_true prog)).1

theorem Routes.query_prog (R : Routes sem fs) {op : Ref.Op} {pr : Prog} (hq : isQuery op = true)
    (hpr : commonProg op = some pr) (s : σ) (j : Nat) : fs (pr.run sem s).1 j = fs s j :=
  R.confined (fun _ => True) _ j (fun _ _ _ => trivial)
    (fun s' q _ hq c hc _ => (R.forwards s' q c hc).elim id fun hop => hop ▸ hq _)
    pr s trivial (commonProg_query hq hpr)

end

namespace MountL
open Fs.Mount

/-- the parts of a MountFS state that no method except `mount` / `close` touches -/
def SameCfg (s s' : MState) : Prop :=
  s'.mounts = s.mounts ∧ s'.closed = s.closed ∧ s'.autoClose = s.autoClose

theorem SameCfg.refl (s : MState) : SameCfg s s := ⟨rfl, rfl, rfl⟩

theorem SameCfg.trans {a b c : MState} (h1 : SameCfg a b) (h2 : SameCfg b c) : SameCfg a c :=
  ⟨h2.1.trans h1.1, h2.2.1.trans h1.2.1, h2.2.2.trans h1.2.2⟩

def CallOk (t : Table) (q : Str) (c : Call) : Prop :=
  isQuery c.op = true ∨ routeMember t q = some c.fs

/-! ### routing is insensitive to the spelling handed on by the base-class programs -/

theorem routeMember_of_key (t : Table) (p q n m : Str) (hnp : '\x00' ∉ p) (hnq : '\x00' ∉ q)
    (hp : normpath p = .ok n) (hq : normpath q = .ok m)
    (hk : mountKey n = mountKey m) : routeMember t p = routeMember t q := by
  simp only [routeMember, delegate_noNul hnp, delegate_noNul hnq, hp, hq, hk]
  cases findMount (mountKey m) t <;> rfl

/-- routing does not tell a NUL-free path from the spelling `validatepath` returns for it
(`abspath(normpath(p))`); a path with NUL is refused by `_delegate` before it is normalised -/
theorem routeMember_absnorm (t : Table) (p : Str) (hn : '\x00' ∉ p) :
    routeMember t (absnorm p) = routeMember t p := by
  unfold absnorm
  cases hp : normpath p with
  | err e => rfl
  | ok n =>
    obtain ⟨cs, hr, hc, rfl⟩ := normpath_ok_resolve p n hp
    simp only
    rw [abspath_mkp hc]
    exact routeMember_of_key t _ _ _ _
      (not_mem_mkp (by decide) _ fun c hc' hx => hn (mem_of_mem_resolve hr c hc' _ hx)) hn (normpath_mkp hc) hp
      (by rw [mountKey_mkp hc, mountKey_mkp hc])

/-! ### frame and routing of each primitive -/

def Quiet {α : Type} (s : MState) (r : MState × α × List Call) : Prop :=
  SameCfg s r.1 ∧ r.1.fs = s.fs ∧
  ∀ c ∈ r.2.2, isQuery c.op = true ∧ ∃ q, delegate s.mounts q = .ok (c.fs, c.path)

/-- `p` is the path the method delegates -/
def Fine (s : MState) (p : Str) (pr : Prim) (r : MState × Out × List Call) : Prop :=
  SameCfg s r.1 ∧ (∀ j, (∀ c ∈ r.2.2, c.fs = j → isQuery c.op = true) → r.1.fs j = s.fs j) ∧
  ∀ c ∈ r.2.2, (isQuery c.op = true ∧ ∃ q, delegate s.mounts q = .ok (c.fs, c.path)) ∨
    (delegate s.mounts p = .ok (c.fs, c.path) ∧ c.meth = pr.meth ∧ c.op = pr.memberOp c.path)

theorem Quiet.fine {s : MState} {p : Str} {pr : Prim} {r : MState × Out × List Call} (h : Quiet s r) :
    Fine s p pr r :=
  ⟨h.1, fun _ _ => by rw [h.2.1], fun c hc => Or.inl (h.2.2 c hc)⟩

theorem quiet_same {α : Type} (s : MState) (o : α) : Quiet s (s, o, []) :=
  ⟨SameCfg.refl s, rfl, by simp⟩

theorem Quiet.checked {s : MState} {k : MState × Out × List Call} (h : Quiet s k) : Quiet s (checked s k) := by
  unfold Mount.checked; split
  · exact quiet_same s _
  · exact h

theorem Quiet.trans {α β γ : Type} {s : MState} {r1 : MState × α × List Call} {r2 : MState × β × List Call}
    (h1 : Quiet s r1) (h2 : Quiet r1.1 r2) (o : γ) : Quiet s (r2.1, o, r1.2.2 ++ r2.2.2) := by
  refine ⟨h1.1.trans h2.1, h2.2.1.trans h1.2.1, fun c hc => ?_⟩
  rcases List.mem_append.1 hc with hc | hc
  · exact h1.2.2 c hc
  · have := h2.2.2 c hc
    rw [h1.1.1] at this
    exact this

theorem fine_checked {s : MState} {p : Str} {pr : Prim} {k : MState × Out × List Call} (h : Fine s p pr k) :
    Fine s p pr (checked s k) := by
  unfold Mount.checked; split
  · exact (quiet_same s _).fine
  · exact h

theorem routeMember_of_delegate {t : Table} {p : Str} {i : Nat} {r : Str}
    (h : delegate t p = .ok (i, r)) : routeMember t p = some i := by
  simp [routeMember, h]

theorem routed_fine (s : MState) (pr : Prim) (p : Str) : Fine s p pr (routed s pr p) := by
  cases hd : delegate s.mounts p with
  | err e => simp only [routed, hd]; exact (quiet_same s _).fine
  | ok ir =>
    obtain ⟨i, r⟩ := ir
    simp only [routed, hd, forward_call]
    refine ⟨⟨rfl, rfl, rfl⟩, fun j h => forward_frame _ _ _ _ _ (fun hij => ?_), fun c hc => ?_⟩
    · exact h _ (List.mem_singleton.2 rfl) hij
    · cases List.mem_singleton.1 hc
      exact Or.inr ⟨hd, rfl, rfl⟩

theorem getinfoRouted_quiet (s : MState) (p : Str) : Quiet s (getinfoRouted s p) := by
  cases hd : delegate s.mounts p with
  | err e => simp only [getinfoRouted, hd]; exact quiet_same s _
  | ok ir =>
    obtain ⟨i, r⟩ := ir
    simp only [getinfoRouted, hd]
    refine ⟨⟨rfl, rfl, rfl⟩, memberCall_query s.fs i .getinfo r (.getinfo r) rfl, fun c hc => ?_⟩
    cases List.mem_singleton.1 hc
    exact ⟨rfl, p, hd⟩

/-- every call made by `_scan_mount_points` is a `getinfo` query routed by `_delegate` -/
theorem scanMountPoints_quiet (dirKey : Str) (names : List Name) :
    ∀ s : MState, Quiet s (scanMountPoints s dirKey names) := by
  induction names with
  | nil => intro s; exact quiet_same s _
  | cons n rest ih =>
    intro s
    simp only [scanMountPoints]
    have h1 : Quiet s (checked s (getinfoRouted s (dirKey ++ n))) := (getinfoRouted_quiet s _).checked
    split
    · split
      · exact h1
      · exact h1.trans (ih _) _
    · exact ih s

theorem scanAfter_quiet {s s1 : MState} (p : Str) (b v : Bool) (o : Out) {c : Call}
    (h0 : Quiet s (s1, (), [c])) : Quiet s (scanAfter s1 p b v o c) := by
  unfold scanAfter
  split
  · cases v
    · simp only [Bool.false_eq_true, ↓reduceIte]
      exact ⟨h0.1, h0.2.1, h0.2.2⟩
    · simp only [↓reduceIte]
      exact h0.trans (scanMountPoints_quiet _ _ _) _
  · exact ⟨h0.1, h0.2.1, h0.2.2⟩

theorem scanRouted_quiet (s : MState) (p : Str) (b : Bool) : Quiet s (scanRouted s p b) := by
  cases hd : delegate s.mounts p with
  | err e => simp only [scanRouted, hd]; exact quiet_same s _
  | ok ir =>
    obtain ⟨i, r⟩ := ir
    simp only [scanRouted, hd]
    refine scanAfter_quiet p b _ _ ⟨⟨rfl, rfl, rfl⟩, memberCall_query s.fs i .scandir r (.listdir r) rfl, fun c hc => ?_⟩
    cases List.mem_singleton.1 hc
    exact ⟨rfl, p, hd⟩

theorem prim_fine (s : MState) (pr : Prim) : Fine s pr.path pr (prim s pr) := by
  cases pr <;> simp only [prim]
  case getinfo p => exact (getinfoRouted_quiet s p).checked.fine
  case scandir p => exact (scanRouted_quiet s p false).checked.fine
  case scanFirst p => exact (scanRouted_quiet s p true).checked.fine
  case openbin p m =>
    split
    · exact (quiet_same s _).fine
    · exact fine_checked (routed_fine s _ _)
  case open_ p m d =>
    split
    · exact (quiet_same s _).fine
    · exact fine_checked (routed_fine s _ _)
  case removedir p =>
    apply fine_checked
    split
    · exact (quiet_same s _).fine
    · split
      · exact (quiet_same s _).fine
      · exact routed_fine s _ _
  case makedirs p rc => exact (quiet_same s _).fine
  all_goals exact fine_checked (routed_fine s _ _)

theorem prim_cfg (s : MState) (pr : Prim) : SameCfg s (prim s pr).1 := (prim_fine s pr).1

/-- the primitive's own path is routed in the caller's spelling, for every method, `removedir` included -/
theorem prim_calls (s : MState) (pr : Prim) :
    ∀ c ∈ (prim s pr).2.2,
      (isQuery c.op = true ∧ ∃ q, delegate s.mounts q = .ok (c.fs, c.path)) ∨
      (delegate s.mounts pr.path = .ok (c.fs, c.path) ∧ c.meth = pr.meth ∧
        c.op = pr.memberOp c.path) :=
  (prim_fine s pr).2.2

theorem prim_route (s : MState) (pr : Prim) :
    ∀ c ∈ (prim s pr).2.2, isQuery c.op = true ∨ routeMember s.mounts pr.path = some c.fs :=
  fun c hc => (prim_calls s pr c hc).imp And.left fun h => routeMember_of_delegate h.1

theorem validate_calls (s : MState) (p : Str) :
    ∀ c ∈ (Mount.validate s p).2, isQuery c.op = true ∧ delegate s.mounts p = .ok (c.fs, c.path) := by
  unfold Mount.validate
  split
  · simp
  · split
    · simp
    · next i r heq =>
      simp only [List.mem_singleton, forall_eq]
      exact ⟨rfl, heq⟩

/-- a program that starts with `validatepath(p)` gets past it only when `p` has no NUL (`_delegate` refuses it) -/
theorem run_validate {s : MState} {p : Str} {k : Prog} {C : MState → Prop} (h0 : C s)
    (hk : '\x00' ∉ p → C (k.run Mount.sem s).1) : C ((Prog.validate p k).run Mount.sem s).1 := by
  by_cases hn : '\x00' ∈ p
  · have he : ∃ e, Mount.sem.validate s p = (.err e, []) := by
      simp only [Mount.sem, Mount.validate, delegate_nul hn]
      split <;> exact ⟨_, rfl⟩
    obtain ⟨e, he⟩ := he
    simp only [Prog.run, he]
    exact h0
  · simp only [Prog.run]
    split
    · exact h0
    · exact hk hn

theorem step_some {s : MState} {op : Ref.Op} {r : MState × Out × List Call} (h : Mount.step s op = some r)
    (hc : op ≠ .close) : ∃ pr, Mount.prog op = some pr ∧ pr.run Mount.sem s = r := by
  cases op <;> first | exact absurd rfl hc | exact Option.map_eq_some_iff.1 h

theorem prog_common {op : Ref.Op} {pr : Prog} (h : Mount.prog op = some pr) (hmk : ∀ q rc, op ≠ .makedirs q rc) :
    commonProg op = some pr := by
  cases op <;> first | exact h | exact absurd rfl (hmk _ _)

end MountL

theorem mountRoutes : Routes Mount.sem (fun s => s.fs) :=
  ⟨fun s p => (MountL.prim_fine s p).2.1, fun s p c hc => (MountL.prim_calls s p c hc).imp And.left fun h => h.2.2,
    fun s p c hc => (MountL.validate_calls s p c hc).1⟩

theorem mount_frame_paths (prog : Prog) (s : Mount.MState) (P : Prim → Prop) (hP : AllPrims P prog) (j : Nat)
    (hj : ∀ q, P q → routeMember s.mounts q.path ≠ some j) : (prog.run Mount.sem s).1.fs j = s.fs j :=
  mountRoutes.confined (fun s' => s'.mounts = s.mounts) P j (fun s' q hi => (MountL.prim_cfg s' q).1.trans hi)
    (fun s' q hi hq c hc hcj => (MountL.prim_route s' q c hc).elim id fun hr => absurd (hi ▸ hcj ▸ hr) (hj q hq))
    prog s rfl hP

theorem mount_run_delegated (prog : Prog) (s : Mount.MState) :
    (∀ c ∈ (prog.run Mount.sem s).2.2, ∃ q, Mount.delegate s.mounts q = .ok (c.fs, c.path)) ∧
    MountL.SameCfg s (prog.run Mount.sem s).1 :=
  run_calls Mount.sem (MountL.SameCfg s) (fun _ => True) (fun _ => True)
    (fun c => ∃ q, Mount.delegate s.mounts q = .ok (c.fs, c.path))
    (fun s' p hi => hi.trans (MountL.prim_cfg s' p))
    (fun s' p hi _ c hc => by
      rcases MountL.prim_calls s' p c hc with ⟨_, q, hq⟩ | ⟨hq, _⟩
      · exact ⟨q, hi.1 ▸ hq⟩
      · exact ⟨_, hi.1 ▸ hq⟩)
    (fun s' p hi _ c hc => ⟨p, hi.1 ▸ (MountL.validate_calls s' p c hc).2⟩)
    prog s (MountL.SameCfg.refl s) (allPrims_true prog) (allValidates_true prog)

namespace MultiL
open Fs.Multi

/-! ### `add_fs` -/

theorem mem_dictSet {l : List Entry} {e x : Entry} (hx : x ∈ dictSet e l) : x = e ∨ x ∈ l := by
  induction l with
  | nil => exact Or.inl (List.mem_singleton.1 hx)
  | cons y ys ih =>
    simp only [dictSet] at hx
    split at hx
    · exact (List.mem_cons.1 hx).imp_right (List.mem_cons_of_mem _)
    · rcases List.mem_cons.1 hx with rfl | hx
      · exact Or.inr List.mem_cons_self
      · exact (ih hx).imp_right (List.mem_cons_of_mem _)

theorem mem_dictSet_self (l : List Entry) (e : Entry) : e ∈ dictSet e l := by
  induction l with
  | nil => exact List.mem_singleton.2 rfl
  | cons y ys ih =>
    simp only [dictSet]
    split
    · exact List.mem_cons_self
    · exact List.mem_cons_of_mem _ ih

/-! ### the priority order -/

theorem keyLe_iff (a b : Entry) : keyLe a b = true ↔ KeyLe a b := by
  simp [keyLe, KeyLe]

theorem keyLe_total (a b : Entry) : keyLe a b = true ∨ keyLe b a = true := by
  simp only [keyLe_iff, KeyLe]; omega

theorem keyLe_trans (a b c : Entry) (h1 : keyLe a b = true) (h2 : keyLe b c = true) : keyLe a c = true := by
  simp only [keyLe_iff, KeyLe] at *; omega

theorem keyLe_refl (a : Entry) : keyLe a a = true :=
  (keyLe_iff a a).2 (Or.inr ⟨rfl, Nat.le_refl _⟩)

theorem insertDesc_perm (e : Entry) (l : List Entry) : (insertDesc e l).Perm (e :: l) := by
  induction l with
  | nil => exact List.Perm.refl _
  | cons x xs ih =>
    simp only [insertDesc]
    split
    · exact List.Perm.refl _
    · exact (List.Perm.cons x ih).trans (List.Perm.swap e x xs)

theorem sortDesc_perm (l : List Entry) : (sortDesc l).Perm l := by
  induction l with
  | nil => exact List.Perm.refl _
  | cons e es ih => exact (insertDesc_perm e _).trans (List.Perm.cons e ih)

theorem mem_sortDesc (l : List Entry) (x : Entry) : x ∈ sortDesc l ↔ x ∈ l :=
  (sortDesc_perm l).mem_iff

/-- descending: every entry is ≥ every later one -/
def Desc (l : List Entry) : Prop := l.Pairwise (fun x y => keyLe y x = true)

theorem insertDesc_desc (e : Entry) (l : List Entry) (h : Desc l) : Desc (insertDesc e l) := by
  induction l with
  | nil => simp [insertDesc, Desc]
  | cons x xs ih =>
    simp only [insertDesc]
    have hx := List.pairwise_cons.1 h
    split
    · next hle =>
      refine List.pairwise_cons.2 ⟨?_, h⟩
      intro y hy
      simp only [List.mem_cons] at hy
      rcases hy with rfl | hy
      · exact hle
      · exact keyLe_trans _ _ _ (hx.1 y hy) hle
    · next hle =>
      have hxe : keyLe e x = true := (keyLe_total x e).resolve_left hle
      refine List.pairwise_cons.2 ⟨?_, ih hx.2⟩
      intro y hy
      have hy' := (insertDesc_perm e xs).mem_iff.1 hy
      simp only [List.mem_cons] at hy'
      rcases hy' with rfl | hy'
      · exact hxe
      · exact hx.1 y hy'

theorem sortDesc_desc (l : List Entry) : Desc (sortDesc l) := by
  induction l with
  | nil => exact List.Pairwise.nil
  | cons e es ih => exact insertDesc_desc e _ ih

theorem sortDesc_first_max {l pre post : List Entry} {e : Entry} {q : Entry → Prop}
    (hs : sortDesc l = pre ++ e :: post) (hpre : ∀ x ∈ pre, ¬ q x) :
    e ∈ l ∧ ∀ e' ∈ l, q e' → KeyLe e' e := by
  have hmem : ∀ x, x ∈ pre ++ e :: post ↔ x ∈ l := hs ▸ mem_sortDesc l
  have hdesc : Desc (pre ++ e :: post) := hs ▸ sortDesc_desc l
  refine ⟨(hmem e).1 (by simp), fun e' he' hq => ?_⟩
  rcases List.mem_append.1 ((hmem e').2 he') with hin | hin
  · exact absurd hq (hpre e' hin)
  · rcases List.mem_cons.1 hin with rfl | hin
    · exact (keyLe_iff _ _).1 (keyLe_refl _)
    · exact (keyLe_iff _ _).1 ((List.pairwise_cons.1 (List.pairwise_append.1 hdesc).2.1).1 e' hin)

/-! ### `_delegate` -/

theorem delegateLoop_asked (f : Fss) (p : Str) (es : List Entry) : Asked f (delegateLoop f p es) := by
  induction es with
  | nil => exact asked_none f _
  | cons e es ih =>
    simp only [delegateLoop, memberCall_exists]
    split
    · exact asked_last f _ rfl
    · exact asked_last f _ rfl
    · exact ih.after rfl

theorem memberCall_out (f : Fss) (i : Nat) (meth : Meth) (path : Str) (op : Ref.Op) :
    (memberCall f i meth path op).2.1 = (Ref.step (f i) op).2 := rfl

theorem delegateLoop_cons_out (f : Fss) (p : Str) (e : Entry) (es : List Entry) :
    (delegateLoop f p (e :: es)).2.1 =
      match (Ref.step (f e.fs) (.exists_ p)).2 with
      | .err er => .err er
      | .ok (.bool true) => .ok (some e.fs)
      | .ok _ => (delegateLoop f p es).2.1 := by
  simp only [delegateLoop, memberCall_out, memberCall_exists]
  generalize (Ref.step (f e.fs) (.exists_ p)).2 = o
  rcases o with v | er
  · cases v with
    | bool b => cases b <;> rfl
    | _ => rfl
  · rfl

theorem delegateLoop_some (f : Fss) (p : Str) (es : List Entry) (i : Nat)
    (h : (delegateLoop f p es).2.1 = .ok (some i)) :
    ∃ pre e post, es = pre ++ e :: post ∧ e.fs = i ∧ Holds f p e ∧ ∀ x ∈ pre, ¬ Holds f p x := by
  induction es with
  | nil => simp [delegateLoop] at h
  | cons e es ih =>
    rw [delegateLoop_cons_out] at h
    split at h
    · cases h
    · next hout =>
      simp only [Res.ok.injEq, Option.some.injEq] at h
      exact ⟨[], e, es, rfl, h, hout, by simp⟩
    · next a hne hout =>
      obtain ⟨pre, e', post, rfl, h1, h2, h3⟩ := ih h
      refine ⟨e :: pre, e', post, rfl, h1, h2, List.forall_mem_cons.2 ⟨fun hh => ?_, h3⟩⟩
      rw [Holds, hout, Res.ok.injEq] at hh
      exact hne hh

theorem delegateLoop_none (f : Fss) (p : Str) (es : List Entry)
    (h : (delegateLoop f p es).2.1 = .ok none) : ∀ e ∈ es, ¬ Holds f p e := by
  induction es with
  | nil => simp
  | cons e es ih =>
    rw [delegateLoop_cons_out] at h
    split at h
    · cases h
    · cases h
    · next a hne hout =>
      refine List.forall_mem_cons.2 ⟨fun hh => ?_, ih h⟩
      rw [Holds, hout, Res.ok.injEq] at hh
      exact hne hh

/-! ### de-duplication -/

theorem mem_dedupGo (seen l : List Name) (x : Name) : x ∈ dedupGo seen l ↔ x ∈ l ∧ x ∉ seen := by
  induction l generalizing seen with
  | nil => simp [dedupGo]
  | cons y ys ih =>
    simp only [dedupGo]
    split
    · next hy =>
      rw [ih]
      constructor
      · rintro ⟨h1, h2⟩; exact ⟨List.mem_cons_of_mem _ h1, h2⟩
      · rintro ⟨h1, h2⟩
        simp only [List.mem_cons] at h1
        rcases h1 with rfl | h1
        · exact absurd hy h2
        · exact ⟨h1, h2⟩
    · next hy =>
      simp only [List.mem_cons, ih]
      constructor
      · rintro (rfl | ⟨h1, h2⟩)
        · exact ⟨Or.inl rfl, hy⟩
        · exact ⟨Or.inr h1, fun h => h2 (Or.inr h)⟩
      · rintro ⟨h1 | h1, h2⟩
        · exact Or.inl h1
        · by_cases hxy : x = y
          · exact Or.inl hxy
          · exact Or.inr ⟨h1, by intro h; rcases h with h | h; exact hxy h; exact h2 h⟩

theorem nodup_dedupGo (seen l : List Name) : (dedupGo seen l).Nodup := by
  induction l generalizing seen with
  | nil => simp [dedupGo]
  | cons y ys ih =>
    simp only [dedupGo]
    split
    · exact ih seen
    · refine List.nodup_cons.2 ⟨?_, ih _⟩
      rw [mem_dedupGo]
      simp

theorem sublist_dedupGo (seen l : List Name) : (dedupGo seen l).Sublist l := by
  induction l generalizing seen with
  | nil => simp [dedupGo]
  | cons y ys ih =>
    simp only [dedupGo]
    split
    · exact (ih seen).cons _
    · exact (ih _).cons_cons _

/-! ### union listings -/

theorem listLoop_asked (meth : Meth) (p : Str) (es : List Entry) :
    ∀ (f : Fss) (acc : List Name) (ex : Bool), Asked f (listLoop f meth p es acc ex) := by
  induction es with
  | nil => intro f acc ex; exact asked_none f _
  | cons e es ih =>
    intro f acc ex
    simp only [listLoop, memberCall_listdir]
    split
    · exact (ih ..).after rfl
    · split
      · exact (ih ..).after rfl
      · exact asked_last f _ rfl
    · exact asked_last f _ rfl
    · exact (ih ..).after rfl
    · exact (ih ..).after rfl

theorem firstHolder_eq_find (f : Fss) (p : Str) (es : List Entry) :
    firstHolder f p es = es.find? fun e => decide (listAnswer f p e ≠ .err .ResourceNotFound) := by
  induction es with
  | nil => rfl
  | cons e es ih =>
    simp only [firstHolder, List.find?_cons]
    split <;> simp [*]

theorem listingOf_of_err (f : Fss) (p : Str) (e : Entry) (er : Err)
    (h : (Ref.step (f e.fs) (.listdir p)).2 = .err er) : listingOf f p e = [] := by
  simp [listingOf, h]

/-- without an error, the loop concatenates what every member lists, in `iterate_fs` order
(members that do not hold the path, or hold it as a file, contribute nothing) -/
theorem listLoop_ok (meth : Meth) (p : Str) (es : List Entry) :
    ∀ (f : Fss) (acc : List Name) (ex : Bool) (acc' : List Name) (ex' : Bool),
      (listLoop f meth p es acc ex).2.1 = .ok (acc', ex') →
      acc' = acc ++ es.flatMap (listingOf f p) := by
  induction es with
  | nil =>
    intro f acc ex acc' ex' h
    simp only [listLoop, Res.ok.injEq, Prod.mk.injEq] at h
    simp [h.1]
  | cons e es ih =>
    intro f acc ex acc' ex' h
    simp only [listLoop] at h
    simp only [List.flatMap_cons]
    split at h
    · next hout =>
      simp only [memberCall_listdir] at h
      rw [ih _ _ _ _ _ h]
      rw [memberCall_out] at hout
      simp [listingOf_of_err f p e _ hout]
    · next hout =>
      rw [memberCall_out] at hout
      split at h
      · simp only [memberCall_listdir] at h
        rw [ih _ _ _ _ _ h]
        simp [listingOf_of_err f p e _ hout]
      · cases h
    · cases h
    · next l hout =>
      simp only [memberCall_listdir] at h
      rw [ih _ _ _ _ _ h]
      rw [memberCall_out] at hout
      simp [listingOf, hout]
    · next v hne hout =>
      simp only [memberCall_listdir] at h
      rw [ih _ _ _ _ _ h]
      rw [memberCall_out] at hout
      have : listingOf f p e = [] := by
        unfold listingOf
        rw [hout]
        split
        · next l hl =>
          simp only [Res.ok.injEq] at hl
          exact absurd hl (hne l)
        · rfl
      simp [this]

/-- members answer a listing with names, `ResourceNotFound` or `DirectoryExpected` (they are open
and the path is valid) -/
def WellAnswered (f : Fss) (p : Str) (es : List Entry) : Prop :=
  ∀ e ∈ es, (∃ l, listAnswer f p e = .ok (.names l)) ∨ listAnswer f p e = .err .ResourceNotFound ∨
    listAnswer f p e = .err .DirectoryExpected

/-- the outcome of the listing loop: decided by the first member that contains the path -/
theorem listLoop_outcome (meth : Meth) (p : Str) (es : List Entry) :
    ∀ (f : Fss) (acc : List Name) (ex : Bool), WellAnswered f p es →
      (listLoop f meth p es acc ex).2.1 =
        if ex then .ok (acc ++ es.flatMap (listingOf f p), true)
        else match firstHolder f p es with
          | none => .ok (acc ++ es.flatMap (listingOf f p), false)
          | some h =>
            match listAnswer f p h with
            | .ok _ => .ok (acc ++ es.flatMap (listingOf f p), true)
            | .err er => .err er := by
  induction es with
  | nil => intro f acc ex _; cases ex <;> simp [listLoop, firstHolder]
  | cons e es ih =>
    intro f acc ex hw
    have hw' : WellAnswered f p es := fun x hx => hw x (List.mem_cons_of_mem _ hx)
    have hout : (memberCall f e.fs meth p (.listdir p)).2.1 = listAnswer f p e := rfl
    -- `e` lists names (from here on the path exists), or does not have the path (skipped), or holds a file there
    -- (the error is raised unless an earlier member held a directory: `ex`)
    rcases hw e (by simp) with ⟨l, ha⟩ | ha | ha
    · have hl : listingOf f p e = l := by
        have : (Ref.step (f e.fs) (.listdir p)).2 = .ok (.names l) := ha
        simp [listingOf, this]
      simp only [listLoop, hout, ha, memberCall_listdir, ih f _ true hw', if_true, firstHolder, List.flatMap_cons, hl,
        List.append_assoc, reduceCtorEq, if_false]
      cases ex <;> simp
    · have hl : listingOf f p e = [] := listingOf_of_err f p e _ ha
      simp only [listLoop, hout, ha, memberCall_listdir, ih f _ ex hw', firstHolder, List.flatMap_cons, hl,
        List.nil_append, if_true]
    · have hl : listingOf f p e = [] := listingOf_of_err f p e _ ha
      cases ex
      · simp [listLoop, hout, ha, firstHolder]
      · simp only [listLoop, hout, ha, memberCall_listdir, ih f _ true hw', if_true, List.flatMap_cons, hl,
          List.nil_append]

theorem scanFirstLoop_asked (p : Str) (es : List Entry) :
    ∀ (f : Fss) (ex : Bool), Asked f (scanFirstLoop f p es ex) := by
  induction es with
  | nil => intro f ex; exact asked_none f _
  | cons e es ih =>
    intro f ex
    simp only [scanFirstLoop, memberCall_listdir]
    split
    · exact (ih ..).after rfl
    · split
      · exact (ih ..).after rfl
      · exact asked_last f _ rfl
    · exact asked_last f _ rfl
    · exact asked_last f _ rfl
    · exact (ih ..).after rfl

/-! ### the primitives of MultiFS -/

/-- the parts of a MultiFS state that only `add_fs` / `close` touch -/
def SameCfg (s s' : MState) : Prop :=
  s'.entries = s.entries ∧ s'.writeFs = s.writeFs ∧ s'.closed = s.closed ∧
  s'.autoClose = s.autoClose ∧ s'.sortIndex = s.sortIndex

theorem sameCfg_fs (s : MState) (f : Fss) : SameCfg s { s with fs := f } := ⟨rfl, rfl, rfl, rfl, rfl⟩

theorem onMember_cfg (s : MState) (i : Nat) (pr : Prim) (path : Str) : SameCfg s (onMember s i pr path).1 :=
  sameCfg_fs s _

theorem checked_open (s : MState) (k : MState × Out × List Call) (hc : ¬ s.closed = true) :
    checked s k = k := by
  unfold checked; simp [hc]

/-- what a call made by a MultiFS primitive can be: a query; or the forwarded creating/writing
call, on the write member; or the forwarded `remove`/`removedir`, on the member `_delegate`
found -/
def CallClass (s : MState) (pr : Prim) (c : Call) : Prop :=
  isQuery c.op = true ∨ (pr.writes = true ∧ s.writeFs = some c.fs) ∨
  (removes pr = true ∧ (delegateLoop s.fs pr.path (iterateFs s)).2.1 = .ok (some c.fs))

def Fine (s : MState) (pr : Prim) (r : MState × Out × List Call) : Prop :=
  SameCfg s r.1 ∧ (∀ j, (∀ c ∈ r.2.2, c.fs = j → isQuery c.op = true) → r.1.fs j = s.fs j) ∧
  ∀ c ∈ r.2.2, CallClass s pr c ∧ (isQuery c.op = true ∨ c.op = pr.memberOp c.path)

theorem fine_queries {s : MState} {pr : Prim} {f : Fss} {o : Out} {t : List Call} (hf : f = s.fs)
    (ht : ∀ c ∈ t, isQuery c.op = true) : Fine s pr ({ s with fs := f }, o, t) :=
  ⟨sameCfg_fs s f, fun _ _ => by rw [hf], fun c hc => ⟨Or.inl (ht c hc), Or.inl (ht c hc)⟩⟩

theorem fine_checked {s : MState} {pr : Prim} {k : MState × Out × List Call} (h : Fine s pr k) :
    Fine s pr (checked s k) := by
  unfold checked; split
  · exact fine_queries rfl (by simp)
  · exact h

theorem fine_onMember (s : MState) (pr : Prim) (i : Nat) (path : Str) (t : List Call)
    (ht : ∀ c ∈ t, isQuery c.op = true) (hcl : CallClass s pr ⟨i, pr.meth, path, pr.memberOp path⟩) :
    Fine s pr ((onMember s i pr path).1, (onMember s i pr path).2.1, t ++ (onMember s i pr path).2.2) := by
  have htr : (onMember s i pr path).2.2 = [⟨i, pr.meth, path, pr.memberOp path⟩] := by
    simp only [onMember, forward_call]
  rw [htr]
  refine ⟨sameCfg_fs s _, fun j h => forward_frame s.fs i pr path j (fun hij => ?_), fun c hc => ?_⟩
  · exact h ⟨i, pr.meth, path, pr.memberOp path⟩ (by simp) hij
  · rcases List.mem_append.1 hc with hc | hc
    · exact ⟨Or.inl (ht c hc), Or.inl (ht c hc)⟩
    · cases List.mem_singleton.1 hc
      exact ⟨hcl, Or.inr rfl⟩

/-- `_delegate` only asks, so `viaDelegate` goes on in the state it started in -/
theorem viaDelegate_state (s : MState) (p : Str) :
    ({ s with fs := (delegateLoop s.fs p (iterateFs s)).1 } : MState) = s := by
  rw [(delegateLoop_asked ..).1]

theorem viaDelegate_out (s : MState) (pr : Prim) (p path : Str) (o : Out) :
    (viaDelegate s pr p (.ok path) o).2.1 =
      match (delegateLoop s.fs p (iterateFs s)).2.1 with
      | .err e => .err e
      | .ok none => o
      | .ok (some i) => (forward s.fs i pr path).2.1 := by
  simp only [viaDelegate, viaDelegate_state]
  rcases (delegateLoop s.fs p (iterateFs s)).2.1 with (_ | _) | _ <;> rfl

theorem viaDelegate_fine (s : MState) (pr : Prim) (p : Str) (cp : Res Str) (o : Out)
    (hq : (∀ path, isQuery (pr.memberOp path) = true) ∨ (removes pr = true ∧ pr.path = p)) :
    Fine s pr (viaDelegate s pr p cp o) := by
  have hd := (delegateLoop_asked s.fs p (iterateFs s)).2
  simp only [viaDelegate, viaDelegate_state]
  split
  · exact fine_queries rfl hd
  · exact fine_queries rfl hd
  · next i hi =>
    split
    · exact fine_queries rfl hd
    · next path =>
      refine fine_onMember s pr i path _ hd ?_
      rcases hq with hq | ⟨hr, hp⟩
      · exact Or.inl (hq path)
      · exact Or.inr (Or.inr ⟨hr, hp ▸ hi⟩)

theorem viaWrite_fine (s : MState) (pr : Prim) (p : Str) (hw : pr.writes = true) : Fine s pr (viaWrite s pr p) := by
  unfold viaWrite
  cases hwf : s.writeFs with
  | none => exact fine_queries rfl (by simp)
  | some i => exact fine_onMember s pr i p [] (by simp) (Or.inr (Or.inl ⟨hw, hwf⟩))

theorem listing_fine (s : MState) (pr : Prim) (meth : Meth) (p : Str) : Fine s pr (listing s meth p) := by
  unfold listing
  simp only
  split
  · exact fine_queries (listLoop_asked ..).1 (listLoop_asked ..).2
  · split <;> exact fine_queries (listLoop_asked ..).1 (listLoop_asked ..).2

theorem prim_fine (s : MState) (pr : Prim) : Fine s pr (prim s pr) := by
  cases pr <;> apply fine_checked
  case listdir p => exact listing_fine s _ _ _
  case scandir p => exact listing_fine s _ _ _
  case scanFirst p => exact fine_queries (scanFirstLoop_asked ..).1 (scanFirstLoop_asked ..).2
  case openbin p m =>
    split
    · exact fine_queries rfl (by simp)
    · split
      · next hw => exact viaWrite_fine s _ _ ((writes_openbin p m).trans hw)
      · next hw =>
        exact viaDelegate_fine s _ _ _ _ (Or.inl fun path => (isQuery_openbin path m).trans (by simpa using hw))
  case open_ p m d =>
    split
    · exact fine_queries rfl (by simp)
    · split
      · next hw => exact viaWrite_fine s _ _ ((writes_open p m d).trans hw)
      · next hw =>
        exact viaDelegate_fine s _ _ _ _ (Or.inl fun path =>
          (isQuery_openbin path (binMode m)).trans (by simpa [checkWritable_binMode] using hw))
  case remove p => exact viaDelegate_fine s _ _ _ _ (Or.inr ⟨rfl, rfl⟩)
  case removedir p => exact viaDelegate_fine s _ _ _ _ (Or.inr ⟨rfl, rfl⟩)
  all_goals first
    | exact viaDelegate_fine s _ _ _ _ (Or.inl fun _ => rfl)
    | exact viaWrite_fine s _ _ rfl

theorem prim_cfg (s : MState) (pr : Prim) : SameCfg s (prim s pr).1 := (prim_fine s pr).1

theorem prim_calls (s : MState) (pr : Prim) : ∀ c ∈ (prim s pr).2.2, CallClass s pr c :=
  fun c hc => ((prim_fine s pr).2.2 c hc).1

theorem prim_write_route (s : MState) (pr : Prim) (hr : removes pr = false) :
    ∀ c ∈ (prim s pr).2.2, isQuery c.op = true ∨ s.writeFs = some c.fs :=
  fun c hc => (prim_calls s pr c hc).imp_right fun h => h.elim And.right fun h => by rw [hr] at h; cases h.1

theorem validate_calls (s : MState) (p : Str) :
    ∀ c ∈ (Multi.validate s p).2, isQuery c.op = true := by
  unfold Multi.validate
  split
  · simp
  · cases s.writeFs with
    | none => simp
    | some i =>
      simp only [List.mem_singleton, forall_eq]
      rfl

/-! ### programs on a MultiFS -/

/-- the programs of creating/writing operations never issue `remove` / `removedir` -/
theorem creating_allPrims (op : Ref.Op) (pr : Prog) (h : Multi.prog op = some pr)
    (hcw : creatingOrWriting op = true) : AllPrims (fun q => removes q = false) pr := by
  suffices h : Uses (fun q => removes q = false) (fun _ => True) pr from h.1
  cases op <;> first | exact absurd hcw Bool.false_ne_true | cases h
  case create p w => exact uses_createThen rfl rfl (fun _ => Uses.ret _)
  case touch p =>
    refine uses_createThen rfl rfl (fun b => ?_)
    cases b
    · exact Uses.one rfl
    · exact Uses.ret _
  case copy src dst ow => exact uses_baseCopy src dst ow rfl rfl (fun _ => rfl) trivial trivial
  all_goals exact Uses.one rfl

/-- programs whose every path to a result either fails, or ends with a result in `A`, given
that creating/writing primitives fail -/
def WriteEnds (A : Out → Prop) : Prog → Prop
  | .ret o => A o
  | .call p k => (p.writes = true → ∀ e, WriteEnds A (k (.err e))) ∧ (p.writes = false → ∀ o, WriteEnds A (k o))
  | .validate _ k => WriteEnds A k
  | .check k => WriteEnds A k

section
variable {A : Out → Prop} (hA : ∀ e, A (.err e))
include hA

theorem writeEnds_one {q : Prim} (hq : q.writes = true) : WriteEnds A (one q) :=
  ⟨fun _ e => hA e, fun hf => by rw [hq] at hf; cases hf⟩

theorem writeEnds_existsThen {p : Str} {k : Bool → Prog} (hk : ∀ b, WriteEnds A (k b)) :
    WriteEnds A (existsThen p k) := by
  refine ⟨fun hf => (by cases hf), fun _ o => ?_⟩
  dsimp only
  split
  · exact hk true
  · exact hk false
  · exact hA _

/-- of the continuations of `create` only `k false` is reached without a write: the path exists, nothing is done -/
theorem writeEnds_createThen {p : Str} {w : Bool} {k : Bool → Prog} (hk : w = false → WriteEnds A (k false)) :
    WriteEnds A (createThen p w k) := by
  unfold createThen
  -- `doCreate` calls `openWrite`, which fails
  suffices hd : WriteEnds A _ by
    split
    · exact hd
    · next hw =>
      refine writeEnds_existsThen hA fun b => ?_
      split
      · exact hk (Bool.eq_false_iff.2 hw)
      · exact hd
  exact ⟨fun _ e => hA e, fun hf => by cases hf⟩

theorem writeEnds_baseCopy (src dst : Str) (ow : Bool) : WriteEnds A (baseCopy src dst ow) := by
  simp only [baseCopy, WriteEnds]
  -- the body, which runs at once or past the destination test: read, then `upload`
  suffices hb : WriteEnds A _ by
    split
    · exact hb
    · refine writeEnds_existsThen hA fun b => ?_
      split
      · exact hA _
      · exact hb
  split
  · exact hA _
  · refine ⟨fun hf => (by cases hf), fun _ o => ?_⟩
    dsimp only
    split
    · exact hA _
    · exact writeEnds_one hA rfl

end

theorem viaWrite_none (s : MState) (pr : Prim) (p : Str) (hw : s.writeFs = none) :
    viaWrite s pr p = (s, .err .ResourceReadOnly, []) := by
  simp [viaWrite, hw]

/-- without a write member a creating/writing method asks no member and fails — on an open MultiFS
(for `openbin`/`open`: with a valid mode) with `ResourceReadOnly` -/
theorem prim_write_none (s : MState) (pr : Prim) (hw : s.writeFs = none) (hpw : pr.writes = true) :
    ∃ e, prim s pr = (s, .err e, []) ∧
      (s.closed = false → (∀ p m, (pr = .openbin p m ∨ ∃ d, pr = .open_ p m d) → modeOk m = true) →
        e = .ResourceReadOnly) := by
  have chk : ∀ e0 : Err, ∃ e, checked s (s, .err e0, []) = (s, .err e, []) ∧ (s.closed = false → e = e0) := by
    intro e0
    unfold checked
    split
    · next hc => exact ⟨_, rfl, fun h => by rw [h] at hc; cases hc⟩
    · exact ⟨_, rfl, fun _ => rfl⟩
  -- `check_writable(mode)`: the mode is validated, then a writing mode needs the write member
  have opn : ∀ (m : Str) (k : MState × Out × List Call), checkWritable m = true →
      ∃ e, checked s (if (!modeOk m) = true then (s, .err .ValueError, [])
          else if checkWritable m = true then (s, .err .ResourceReadOnly, []) else k) = (s, .err e, []) ∧
        (s.closed = false → modeOk m = true → e = .ResourceReadOnly) := by
    intro m k hcw
    rw [hcw, if_pos rfl]
    cases hm : modeOk m with
    | false =>
      obtain ⟨e, h1, _⟩ := chk .ValueError
      exact ⟨e, h1, fun _ h => by cases h⟩
    | true =>
      obtain ⟨e, h1, h2⟩ := chk .ResourceReadOnly
      exact ⟨e, h1, fun hc _ => h2 hc⟩
  cases pr
  case openbin p m =>
    obtain ⟨e, h1, h2⟩ := opn m (viaDelegate s (.openbin p m) p (.ok p) (.err .ResourceNotFound)) hpw
    exact ⟨e, by simp only [prim, viaWrite_none _ _ _ hw]; exact h1, fun hc hm => h2 hc (hm p m (Or.inl rfl))⟩
  case open_ p m d =>
    obtain ⟨e, h1, h2⟩ := opn m (viaDelegate s (.open_ p m d) p (.ok p) (.err .ResourceNotFound)) hpw
    exact ⟨e, by simp only [prim, viaWrite_none _ _ _ hw]; exact h1, fun hc hm => h2 hc (hm p m (Or.inr ⟨d, rfl⟩))⟩
  all_goals first
    | exact absurd hpw Bool.false_ne_true
    | (obtain ⟨e, h1, h2⟩ := chk .ResourceReadOnly
       exact ⟨e, by simp only [prim, viaWrite_none _ _ _ hw]; exact h1, fun hc _ => h2 hc⟩)

theorem run_writeEnds (A : Out → Prop) (hA : ∀ e, A (.err e)) :
    ∀ (prog : Prog) (s : MState), s.writeFs = none → WriteEnds A prog →
      A (prog.run Multi.sem s).2.1 := by
  intro prog
  induction prog with
  | ret o => intro s _ h; exact h
  | call p k ih =>
    intro s hw h
    simp only [Prog.run]
    have hw1 : (Multi.sem.prim s p).1.writeFs = none := (prim_cfg s p).2.1.trans hw
    cases hpw : p.writes with
    | true =>
      obtain ⟨e, he, _⟩ := prim_write_none s p hw hpw
      have : (Multi.sem.prim s p).2.1 = .err e := by rw [show Multi.sem.prim s p = prim s p from rfl, he]
      rw [this]
      exact ih _ _ hw1 (h.1 hpw e)
    | false => exact ih _ _ hw1 (h.2 hpw _)
  | validate p k ih | check k ih =>
    intro s hw h
    simp only [Prog.run]
    split
    · exact hA _
    · exact ih s hw h

theorem step_some {s : MState} {op : Ref.Op} {r : MState × Out × List Call} (h : Multi.step s op = some r)
    (hc : op ≠ .close) : ∃ pr, Multi.prog op = some pr ∧ pr.run Multi.sem s = r := by
  cases op <;> first | exact absurd rfl hc | exact Option.map_eq_some_iff.1 h

theorem prog_common {op : Ref.Op} {pr : Prog} (h : Multi.prog op = some pr) (hmk : ∀ q rc, op ≠ .makedirs q rc) :
    commonProg op = some pr := by
  cases op <;> first | exact h | exact absurd rfl (hmk _ _)

end MultiL

theorem multiRoutes : Routes Multi.sem (fun s => s.fs) :=
  ⟨fun s p => (MultiL.prim_fine s p).2.1, fun s p c hc => ((MultiL.prim_fine s p).2.2 c hc).2, MultiL.validate_calls⟩

end Fs.RouteLemmas
