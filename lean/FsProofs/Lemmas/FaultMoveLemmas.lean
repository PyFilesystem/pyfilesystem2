/-
  Helper lemmas for C07, second part: for each move program of `FsModel.Fault` the statement "under
  any fault nothing is lost, and a normal return means everything arrived" (`Safe f prog s (Good …)`,
  `… (GoodDir …)`), from the footprint, the postcondition and the transparency of its copy phase.
-/
import FsProofs.Lemmas.FaultLemmas
namespace Fs.Fault

theorem exec_skip_seq (f : Option Fault) (b : Prog) (n : Nat) (s : State) :
    (exec f (.skip ;; b) n s).state = (exec f b n s).state ∧ (exec f (.skip ;; b) n s).out = (exec f b n s).out :=
  ⟨rfl, rfl⟩

theorem exec_raise_seq (f : Option Fault) (x : Exc) (b : Prog) (n : Nat) (s : State) :
    (exec f (.raise x ;; b) n s).state = s ∧ (exec f (.raise x ;; b) n s).out = .raised x :=
  ⟨rfl, rfl⟩

/-- `if not overwrite and self.exists(dst): raise …` in front of `k` -/
theorem owCheck_safe {f : Option Fault} {cfg : Cfg} {s : State} {τ : Side} {q : Path} {k : Prog}
    {P : State → Out → Prop} (h1 : ∀ o, o ≠ .ok → P s o) (hk : Safe f k s P) :
    Safe f (owCheck cfg s τ q k) s P :=
  Safe.ite (fun _ => hk) fun _ => Safe.pure_seq rfl h1 (Safe.ite (fun _ => Safe.raise (h1 _ nofun)) fun _ => hk)

/-- `if not create and not self.exists(dst): raise …` in front of `k` -/
theorem createCheck_safe {f : Option Fault} {cfg : Cfg} {s : State} {q : Path} {k : Prog}
    {P : State → Out → Prop} (h1 : ∀ o, o ≠ .ok → P s o) (hk : Safe f k s P) :
    Safe f (createCheck cfg s q k) s P :=
  Safe.ite (fun _ => hk) fun _ => Safe.pure_seq rfl h1 (Safe.ite (fun _ => hk) fun _ => Safe.raise (h1 _ nofun))

/-- the two halves of C07 for one file with bytes `b`: nothing lost, and a normal return means
    the file is complete at the destination -/
def Good (τ : Side) (p q : Path) (b : Bytes) (st : State) (o : Out) : Prop :=
  (st.file .a p = some b ∨ st.file τ q = some b) ∧ (o = .ok → st.file τ q = some b)

theorem good_stop {τ : Side} {p q : Path} {b : Bytes} {s : State} (hs : s.file .a p = some b)
    (o : Out) (ho : o ≠ .ok) : Good τ p q b s o := ⟨Or.inl hs, fun h => absurd h ho⟩

theorem good_done {τ : Side} {p q : Path} {b : Bytes} {st : State} {o : Out} (h : st.file τ q = some b) :
    Good τ p q b st o := ⟨Or.inr h, fun _ => h⟩

/-- copy phase `A` (touches only the destination entry), then removal phase `R` -/
theorem Safe.copy_then_remove {f : Option Fault} {A R : Prog} {τ : Side} {p q : Path} {b : Bytes} {s1 : State}
    (hne : ¬ (τ = .a ∧ q = p))
    (hAonly : OnlyMut A τ q)
    (hApost : Post A s1 (fun s' => s'.file τ q = some b))
    (hAtr : ∀ flt, f = some flt → A.transparent flt.kind.exc = true)
    (hs : s1.file .a p = some b)
    (hR : ∀ s2, s2.file .a p = some b → s2.file τ q = some b → Safe f R s2 (Good τ p q b)) :
    Safe f (A ;; R) s1 (Good τ p q b) :=
  Safe.seq (((Safe.frame hAonly).and (Safe.of_post hApost hAtr)).mono fun _ o ⟨hfr, hq⟩ =>
    have hsrc := (hfr .a p hne).trans hs
    ⟨fun ho => hR _ hsrc (hq ho), good_stop hsrc o⟩)

theorem ctr_good (f : Option Fault) (A R : Prog) (τ : Side) (p q : Path) (b : Bytes) (s1 : State)
    (hne : ¬ (τ = .a ∧ q = p))
    (hAonly : OnlyMut A τ q)
    (hApost : Post A s1 (fun s' => s'.file τ q = some b))
    (hAtr : ∀ flt, f = some flt → A.transparent flt.kind.exc = true)
    (hs : s1.file .a p = some b)
    (hR : ∀ n s2, s2.file .a p = some b → s2.file τ q = some b →
      Good τ p q b (exec f R n s2).state (exec f R n s2).out) (n : Nat) :
    Good τ p q b (exec f (A ;; R) n s1).state (exec f (A ;; R) n s1).out :=
  Safe.copy_then_remove hne hAonly hApost hAtr hs (fun s2 h1 h2 m => hR m s2 h1 h2) n

theorem good_of_frame (f : Option Fault) {prog : Prog} {τ : Side} {p q : Path} {b : Bytes} {s : State}
    (hfr : ∀ pr ∈ prog.prims, pr.mutates τ q = false) (h : s.file τ q = some b) :
    Safe f prog s (Good τ p q b) := fun n => good_done ((exec_frame f τ q prog n s hfr).trans h)

/-- `try: src.remove(p) except FSError: [dst.remove(q)]; raise` with an atomic failure -/
theorem cleanup_good (f : Option Fault) (hl : ∀ flt, f = some flt → flt.late = false)
    (cl : Bool) (p q : Path) (b : Bytes) (s2 : State)
    (hs : s2.file .a p = some b) (hd : s2.file .b q = some b) :
    Safe f (.tryCatch (.remove .a p false) .fsError (if cl then .prim (.remove .b q false) else .skip) true) s2
      (Good .b p q b) := by
  have hcl : MutWithin (if cl then .prim (.remove .b q false) else .skip) (fun ρ _ => ρ = .b) :=
    MutWithin.ite (fun _ => MutWithin.prim fun _ _ hm => (and_of_band hm).1.symm) fun _ => MutWithin.skip
  refine Safe.tryCatch <| Safe.prim_atomic (execPrim_atomic f hl _ · s2)
    (fun s' hs' => ⟨nofun, fun _ => good_done ((Prim.step_frame _ s2 s' .b q hs' rfl).trans hd)⟩)
    fun o ho => ⟨fun _ => (Safe.frame hcl).mono fun st o2 hfr => ?_, fun _ => good_stop hs o ho⟩
  -- the handler runs from the unchanged state and only touches the destination
  have hsrc := good_stop (τ := .b) (q := q) ((hfr .a p nofun).trans hs)
  exact ⟨fun _ => hsrc o ho, hsrc o2⟩

theorem fileLen_eq {s : State} {σ : Side} {p : Path} {b : Bytes} (h : s.file σ p = some b) :
    fileLen s σ p = b.length := by simp [fileLen, h]

theorem copyAtomic_effect {σ : Side} {p q : Path} {b : Bytes} {s s' : State}
    (h : (Prim.copyAtomic σ p q).step s = .ok s') (hs : s.file σ p = some b) : s'.file σ q = some b := by
  rw [Prim.step_eff h, Prim.eff, hs]; exact State.file_setFile_self ..

theorem rename_effect {p q : Path} {τ : Side} {b : Bytes} {s s' : State}
    (h : (Prim.rename .a p τ q).step s = .ok s') (hs : s.file .a p = some b) : s'.file τ q = some b := by
  rw [Prim.step_eff h, Prim.eff, hs]; exact State.file_setFile_self ..

theorem relinkFile_effect {p q : Path} {ow : Bool} {b : Bytes} {s s' : State}
    (h : (Prim.relinkFile .a p q ow).step s = .ok s') (hs : s.file .a p = some b) : s'.file .a q = some b := by
  rw [Prim.step_eff h, Prim.eff, hs]
  dsimp only
  by_cases hpq : p = q
  · rw [if_pos hpq, ← hpq]; exact hs
  · rw [if_neg hpq]; exact State.file_setFile_self ..

/-- stream copy, then `copy_modified_time` -/
theorem fsMoveCopyPart_post (cfg : Cfg) (s s1 : State) (τ : Side) (p q : Path) (b : Bytes)
    (hne : ¬ (τ = .a ∧ q = p)) (hg : s.file .a p = some b) (hs1 : s1.file .a p = some b) :
    Post (fsMoveCopyPart cfg s .a p τ q) s1 (fun s' => s'.file τ q = some b) :=
  Post.seq_allpure (preservePart_pure _ _ _ _ _)
    (uploadCopy_post .a p τ q _ _ b (Nat.succ_pos _) (fileLen_eq hg) hne s1 hs1)

theorem copyFileInternal_post (cfg : Cfg) (s s1 : State) (p q : Path) (b : Bytes)
    (hg : s.file .a p = some b) (hs1 : s1.file .a p = some b) (hne : ¬ (cfg.dstSide = .a ∧ q = p)) :
    Post (copyFileInternal cfg s p q) s1 (fun s' => s'.file cfg.dstSide q = some b) := by
  have hc : 0 < cfg.chunkSize := Nat.succ_pos _
  have hlen := fileLen_eq hg
  refine Post.ite (fun hsame => ?_) fun hsame => ?_
  · have hd : cfg.dstSide = .a := if_pos hsame
    rw [hd] at hne ⊢
    refine Post.ite (fun _ => Post.raise _) fun _ => Post.pure_seq rfl ?_
    split
    · exact Post.prim fun s3 h3 => copyAtomic_effect h3 hs1
    · exact Post.ite (fun _ => Post.raise _) fun _ => fsMoveCopyPart_post cfg s s1 .a p q b hne hg hs1
  · rw [show cfg.dstSide = .b from if_neg hsame]
    refine Post.seq_allpure (preservePart_pure _ _ _ _ _) ?_
    split
    · exact downloadCopy_post .a p .b q _ _ b hc hlen (fun h => nomatch h.1) s1 hs1
    · exact uploadCopy_post .a p .b q _ _ b hc hlen (fun h => nomatch h.1) s1 hs1

/-- the copy path of `FS.move`: stream copy, `copy_modified_time`, `remove(src)` -/
theorem fsMove_copyPath_good (f : Option Fault) (cfg : Cfg) (s s1 : State) (τ : Side) (p q : Path) (b : Bytes)
    (hne : ¬ (τ = .a ∧ q = p)) (hg : s.file .a p = some b) (hs : s1.file .a p = some b) :
    Safe f (fsMoveCopyPart cfg s .a p τ q ;; .prim (.remove .a p false)) s1 (Good τ p q b) :=
  Safe.copy_then_remove hne (fsMoveCopyPart_only cfg s .a p τ q) (fsMoveCopyPart_post cfg s s1 τ p q b hne hg hs)
    (fun _ _ => fsMoveCopyPart_transparent _ cfg s .a p τ q) hs
    fun s2 _ h2 => good_of_frame f (fun pr hpr => by
      cases List.mem_singleton.1 hpr
      exact Bool.eq_false_iff.2 fun hm => hne ⟨(and_of_band hm).1.symm, (and_of_band hm).2.symm⟩) h2

/-- `FS.move`: pre-checks, rename attempt, copy path -/
theorem fsMove_good (f : Option Fault) (hl : ∀ flt, f = some flt → flt.late = false)
    (cfg : Cfg) (s : State) (rn : Bool) (τ : Side) (p q : Path) (b : Bytes)
    (hs : s.file .a p = some b) : Safe f (fsMove cfg s rn .a p τ q) s (Good τ p q b) := by
  refine Safe.pure_seq rfl (good_stop hs) (owCheck_safe (good_stop hs) (Safe.pure_seq rfl (good_stop hs) ?_))
  refine Safe.ite (fun _ => Safe.raise (good_stop hs _ nofun)) fun _ => Safe.ite (fun hpq => ?_) fun hpq => ?_
  · obtain ⟨rfl, rfl⟩ := hpq
    exact Safe.skip (good_done hs)
  · have hne : ¬ (τ = .a ∧ q = p) := fun h => hpq ⟨h.1.symm, h.2.symm⟩
    have hcopy := fsMove_copyPath_good f cfg s s τ p q b hne hs hs
    cases rn
    · exact hcopy
    · exact Safe.tryElse <| Safe.prim_atomic (execPrim_atomic f hl _ · s)
        (fun _ hs' => ⟨fun _ => good_of_frame f (fun pr hpr => preservePart_noMut _ _ _ _ _ pr hpr τ q)
          (rename_effect hs' hs), nofun, fun h => absurd rfl h⟩)
        fun o ho => ⟨fun h => absurd h ho, fun _ => hcopy, fun _ _ => good_stop hs o ho⟩

/-- `MemoryFS.move` -/
theorem memMove_good (f : Option Fault) (hl : ∀ flt, f = some flt → flt.late = false)
    (cfg : Cfg) (s : State) (p q : Path) (b : Bytes) (hs : s.file .a p = some b) :
    Safe f (memMove cfg p q) s (Good .a p q b) :=
  Safe.pure_seq rfl (good_stop hs) (Safe.prim_seq (execPrim_atomic f hl _ · s) (good_stop hs)
    fun _ hs' => good_of_frame f (fun pr hpr => preservePart_noMut _ _ _ _ _ pr hpr .a q) (relinkFile_effect hs' hs))

theorem Cfg.dstSide_b {cfg : Cfg} (h : cfg.same = false) : cfg.dstSide = .b := by simp [Cfg.dstSide, h]

theorem copyFile_only (cfg : Cfg) (hsame : cfg.same = false) (s : State) (p q : Path) :
    OnlyMut (.prim (.call "copy_file" .a p) ;; copyFileInternal cfg s p q) .b q :=
  MutWithin.seq (MutWithin.inert fun _ _ => rfl) (Cfg.dstSide_b hsame ▸ copyFileInternal_only cfg s p q)

/-- the standard path of `move_file` between two filesystems: `copy_file`, then a removal phase `R` -/
theorem copyFile_good (f : Option Fault) (cfg : Cfg) (hsame : cfg.same = false) (s : State) (p q : Path) (b : Bytes)
    (hs : s.file .a p = some b) (R : Prog)
    (hR : ∀ s2, s2.file .a p = some b → s2.file .b q = some b → Safe f R s2 (Good .b p q b)) :
    Safe f ((.prim (.call "copy_file" .a p) ;; copyFileInternal cfg s p q) ;; R) s (Good .b p q b) :=
  have hd := Cfg.dstSide_b hsame
  Safe.copy_then_remove (fun h => nomatch h.1) (copyFile_only cfg hsame s p q)
    (Post.pure_seq rfl (hd ▸ copyFileInternal_post cfg s s p q b hs hs (hd ▸ fun h => nomatch h.1)))
    (fun _ _ => copyFileInternal_transparent _ cfg s p q) hs hR

/-- `fs.move.move_file`, every configuration -/
theorem moveFile_good (f : Option Fault) (hl : ∀ flt, f = some flt → flt.late = false)
    (cfg : Cfg) (s : State) (p q : Path) (b : Bytes) (hs : s.file .a p = some b) :
    Safe f (moveFile cfg s p q) s (Good cfg.dstSide p q b) := by
  refine Safe.ite (fun hsame => ?_) fun hsame => ?_
  · rw [show cfg.dstSide = .a from if_pos hsame]
    cases cfg.srcB
    · exact fsMove_good f hl _ s false .a p q b hs
    · exact memMove_good f hl _ s p q b hs
    · exact fsMove_good f hl _ s true .a p q b hs
  · rw [Cfg.dstSide_b (Bool.eq_false_iff.2 hsame)]
    exact Safe.ite (fun _ => fsMove_good f hl _ s true .b p q b hs) fun _ =>
      copyFile_good f cfg (Bool.eq_false_iff.2 hsame) s p q b hs _ (cleanup_good f hl cfg.cleanup p q b)

/-! ### footprints of the directory programs -/

theorem mem_of_mem_byDepth {ps : List Path} {p : Path} (h : p ∈ byDepth ps) : p ∈ ps := by
  unfold byDepth at h
  simp only [List.mem_flatMap, List.mem_filter] at h
  obtain ⟨_, _, hp, _⟩ := h
  exact hp

theorem isPre_of_mem_subDirs {st : Store} {root d : Path} (h : d ∈ subDirs st root) : isPre root d = true := by
  unfold subDirs at h
  simp only [List.mem_cons] at h
  rcases h with rfl | h
  · exact isPre_refl _
  · have := mem_of_mem_byDepth h
    simp only [List.mem_filter, Bool.and_eq_true] at this
    exact this.2.1

theorem prefix_of_mem_filesIn {st : Store} {d x : Path} (h : x ∈ filesIn st d) : d <+: x := by
  unfold filesIn at h
  simp only [List.mem_map, List.mem_filter, Bool.and_eq_true, decide_eq_true_eq] at h
  obtain ⟨e, ⟨_, he, _⟩, rfl⟩ := h
  rw [← he]
  exact List.dropLast_prefix _

theorem file_isFile {s : State} {x : Path} {b : Bytes} (h : s.file .a x = some b) : (s.a).isFile x = true := by
  have : fget s.a.files x = some b := h
  simp [Store.isFile, this]

theorem mem_treeFiles {st : Store} {root x : Path} :
    x ∈ treeFiles st root ↔ isPre root x = true ∧ st.isFile x = true :=
  List.mem_filter.trans ((and_congr_left' (fget_isSome_iff st.files x).symm).trans and_comm)

theorem copyStructure_noMut (cfg : Cfg) (s : State) (root droot : Path) : NoMut (copyStructure cfg s root droot) := by
  refine MutWithin.noMut (MutWithin.ite (fun _ => MutWithin.raise) fun _ =>
    MutWithin.seq ?_ (MutWithin.seqs fun p hp => ?_))
  · exact MutWithin.seq (MutWithin.inert fun _ _ => rfl)
      (MutWithin.seq (MutWithin.tryCatch (fun _ _ h => nomatch h) MutWithin.skip)
        (MutWithin.seq (MutWithin.tryCatch (fun _ _ h => nomatch h) MutWithin.skip)
          (MutWithin.inert fun _ _ => rfl)))
  · obtain ⟨d, _, rfl⟩ := List.mem_map.1 hp
    refine MutWithin.seq (MutWithin.inert fun _ _ => rfl) (MutWithin.seqs fun p hp => ?_)
    obtain ⟨y, _, rfl⟩ := List.mem_map.1 hp
    exact MutWithin.inert fun _ _ => rfl

/-- the copy loop writes only to destination paths of source files -/
theorem copyList_within (cfg : Cfg) (s : State) (root droot : Path) (L : List Path) :
    MutWithin (Prog.seqs (L.map fun x => copyFileInternal cfg s x (rebase root droot x)))
      (fun ρ y => ρ = cfg.dstSide ∧ ∃ x ∈ L, y = rebase root droot x) := by
  refine MutWithin.seqs fun p hp => ?_
  obtain ⟨x, hx, rfl⟩ := List.mem_map.1 hp
  exact (copyFileInternal_only cfg s x _).within ⟨rfl, x, hx, rfl⟩

theorem scandirs_noMut (l : List Path) : NoMut (Prog.seqs (l.map fun d => .prim (.scandir .a d))) := by
  refine MutWithin.noMut (MutWithin.seqs fun p hp => ?_)
  obtain ⟨d, _, rfl⟩ := List.mem_map.1 hp
  exact MutWithin.inert fun _ _ => rfl

theorem moveDirCopyPhase_within (cfg : Cfg) (s : State) (root droot : Path) :
    MutWithin (moveDirCopyPhase cfg s root droot)
      (fun ρ y => ρ = cfg.dstSide ∧ ∃ x ∈ treeFiles s.a root, y = rebase root droot x) :=
  MutWithin.seq (MutWithin.inert fun _ _ => rfl) <| MutWithin.ite
    (fun _ => MutWithin.seq (MutWithin.inert fun _ _ => rfl)
      (MutWithin.seq ((copyStructure_noMut cfg s root droot).within _)
        (MutWithin.seq ((scandirs_noMut _).within _) (copyList_within cfg s root droot _))))
    fun _ => MutWithin.raise

/-- `removetree(root)` touches only entries at or below `root` of the source filesystem -/
theorem removeTree_within (cfg : Cfg) (s : State) (root : Path) :
    MutWithin (removeTree cfg s root) (fun ρ y => ρ = .a ∧ isPre root y = true) := by
  unfold removeTree
  refine MutWithin.seq (MutWithin.inert fun _ _ => rfl) ?_
  split
  · exact MutWithin.prim fun ρ y hm =>
      ⟨(of_decide_eq_true (Bool.and_eq_true_iff.1 hm).1).symm, (Bool.and_eq_true_iff.1 hm).2⟩
  · refine MutWithin.seq (MutWithin.seqs fun p hp => ?_)
      (MutWithin.ite (fun _ => MutWithin.skip) fun _ => MutWithin.inert fun _ _ => rfl)
    obtain ⟨d, hd, rfl⟩ := List.mem_map.1 hp
    refine MutWithin.seq (MutWithin.ite (fun _ => MutWithin.skip) fun _ => MutWithin.inert fun _ _ => rfl)
      (MutWithin.seq (MutWithin.seqs fun p hp => ?_)
        (MutWithin.ite (fun _ => MutWithin.skip) fun _ => MutWithin.inert fun _ _ => rfl))
    obtain ⟨x, hx, rfl⟩ := List.mem_map.1 hp
    refine MutWithin.prim fun ρ y hm => ?_
    obtain ⟨rfl, rfl⟩ := and_of_band hm
    -- a file listed in a directory of the subtree lies below `root`
    exact ⟨rfl, (isPre_iff _ _).2 (((isPre_iff _ _).1 (isPre_of_mem_subDirs (List.mem_reverse.1 hd))).trans (prefix_of_mem_filesIn hx))⟩

/-- the destination of a source file is not a source path again (other filesystem, or no clash) -/
theorem dst_ne_src (cfg : Cfg) (s : State) (root droot : Path)
    (hclash : cfg.same = true → NoClash s root droot) (x y : Path)
    (hx : isPre root x = true) (hxf : (s.a).isFile x = true) (hy : isPre root y = true) :
    ¬ (cfg.dstSide = .a ∧ rebase root droot x = y) := by
  intro ⟨h1, h2⟩
  cases hsame : cfg.same with
  | false => simp [Cfg.dstSide, hsame] at h1
  | true =>
    have := hclash hsame x hx hxf
    rw [h2, hy] at this
    cases this

/-- the file loop of `copy_dir`: if it returns, every listed file is complete at its destination -/
theorem copyList_post (cfg : Cfg) (s : State) (root droot : Path)
    (hclash : cfg.same = true → NoClash s root droot) :
    ∀ (L : List Path), (∀ x ∈ L, isPre root x = true ∧ (s.a).isFile x = true) →
    ∀ s1 : State, (∀ y, isPre root y = true → s1.file .a y = s.file .a y) →
      Post (Prog.seqs (L.map fun x => copyFileInternal cfg s x (rebase root droot x))) s1
        (fun s' => ∀ x ∈ L, ∀ b, s.file .a x = some b → s'.file cfg.dstSide (rebase root droot x) = some b) := by
  intro L
  induction L with
  | nil => exact fun _ _ _ => Post.skip fun _ h => nomatch h
  | cons x L ih =>
    intro hL s1 hinv
    obtain ⟨hxp, hxf⟩ := hL x (List.mem_cons_self ..)
    refine Post.seq fun n ho m ho2 x' hx' b hb => ?_
    by_cases hin : x' ∈ L
    · -- copied again later: the source files are still intact after the copy of `x`
      exact ih (fun y hy => hL y (List.mem_cons_of_mem _ hy)) _ (fun y hy =>
        (Safe.frame (copyFileInternal_only cfg s x _) n .a y (dst_ne_src cfg s root droot hclash x y hxp hxf hy)).trans
          (hinv y hy)) m ho2 x' hin b hb
    · -- copied now, and the rest of the loop writes to other destinations
      obtain rfl : x' = x := (List.mem_cons.1 hx').resolve_right hin
      rw [Safe.frame (copyList_within cfg s root droot L) m cfg.dstSide _ ?_]
      · exact copyFileInternal_post cfg s s1 x' _ b hb ((hinv x' hxp).trans hb)
          (dst_ne_src cfg s root droot hclash x' x' hxp hxf hxp) n ho
      · intro ⟨_, y, hy, he⟩
        exact hin (rebase_inj root droot x' y hxp (hL y (List.mem_cons_of_mem _ hy)).1 he ▸ hy)

theorem Post.noMut_seq {a b : Prog} {s : State} {Q : State → Prop} (ha : NoMut a)
    (h : ∀ s1, (∀ ρ y, s1.file ρ y = s.file ρ y) → Post b s1 Q) : Post (a ;; b) s Q :=
  Post.seq (Post.of_all fun n => h _ fun ρ y => Safe.frame (ha.within fun _ _ => False) n ρ y id)

/-- the whole copy phase of `move_dir`: if it returns, the tree is complete at the destination -/
theorem moveDirCopyPhase_post (cfg : Cfg) (s : State) (root droot : Path)
    (hclash : cfg.same = true → NoClash s root droot) :
    Post (moveDirCopyPhase cfg s root droot) s (fun s' => Moved cfg.dstSide root droot s s') := by
  refine Post.pure_seq rfl <| Post.ite (fun _ => ?_) fun _ => Post.raise _
  refine Post.noMut_seq (MutWithin.noMut (MutWithin.inert fun _ _ => rfl)) fun s2 h2 => ?_
  refine Post.noMut_seq (copyStructure_noMut cfg s root droot) fun s3 h3 => ?_
  refine Post.noMut_seq (scandirs_noMut _) fun s4 h4 => ?_
  exact Post.mono (copyList_post cfg s root droot hclash (treeFiles s.a root) (fun x hx => mem_treeFiles.1 hx) s4
    fun y _ => by rw [h4, h3, h2]) fun s5 h5 x b hx hb => h5 x (mem_treeFiles.2 ⟨hx, file_isFile hb⟩) b hb

/-- the two halves of C07 for a tree: nothing lost, and a normal return means everything moved -/
def GoodDir (τ : Side) (root droot : Path) (s0 st : State) (o : Out) : Prop :=
  NoLoss τ root droot s0 st ∧ (o = .ok → Moved τ root droot s0 st)

theorem goodDir_stop {τ : Side} {root droot : Path} {s0 st : State} (h : SrcIntact root s0 st)
    (o : Out) (ho : o ≠ .ok) : GoodDir τ root droot s0 st o :=
  ⟨fun x b hx hb => Or.inl (h x b hx hb), fun h' => absurd h' ho⟩

theorem goodDir_done {τ : Side} {root droot : Path} {s0 st : State} {o : Out} (h : Moved τ root droot s0 st) :
    GoodDir τ root droot s0 st o := ⟨fun x b hx hb => Or.inr (h x b hx hb), fun _ => h⟩

theorem srcIntact_refl (root : Path) (s : State) : SrcIntact root s s := fun _ _ _ h => h

/-- `removetree(src)` after a complete copy: it leaves the destination of every source file alone -/
theorem removeTree_good {f : Option Fault} (cfg : Cfg) (s : State) (root droot : Path)
    (hclash : cfg.same = true → NoClash s root droot) {s2 : State} (h : Moved cfg.dstSide root droot s s2) :
    Safe f (removeTree cfg s root) s2 (GoodDir cfg.dstSide root droot s) :=
  (Safe.frame (removeTree_within cfg s root)).mono fun _ _ hfr => goodDir_done fun x b hx hb =>
    (hfr cfg.dstSide (rebase root droot x) fun ⟨h1, h2⟩ =>
      dst_ne_src cfg s root droot hclash x (rebase root droot x) hx (file_isFile hb) h2 ⟨h1, rfl⟩).trans (h x b hx hb)

/-- moving a directory of a filesystem into itself: `copy_structure` raises `IllegalDestination`
    before any file is copied, and `removetree` is never reached -/
theorem moveDir_into_itself (f : Option Fault) (cfg : Cfg) (s : State) (root droot : Path)
    (hs : cfg.same = true) (hin : isPre root droot = true) :
    Safe f (moveDir cfg s root droot) s (fun st o => (∀ ρ y, st.file ρ y = s.file ρ y) ∧ o ≠ .ok) := by
  have hA : Safe f (moveDirCopyPhase cfg s root droot) s
      (fun st o => (∀ ρ y, st.file ρ y = s.file ρ y) ∧ o ≠ .ok) := by
    refine Safe.pure_seq rfl (fun o ho => ⟨fun _ _ => rfl, ho⟩) <| Safe.ite (fun _ => ?_)
      fun _ => Safe.raise ⟨fun _ _ => rfl, nofun⟩
    rw [show copyStructure cfg s root droot = .raise (.fs .IllegalDestination) from if_pos ⟨hs, hin⟩]
    refine Safe.seq fun n => ?_
    have hmk := fun ρ y => execPrim_frame f (.makedir cfg.dstSide droot true) n s ρ y rfl
    exact ⟨fun _ _ => ⟨hmk, nofun⟩, fun ho => ⟨hmk, ho⟩⟩
  exact Safe.seq <| hA.mono fun _ _ h => ⟨fun ho => absurd ho h.2, fun _ => h⟩

/-- `fs.move.move_dir` (sequential copier): copy phase, then `removetree(src)` -/
theorem moveDir_safe (f : Option Fault) (cfg : Cfg) (s : State) (root droot : Path)
    (hclash' : cfg.same = true → isPre root droot = false → NoClash s root droot) :
    Safe f (moveDir cfg s root droot) s (GoodDir cfg.dstSide root droot s) := by
  by_cases hin : cfg.same = true ∧ isPre root droot = true
  · exact (moveDir_into_itself f cfg s root droot hin.1 hin.2).mono fun _ o h =>
      goodDir_stop (fun x b _ hb => by rw [h.1]; exact hb) o h.2
  have hclash : cfg.same = true → NoClash s root droot :=
    fun hs => hclash' hs (Bool.eq_false_iff.2 fun hp => hin ⟨hs, hp⟩)
  refine Safe.seq (((Safe.frame (moveDirCopyPhase_within cfg s root droot)).and
    (Safe.of_post (moveDirCopyPhase_post cfg s root droot hclash)
      fun flt _ => moveDirCopyPhase_transparent flt.kind cfg s root droot)).mono fun s1 o ⟨hfr, hq⟩ =>
    ⟨fun ho => removeTree_good cfg s root droot hclash (hq ho), goodDir_stop (fun x b hx hb => ?_) o⟩)
  -- the copy phase writes to destinations of source files only
  refine (hfr .a x fun ⟨h1, x', hx', he⟩ => ?_).trans hb
  obtain ⟨hp', hf'⟩ := mem_treeFiles.1 hx'
  exact dst_ne_src cfg s root droot hclash x' x hp' hf' hx ⟨h1.symm, he.symm⟩

theorem moveDir_good (f : Option Fault) (cfg : Cfg) (s : State) (root droot : Path)
    (hclash' : cfg.same = true → isPre root droot = false → NoClash s root droot) (n : Nat) :
    GoodDir cfg.dstSide root droot s (exec f (moveDir cfg s root droot) n s).state
      (exec f (moveDir cfg s root droot) n s).out :=
  moveDir_safe f cfg s root droot hclash' n

theorem goodDir_of_files {τ : Side} {root droot : Path} {s0 st st' : State} {o : Out}
    (h : GoodDir τ root droot s0 st o) (he : ∀ ρ y, st'.file ρ y = st.file ρ y) :
    GoodDir τ root droot s0 st' o := by
  refine ⟨fun x b hx hb => ?_, fun ho x b hx hb => ?_⟩
  · rw [he, he]; exact h.1 x b hx hb
  · rw [he]; exact h.2 ho x b hx hb

theorem goodDir_same (s : State) (p : Path) : GoodDir .a p p s s .ok :=
  ⟨fun _ _ _ hb => Or.inl hb, fun _ x _ hx hb => (rebase_same p x hx).symm ▸ hb⟩

/-- `FS.movedir` -/
theorem fsMovedir_good (f : Option Fault) (cfg : Cfg) (s : State) (p q : Path)
    (hclash : isPre p q = false → NoClash s p q) : Safe f (fsMovedir cfg s p q) s (GoodDir .a p q s) := by
  have hstop := goodDir_stop (τ := .a) (droot := q) (srcIntact_refl p s)
  refine Safe.pure_seq rfl hstop <| Safe.ite (fun hpq => ?_) fun _ => Safe.ite (fun _ => Safe.raise (hstop _ nofun))
    fun _ => createCheck_safe hstop (moveDir_safe f { cfg with same := true } s p q fun _ => hclash)
  subst hpq
  exact Safe.skip (goodDir_same s p)

theorem relinkDir_effect {p q : Path} {cr : Bool} {s s' : State}
    (h : (Prim.relinkDir .a p q cr).step s = .ok s') :
    ∀ x b, isPre p x = true → s.file .a x = some b → s'.file .a (rebase p q x) = some b := by
  intro x b hx hb
  rw [Prim.step_eff h, Prim.eff, State.file_put_same]
  unfold Store.moveTree
  rw [fget_append, fget_map_rebase p q x hx _ (fun e he => (List.mem_filter.1 he).2),
    fget_filter (fun k => isPre p k) _ x, if_pos hx]
  rw [show fget (s.get Side.a).files x = some b from hb]; rfl

/-- `MemoryFS.movedir` -/
theorem memMovedir_good (f : Option Fault) (hl : ∀ flt, f = some flt → flt.late = false)
    (cfg : Cfg) (s : State) (p q : Path) (hclash : isPre p q = false → NoClash s p q) :
    Safe f (memMovedir cfg s p q) s (GoodDir .a p q s) := by
  have hstop := goodDir_stop (τ := .a) (droot := q) (srcIntact_refl p s)
  refine Safe.pure_seq rfl hstop <| Safe.ite (fun hpq => ?_) fun _ => Safe.ite (fun _ => Safe.raise (hstop _ nofun))
    fun _ => Safe.ite (fun _ => fsMovedir_good f _ s p q hclash) fun _ =>
      Safe.prim_seq (execPrim_atomic f hl _ · s) hstop fun s' hs' =>
        (Safe.frame ((preservePart_noMut cfg.preserveAtomic .a p .a q).within fun _ _ => False)).mono fun st _ hfr => ?_
  · subst hpq
    exact Safe.skip (goodDir_same s p)
  · have hd := fun x b hx hb => (hfr .a _ id).trans (relinkDir_effect hs' x b hx hb)
    exact goodDir_done hd

theorem out_isErr_of {o : Out} (h1 : o ≠ .ok) (h2 : o ≠ .crashed) : o.isErr = true := by
  cases o <;> first | rfl | exact absurd rfl ‹_›

theorem memMove_transparent (x : Exc) (cfg : Cfg) (p q : Path) : (memMove cfg p q).transparent x = true :=
  preservePart_transparent x _ _ _ _ _

theorem fsMove_norename_transparent (x : Exc) (cfg : Cfg) (s : State) (σ : Side) (p : Path) (τ : Side) (q : Path) :
    (fsMove cfg s false σ p τ q).transparent x = true := by
  simp [fsMove, owCheck, Prog.transparent, Prog.transparent_ite, fsMoveCopyPart_transparent]

theorem moveFile_transparent (k : Kind) (cfg : Cfg) (s : State) (p q : Path) (h : cfg.usesRename = false) :
    (moveFile cfg s p q).transparent k.exc = true := by
  unfold moveFile
  unfold Cfg.usesRename at h
  cases hsame : cfg.same with
  | true =>
    simp only [if_true]
    cases hb : cfg.srcB with
    | mem => exact memMove_transparent _ _ p q
    | os => simp [hsame, hb] at h
    | base => exact fsMove_norename_transparent _ _ s .a p .a q
  | false =>
    simp only [Bool.false_eq_true, if_false]
    split
    · rename_i hos
      simp [hsame, hos.1, hos.2] at h
    · cases k <;>
        simp [Prog.transparent, Prog.transparent_ite, copyFileInternal_transparent, Kind.exc, Catch.matches]

theorem runFault_atomic (k : Nat) (kind : Kind) :
    ∀ flt, some (Fault.mk k kind false) = some flt → flt.late = false :=
  fun _ h => by cases h; rfl

theorem runFault_no_crash (prog : Prog) (k : Nat) {kind : Kind} (hk : kind ≠ .crash) (s : State) :
    (runFault prog k kind s).out ≠ .crashed :=
  exec_no_crash _ (fun flt h => by cases h; exact hk) _ 0 s

theorem runFault_reported {prog : Prog} {k : Nat} {kind : Kind} (hk : kind ≠ .crash) {s : State}
    (htr : prog.transparent kind.exc = true) (hit : (runFault prog k kind s).hit = true) :
    (runFault prog k kind s).out.isErr = true :=
  out_isErr_of (exec_hit_not_ok ⟨k, kind, false⟩ _ 0 s htr hit) (runFault_no_crash prog k hk s)

theorem noLossFile_of_good {τ : Side} {p q : Path} {s : State} {r : Res}
    (h : ∀ b, s.file .a p = some b → Good τ p q b r.state r.out) :
    NoLossFile τ p q s r.state ∧ (r.out ≠ .crashed → r.out.isErr = true ∨ MovedFile τ p q s r.state) :=
  ⟨fun b hb => (h b hb).1, fun hc => (Decidable.em (r.out = .ok)).elim
    (fun ho => .inr fun b hb => (h b hb).2 ho) fun ho => .inl (out_isErr_of ho hc)⟩

end Fs.Fault
