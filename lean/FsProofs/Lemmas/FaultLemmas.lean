/-
  Helper lemmas for C07: the effect and the frame property of primitive steps and of whole programs
  under any fault, "an injected exception that no handler swallows is never turned into a normal
  return", and the program logic `Safe` for runs under a fault (one rule per combinator; the partial
  correctness `Post` of un-faulted runs is its instance for normal returns, and enters runs under a
  fault by `Safe.of_post`, the footprints `MutWithin` by `Safe.frame`).  This file and
  `FaultMoveLemmas` declare into the model's namespace `Fs.Fault`, so that `Prim.eff`,
  `State.file_put_same`, `Prog.transparent_ite` … attach to the model's types.
-/
import FsModel.Fault
namespace Fs.Fault

/-! ### association lists -/

theorem fget_filter (P : Path → Bool) (l : Files) (x : Path) :
    fget (l.filter (fun e => P e.1)) x = if P x = true then fget l x else none := by
  induction l with
  | nil => simp [fget]
  | cons e r ih =>
    obtain ⟨q, b⟩ := e
    by_cases hp : P q = true
    · by_cases hq : q = x
      · subst hq; simp [List.filter, hp, fget]
      · simp [List.filter, hp, fget, hq, ih]
    · rw [show List.filter (fun e : Path × Bytes => P e.1) ((q, b) :: r) = List.filter (fun e => P e.1) r from
        List.filter_cons_of_neg hp, ih]
      split
      · next hx => rw [fget, if_neg fun hq : q = x => hp (hq ▸ hx)]
      · rfl

theorem fget_fdel_self (l : Files) (p : Path) : fget (fdel l p) p = none :=
  (fget_filter (fun q => decide (q ≠ p)) l p).trans (if_neg (by simp))

theorem fget_fdel_ne (l : Files) (p x : Path) (h : p ≠ x) : fget (fdel l p) x = fget l x :=
  (fget_filter (fun q => decide (q ≠ p)) l x).trans (if_pos (by simp [Ne.symm h]))

theorem fget_fset_self (l : Files) (p : Path) (b : Bytes) : fget (fset l p b) p = some b := by
  simp [fset, fget]

theorem fget_fset_ne (l : Files) (p x : Path) (b : Bytes) (h : p ≠ x) :
    fget (fset l p b) x = fget l x := by
  simp [fset, fget, h, fget_fdel_ne l p x h]

theorem fget_append (l1 l2 : Files) (x : Path) :
    fget (l1 ++ l2) x = (fget l1 x).orElse (fun _ => fget l2 x) := by
  induction l1 with
  | nil => simp [fget]
  | cons e r ih =>
    obtain ⟨q, b⟩ := e
    by_cases hq : q = x
    · simp [fget, hq]
    · simp [fget, hq, ih]

theorem fget_isSome_iff : ∀ (l : Files) (x : Path), (fget l x).isSome = true ↔ x ∈ l.map (·.1)
  | [], _ => ⟨nofun, nofun⟩
  | (q, b) :: r, x => by
    rw [fget, List.map_cons, List.mem_cons]
    split
    · exact ⟨fun _ => .inl (Eq.symm ‹_›), fun _ => rfl⟩
    · exact (fget_isSome_iff r x).trans ⟨.inr, fun h => h.resolve_left (Ne.symm ‹_›)⟩

theorem isPre_iff (r p : Path) : isPre r p = true ↔ r <+: p := by
  unfold isPre; exact List.isPrefixOf_iff_prefix

theorem isPre_refl (p : Path) : isPre p p = true := (isPre_iff p p).2 (List.prefix_refl p)

theorem isPre_rebase (root q x : Path) : isPre q (rebase root q x) = true := by
  rw [isPre_iff]; unfold rebase; exact List.prefix_append q _

theorem rebase_self (p q : Path) : rebase p q p = q := by simp [rebase]

/-- `rebase` is injective on the subtree `root` -/
theorem rebase_inj (root droot x y : Path) (hx : isPre root x = true) (hy : isPre root y = true)
    (h : rebase root droot x = rebase root droot y) : x = y := by
  rw [isPre_iff] at hx hy
  obtain ⟨tx, rfl⟩ := hx
  obtain ⟨ty, rfl⟩ := hy
  simp [rebase] at h
  rw [h]

theorem rebase_same (p x : Path) (h : isPre p x = true) : rebase p p x = x := by
  rw [isPre_iff] at h
  obtain ⟨t, rfl⟩ := h
  simp [rebase]

theorem fget_map_rebase (p q x : Path) (hx : isPre p x = true) :
    ∀ l : Files, (∀ e ∈ l, isPre p e.1 = true) →
      fget (l.map (fun e => (rebase p q e.1, e.2))) (rebase p q x) = fget l x := by
  intro l
  induction l with
  | nil => intro _; rfl
  | cons e r ih =>
    intro h
    obtain ⟨k, b⟩ := e
    have hk : isPre p k = true := h (k, b) (by simp)
    by_cases hkx : k = x
    · simp [fget, hkx]
    · have : rebase p q k ≠ rebase p q x := fun he => hkx (rebase_inj p q k x hk hx he)
      simp only [List.map, fget, this, hkx, if_false]
      exact ih (fun e he => h e (by simp [he]))

/-! ### state accessors -/

@[simp] theorem State.get_put_same (s : State) (σ : Side) (st : Store) : (s.put σ st).get σ = st := by
  cases σ <;> rfl

theorem State.get_put_ne (s : State) (σ ρ : Side) (st : Store) (h : σ ≠ ρ) :
    (s.put σ st).get ρ = s.get ρ := by
  cases σ <;> cases ρ <;> first | rfl | exact absurd rfl h

theorem State.put_get (s : State) (σ : Side) : s.put σ (s.get σ) = s := by
  cases σ <;> rfl

@[simp] theorem State.file_put_same (s : State) (σ : Side) (st : Store) (x : Path) :
    (s.put σ st).file σ x = fget st.files x := by
  unfold State.file; rw [State.get_put_same]

theorem State.file_put_ne (s : State) (σ ρ : Side) (st : Store) (x : Path) (h : σ ≠ ρ) :
    (s.put σ st).file ρ x = s.file ρ x := by
  unfold State.file; rw [State.get_put_ne s σ ρ st h]

@[simp] theorem State.put_buf (s : State) (σ : Side) (st : Store) : (s.put σ st).buf = s.buf := by
  cases σ <;> rfl

@[simp] theorem State.file_buf (s : State) (b : Bytes) (ρ : Side) (x : Path) :
    State.file { s with buf := b } ρ x = s.file ρ x := by
  cases ρ <;> rfl

/-- updating the files of side `σ` leaves `(ρ, x)` alone unless it is the updated entry -/
theorem State.file_put_of (s : State) (σ ρ : Side) (st : Store) (x : Path)
    (h : σ = ρ → fget st.files x = fget (s.get σ).files x) : (s.put σ st).file ρ x = s.file ρ x := by
  by_cases hσ : σ = ρ
  · subst hσ; rw [State.file_put_same, h rfl]; rfl
  · exact State.file_put_ne s σ ρ st x hσ

theorem State.file_setFile_self (s : State) (σ : Side) (st : Store) (p : Path) (b : Bytes) :
    (s.put σ (st.setFile p b)).file σ p = some b :=
  (State.file_put_same ..).trans (fget_fset_self ..)

theorem State.file_setFile_ne (s : State) (σ ρ : Side) (p x : Path) (b : Bytes) (h : ¬ (σ = ρ ∧ p = x)) :
    (s.put σ ((s.get σ).setFile p b)).file ρ x = s.file ρ x :=
  State.file_put_of s σ ρ _ x fun hσ => fget_fset_ne _ _ _ _ fun hp => h ⟨hσ, hp⟩

theorem State.file_delFile_ne (s : State) (σ ρ : Side) (p x : Path) (h : ¬ (σ = ρ ∧ p = x)) :
    (s.put σ ((s.get σ).delFile p)).file ρ x = s.file ρ x :=
  State.file_put_of s σ ρ _ x fun hσ => fget_fdel_ne _ _ _ fun hp => h ⟨hσ, hp⟩

theorem Store.moveTree_frame (st : Store) (p q x : Path) (hp : isPre p x = false) (hq : isPre q x = false) :
    fget (st.moveTree p q).files x = fget st.files x := by
  unfold Store.moveTree
  simp only
  rw [fget_append]
  have h1 : fget ((st.files.filter (fun e => isPre p e.1)).map (fun e => (rebase p q e.1, e.2))) x = none :=
    Option.not_isSome_iff_eq_none.1 fun hs => by
      -- a key of the re-linked part lies below `q`
      obtain ⟨e', _, rfl⟩ := List.mem_map.1 (List.map_map ▸ (fget_isSome_iff _ _).1 hs)
      exact nomatch (isPre_rebase p q e'.1).symm.trans hq
  rw [h1]
  simp only [Option.orElse]
  exact (fget_filter (fun k => !isPre p k) st.files x).trans (if_pos (by simp [hp]))

theorem Store.delTree_frame (st : Store) (p x : Path) (hp : isPre p x = false) :
    fget (st.delTree p).files x = fget st.files x := by
  unfold Store.delTree
  exact (fget_filter (fun k => !isPre p k) st.files x).trans (if_pos (by simp [hp]))

theorem ok_of_ite {c : Prop} [Decidable c] {a b : Except Exc State} {s' : State}
    (h : (if c then a else b) = .ok s') : c ∧ a = .ok s' ∨ ¬ c ∧ b = .ok s' := by
  split at h
  · exact Or.inl ⟨‹_›, h⟩
  · exact Or.inr ⟨‹_›, h⟩

theorem ok_of_guard {c : Prop} [Decidable c] {e : Exc} {b : Except Exc State} {s' : State}
    (h : (if c then .error e else b) = .ok s') : b = .ok s' := by
  split at h
  · cases h
  · exact h

/-- the state after a step whose guards all pass (`Prim.step_eff`); total, so that frame and effect
    lemmas need not go through the guards of `Prim.step` (where `step` fails for want of the source
    file the value is `s`) -/
def Prim.eff : Prim → State → State
  | .openW σ p, s => s.put σ ((s.get σ).setFile p [])
  | .read σ p off len, s => { s with buf := (((s.file σ p).getD []).drop off).take len }
  | .write σ p, s =>
    match s.file σ p with
    | some cur => s.put σ ((s.get σ).setFile p (cur ++ s.buf))
    | none => s
  | .makedir σ p _, s => if p = [] ∨ (s.get σ).isDir p then s else s.put σ ((s.get σ).addDir p)
  | .remove σ p _, s => s.put σ ((s.get σ).delFile p)
  | .removedir σ p _, s => s.put σ ((s.get σ).delDir p)
  | .copyAtomic σ p q, s =>
    match s.file σ p with
    | some b => s.put σ ((s.get σ).setFile q b)
    | none => s
  | .rename σ p τ q, s =>
    match s.file σ p with
    | some b => (s.put σ ((s.get σ).delFile p)).put τ (((s.put σ ((s.get σ).delFile p)).get τ).setFile q b)
    | none => s
  | .relinkFile σ p q _, s =>
    match s.file σ p with
    | some b => if p = q then s else s.put σ (((s.get σ).delFile p).setFile q b)
    | none => s
  | .relinkDir σ p q _, s => s.put σ ((s.get σ).moveTree p q)
  | .unlinkTree σ p, s => s.put σ ((s.get σ).delTree p)
  | _, s => s

theorem Prim.step_eff {pr : Prim} {s s' : State} (h : pr.step s = .ok s') : s' = pr.eff s := by
  symm
  cases pr with
  | call _ _ _ | exists_ _ _ | close _ _ | read _ _ _ _ => exact Except.ok.inj h
  | getinfo σ p | setinfo σ p =>
    rcases ok_of_ite h with ⟨_, h⟩ | ⟨_, ⟨⟩⟩
    exact Except.ok.inj h
  | scandir σ p | openR σ p =>
    rcases ok_of_ite h with ⟨_, h⟩ | ⟨_, h⟩
    · exact Except.ok.inj h
    · exact nomatch ok_of_guard h
  | openW σ p => exact Except.ok.inj (ok_of_guard (ok_of_guard (ok_of_guard h)))
  | write σ p =>
    dsimp only [Prim.step, Prim.eff] at h ⊢
    cases hf : s.file σ p <;> rw [hf] at h <;> exact Except.ok.inj h
  | makedir σ p rc =>
    dsimp only [Prim.eff]
    rcases ok_of_ite h with ⟨hp, h⟩ | ⟨hp, h⟩
    · rw [if_pos (Or.inl hp)]
      rcases ok_of_ite h with ⟨_, h⟩ | ⟨_, ⟨⟩⟩
      exact Except.ok.inj h
    · rcases ok_of_ite (ok_of_guard h) with ⟨hd, h⟩ | ⟨hd, h⟩
      · rw [if_pos (Or.inr hd)]
        rcases ok_of_ite h with ⟨_, h⟩ | ⟨_, ⟨⟩⟩
        exact Except.ok.inj h
      · rw [if_neg (fun h' => h'.elim hp hd)]
        exact Except.ok.inj (ok_of_guard h)
  | remove σ p os =>
    rcases ok_of_ite h with ⟨_, h⟩ | ⟨_, h⟩
    · exact Except.ok.inj h
    · exact nomatch ok_of_guard (ok_of_guard h)
  | removedir σ p os =>
    rcases ok_of_ite (ok_of_guard h) with ⟨_, h⟩ | ⟨_, h⟩
    · exact Except.ok.inj (ok_of_guard h)
    · exact nomatch ok_of_guard (ok_of_guard h)
  | copyAtomic σ p q =>
    dsimp only [Prim.step, Prim.eff] at h ⊢
    cases hf : s.file σ p <;> rw [hf] at h
    · cases h
    · exact Except.ok.inj (ok_of_guard (ok_of_guard (ok_of_guard h)))
  | rename σ p τ q =>
    dsimp only [Prim.step, Prim.eff] at h ⊢
    cases hf : s.file σ p <;> rw [hf] at h
    · cases h
    · exact Except.ok.inj (ok_of_guard h)
  | relinkFile σ p q ow =>
    dsimp only [Prim.step, Prim.eff] at h ⊢
    cases hf : s.file σ p <;> rw [hf] at h
    · cases h
    · rcases ok_of_ite (ok_of_guard (ok_of_guard h)) with ⟨hpq, h⟩ | ⟨hpq, h⟩
      · exact (if_pos hpq).trans (Except.ok.inj h)
      · exact (if_neg hpq).trans (Except.ok.inj (ok_of_guard h))
  | relinkDir σ p q cr => exact Except.ok.inj (ok_of_guard (ok_of_guard (ok_of_guard h)))
  | unlinkTree σ p =>
    rcases ok_of_ite h with ⟨_, h⟩ | ⟨_, h⟩
    · exact Except.ok.inj h
    · rcases ok_of_ite h with ⟨_, h⟩ | ⟨_, h⟩
      · exact Except.ok.inj h
      · exact nomatch ok_of_guard h

theorem not_and_of_band {a b : Prop} [Decidable a] [Decidable b] (h : (decide a && decide b) = false) :
    ¬ (a ∧ b) := fun ⟨ha, hb⟩ => by simp [ha, hb] at h

theorem and_of_band {a b : Prop} [Decidable a] [Decidable b] (h : (decide a && decide b) = true) : a ∧ b := by
  simpa using h

theorem Prim.eff_frame (pr : Prim) (s : State) (ρ : Side) (x : Path) (hm : pr.mutates ρ x = false) :
    (pr.eff s).file ρ x = s.file ρ x := by
  cases pr with
  | openW σ p => exact State.file_setFile_ne s σ ρ p x _ (not_and_of_band hm)
  | read σ p off len => exact State.file_buf ..
  | write σ p =>
    dsimp only [Prim.eff]
    split
    · exact State.file_setFile_ne s σ ρ p x _ (not_and_of_band hm)
    · rfl
  | makedir σ p rc =>
    dsimp only [Prim.eff]
    split
    · rfl
    · exact State.file_put_of s σ ρ _ x (fun _ => rfl)
  | remove σ p os => exact State.file_delFile_ne s σ ρ p x (not_and_of_band hm)
  | removedir σ p os => exact State.file_put_of s σ ρ _ x (fun _ => rfl)
  | copyAtomic σ p q =>
    dsimp only [Prim.eff]
    split
    · exact State.file_setFile_ne s σ ρ q x _ (not_and_of_band hm)
    · rfl
  | rename σ p τ q =>
    dsimp only [Prim.eff]
    split
    · obtain ⟨h1, h2⟩ := Bool.or_eq_false_iff.1 hm
      rw [State.file_setFile_ne _ τ ρ q x _ (not_and_of_band h2), State.file_delFile_ne s σ ρ p x (not_and_of_band h1)]
    · rfl
  | relinkFile σ p q ow =>
    dsimp only [Prim.eff]
    split
    · split
      · rfl
      · refine State.file_put_of s σ ρ _ x fun hσ => ?_
        simp only [Prim.mutates, hσ, decide_true, Bool.true_and, Bool.or_eq_false_iff, decide_eq_false_iff_not] at hm
        exact (fget_fset_ne _ q x _ hm.2).trans (fget_fdel_ne _ p x hm.1)
    · rfl
  | relinkDir σ p q cr =>
    refine State.file_put_of s σ ρ _ x (fun hσ => ?_)
    simp only [Prim.mutates, hσ, decide_true, Bool.true_and, Bool.or_eq_false_iff] at hm
    exact Store.moveTree_frame _ p q x hm.1 hm.2
  | unlinkTree σ p =>
    refine State.file_put_of s σ ρ _ x (fun hσ => ?_)
    simp only [Prim.mutates, hσ, decide_true, Bool.true_and] at hm
    exact Store.delTree_frame _ p x hm
  | _ => rfl

theorem Prim.eff_pure {pr : Prim} (hp : pr.isPure = true) (s : State) : pr.eff s = s := by
  cases pr <;> first | rfl | cases hp

theorem Prim.step_frame (pr : Prim) (s s' : State) (ρ : Side) (x : Path)
    (h : pr.step s = .ok s') (hm : pr.mutates ρ x = false) : s'.file ρ x = s.file ρ x :=
  Prim.step_eff h ▸ Prim.eff_frame pr s ρ x hm

theorem step_pure {pr : Prim} {s s' : State} (hp : pr.isPure = true) (h : pr.step s = .ok s') : s' = s :=
  (Prim.step_eff h).trans (Prim.eff_pure hp s)

theorem execPrim_none (p : Prim) (n : Nat) (s : State) :
    execPrim none p n s = match p.step s with
      | .ok s' => ⟨s', .ok, n + 1, false⟩
      | .error x => ⟨s, .raised x, n + 1, false⟩ := rfl

theorem execPrim_spec (f : Option Fault) (p : Prim) (n : Nat) (s : State) :
    (∃ s', p.step s = .ok s' ∧ execPrim f p n s = ⟨s', .ok, n + 1, false⟩) ∨
    (∃ x, p.step s = .error x ∧ execPrim f p n s = ⟨s, .raised x, n + 1, false⟩) ∨
    (∃ kind late st, f = some ⟨n, kind, late⟩ ∧
      execPrim f p n s = ⟨st, if kind = .crash then .crashed else .raised kind.exc, n + 1, true⟩ ∧
      (st = s ∨ kind ≠ .crash ∧ late = true ∧ p.step s = .ok st)) := by
  cases f with
  | none =>
    rw [execPrim_none]
    cases p.step s
    · exact Or.inr (Or.inl ⟨_, rfl, rfl⟩)
    · exact Or.inl ⟨_, rfl, rfl⟩
  | some flt =>
    obtain ⟨k, kind, late⟩ := flt
    dsimp only [execPrim]
    by_cases hk : k = n
    · subst hk
      rw [if_pos rfl]
      refine Or.inr (Or.inr ⟨kind, late, ?_⟩)
      cases kind
      case crash => exact ⟨s, rfl, rfl, Or.inl rfl⟩
      all_goals
        cases late
        · exact ⟨s, rfl, rfl, Or.inl rfl⟩
        · cases p.step s
          · exact ⟨s, rfl, rfl, Or.inl rfl⟩
          · exact ⟨_, rfl, rfl, Or.inr ⟨nofun, rfl, rfl⟩⟩
    · rw [if_neg hk]
      cases p.step s
      · exact Or.inr (Or.inl ⟨_, rfl, rfl⟩)
      · exact Or.inl ⟨_, rfl, rfl⟩

theorem execPrim_ctr (f : Option Fault) (p : Prim) (n : Nat) (s : State) : (execPrim f p n s).ctr = n + 1 := by
  rcases execPrim_spec f p n s with ⟨_, _, e⟩ | ⟨_, _, e⟩ | ⟨_, _, _, _, e, _⟩ <;> rw [e]

/-- what one primitive step can do under any fault: nothing, or its own effect -/
theorem execPrim_cases (f : Option Fault) (p : Prim) (n : Nat) (s : State) :
    ((execPrim f p n s).state = s ∧ (execPrim f p n s).out ≠ .ok) ∨
    (p.step s = .ok (execPrim f p n s).state) := by
  rcases execPrim_spec f p n s with ⟨_, hs, e⟩ | ⟨_, _, e⟩ | ⟨kind, _, _, _, e, hst⟩ <;> rw [e]
  · exact Or.inr hs
  · exact Or.inl ⟨rfl, nofun⟩
  · rcases hst with rfl | ⟨_, _, hs⟩
    · exact Or.inl ⟨rfl, by split <;> nofun⟩
    · exact Or.inr hs

theorem execPrim_ok_step (f : Option Fault) (p : Prim) (n : Nat) (s : State)
    (h : (execPrim f p n s).out = .ok) : p.step s = .ok (execPrim f p n s).state :=
  (execPrim_cases f p n s).elim (fun h' => absurd h h'.2) id

/-- an atomic failure (`late = false`) leaves the state alone -/
theorem execPrim_atomic (f : Option Fault) (hl : ∀ flt, f = some flt → flt.late = false)
    (p : Prim) (n : Nat) (s : State) (h : (execPrim f p n s).out ≠ .ok) : (execPrim f p n s).state = s := by
  rcases execPrim_spec f p n s with ⟨_, _, e⟩ | ⟨_, _, e⟩ | ⟨_, _, _, rfl, e, hst⟩ <;> rw [e] at h ⊢
  · exact absurd rfl h
  · rcases hst with rfl | ⟨_, rfl, _⟩
    · rfl
    · cases hl _ rfl

theorem execPrim_nohit_eq (flt : Fault) (p : Prim) (n : Nat) (s : State)
    (h : (execPrim (some flt) p n s).hit = false) : execPrim (some flt) p n s = execPrim none p n s := by
  rw [execPrim_none]
  rcases execPrim_spec (some flt) p n s with ⟨_, hs, e⟩ | ⟨_, hs, e⟩ | ⟨_, _, _, _, e, _⟩
  · rw [e, hs]
  · rw [e, hs]
  · rw [e] at h; cases h

theorem execPrim_hit_out (flt : Fault) (p : Prim) (n : Nat) (s : State)
    (h : (execPrim (some flt) p n s).hit = true) :
    (execPrim (some flt) p n s).out = .crashed ∨ (execPrim (some flt) p n s).out = .raised flt.kind.exc := by
  rcases execPrim_spec (some flt) p n s with ⟨_, _, e⟩ | ⟨_, _, e⟩ | ⟨_, _, _, hf, e, _⟩ <;> rw [e] at h ⊢
  · cases h
  · cases h
  · cases hf
    split
    · exact Or.inl rfl
    · exact Or.inr rfl

theorem execPrim_no_crash (f : Option Fault) (hk : ∀ flt, f = some flt → flt.kind ≠ .crash)
    (p : Prim) (n : Nat) (s : State) : (execPrim f p n s).out ≠ .crashed := by
  rcases execPrim_spec f p n s with ⟨_, _, e⟩ | ⟨_, _, e⟩ | ⟨_, _, _, rfl, e, _⟩ <;> rw [e]
  · nofun
  · nofun
  · rw [if_neg (hk _ rfl)]; nofun

theorem execPrim_frame (f : Option Fault) (p : Prim) (n : Nat) (s : State) (ρ : Side) (x : Path)
    (hm : p.mutates ρ x = false) : (execPrim f p n s).state.file ρ x = s.file ρ x := by
  rcases execPrim_cases f p n s with ⟨h, _⟩ | h
  · rw [h]
  · exact Prim.step_frame p s _ ρ x h hm

theorem execPrim_pure (f : Option Fault) {p : Prim} (hp : p.isPure = true) (n : Nat) (s : State) :
    (execPrim f p n s).state = s :=
  (execPrim_cases f p n s).elim (·.1) (step_pure hp)

theorem execPrim_hit_not_ok (flt : Fault) (p : Prim) (n : Nat) (s : State)
    (h : (execPrim (some flt) p n s).hit = true) : (execPrim (some flt) p n s).out ≠ .ok := by
  rcases execPrim_hit_out flt p n s h with e | e <;> rw [e] <;> nofun

/-! ### the run of a compound program, by the outcome of its first part -/

def Out.caughtBy (o : Out) (c : Catch) : Bool :=
  match o with
  | .raised x => c.matches x
  | _ => false

abbrev Res.after (r r2 : Res) (o : Out) : Res := ⟨r2.state, o, r2.ctr, r.hit || r2.hit⟩

theorem Res.hit_of_ite {c : Prop} [Decidable c] {r r2 : Res} {o : Out}
    (h : (if c then r.after r2 o else r).hit = false) : r.hit = false ∧ (c → r2.hit = false) := by
  by_cases hc : c
  · rw [if_pos hc] at h
    exact ⟨(Bool.or_eq_false_iff.1 h).1, fun _ => (Bool.or_eq_false_iff.1 h).2⟩
  · rw [if_neg hc] at h
    exact ⟨h, fun h' => absurd h' hc⟩

theorem exec_seq (f : Option Fault) (a b : Prog) (n : Nat) (s : State) :
    exec f (a ;; b) n s =
      if (exec f a n s).out = .ok then
        (exec f a n s).after (exec f b (exec f a n s).ctr (exec f a n s).state)
          (exec f b (exec f a n s).ctr (exec f a n s).state).out
      else exec f a n s := by
  rw [exec]; cases (exec f a n s).out <;> rfl

theorem exec_tryFinally (f : Option Fault) (b fin : Prog) (n : Nat) (s : State) :
    exec f (.tryFinally b fin) n s =
      if (exec f b n s).out ≠ .crashed then
        (exec f b n s).after (exec f fin (exec f b n s).ctr (exec f b n s).state)
          (if (exec f fin (exec f b n s).ctr (exec f b n s).state).out = .ok then (exec f b n s).out
           else (exec f fin (exec f b n s).ctr (exec f b n s).state).out)
      else exec f b n s := by
  rw [exec]
  cases (exec f b n s).out <;> dsimp only <;>
    cases (exec f fin (exec f b n s).ctr (exec f b n s).state).out <;> rfl

theorem exec_tryElse (f : Option Fault) (p : Prim) (c : Catch) (h e : Prog) (n : Nat) (s : State) :
    exec f (.tryElse p c h e) n s =
      if (execPrim f p n s).out = .ok then
        (execPrim f p n s).after (exec f e (execPrim f p n s).ctr (execPrim f p n s).state)
          (exec f e (execPrim f p n s).ctr (execPrim f p n s).state).out
      else if (execPrim f p n s).out.caughtBy c then
        (execPrim f p n s).after (exec f h (execPrim f p n s).ctr (execPrim f p n s).state)
          (exec f h (execPrim f p n s).ctr (execPrim f p n s).state).out
      else execPrim f p n s := by
  rw [exec]; cases (execPrim f p n s).out <;> rfl

theorem exec_tryCatch (f : Option Fault) (p : Prim) (c : Catch) (h : Prog) (rr : Bool) (n : Nat) (s : State) :
    exec f (.tryCatch p c h rr) n s =
      if (execPrim f p n s).out.caughtBy c then
        (execPrim f p n s).after (exec f h (execPrim f p n s).ctr (execPrim f p n s).state)
          (if (exec f h (execPrim f p n s).ctr (execPrim f p n s).state).out = .ok then
             (if rr then (execPrim f p n s).out else .ok)
           else (exec f h (execPrim f p n s).ctr (execPrim f p n s).state).out)
      else execPrim f p n s := by
  rw [exec]
  cases (execPrim f p n s).out with
  | raised x =>
    dsimp only
    by_cases hc : c.matches x = true
    · rw [if_pos hc, if_pos (show (Out.raised x).caughtBy c = true from hc)]
      cases (exec f h (execPrim f p n s).ctr (execPrim f p n s).state).out <;> rfl
    · rw [if_neg hc, if_neg (show ¬ (Out.raised x).caughtBy c = true from hc)]
  | _ => rfl

/-- Rule induction on runs: `R` holds of every step of `prog`, of a run that stops where it is, and is
    closed under continuing a run `r` by a run `r2` (with the outcome of `r`, of `r2`, or a normal
    return: the three things the handlers make of them). -/
theorem exec_induct (f : Option Fault) (R : Nat → State → Res → Prop)
    (hstop : ∀ n s o, o ≠ .crashed → R n s ⟨s, o, n, false⟩)
    (hthen : ∀ n s r r2 o, R n s r → R r.ctr r.state r2 → (o = r.out ∨ o = r2.out ∨ o = .ok) →
      R n s (r.after r2 o)) (prog : Prog) :
    (∀ p ∈ prog.prims, ∀ n s, R n s (execPrim f p n s)) → ∀ n s, R n s (exec f prog n s) := by
  have key : ∀ {c : Prop} [Decidable c] {n s r r2 o}, R n s r → R r.ctr r.state r2 →
      (o = r.out ∨ o = r2.out ∨ o = .ok) → R n s (if c then r.after r2 o else r) := by
    intro c _ n s r r2 o h1 h2 ho
    split
    · exact hthen n s r r2 o h1 h2 ho
    · exact h1
  induction prog with
  | skip => exact fun _ n s => hstop n s .ok nofun
  | raise x => exact fun _ n s => hstop n s (.raised x) nofun
  | prim p => exact fun h => h p (List.mem_singleton_self p)
  | seq a b iha ihb =>
    intro h n s
    obtain ⟨ha, hb⟩ := List.forall_mem_append.1 h
    rw [exec_seq]
    exact key (iha ha n s) (ihb hb _ _) (.inr (.inl rfl))
  | tryCatch p c hd rr ih =>
    intro h n s
    obtain ⟨hp, hh⟩ := List.forall_mem_cons.1 h
    rw [exec_tryCatch]
    refine key (hp n s) (ih hh _ _) ?_
    split
    · cases rr
      · exact .inr (.inr rfl)
      · exact .inl rfl
    · exact .inr (.inl rfl)
  | tryElse p c hd e ihh ihe =>
    intro h n s
    obtain ⟨hp, hhe⟩ := List.forall_mem_cons.1 h
    obtain ⟨hh, he⟩ := List.forall_mem_append.1 hhe
    rw [exec_tryElse]
    split
    · exact hthen n s _ _ _ (hp n s) (ihe he _ _) (.inr (.inl rfl))
    · exact key (hp n s) (ihh hh _ _) (.inr (.inl rfl))
  | tryFinally b fin ihb ihf =>
    intro h n s
    obtain ⟨hb, hf⟩ := List.forall_mem_append.1 h
    rw [exec_tryFinally]
    refine key (ihb hb n s) (ihf hf _ _) ?_
    split
    · exact .inl rfl
    · exact .inr (.inl rfl)

theorem exec_invariant (f : Option Fault) (P : State → Prop) (prog : Prog)
    (h : ∀ pr ∈ prog.prims, ∀ m t, P t → P (execPrim f pr m t).state) (n : Nat) (s : State) (hs : P s) :
    P (exec f prog n s).state :=
  exec_induct f (fun _ s r => P s → P r.state) (fun _ _ _ _ hs => hs)
    (fun _ _ _ _ _ h1 h2 _ hs => h2 (h1 hs)) prog h n s hs

/-- FRAME: a program none of whose steps can touch `(ρ, x)` leaves it unchanged — under every
    fault, whether it returns, raises or crashes. -/
theorem exec_frame (f : Option Fault) (ρ : Side) (x : Path) (prog : Prog) :
    ∀ (n : Nat) (s : State), (∀ pr ∈ prog.prims, pr.mutates ρ x = false) →
      (exec f prog n s).state.file ρ x = s.file ρ x :=
  fun n s h => exec_invariant f (fun t => t.file ρ x = s.file ρ x) prog
    (fun pr hpr m t ht => (execPrim_frame f pr m t ρ x (h pr hpr)).trans ht) n s rfl

/-- a program of pure steps never changes the state -/
theorem exec_allpure_state (f : Option Fault) (prog : Prog) :
    ∀ (n : Nat) (s : State), (∀ pr ∈ prog.prims, pr.isPure = true) → (exec f prog n s).state = s :=
  fun n s h => exec_invariant f (· = s) prog
    (fun pr hpr m t ht => (execPrim_pure f (h pr hpr) m t).trans ht) n s rfl

theorem exec_none_hit (prog : Prog) : ∀ (n : Nat) (s : State), (exec none prog n s).hit = false := by
  refine exec_induct none (fun _ _ r => r.hit = false) (fun _ _ _ _ => rfl) ?_ prog ?_
  · intro _ _ r r2 _ h1 h2 _
    show (r.hit || r2.hit) = false
    rw [h1, h2]; rfl
  · intro p _ n s
    rw [execPrim_none]; cases p.step s <;> rfl

/-- without a crash fault nothing crashes -/
theorem exec_no_crash (f : Option Fault) (hk : ∀ flt, f = some flt → flt.kind ≠ .crash) (prog : Prog) :
    ∀ (n : Nat) (s : State), (exec f prog n s).out ≠ .crashed := by
  refine exec_induct f (fun _ _ r => r.out ≠ .crashed) (fun _ _ _ h => h) ?_ prog
    (fun p _ => execPrim_no_crash f hk p)
  rintro _ _ r r2 _ h1 h2 (rfl | rfl | rfl)
  · exact h1
  · exact h2
  · nofun

theorem exec_nohit_eq (flt : Fault) (prog : Prog) : ∀ (n : Nat) (s : State),
    (exec (some flt) prog n s).hit = false → exec (some flt) prog n s = exec none prog n s := by
  induction prog with
  | skip => exact fun _ _ _ => rfl
  | raise _ => exact fun _ _ _ => rfl
  | prim p => exact execPrim_nohit_eq flt p
  | seq a b iha ihb =>
    intro n s h
    rw [exec_seq] at h
    obtain ⟨h1, h2⟩ := Res.hit_of_ite h
    rw [exec_seq, exec_seq, ← iha n s h1]
    exact ite_congr rfl (fun ho => by rw [ihb _ _ (h2 ho)]) fun _ => rfl
  | tryCatch p c hd rr ih =>
    intro n s h
    rw [exec_tryCatch] at h
    obtain ⟨h1, h2⟩ := Res.hit_of_ite h
    rw [exec_tryCatch, exec_tryCatch, ← execPrim_nohit_eq flt p n s h1]
    exact ite_congr rfl (fun hc => by rw [ih _ _ (h2 hc)]) fun _ => rfl
  | tryElse p c hd e ihh ihe =>
    intro n s h
    rw [exec_tryElse] at h
    rw [exec_tryElse, exec_tryElse]
    by_cases ho : (execPrim (some flt) p n s).out = .ok
    · rw [if_pos ho] at h
      rw [← execPrim_nohit_eq flt p n s (Bool.or_eq_false_iff.1 h).1, if_pos ho, if_pos ho,
        ihe _ _ (Bool.or_eq_false_iff.1 h).2]
    · rw [if_neg ho] at h
      obtain ⟨h1, h2⟩ := Res.hit_of_ite h
      rw [← execPrim_nohit_eq flt p n s h1, if_neg ho, if_neg ho]
      exact ite_congr rfl (fun hc => by rw [ihh _ _ (h2 hc)]) fun _ => rfl
  | tryFinally b fin ihb ihf =>
    intro n s h
    rw [exec_tryFinally] at h
    obtain ⟨h1, h2⟩ := Res.hit_of_ite h
    rw [exec_tryFinally, exec_tryFinally, ← ihb n s h1]
    exact ite_congr rfl (fun hc => by rw [ihf _ _ (h2 hc)]) fun _ => rfl

theorem execPrim_hit_caught (flt : Fault) (p : Prim) (n : Nat) (s : State) (c : Catch)
    (h : (execPrim (some flt) p n s).hit = true) (hc : (execPrim (some flt) p n s).out.caughtBy c = true) :
    c.matches flt.kind.exc = true := by
  rcases execPrim_hit_out flt p n s h with e | e <;> rw [e] at hc
  · cases hc
  · exact hc

theorem Res.not_ok_of_ite {c : Prop} [Decidable c] {r r2 r' : Res} {o : Out}
    (h : (if c then r.after r2 o else r').hit = true)
    (h1 : c → r.hit = true → o ≠ .ok) (h2 : c → r2.hit = true → o ≠ .ok)
    (h0 : ¬ c → r'.hit = true → r'.out ≠ .ok) : (if c then r.after r2 o else r').out ≠ .ok := by
  by_cases hc : c
  · rw [if_pos hc] at h ⊢
    exact (Bool.or_eq_true_iff.1 h).elim (h1 hc) (h2 hc)
  · rw [if_neg hc] at h ⊢
    exact h0 hc h

/-- the outcome after a handler or `finally` block that ended with `o2`: `a` if it returned -/
theorem Out.ite_ok {o2 a : Out} {R : Out → Prop} (h : (o2 = .ok → R a) ∧ (o2 ≠ .ok → R o2)) :
    R (if o2 = .ok then a else o2) := iteInduction h.1 h.2

theorem Out.ite_ne_ok {o o' : Out} (h : o = .ok → o' ≠ .ok) : (if o = .ok then o' else o) ≠ .ok :=
  Out.ite_ok (R := (· ≠ .ok)) ⟨h, id⟩

/-- an injected exception that no handler swallows is never turned into a normal return -/
theorem exec_hit_not_ok (flt : Fault) (prog : Prog) : ∀ (n : Nat) (s : State),
    prog.transparent flt.kind.exc = true → (exec (some flt) prog n s).hit = true →
    (exec (some flt) prog n s).out ≠ .ok := by
  induction prog with
  | skip => exact fun _ _ _ h => nomatch h
  | raise _ => exact fun _ _ _ h => nomatch h
  | prim p => exact fun n s _ => execPrim_hit_not_ok flt p n s
  | seq a b iha ihb =>
    intro n s ht h
    obtain ⟨ht1, ht2⟩ := Bool.and_eq_true_iff.1 ht
    rw [exec_seq] at h ⊢
    exact Res.not_ok_of_ite h (fun ho hh => absurd ho (iha n s ht1 hh)) (fun _ => ihb _ _ ht2)
      fun _ => iha n s ht1
  | tryCatch p c hd rr ih =>
    intro n s ht h
    obtain ⟨ht1, ht2⟩ := Bool.and_eq_true_iff.1 ht
    rw [exec_tryCatch] at h ⊢
    refine Res.not_ok_of_ite h (fun hc hh => Out.ite_ne_ok fun _ => ?_)
      (fun _ hh => Out.ite_ne_ok fun ho => absurd ho (ih _ _ ht2 hh)) fun _ => execPrim_hit_not_ok flt p n s
    -- the handler caught the injected exception; transparency says it re-raises
    rw [execPrim_hit_caught flt p n s c hh hc] at ht1
    obtain rfl : rr = true := ht1
    exact execPrim_hit_not_ok flt p n s hh
  | tryElse p c hd e ihh ihe =>
    intro n s ht h
    obtain ⟨ht12, ht3⟩ := Bool.and_eq_true_iff.1 ht
    obtain ⟨ht1, ht2⟩ := Bool.and_eq_true_iff.1 ht12
    rw [exec_tryElse] at h ⊢
    refine Res.not_ok_of_ite h (fun ho hh => absurd ho (execPrim_hit_not_ok flt p n s hh)) (fun _ => ihe _ _ ht3)
      fun _ h => Res.not_ok_of_ite h (fun hc hh => ?_) (fun _ => ihh _ _ ht2) fun _ => execPrim_hit_not_ok flt p n s
    -- transparency says the handler does not catch the injected exception
    rw [execPrim_hit_caught flt p n s c hh hc] at ht1
    cases ht1
  | tryFinally b fin ihb ihf =>
    intro n s ht h
    obtain ⟨ht1, ht2⟩ := Bool.and_eq_true_iff.1 ht
    rw [exec_tryFinally] at h ⊢
    exact Res.not_ok_of_ite h (fun _ hh => Out.ite_ne_ok fun _ => ihb n s ht1 hh)
      (fun _ hh => Out.ite_ne_ok fun ho => absurd ho (ihf _ _ ht2 hh)) fun _ => ihb n s ht1

/-! ### what holds of the end of every run; partial correctness of un-faulted runs -/

/-- the runs differ by the number `n` of the first step: the position of the fault is absolute -/
def Safe (f : Option Fault) (prog : Prog) (s : State) (P : State → Out → Prop) : Prop :=
  ∀ n, P (exec f prog n s).state (exec f prog n s).out

section
variable {f : Option Fault} {s : State} {P P' : State → Out → Prop}

theorem Safe.mono {prog : Prog} (h : Safe f prog s P) (hP : ∀ st o, P st o → P' st o) : Safe f prog s P' :=
  fun n => hP _ _ (h n)

theorem Safe.and {prog : Prog} (h : Safe f prog s P) (h' : Safe f prog s P') :
    Safe f prog s fun st o => P st o ∧ P' st o := fun n => ⟨h n, h' n⟩

theorem Safe.skip (h : P s .ok) : Safe f .skip s P := fun _ => h

theorem Safe.raise {x : Exc} (h : P s (.raised x)) : Safe f (.raise x) s P := fun _ => h

/-- the `if` by which a program is generated from the configuration and the initial state -/
theorem Safe.ite {c : Prop} [Decidable c] {a b : Prog} (ha : c → Safe f a s P) (hb : ¬ c → Safe f b s P) :
    Safe f (if c then a else b) s P := iteInduction (motive := (Safe f · s P)) ha hb

theorem Safe.prim_cases {p : Prim}
    (hok : ∀ s', p.step s = .ok s' → P s' .ok)
    (herr : ∀ x, p.step s = .error x → P s (.raised x))
    (hflt : ∀ n kind late st, f = some ⟨n, kind, late⟩ →
      (st = s ∨ kind ≠ .crash ∧ late = true ∧ p.step s = .ok st) →
      P st (if kind = .crash then .crashed else .raised kind.exc)) : Safe f (.prim p) s P := by
  intro n
  show P (execPrim f p n s).state (execPrim f p n s).out
  rcases execPrim_spec f p n s with ⟨s', hs, e⟩ | ⟨x, hs, e⟩ | ⟨kind, late, st, hf, e, hst⟩ <;> rw [e]
  · exact hok s' hs
  · exact herr x hs
  · exact hflt n kind late st hf hst

/-- for a pure step, and for any step under an atomic fault -/
theorem Safe.prim_atomic {p : Prim}
    (hst : ∀ n, (execPrim f p n s).out ≠ .ok → (execPrim f p n s).state = s)
    (hok : ∀ s', p.step s = .ok s' → P s' .ok) (h1 : ∀ o, o ≠ .ok → P s o) : Safe f (.prim p) s P := fun n =>
  if ho : (execPrim f p n s).out = .ok then ho ▸ hok _ (execPrim_ok_step f p n s ho)
  else (hst n ho).symm ▸ h1 _ ho

/-- every compound run is `if c then r.after r2 o else r'`: a first part `r`, continued or not -/
theorem Res.ite {c : Prop} [Decidable c] {x y : Res}
    (h1 : c → P x.state x.out) (h0 : ¬ c → P y.state y.out) :
    P (if c then x else y).state (if c then x else y).out :=
  iteInduction (motive := fun r : Res => P r.state r.out) h1 h0

theorem Safe.seq {a b : Prog}
    (h : Safe f a s fun s1 o => (o = .ok → Safe f b s1 P) ∧ (o ≠ .ok → P s1 o)) : Safe f (a ;; b) s P := fun n =>
  exec_seq f a b n s ▸ Res.ite (fun ho => (h n).1 ho _) fun ho => (h n).2 ho

theorem Safe.tryFinally {b fin : Prog}
    (h : Safe f b s fun s1 o => (o = .crashed → P s1 o) ∧
      (o ≠ .crashed → Safe f fin s1 fun s2 o2 => (o2 = .ok → P s2 o) ∧ (o2 ≠ .ok → P s2 o2))) :
    Safe f (.tryFinally b fin) s P := fun n =>
  exec_tryFinally f b fin n s ▸
    Res.ite (fun hc => Out.ite_ok ((h n).2 hc _)) fun hc => (h n).1 (Decidable.not_not.1 hc)

theorem Safe.tryCatch {p : Prim} {c : Catch} {hd : Prog} {rr : Bool}
    (h : Safe f (.prim p) s fun s1 o =>
      (o.caughtBy c = true → Safe f hd s1 fun s2 o2 =>
        (o2 = .ok → P s2 (if rr then o else .ok)) ∧ (o2 ≠ .ok → P s2 o2)) ∧
      (o.caughtBy c = false → P s1 o)) : Safe f (.tryCatch p c hd rr) s P := fun n =>
  exec_tryCatch f p c hd rr n s ▸
    Res.ite (fun hc => Out.ite_ok ((h n).1 hc _)) fun hc => (h n).2 (Bool.eq_false_iff.2 hc)

theorem Safe.tryElse {p : Prim} {c : Catch} {hd e : Prog}
    (h : Safe f (.prim p) s fun s1 o =>
      (o = .ok → Safe f e s1 P) ∧ (o.caughtBy c = true → Safe f hd s1 P) ∧
      (o ≠ .ok → o.caughtBy c = false → P s1 o)) : Safe f (.tryElse p c hd e) s P := fun n =>
  exec_tryElse f p c hd e n s ▸
    Res.ite (fun ho => (h n).1 ho _) fun ho =>
      Res.ite (fun hc => (h n).2.1 hc _) fun hc => (h n).2.2 ho (Bool.eq_false_iff.2 hc)

theorem Safe.prim_seq {pr : Prim} {b : Prog}
    (hst : ∀ n, (execPrim f pr n s).out ≠ .ok → (execPrim f pr n s).state = s)
    (h1 : ∀ o, o ≠ .ok → P s o) (h2 : ∀ s', pr.step s = .ok s' → Safe f b s' P) :
    Safe f (.prim pr ;; b) s P :=
  Safe.seq <| Safe.prim_atomic hst (fun s' hs => ⟨fun _ => h2 s' hs, fun h => absurd rfl h⟩)
    fun o ho => ⟨fun h => absurd h ho, fun _ => h1 o ho⟩

theorem Safe.pure_seq {pr : Prim} {b : Prog} (hp : pr.isPure = true) (h1 : ∀ o, o ≠ .ok → P s o)
    (h2 : Safe f b s P) : Safe f (.prim pr ;; b) s P :=
  Safe.prim_seq (fun n _ => execPrim_pure f hp n s) h1 fun _ hs => step_pure hp hs ▸ h2

end

/-- if the un-faulted run of `prog` from `s` returns normally, the final state satisfies `Q` -/
def Post (prog : Prog) (s : State) (Q : State → Prop) : Prop :=
  ∀ n, (exec none prog n s).out = .ok → Q (exec none prog n s).state

theorem Post.skip {s : State} {Q : State → Prop} (h : Q s) : Post .skip s Q := fun _ _ => h

theorem Post.raise {s : State} {Q : State → Prop} (x : Exc) : Post (.raise x) s Q := fun _ h => nomatch h

theorem Post.ite {c : Prop} [Decidable c] {a b : Prog} {s : State} {Q : State → Prop} (ha : c → Post a s Q)
    (hb : ¬ c → Post b s Q) : Post (if c then a else b) s Q :=
  Safe.ite (P := fun st o => o = .ok → Q st) ha hb

theorem Post.prim {p : Prim} {s : State} {Q : State → Prop} (h : ∀ s', p.step s = .ok s' → Q s') :
    Post (.prim p) s Q := fun n ho => h _ (execPrim_ok_step none p n s ho)

theorem Post.seq {a b : Prog} {s : State} {Q : State → Prop}
    (h : Post a s (fun s1 => Post b s1 Q)) : Post (a ;; b) s Q :=
  Safe.seq (P := fun st o => o = .ok → Q st) fun n => ⟨h n, fun ho ho' => absurd ho' ho⟩

theorem Post.tryFinally {b fin : Prog} {s : State} {Q : State → Prop}
    (h : Post b s (fun s1 => Post fin s1 Q)) : Post (.tryFinally b fin) s Q :=
  Safe.tryFinally (P := fun st o => o = .ok → Q st) fun n =>
    ⟨fun hc ho => (nomatch hc.symm.trans ho), fun _ m => ⟨fun ho2 ho => h n ho m ho2, fun ho2 ho => absurd ho ho2⟩⟩

theorem Post.mono {prog : Prog} {s : State} {Q Q' : State → Prop}
    (h : Post prog s Q) (hq : ∀ s', Q s' → Q' s') : Post prog s Q' := fun n ho => hq _ (h n ho)

/-- whatever is known about the final state of `prog` for *every* run can be used -/
theorem Post.of_all {prog : Prog} {s : State} {Q : State → Prop}
    (h : ∀ n, Q (exec none prog n s).state) : Post prog s Q := fun n _ => h n

/-- a run that was hit does not return, one that was not is the un-faulted run -/
theorem Safe.of_post {f : Option Fault} {prog : Prog} {s : State} {Q : State → Prop} (hpost : Post prog s Q)
    (htr : ∀ flt, f = some flt → prog.transparent flt.kind.exc = true) :
    Safe f prog s fun st o => o = .ok → Q st := by
  intro n ho
  cases f with
  | none => exact hpost n ho
  | some flt =>
    cases hh : (exec (some flt) prog n s).hit with
    | true => exact absurd ho (exec_hit_not_ok flt prog n s (htr flt rfl) hh)
    | false =>
      rw [exec_nohit_eq flt prog n s hh] at ho ⊢
      exact hpost n ho

theorem Post.tryCatch {p : Prim} {c : Catch} {hd : Prog} {rr : Bool} {s : State} {Q : State → Prop}
    (hok : ∀ s', p.step s = .ok s' → Q s')
    (herr : ∀ x, p.step s = .error x → c.matches x = true → rr = false → Post hd s Q) :
    Post (.tryCatch p c hd rr) s Q :=
  Safe.tryCatch (P := fun st o => o = .ok → Q st) <| Safe.prim_cases
    (fun s' hs => ⟨nofun, fun _ _ => hok s' hs⟩)
    (fun x hs => ⟨fun hc m => ⟨fun ho2 ho => herr x hs hc (by cases rr with | false => rfl | true => cases ho) m ho2,
      fun ho2 ho => absurd ho ho2⟩, fun _ => nofun⟩)
    (fun _ _ _ _ hf => nomatch hf)

theorem Post.tryElse {p : Prim} {c : Catch} {hd e : Prog} {s : State} {Q : State → Prop}
    (hok : ∀ s', p.step s = .ok s' → Post e s' Q)
    (herr : ∀ x, p.step s = .error x → c.matches x = true → Post hd s Q) :
    Post (.tryElse p c hd e) s Q :=
  Safe.tryElse (P := fun st o => o = .ok → Q st) <| Safe.prim_cases
    (fun s' hs => ⟨fun _ => hok s' hs, nofun, fun h => absurd rfl h⟩)
    (fun x hs => ⟨nofun, fun hc => herr x hs hc, fun _ _ => nofun⟩)
    (fun _ _ _ _ hf => nomatch hf)

theorem Post.pure {pr : Prim} {s : State} {Q : State → Prop} (hp : pr.isPure = true) (h : Q s) :
    Post (.prim pr) s Q := Post.prim fun _ hs => step_pure hp hs ▸ h

theorem Post.prim_seq {pr : Prim} {b : Prog} {s : State} {Q : State → Prop}
    (h : ∀ s', pr.step s = .ok s' → Post b s' Q) : Post (.prim pr ;; b) s Q := Post.seq (Post.prim h)

theorem Post.pure_seq {pr : Prim} {b : Prog} {s : State} {Q : State → Prop} (hp : pr.isPure = true)
    (h : Post b s Q) : Post (.prim pr ;; b) s Q := Post.seq (Post.pure hp h)

/-! ### effects of the steps of a stream copy -/

theorem nChunks_mul_ge (c len : Nat) (hc : 0 < c) : len ≤ nChunks c len * c := by
  unfold nChunks
  have h1 := Nat.div_add_mod (len + c - 1) c
  have h2 := Nat.mod_lt (len + c - 1) hc
  have h3 : c * ((len + c - 1) / c) = (len + c - 1) / c * c := Nat.mul_comm _ _
  omega

theorem openW_effect {τ : Side} {q : Path} {s s' : State} (h : (Prim.openW τ q).step s = .ok s') :
    s'.file τ q = some [] ∧ ∀ ρ x, ¬ (τ = ρ ∧ q = x) → s'.file ρ x = s.file ρ x := by
  rw [Prim.step_eff h]
  exact ⟨State.file_setFile_self .., fun ρ x => State.file_setFile_ne s τ ρ q x _⟩

theorem step_read {σ : Side} {p : Path} {off len : Nat} {s s' : State}
    (h : (Prim.read σ p off len).step s = .ok s') :
    s'.buf = (((s.file σ p).getD []).drop off).take len ∧ ∀ ρ x, s'.file ρ x = s.file ρ x := by
  rw [Prim.step_eff h]
  exact ⟨rfl, fun ρ x => State.file_buf ..⟩

theorem step_write {τ : Side} {q : Path} {cur : Bytes} {s s' : State} (hc : s.file τ q = some cur)
    (h : (Prim.write τ q).step s = .ok s') :
    s'.file τ q = some (cur ++ s.buf) ∧ ∀ ρ x, ¬ (τ = ρ ∧ q = x) → s'.file ρ x = s.file ρ x := by
  rw [Prim.step_eff h, Prim.eff, hc]
  exact ⟨State.file_setFile_self .., fun ρ x => State.file_setFile_ne s τ ρ q x _⟩

/-- the loop of `copy_file_data`: from "destination holds the first `i` chunks" to "destination
    holds the first `i + k` chunks" -/
theorem copyLoop_post (σ : Side) (p : Path) (τ : Side) (q : Path) (c : Nat) (b : Bytes)
    (hne : ¬ (τ = σ ∧ q = p)) :
    ∀ (k i : Nat) (s : State), s.file σ p = some b → s.file τ q = some (b.take (i * c)) →
      Post (copyLoop σ p τ q c i k) s
        (fun s' => s'.file τ q = some (b.take ((i + k) * c)) ∧ s'.file σ p = some b) := by
  intro k
  induction k with
  | zero =>
    intro i s hs hd
    refine Post.prim fun s' h => ?_
    rw [(step_read h).2, (step_read h).2, Nat.add_zero]
    exact ⟨hd, hs⟩
  | succ k ih =>
    intro i s hs hd
    refine Post.prim_seq fun s1 h1 => Post.prim_seq fun s2 h2 => ?_
    have r1 := step_read h1
    have w := step_write ((r1.2 τ q).trans hd) h2
    -- the chunk just read is bytes `i * c` to `(i + 1) * c` of the source
    refine Nat.succ_add_eq_add_succ i k ▸ ih (i + 1) s2 ((w.2 σ p hne).trans ((r1.2 σ p).trans hs)) ?_
    rw [w.1, r1.1, hs]
    simp [Nat.add_mul, List.take_add]

theorem copyLoop_close_post (σ : Side) (p : Path) (τ : Side) (q : Path) (c : Nat) (b : Bytes) (hc : 0 < c)
    (hne : ¬ (τ = σ ∧ q = p)) (cl : Prim) (hcl : cl.isPure = true) (s : State) (hs : s.file σ p = some b)
    (hd : s.file τ q = some []) :
    Post (.tryFinally (copyLoop σ p τ q c 0 (nChunks c b.length)) (.prim cl)) s (fun s' => s'.file τ q = some b) :=
  Post.tryFinally (Post.mono (copyLoop_post σ p τ q c b hne _ 0 s hs (by rw [hd, Nat.zero_mul]; rfl))
    fun _ h => Post.pure hcl (by rw [h.1, Nat.zero_add, List.take_of_length_le (nChunks_mul_ge c b.length hc)]))

theorem uploadCopy_post (σ : Side) (p : Path) (τ : Side) (q : Path) (c len : Nat) (b : Bytes)
    (hc : 0 < c) (hl : len = b.length) (hne : ¬ (τ = σ ∧ q = p)) (s : State) (hs : s.file σ p = some b) :
    Post (uploadCopy σ p τ q c len) s (fun s' => s'.file τ q = some b) := by
  subst hl
  refine Post.pure_seq rfl (Post.tryFinally (Post.pure_seq rfl (Post.prim_seq fun s3 h3 => ?_)))
  have e3 := openW_effect h3
  exact Post.mono (copyLoop_close_post σ p τ q c b hc hne _ rfl s3 ((e3.2 σ p hne).trans hs) e3.1)
    fun _ h => Post.pure rfl h

theorem downloadCopy_post (σ : Side) (p : Path) (τ : Side) (q : Path) (c len : Nat) (b : Bytes)
    (hc : 0 < c) (hl : len = b.length) (hne : ¬ (τ = σ ∧ q = p)) (s : State) (hs : s.file σ p = some b) :
    Post (downloadCopy σ p τ q c len) s (fun s' => s'.file τ q = some b) := by
  subst hl
  refine Post.prim_seq fun s3 h3 => ?_
  have e3 := openW_effect h3
  exact Post.tryFinally (Post.pure_seq rfl (Post.pure_seq rfl (Post.mono
    (copyLoop_close_post σ p τ q c b hc hne _ rfl s3 ((e3.2 σ p hne).trans hs) e3.1) fun _ h => Post.pure rfl h)))

theorem Post.seq_allpure {a b : Prog} {s : State} {Q : State → Prop} (hb : ∀ pr ∈ b.prims, pr.isPure = true)
    (h : Post a s Q) : Post (a ;; b) s Q :=
  Post.seq (Post.mono h fun s1 hq => Post.of_all fun n => (exec_allpure_state none b n s1 hb).symm ▸ hq)

theorem preservePart_pure (pt : Bool) (σ : Side) (p : Path) (τ : Side) (q : Path) :
    ∀ pr ∈ (preservePart pt σ p τ q).prims, pr.isPure = true := by
  cases pt
  · exact fun _ h => nomatch h
  · intro pr hpr
    rcases List.mem_cons.1 hpr with rfl | hpr
    · rfl
    · cases List.mem_singleton.1 hpr; rfl

/-! ### footprints: which file entries the steps of a program can change -/

/-- every file entry a step of `prog` can change satisfies `P` -/
def MutWithin (prog : Prog) (P : Side → Path → Prop) : Prop :=
  ∀ pr ∈ prog.prims, ∀ ρ y, pr.mutates ρ y = true → P ρ y

/-- By unfolding this is `MutWithin prog (fun ρ x => τ = ρ ∧ q = x)`: goals about `OnlyMut` are built with
    the rules of `MutWithin` directly (`NoMut` is got from `MutWithin` into `False` by `MutWithin.noMut`). -/
def OnlyMut (prog : Prog) (τ : Side) (q : Path) : Prop :=
  ∀ pr ∈ prog.prims, ∀ ρ x, pr.mutates ρ x = true → τ = ρ ∧ q = x

/-- no step of `prog` can change any file entry -/
def NoMut (prog : Prog) : Prop := ∀ pr ∈ prog.prims, ∀ ρ x, pr.mutates ρ x = false

theorem Safe.frame {prog : Prog} {F : Side → Path → Prop} (h : MutWithin prog F) {f : Option Fault} {s : State} :
    Safe f prog s fun st _ => ∀ ρ x, ¬ F ρ x → st.file ρ x = s.file ρ x :=
  fun n ρ x hn => exec_frame f ρ x prog n s fun pr hpr => Bool.eq_false_iff.2 fun hm => hn (h pr hpr ρ x hm)

theorem MutWithin.seq {a b : Prog} {P : Side → Path → Prop} (ha : MutWithin a P) (hb : MutWithin b P) :
    MutWithin (a ;; b) P := fun pr hpr => (List.mem_append.1 hpr).elim (ha pr) (hb pr)

theorem MutWithin.tryFinally {a b : Prog} {P : Side → Path → Prop} (ha : MutWithin a P)
    (hb : MutWithin b P) : MutWithin (.tryFinally a b) P :=
  fun pr hpr => (List.mem_append.1 hpr).elim (ha pr) (hb pr)

theorem MutWithin.prim {p : Prim} {P : Side → Path → Prop} (h : ∀ ρ y, p.mutates ρ y = true → P ρ y) :
    MutWithin (.prim p) P := fun _ hpr => List.mem_singleton.1 hpr ▸ h

theorem MutWithin.inert {p : Prim} {P : Side → Path → Prop} (h : ∀ ρ y, p.mutates ρ y = false) :
    MutWithin (.prim p) P := MutWithin.prim fun ρ y hm => nomatch (h ρ y).symm.trans hm

theorem MutWithin.skip {P : Side → Path → Prop} : MutWithin .skip P := fun _ hpr => nomatch hpr

theorem MutWithin.ite {c : Prop} [Decidable c] {a b : Prog} {P : Side → Path → Prop} (ha : c → MutWithin a P)
    (hb : ¬ c → MutWithin b P) : MutWithin (if c then a else b) P := iteInduction (motive := (MutWithin · P)) ha hb

theorem MutWithin.raise {P : Side → Path → Prop} {x : Exc} : MutWithin (.raise x) P :=
  fun _ hpr => nomatch hpr

theorem MutWithin.tryCatch {p : Prim} {c : Catch} {h : Prog} {rr : Bool} {P : Side → Path → Prop}
    (hp : ∀ ρ y, p.mutates ρ y = true → P ρ y) (hh : MutWithin h P) : MutWithin (.tryCatch p c h rr) P :=
  fun pr hpr => (List.mem_cons.1 hpr).elim (· ▸ hp) (hh pr)

theorem MutWithin.seqs {l : List Prog} {P : Side → Path → Prop} (h : ∀ p ∈ l, MutWithin p P) :
    MutWithin (Prog.seqs l) P := by
  induction l with
  | nil => exact MutWithin.skip
  | cons p ps ih =>
    exact MutWithin.seq (h p (List.mem_cons_self ..)) (ih fun q hq => h q (List.mem_cons_of_mem _ hq))

theorem OnlyMut.within {prog : Prog} {τ : Side} {q : Path} {P : Side → Path → Prop}
    (h : OnlyMut prog τ q) (hP : P τ q) : MutWithin prog P := by
  intro pr hpr ρ y hm
  obtain ⟨rfl, rfl⟩ := h pr hpr ρ y hm
  exact hP

theorem OnlyMut.tryFinally {a b : Prog} {τ : Side} {q : Path} (ha : OnlyMut a τ q) (hb : OnlyMut b τ q) :
    OnlyMut (.tryFinally a b) τ q := MutWithin.tryFinally ha hb

theorem NoMut.within {prog : Prog} (h : NoMut prog) (P : Side → Path → Prop) : MutWithin prog P :=
  fun pr hpr ρ y hm => nomatch (h pr hpr ρ y).symm.trans hm

theorem NoMut.only {prog : Prog} (h : NoMut prog) (τ : Side) (q : Path) : OnlyMut prog τ q := h.within _

theorem MutWithin.noMut {prog : Prog} (h : MutWithin prog (fun _ _ => False)) : NoMut prog :=
  fun pr hpr ρ x => Bool.eq_false_iff.2 fun hm => h pr hpr ρ x hm

theorem copyLoop_only (σ : Side) (p : Path) (τ : Side) (q : Path) (c : Nat) :
    ∀ k i, OnlyMut (copyLoop σ p τ q c i k) τ q
  | 0, _ => MutWithin.inert fun _ _ => rfl
  | k + 1, i =>
    MutWithin.seq (MutWithin.inert fun _ _ => rfl)
      (MutWithin.seq (MutWithin.prim fun _ _ => and_of_band) (copyLoop_only σ p τ q c k (i + 1)))

theorem uploadCopy_only (σ : Side) (p : Path) (τ : Side) (q : Path) (c len : Nat) :
    OnlyMut (uploadCopy σ p τ q c len) τ q :=
  MutWithin.seq (MutWithin.inert fun _ _ => rfl)
    (MutWithin.tryFinally
      (MutWithin.seq (MutWithin.inert fun _ _ => rfl)
        (MutWithin.seq (MutWithin.prim fun _ _ => and_of_band)
          (MutWithin.tryFinally (copyLoop_only σ p τ q c _ 0) (MutWithin.inert fun _ _ => rfl))))
      (MutWithin.inert fun _ _ => rfl))

theorem downloadCopy_only (σ : Side) (p : Path) (τ : Side) (q : Path) (c len : Nat) :
    OnlyMut (downloadCopy σ p τ q c len) τ q :=
  MutWithin.seq (MutWithin.prim fun _ _ => and_of_band)
    (MutWithin.tryFinally
      (MutWithin.seq (MutWithin.inert fun _ _ => rfl)
        (MutWithin.seq (MutWithin.inert fun _ _ => rfl)
          (MutWithin.tryFinally (copyLoop_only σ p τ q c _ 0) (MutWithin.inert fun _ _ => rfl))))
      (MutWithin.inert fun _ _ => rfl))

theorem preservePart_noMut (pt : Bool) (σ : Side) (p : Path) (τ : Side) (q : Path) :
    NoMut (preservePart pt σ p τ q) := by
  apply MutWithin.noMut
  cases pt
  · exact MutWithin.skip
  · exact MutWithin.seq (MutWithin.inert fun _ _ => rfl) (MutWithin.inert fun _ _ => rfl)

theorem fsMoveCopyPart_only (cfg : Cfg) (s : State) (σ : Side) (p : Path) (τ : Side) (q : Path) :
    OnlyMut (fsMoveCopyPart cfg s σ p τ q) τ q :=
  MutWithin.seq (uploadCopy_only _ _ _ _ _ _) ((preservePart_noMut _ _ _ _ _).within _)

theorem fsCopy_only (cfg : Cfg) (s : State) (σ : Side) (p q : Path) : OnlyMut (fsCopy cfg s σ p q) σ q := by
  unfold fsCopy
  refine MutWithin.seq (MutWithin.inert fun _ _ => rfl) ?_
  split
  · exact MutWithin.prim fun _ _ => and_of_band
  · split
    · exact MutWithin.raise
    · exact fsMoveCopyPart_only cfg s σ p σ q

theorem copyFileInternal_only (cfg : Cfg) (s : State) (p q : Path) :
    OnlyMut (copyFileInternal cfg s p q) cfg.dstSide q := by
  unfold copyFileInternal Cfg.dstSide
  split
  · split
    · exact MutWithin.raise
    · exact fsCopy_only cfg s .a p q
  · refine MutWithin.seq ?_ ((preservePart_noMut _ _ _ _ _).within _)
    split
    · exact downloadCopy_only _ _ _ _ _ _
    · exact uploadCopy_only _ _ _ _ _ _

/-! ### transparency of the move programs for the injected exceptions -/

theorem kind_exc_cases (k : Kind) : k.exc = .os ∨ k.exc = .fs .OperationFailed := by
  cases k <;> simp [Kind.exc]

theorem Prog.transparent_seqs_map {α : Type} (x : Exc) (g : α → Prog) (l : List α) :
    (Prog.seqs (l.map g)).transparent x = l.all fun a => (g a).transparent x := by
  induction l with
  | nil => rfl
  | cons a l ih => simp only [List.map, Prog.seqs, Prog.transparent, List.all, ih]

theorem Prog.transparent_ite (x : Exc) (c : Prop) [Decidable c] (a b : Prog) :
    (if c then a else b).transparent x = if c then a.transparent x else b.transparent x := apply_ite ..

theorem copyLoop_transparent (x : Exc) (σ : Side) (p : Path) (τ : Side) (q : Path) (c : Nat) :
    ∀ k i, (copyLoop σ p τ q c i k).transparent x = true := by
  intro k
  induction k with
  | zero => intro i; rfl
  | succ k ih => intro i; simp [copyLoop, Prog.transparent, ih]

theorem uploadCopy_transparent (x : Exc) (σ : Side) (p : Path) (τ : Side) (q : Path) (c len : Nat) :
    (uploadCopy σ p τ q c len).transparent x = true := by
  simp [uploadCopy, Prog.transparent, copyLoop_transparent]

theorem downloadCopy_transparent (x : Exc) (σ : Side) (p : Path) (τ : Side) (q : Path) (c len : Nat) :
    (downloadCopy σ p τ q c len).transparent x = true := by
  simp [downloadCopy, Prog.transparent, copyLoop_transparent]

theorem preservePart_transparent (x : Exc) (pt : Bool) (σ : Side) (p : Path) (τ : Side) (q : Path) :
    (preservePart pt σ p τ q).transparent x = true := by
  cases pt <;> simp [preservePart, copyModTime, Prog.transparent]

theorem fsMoveCopyPart_transparent (x : Exc) (cfg : Cfg) (s : State) (σ : Side) (p : Path) (τ : Side) (q : Path) :
    (fsMoveCopyPart cfg s σ p τ q).transparent x = true := by
  simp [fsMoveCopyPart, Prog.transparent, uploadCopy_transparent, preservePart_transparent]

theorem fsCopy_transparent (x : Exc) (cfg : Cfg) (s : State) (σ : Side) (p q : Path) :
    (fsCopy cfg s σ p q).transparent x = true := by
  unfold fsCopy
  split <;> simp [Prog.transparent, Prog.transparent_ite, uploadCopy_transparent, preservePart_transparent]

theorem copyFileInternal_transparent (x : Exc) (cfg : Cfg) (s : State) (p q : Path) :
    (copyFileInternal cfg s p q).transparent x = true := by
  unfold copyFileInternal
  cases cfg.dstB <;> simp [Prog.transparent, Prog.transparent_ite, fsCopy_transparent, uploadCopy_transparent,
    downloadCopy_transparent, preservePart_transparent]

theorem makedirsExisting_transparent (k : Kind) (τ : Side) (q : Path) :
    (makedirsExisting τ q).transparent k.exc = true := by
  cases k <;> simp [makedirsExisting, Prog.transparent, Kind.exc, Catch.matches]

theorem copyStructure_transparent (k : Kind) (cfg : Cfg) (s : State) (root droot : Path) :
    (copyStructure cfg s root droot).transparent k.exc = true := by
  simp [copyStructure, Prog.transparent, Prog.transparent_seqs_map, Prog.transparent_ite,
    makedirsExisting_transparent]

theorem copyFiles_transparent (x : Exc) (cfg : Cfg) (s : State) (root droot : Path) :
    (copyFiles cfg s root droot).transparent x = true := by
  simp [copyFiles, Prog.transparent, Prog.transparent_seqs_map, copyFileInternal_transparent]

theorem moveDirCopyPhase_transparent (k : Kind) (cfg : Cfg) (s : State) (root droot : Path) :
    (moveDirCopyPhase cfg s root droot).transparent k.exc = true := by
  simp [moveDirCopyPhase, Prog.transparent, Prog.transparent_ite, copyStructure_transparent, copyFiles_transparent]

theorem removeTree_transparent (x : Exc) (cfg : Cfg) (s : State) (root : Path) :
    (removeTree cfg s root).transparent x = true := by
  unfold removeTree
  split <;> simp [Prog.transparent, Prog.transparent_seqs_map, Prog.transparent_ite, -List.map_reverse]

theorem moveDir_transparent (k : Kind) (cfg : Cfg) (s : State) (root droot : Path) :
    (moveDir cfg s root droot).transparent k.exc = true := by
  simp [moveDir, Prog.transparent, moveDirCopyPhase_transparent, removeTree_transparent]

end Fs.Fault
