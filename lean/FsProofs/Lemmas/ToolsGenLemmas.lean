/-
  Helper lemmas for `FsProofs/ToolsGenEq.lean`; nothing here mentions the generated definitions.
  The loop of `copy_file_data` over the abstract reader, for any body `f` that agrees with `cstep chunk` (so the generated
  lambda need not be written out): fuel `len(data) + 1` suffices.
-/
import FsProofs.Lemmas.PyLoop
import FsProofs.Lemmas.CopyLemmas

namespace Fs.ToolsGenLemmas
open Fs Fs.PyStr Fs.PyLoop Fs.File Fs.CopyLemmas

/-- one round of `for chunk in iter(lambda: read(n) or None, None): write(chunk)` -/
def cstep (chunk : Int) (s : Reader × Bytes) : Flow (Reader × Bytes) Empty :=
  if (s.1.read chunk).1.isEmpty then .brk ((s.1.read chunk).2, s.2)
  else .next ((s.1.read chunk).2, s.2 ++ (s.1.read chunk).1)

theorem pyWhile_cstep (chunk : Int) (hc : chunk ≠ 0) (f : Reader × Bytes → Flow (Reader × Bytes) Empty)
    (hf : ∀ s, f s = cstep chunk s) (fuel : Nat) (r : Reader) (out : Bytes) (h : r.data.length < fuel) :
    ∃ r', pyWhile fuel (r, out) f = .done (r', out ++ r.data) := by
  refine pyWhile_rule f (·.1.data.length) (fun s o => ∃ r', o = .done (r', s.2 ++ s.1.data))
    (fun s => ?_) fuel (r, out) h
  obtain ⟨r, out⟩ := s
  rw [hf, cstep]
  simp only [read_isEmpty r chunk hc]
  cases hd : r.data.isEmpty with
  | true => exact ⟨(r.read chunk).2, by rw [List.isEmpty_iff.mp hd, List.append_nil]⟩
  | false =>
    rw [if_neg (by simp)]
    refine ⟨read_rest_lt r chunk hc hd, fun o ⟨r', hr⟩ => ⟨r', ?_⟩⟩
    rw [hr, List.append_assoc, read_append]

theorem pyOrOptInt_eq (chunk : Option Int) :
    pyOrOptInt chunk (Int.ofNat ((1024 : Nat) * (1024 : Nat))) = effChunk chunk := by
  cases chunk with
  | none => rfl
  | some c =>
    simp only [pyOrOptInt, effChunk]
    by_cases h : c = 0 <;> simp [h]

theorem effChunk_ne_zero (chunk : Option Int) : effChunk chunk ≠ 0 :=
  CopyLemmas.effChunk_ne_zero chunk

end Fs.ToolsGenLemmas
