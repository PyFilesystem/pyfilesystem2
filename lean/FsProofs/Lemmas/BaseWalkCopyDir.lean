/-
  `copy_dir` (both walks) and `FS.copydir`, then (`Fs.BaseWalkMoveDir`) `move_dir` and `FS.movedir`, over the
  primitives of `Ref.step`, source and destination not overlapping.  `MoveRuns` is declared into `Fs.BaseWalkLaws`,
  the name under which `BaseWalkLaws.movedir_ref_cases` states it; it stands here because
  `BaseWalkAdm.movedir_P_rejected` needs it.
-/
import FsProofs.Lemmas.BaseWalkCopy
import FsProofs.Lemmas.MemLemmas

namespace Fs.BaseWalkCopyDir
open Fs Fs.Ref Fs.BaseWalk Fs.TreeLemmas Fs.WrapLemmas Fs.BaseWalkPrim Fs.BaseWalkRm Fs.BaseWalkSpec
  Fs.BaseWalkCopy Fs.BaseWalkMerge

/-- the two walks of `copy_dir_if`, after `makedirs(dst)` -/
def phases (fuel : Nat) (a b : Str) (s : State) : State × Out :=
  match structLoop PR a b fuel [a] s with
  | (s4, .ok _) => filesLoop PR a b fuel [a] s4
  | r => r

theorem recNode_isDir {ph : Phase} {S D D1 : Node} (h : recNode ph S D = some D1) : D1.isDir = true := by
  obtain ⟨_, _, _, d2, _, _, _, _, rfl⟩ := recNode_inv h
  rfl

theorem state_eta (t : State) (h : t.closed = false) : ({ root := t.root, closed := false } : State) = t := by
  cases t; simp_all

/-- the result of `copy_dir` against the reference's merge: where the merge succeeds the destination is the
tree-level `opMerge`, which shows what the merge shows; where it has a conflict the structure walk fails
(`DirectoryExpected`), else the file walk (`FileExpected`), and only the sub-tree at `b` has changed.
`fin` is what is done to the tree afterwards (`move_dir` deletes the source). -/
def CopyOutcome (fin : Node → Node) (root1 : Node) (b : List Name) (es ds0 : Ents) (r : State × Out) : Prop :=
  match mergeEnts es ds0 with
  | some m => ∃ d2, entsWf d2 = true ∧ opMerge (.dir es) (.dir ds0) = some (.dir d2) ∧ ObsEq (.dir d2) (.dir m) ∧
      r = ({ root := fin (setAt root1 b (.dir d2)), closed := false }, .ok .unit)
  | none => ∃ D' c, r = ({ root := setAt root1 b D', closed := false }, .err c) ∧
      ((c = .DirectoryExpected ∧ recNode .struct (.dir es) (.dir ds0) = none) ∨
       (c = .FileExpected ∧ ∃ D1, recNode .struct (.dir es) (.dir ds0) = some D1 ∧ recNode .files (.dir es) D1 = none))

theorem phases_ref (fuel : Nat) (t : State) (G : GoodS t) (a b : List Name) (ha : CleanN a) (hb : CleanN b)
    (inc : Inc a b) (es ds0 : Ents) (hga : t.root.get a = some (.dir es)) (hgb : t.root.get b = some (.dir ds0))
    (hf : (Node.dir es).count < fuel) : CopyOutcome id t.root b es ds0 (phases fuel (absOf a) (absOf b) t) := by
  let C : Ctx := { root0 := t.root, a := a, b := b, S := .dir es, hdir := G.dir, hwf := G.wf, ha := ha, hb := hb,
                   inc := inc, hS := hga, hB := by simp [hgb] }
  have hwe : entsWf es = true := TreeLemmas.entsWf_of_get G.wf hga
  have hwd : entsWf ds0 = true := TreeLemmas.entsWf_of_get G.wf hgb
  have ht : C.st (.dir ds0) = t := by
    show ({ root := setAt t.root b (.dir ds0), closed := false } : State) = t
    rw [setAt_self _ _ _ hgb]; exact state_eta t G.opn
  have h1 := walk_root C .struct _ (visitSpec_struct C) fuel es rfl (.dir ds0) (wf_dir.2 hwd) rfl ⟨ds0, rfl⟩ hf
  rw [ht] at h1
  have h2 := fun D1 (hst : recNode .struct (.dir es) (.dir ds0) = some D1) =>
    walk_root C .files _ (visitSpec_files C) fuel es rfl D1 (recNode_wf .struct _ _ D1 (wf_dir.2 hwe) (wf_dir.2 hwd) hst)
      (recNode_isDir hst) (struct_cov (.dir es) _ D1 (wf_dir.2 hwe) hst) hf
  unfold CopyOutcome phases
  cases hm : mergeEnts es ds0 with
  | some m =>
    obtain ⟨m1, m2, hst, hfl, _, hw2, hobs⟩ := merge_some es ds0 m hwe hwd hm
    refine ⟨m2, hw2, by simp [opMerge, hst, hfl], hobs, ?_⟩
    rw [show structLoop PR (absOf a) (absOf b) fuel [absOf a] t = _ from h1.1 _ hst]
    exact (h2 _ hst).1 _ hfl
  | none =>
    rcases merge_none es ds0 hwe hwd hm with hst | ⟨m1, hst, hfl⟩
    · obtain ⟨D', hD'⟩ := h1.2 hst
      exact ⟨D', _, by rw [show structLoop PR (absOf a) (absOf b) fuel [absOf a] t = _ from hD']; rfl,
        Or.inl ⟨rfl, hst⟩⟩
    · obtain ⟨D', hD'⟩ := (h2 _ hst).2 hfl
      refine ⟨D', _, ?_, Or.inr ⟨rfl, _, hst, hfl⟩⟩
      rw [show structLoop PR (absOf a) (absOf b) fuel [absOf a] t = _ from h1.1 _ hst]
      exact hD'

/-- `copy_dir` on clean absolute paths: `makedirs(dst, recreate=True)`, then the two walks -/
theorem copyDir_unfold (fuel : Nat) (t : State) (G : GoodS t) (a b : List Name) (ha : CleanN a) (hb : CleanN b)
    (hab : ¬ a <+: b) :
    copyDir PR fuel t (absOf a) (absOf b) =
      match step1 t b (.makedirs (absOf b) true) with
      | (s3, .ok _) => phases fuel (absOf a) (absOf b) s3
      | r => r := by
  have hv1 : PR.validatepath t (absOf a) = (t, .ok (absOf a)) := validateOf_ref_absOf _ G.opn ha
  have hv2 : PR.validatepath t (absOf b) = (t, .ok (absOf b)) := validateOf_ref_absOf _ G.opn hb
  have hmk : PR.makedirs t (absOf b) = step1 t b (.makedirs (absOf b) true) := by
    show Ref.step t (.makedirs _ true) = _
    exact ref_one _ G.opn _ hb rfl
  simp only [copyDir, normRes_absOf ha, normRes_absOf hb, hv1, hv2, isbase_absOf_false ha hb hab,
    Bool.false_eq_true, if_false, hmk, phases]
  rcases step1 t b (.makedirs (absOf b) true) with ⟨s3, v | e⟩
  · simp only
    rcases structLoop PR (absOf a) (absOf b) fuel [absOf a] s3 with ⟨s4, _ | _⟩ <;> rfl
  · rfl

/-! ### `FS.copydir`: the argument checks -/

theorem whenExists_ref {t : State} (G : GoodS t) {x : Str} {cs : List Name} (hv : validate x = .ok cs)
    (create : Bool) (k : State → State × Out) :
    whenExists create (fun t => PR.exists_ t x) t k =
      if !create && (t.root.get cs).isNone then (t, .err .ResourceNotFound) else k t := by
  have hex : PR.exists_ t x = (t, .ok (.bool (t.root.get cs).isSome)) := by
    show Ref.step t (.exists_ x) = _
    rw [QueryLemmas.step_admitted G.opn rfl hv (by nofun)]
    rfl
  rw [whenExists_eq hex]
  cases t.root.get cs <;> rfl

theorem whenDir_ref {t : State} (G : GoodS t) {x : Str} {cs : List Name} (hv : validate x = .ok cs)
    (k : State → State × Out) :
    whenDir (PR.getinfo t x) k = match t.root.get cs with
      | none => (t, .err .ResourceNotFound)
      | some (.file _) => (t, .err .DirectoryExpected)
      | some (.dir _) => k t := by
  show whenDir (Ref.step t (.getinfo x)) k = _
  rw [QueryLemmas.step_admitted G.opn rfl hv (by nofun)]
  simp only [step1]
  rcases t.root.get cs with _ | ⟨_ | _⟩ <;> rfl

/-- `FS.copydir` over the reference's primitives on paths that validate, the destination not inside the
source: the checks in the order of the code, then `copy_dir` -/
theorem copydir_checks (fuel : Nat) (t : State) (G : GoodS t) (p q : Str) (create : Bool) (a b : List Name)
    (hva : validate p = .ok a) (hvb : validate q = .ok b) (hab : ¬ a <+: b) :
    copydir PR fuel t p q create =
      if !create && (t.root.get b).isNone then (t, .err .ResourceNotFound)
      else match t.root.get a with
        | none => (t, .err .ResourceNotFound)
        | some (.file _) => (t, .err .DirectoryExpected)
        | some (.dir _) => copyDir PR fuel t (absOf a) (absOf b) := by
  have ha : CleanN a := TreeLemmas.validate_clean p a hva
  have hb : CleanN b := TreeLemmas.validate_clean q b hvb
  have hv1 := validatepath_ref G hva
  have hv2 := validatepath_ref G hvb
  simp only [copydir, hv1, hv2, isbase_absOf_false ha hb hab, Bool.false_eq_true, if_false,
    whenExists_ref G (validate_absOf hb), whenDir_ref G (validate_absOf ha)]

theorem copydir_existing (fuel : Nat) (t : State) (G : GoodS t) (p q : Str) (create : Bool) (a b : List Name)
    (hva : validate p = .ok a) (hvb : validate q = .ok b) (inc : Inc a b) (es ds : Ents)
    (hga : t.root.get a = some (.dir es)) (hgb : t.root.get b = some (.dir ds)) (hf : (Node.dir es).count < fuel) :
    CopyOutcome id t.root b es ds (copydir PR fuel t p q create) := by
  have ha : CleanN a := TreeLemmas.validate_clean p a hva
  have hb : CleanN b := TreeLemmas.validate_clean q b hvb
  rw [copydir_checks fuel t G p q create a b hva hvb inc.1, hga, hgb, copyDir_unfold fuel t G a b ha hb inc.1]
  have hnb : blockedByFile t.root [] b = false := TreeLemmas.not_blocked_of_get t.root _ [] b (by simpa using hgb)
  simp only [Option.isNone_some, Bool.and_false, Bool.false_eq_true, if_false, step1, hnb, hgb, if_true, done]
  exact phases_ref fuel t G a b ha hb inc es ds hga hgb hf

theorem copydir_created (fuel : Nat) (t : State) (G : GoodS t) (p q : Str) (a b : List Name)
    (hva : validate p = .ok a) (hvb : validate q = .ok b) (inc : Inc a b) (es : Ents)
    (hga : t.root.get a = some (.dir es)) (hgb : t.root.get b = none) (hnb : blockedByFile t.root [] b = false)
    (hf : (Node.dir es).count < fuel) :
    CopyOutcome id (mkdirs [] b t.root) b es [] (copydir PR fuel t p q true) := by
  have ha : CleanN a := TreeLemmas.validate_clean p a hva
  have hb : CleanN b := TreeLemmas.validate_clean q b hvb
  rw [copydir_checks fuel t G p q true a b hva hvb inc.1, hga, copyDir_unfold fuel t G a b ha hb inc.1]
  simp only [Bool.not_true, Bool.false_and, Bool.false_eq_true, if_false, step1, hnb, hgb, upd]
  have G1 : GoodS { t with root := mkdirs [] b t.root } :=
    ⟨G.opn, by rw [TreeLemmas.isDir_mkdirs]; exact G.dir, TreeLemmas.mkdirs_wf [] b _ hb G.wf⟩
  have hga1 : (mkdirs [] b t.root).get a = some (.dir es) := mkdirs_keep b [] a _ _ hga (by simpa using inc.1)
  have hgb1 : (mkdirs [] b t.root).get b = some (.dir []) :=
    TreeLemmas.mkdirs_get_new G.dir hnb hgb
  exact phases_ref fuel _ G1 a b ha hb inc es [] hga1 hgb1 hf

/-- the region in which `FS.copydir` gets to its walks -/
def CopyRuns (s : State) (a b : List Name) (create : Bool) : Prop :=
  (∃ es, s.root.get a = some (.dir es)) ∧
    ((∃ ds, s.root.get b = some (.dir ds)) ∨ (s.root.get b = none ∧ create = true ∧ blockedByFile s.root [] b = false))

theorem ref_copydir_rejected_iff (s : State) (a b : List Name) (p q : Str) (create : Bool) (hab : ¬ a <+: b) :
    (∃ e, step2 s a b (.copydir p q create) = (s, .err e) ∧ e ≠ .OperationFailed) ↔ ¬ CopyRuns s a b create := by
  have hip : isPrefix a b = false := TreeLemmas.isPrefix_false_iff.2 hab
  constructor
  · rintro ⟨e, he, hne⟩ ⟨⟨es, hga⟩, ⟨ds, hgb⟩ | ⟨hgb, rfl, hbl⟩⟩
    · simp only [step2, hip, Bool.false_eq_true, if_false, hgb, hga] at he
      cases hm : mergeEnts es ds with
      | none =>
        rw [hm] at he
        cases he
        exact hne rfl
      | some m => rw [hm] at he; cases (Prod.mk.inj he).2
    · simp only [step2, hip, hgb, hga, hbl, Bool.not_true, Bool.false_eq_true, if_false] at he
      cases (Prod.mk.inj he).2
  · intro hno
    simp only [step2, hip, Bool.false_eq_true, if_false]
    rcases hgb : s.root.get b with _ | ⟨fb | ds⟩
    · cases create
      · exact ⟨_, rfl, by simp⟩
      · rcases hga : s.root.get a with _ | ⟨fa | es⟩
        · exact ⟨_, rfl, by simp⟩
        · exact ⟨_, rfl, by simp⟩
        · cases hbl : blockedByFile s.root [] b
          · exact absurd ⟨⟨es, hga⟩, Or.inr ⟨hgb, rfl, hbl⟩⟩ hno
          · exact ⟨_, rfl, by simp⟩
    · rcases hga : s.root.get a with _ | ⟨fa | es⟩ <;> exact ⟨_, rfl, by simp⟩
    · rcases hga : s.root.get a with _ | ⟨fa | es⟩
      · exact ⟨_, rfl, by simp⟩
      · exact ⟨_, rfl, by simp⟩
      · exact absurd ⟨⟨es, hga⟩, Or.inl ⟨ds, hgb⟩⟩ hno

/-- outside `CopyRuns` the call fails in its argument checks / in `makedirs` -/
theorem copydir_rejected (fuel : Nat) (t : State) (G : GoodS t) (p q : Str) (create : Bool) (a b : List Name)
    (hva : validate p = .ok a) (hvb : validate q = .ok b) (hab : ¬ a <+: b) (hno : ¬ CopyRuns t a b create) :
    copydir PR fuel t p q create = step2 t a b (.copydir p q create) := by
  have ha : CleanN a := TreeLemmas.validate_clean p a hva
  have hb : CleanN b := TreeLemmas.validate_clean q b hvb
  have hip : isPrefix a b = false := TreeLemmas.isPrefix_false_iff.2 hab
  rw [copydir_checks fuel t G p q create a b hva hvb hab]
  simp only [step2, hip, Bool.false_eq_true, if_false]
  rcases hga : t.root.get a with _ | ⟨fa | es⟩
  · cases create <;> rcases hgb : t.root.get b with _ | ⟨fb | ds⟩ <;> simp [fail]
  · cases create <;> rcases hgb : t.root.get b with _ | ⟨fb | ds⟩ <;> simp [fail]
  · rcases hgb : t.root.get b with _ | ⟨fb | ds⟩
    · cases create
      · simp [fail]
      · cases hbl : blockedByFile t.root [] b
        · exact absurd ⟨⟨es, hga⟩, Or.inr ⟨hgb, rfl, hbl⟩⟩ hno
        · simp [fail, copyDir_unfold fuel t G a b ha hb hab, step1, hbl]
    · have hbl : blockedByFile t.root [] b = false := TreeLemmas.not_blocked_of_get t.root _ [] b (by simpa using hgb)
      cases create <;> simp [fail, copyDir_unfold fuel t G a b ha hb hab, step1, hbl, hgb]
    · exact absurd ⟨⟨es, hga⟩, Or.inl ⟨ds, hgb⟩⟩ hno

end Fs.BaseWalkCopyDir

/-! ## `FS.movedir` / `move_dir` -/

namespace Fs.BaseWalkLaws
open Fs Fs.Ref

/-- the region in which `move_dir` gets to its `copy_dir`: the source is a directory, the destination is a
directory or is created below an existing directory -/
def MoveRuns (s : State) (a b : List Name) (create : Bool) : Prop :=
  (∃ es, s.root.get a = some (.dir es)) ∧
    ((∃ ds, s.root.get b = some (.dir ds)) ∨
     (s.root.get b = none ∧ create = true ∧ ∃ ps, s.root.get (parentOf b) = some (.dir ps)))

end Fs.BaseWalkLaws

namespace Fs.BaseWalkMoveDir
open Fs Fs.Ref Fs.BaseWalk Fs.TreeLemmas Fs.WrapLemmas Fs.BaseWalkPrim Fs.BaseWalkRm Fs.BaseWalkSpec
  Fs.BaseWalkMerge Fs.BaseWalkCopyDir

/-- `copy_dir` called with raw paths that validate is `copy_dir` on the normalised ones -/
theorem copyDir_raw (fuel : Nat) (t : State) (G : GoodS t) (p q : Str) (a b : List Name)
    (hva : validate p = .ok a) (hvb : validate q = .ok b) :
    copyDir PR fuel t p q = copyDir PR fuel t (absOf a) (absOf b) := by
  have ha : CleanN a := TreeLemmas.validate_clean p a hva
  have hb : CleanN b := TreeLemmas.validate_clean q b hvb
  have hv1 := validatepath_ref G hva
  have hv2 := validatepath_ref G hvb
  have hv1' : PR.validatepath t (absOf a) = (t, .ok (absOf a)) := validateOf_ref_absOf _ G.opn ha
  have hv2' : PR.validatepath t (absOf b) = (t, .ok (absOf b)) := validateOf_ref_absOf _ G.opn hb
  simp only [copyDir, normRes_of_validate hva, normRes_of_validate hvb, normRes_absOf ha, normRes_absOf hb,
    hv1, hv2, hv1', hv2']

theorem movedir_checks (rt : State → Str → State × Out) (fuel : Nat) (t : State) (G : GoodS t) (p q : Str)
    (create : Bool) (a b : List Name) (hva : validate p = .ok a) (hvb : validate q = .ok b) (hab : ¬ a <+: b) :
    movedir PR rt fuel t p q create =
      if !create && (t.root.get b).isNone then (t, .err .ResourceNotFound)
      else match t.root.get a with
        | none => (t, .err .ResourceNotFound)
        | some (.file _) => (t, .err .DirectoryExpected)
        | some (.dir _) => moveDirBody PR rt fuel t p q := by
  have ha : CleanN a := TreeLemmas.validate_clean p a hva
  have hb : CleanN b := TreeLemmas.validate_clean q b hvb
  have hv1 := validatepath_ref G hva
  have hv2 := validatepath_ref G hvb
  have hne' : absOf a ≠ absOf b := fun e => hab ((absOf_inj ha hb).1 e ▸ List.prefix_refl _)
  simp only [movedir, hv1, hv2, hne', isbase_absOf_false ha hb hab, Bool.false_eq_true, if_false, moveDir,
    whenExists_ref G hvb, whenDir_ref G hva]

/-- the `removetree` the move ends with behaves like the reference's on the source (the base-class walker
with enough fuel: `removetree_ref_valid`; the class's own: refinement) -/
def RtSpec (rt : State → Str → State × Out) (fuel : Nat) (p : Str) (a : List Name) : Prop :=
  ∀ s, GoodS s → subCount s.root a < fuel → rt s p = Ref.step s (.removetree p)

theorem rtSpec_base (fuel : Nat) (p : Str) (a : List Name) (hva : validate p = .ok a) :
    RtSpec (removetree PR fuel) fuel p a :=
  fun s G hf => removetree_ref_valid fuel s G p a hva hf

theorem rtSpec_own (fuel : Nat) (p : Str) (a : List Name) :
    RtSpec (fun s x => Ref.step s (.removetree x)) fuel p a := fun _ _ _ => rfl

/-- a conflict stops the call BEFORE anything is removed from the source -/
theorem move_finish (rt : State → Str → State × Out) (fuel : Nat) (p : Str) (a b : List Name)
    (hva : validate p = .ok a) (hrt : RtSpec rt fuel p a) (inc : Inc a b) (hb : CleanN b)
    (root2 : Node) (hd2 : root2.isDir = true) (hw2 : root2.wf = true) (es ds0 : Ents)
    (hga : root2.get a = some (.dir es)) (hf : (Node.dir es).count < fuel)
    (r : State × Out) (h : CopyOutcome id root2 b es ds0 r) :
    CopyOutcome (·.del a) root2 b es ds0 (andThen r fun t3 => rt t3 p) := by
  unfold CopyOutcome at h ⊢
  cases hm : mergeEnts es ds0 with
  | none =>
    rw [hm] at h
    obtain ⟨D', c, rfl, hc⟩ := h
    exact ⟨D', c, rfl, hc⟩
  | some m =>
    rw [hm] at h
    obtain ⟨d2, hD2w, hop, hobs, rfl⟩ := h
    refine ⟨d2, hD2w, hop, hobs, ?_⟩
    have G3 : GoodS { root := setAt root2 b (.dir d2), closed := false } :=
      ⟨rfl, TreeLemmas.isDir_setAt_dir _ _ _ hd2, TreeLemmas.setAt_wf _ _ _ hb hw2 hD2w⟩
    have hga3 : (setAt root2 b (.dir d2)).get a = some (.dir es) := by
      rw [get_setAt_diverge _ _ _ _ inc.2 inc.1]; exact hga
    have hane : a ≠ [] := MountTree.Diverge.ne_nil_left inc
    simp only [andThen, id]
    rw [hrt _ G3 (by simpa [subCount, hga3] using hf), QueryLemmas.step_admitted G3.opn rfl hva (by nofun)]
    simp [step1, hane, hga3, upd]

theorem moveDirBody_after_makedir (rt : State → Str → State × Out) (fuel : Nat) (t t2 : State) (G2 : GoodS t2)
    (p q : Str) (a b : List Name) (hva : validate p = .ok a) (hvb : validate q = .ok b) (inc : Inc a b)
    (hrt : RtSpec rt fuel p a) (hmk : PR.makedir t q = (t2, .ok .unit)) (es ds0 : Ents)
    (hga : t2.root.get a = some (.dir es)) (hgb : t2.root.get b = some (.dir ds0))
    (hf : (Node.dir es).count < fuel) :
    CopyOutcome (·.del a) t2.root b es ds0 (moveDirBody PR rt fuel t p q) := by
  have ha : CleanN a := TreeLemmas.validate_clean p a hva
  have hb : CleanN b := TreeLemmas.validate_clean q b hvb
  have hnb : blockedByFile t2.root [] b = false := TreeLemmas.not_blocked_of_get _ _ [] b (by simpa using hgb)
  have hcd : copyDir PR fuel t2 p q = phases fuel (absOf a) (absOf b) t2 := by
    rw [copyDir_raw fuel t2 G2 p q a b hva hvb, copyDir_unfold fuel t2 G2 a b ha hb inc.1]
    simp [step1, hnb, hgb, done]
  simp only [moveDirBody, hmk, hcd, andThen]
  exact move_finish rt fuel p a b hva hrt inc hb t2.root G2.dir G2.wf es ds0 hga hf _
    (phases_ref fuel t2 G2 a b ha hb inc es ds0 hga hgb hf)

/-- `move_dir`'s body when the source is a directory and the destination an existing directory -/
theorem moveDirBody_existing (rt : State → Str → State × Out) (fuel : Nat) (t : State) (G : GoodS t) (p q : Str)
    (a b : List Name) (hva : validate p = .ok a) (hvb : validate q = .ok b) (inc : Inc a b)
    (hrt : RtSpec rt fuel p a) (es ds : Ents) (hga : t.root.get a = some (.dir es))
    (hgb : t.root.get b = some (.dir ds)) (hf : (Node.dir es).count < fuel) :
    CopyOutcome (·.del a) t.root b es ds (moveDirBody PR rt fuel t p q) := by
  have hbne : b ≠ [] := MountTree.Diverge.ne_nil_right inc
  obtain ⟨ps, hps⟩ := get_parent_dir hbne hgb
  have hmk : PR.makedir t q = (t, .ok .unit) := by
    show Ref.step t (.makedir q true) = _
    rw [QueryLemmas.step_admitted G.opn rfl hvb (by nofun)]
    have hps' : t.root.get (parentOf b) = some (.dir ps) := hps
    simp [step1, hbne, hps', hgb, done]
  exact moveDirBody_after_makedir rt fuel t t G p q a b hva hvb inc hrt hmk es ds hga hgb hf

/-- … and when the destination is missing below an existing directory: `makedir` creates it empty -/
theorem moveDirBody_created (rt : State → Str → State × Out) (fuel : Nat) (t : State) (G : GoodS t) (p q : Str)
    (a b : List Name) (hva : validate p = .ok a) (hvb : validate q = .ok b) (inc : Inc a b)
    (hrt : RtSpec rt fuel p a) (es ps : Ents) (hga : t.root.get a = some (.dir es))
    (hgb : t.root.get b = none) (hpar : t.root.get (parentOf b) = some (.dir ps)) (hf : (Node.dir es).count < fuel) :
    CopyOutcome (·.del a) (t.root.set b (.dir [])) b es [] (moveDirBody PR rt fuel t p q) := by
  have hb : CleanN b := TreeLemmas.validate_clean q b hvb
  have hbne : b ≠ [] := MountTree.Diverge.ne_nil_right inc
  have hmk : PR.makedir t q = ({ t with root := t.root.set b (.dir []) }, .ok .unit) := by
    show Ref.step t (.makedir q true) = _
    rw [QueryLemmas.step_admitted G.opn rfl hvb (by nofun)]
    simp [step1, hbne, hpar, hgb, upd]
  have G2 : GoodS { t with root := t.root.set b (.dir []) } :=
    ⟨G.opn, by rw [TreeLemmas.isDir_set]; exact G.dir, TreeLemmas.set_wf _ _ _ hb (by simp [Node.wf, entsWf]) G.wf⟩
  exact moveDirBody_after_makedir rt fuel t _ G2 p q a b hva hvb inc hrt hmk es []
    (by rw [get_set_disjoint _ _ _ _ inc.2 inc.1]; exact hga) (get_set_same b _ _ ps hbne hpar) hf

end Fs.BaseWalkMoveDir
