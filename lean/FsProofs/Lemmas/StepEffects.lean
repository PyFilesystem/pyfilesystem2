/-
  The reference step seen through its effects: `step_case` says which of `step1`/`step2` a call runs, `Eff1` (with
  `eff1`, in StepAct) and `Eff2` list every way these can change the tree; well-formedness, the directory root and
  the frame conditions are read off them.
  Namespace `Fs.TreeLemmas`, where StepAct puts `Eff1`: what an effect says is a fact about two trees.
-/
import FsProofs.Lemmas.TreeLemmas
import FsProofs.Lemmas.StepLemmas
import FsProofs.Lemmas.Refusal
import FsProofs.Lemmas.StepAct

namespace Fs.TreeLemmas
open Fs Fs.Ref

/-! ### the shape of `step` -/

inductive StepCase (s : State) (op : Op) : Prop
  | close : op = .close → step s op = ({ s with closed := true }, .ok .unit) → StepCase s op
  | fail (e : Err) : op ≠ .close → step s op = (s, .err e) → StepCase s op
  | one (p : Str) (cs : List Name) : s.closed = false → op.paths = [p] → validate p = .ok cs →
      step s op = step1 s cs op → StepCase s op
  | two (p q : Str) (a b : List Name) : s.closed = false → op.paths = [p, q] → validate p = .ok a →
      validate q = .ok b → step s op = step2 s a b op → StepCase s op

theorem step_case (s : State) (op : Op) : StepCase s op := by
  cases hc : s.closed with
  | true =>
    by_cases hop : op = .close
    · subst hop; exact .close rfl rfl
    · exact .fail _ hop (QueryLemmas.step_closed s op hop hc)
  | false =>
    cases QueryLemmas.front s op hc with
    | close h => subst h; exact .close rfl rfl
    | refused e hr hs _ => exact .fail e (by rintro rfl; cases hr) hs
    | one p cs hp _ hv hs _ => exact .one p cs hc hp hv hs
    | two p q a b hp hva hvb hs _ => exact .two p q a b hc hp hva hvb hs

/-- a call that returned went through the operation proper -/
theorem step_two_ok {st : State} {op : Op} {p q : Str} {a b : List Name} {v : Val}
    (hp : op.paths = [p, q]) (ha : validate p = .ok a) (hb : validate q = .ok b)
    (hok : (step st op).2 = .ok v) : step st op = step2 st a b op := by
  cases hc : st.closed
  · rw [QueryLemmas.step_two st op p q hc hp, ha, hb]
  · rw [QueryLemmas.step_closed st op (by rintro rfl; cases hp) hc] at hok; cases hok

theorem step_one_ok {st : State} {op : Op} {p : Str} {a : List Name} {v : Val}
    (hp : op.paths = [p]) (ha : validate p = .ok a)
    (hok : (step st op).2 = .ok v) : step st op = step1 st a op := by
  cases step_case st op with
  | close h _ => subst h; cases hp
  | fail e _ h => rw [h] at hok; cases hok
  | one p' cs _ hp' ha' h => cases hp.symm.trans hp'; cases ha.symm.trans ha'; exact h
  | two p' q' a' b' _ hp' _ _ _ => cases hp.symm.trans hp'

/-- every possible effect of a two-path operation on the state -/
inductive Eff2 (st : State) (a b : List Name) (op : Op) : State × Out → Prop
  | fail (e : Err) : e ∈ adm2 st.root a b op ∨ e = .OperationFailed → Eff2 st a b op (st, .err e)
  | noop (v : Val) : ((∃ p q c, op = .move p q c ∨ op = .copy p q c ∨ op = .movedir p q c ∨
      op = .copydir p q c) → a = b) → Eff2 st a b op (st, .ok v)
  | move (data : Bytes) (ps : Ents) : st.root.get a = some (.file data) → a ≠ b → b ≠ [] →
      st.root.get b.dropLast = some (.dir ps) → (∀ ds, st.root.get b ≠ some (.dir ds)) →
      (∃ p q o, op = .move p q o) →
      Eff2 st a b op (upd st ((st.root.set b (.file data)).del a))
  | copy (data : Bytes) (ps : Ents) : st.root.get a = some (.file data) → a ≠ b → b ≠ [] →
      st.root.get b.dropLast = some (.dir ps) → (∀ ds, st.root.get b ≠ some (.dir ds)) →
      (∃ p q o, op = .copy p q o) →
      Eff2 st a b op (upd st (st.root.set b (.file data)))
  | movedirMerge (es ds0 ds m : Ents) : a ≠ b → isPrefix a b = false →
      st.root.get a = some (.dir es) → st.root.get b = some (.dir ds0) →
      (st.root.del a).get b = some (.dir ds) → mergeEnts es ds = some m →
      (∃ p q c, op = .movedir p q c) →
      Eff2 st a b op (upd st (setAt (st.root.del a) b (.dir m)))
  | movedirNew (es ps : Ents) : a ≠ b → isPrefix a b = false →
      st.root.get a = some (.dir es) → st.root.get b = none →
      st.root.get b.dropLast = some (.dir ps) → (∃ p q c, op = .movedir p q c) →
      Eff2 st a b op (upd st ((st.root.set b (.dir es)).del a))
  | copydirMerge (es ds m : Ents) : isPrefix a b = false →
      st.root.get a = some (.dir es) → st.root.get b = some (.dir ds) →
      mergeEnts es ds = some m → (∃ p q c, op = .copydir p q c) →
      Eff2 st a b op (upd st (setAt st.root b (.dir m)))
  | copydirNew (es : Ents) : isPrefix a b = false →
      st.root.get a = some (.dir es) → st.root.get b = none →
      blockedByFile st.root [] b = false → (∃ p q c, op = .copydir p q c) →
      Eff2 st a b op (upd st ((mkdirs [] b st.root).set b (.dir es)))

open QueryLemmas in
/-- the class of a failure is in `adm2`, the loose mid-way failure of a merge aside -/
theorem eff2 (st : State) (a b : List Name) (op : Op) : Eff2 st a b op (step2 st a b op) := by
  have F : ∀ {e}, e ∈ adm2 st.root a b op → Eff2 st a b op (st, .err e) := fun h => .fail _ (.inl h)
  cases op with
  | move p q o =>
    -- `simp only` here, `dsimp only` in the other arms: it makes Lean store `adm2.eq_*` in this module;
    -- otherwise every later declaration that runs `simp [adm2]` generates them again for itself
    simp only [adm2] at F
    simp only [step2]
    split
    · next ha => exact F (by simp [notFound_mem_admFileArg ha])
    · next ha => exact F (by simp [fileExpected_mem_admFileArg ha])
    · next data ha =>
      split
      · next hd =>
        simp only [Bool.and_eq_true, Bool.not_eq_true'] at hd
        exact F (by simp [hd.1, kindAt_ne_none hd.2])
      · split
        · next hab => exact .noop _ (fun _ => hab)
        · next hab =>
          split
          · next h0 => subst h0; exact F (by simp [hab, fileExpected_mem_admFileTarget_nil])
          · next hb =>
            split
            · next hp => exact F (by simp [hab, notFound_mem_admFileTarget (t := st.root) hb (by simp [hp])])
            · next hp => exact F (by simp [hab, notFound_mem_admFileTarget (t := st.root) hb (by simp [hp])])
            · next ps hp =>
              split
              · next hg => exact F (by simp [hab, fileExpected_mem_admFileTarget hg])
              · next hnd =>
                exact .move data ps ha hab hb hp (fun ds h => hnd ds h) ⟨_, _, _, rfl⟩
  | copy p q o =>
    dsimp only [adm2] at F
    dsimp only [step2]
    split
    · next hd =>
      simp only [Bool.and_eq_true, Bool.not_eq_true'] at hd
      exact F (by simp [hd.1, kindAt_ne_none hd.2])
    · split
      · next hab => exact F (by simp [hab])
      · next hab =>
        split
        · next ha => exact F (by simp [notFound_mem_admFileArg ha])
        · next ha => exact F (by simp [fileExpected_mem_admFileArg ha])
        · next data ha =>
          split
          · next h0 => subst h0; exact F (by simp [hab, fileExpected_mem_admFileTarget_nil])
          · next hb =>
            split
            · next hp => exact F (by simp [hab, notFound_mem_admFileTarget (t := st.root) hb (by simp [hp])])
            · next hp => exact F (by simp [hab, notFound_mem_admFileTarget (t := st.root) hb (by simp [hp])])
            · next ps hp =>
              split
              · next hg => exact F (by simp [hab, fileExpected_mem_admFileTarget hg])
              · next hnd =>
                exact .copy data ps ha hab hb hp (fun ds h => hnd ds h) ⟨_, _, _, rfl⟩
  | movedir p q c =>
    dsimp only [adm2] at F
    dsimp only [step2]
    split
    · next hab => exact .noop _ (fun _ => hab)
    · next hab =>
      rw [if_neg hab] at F
      split
      · next hpre => exact F (by simp [hpre])
      · next hpre =>
        have hpre' : isPrefix a b = false := by simpa using hpre
        split
        · next ha => exact F (by simp [notFound_mem_admDirArg ha])
        · next ha => exact F (by simp [dirExpected_mem_admDirArg ha])
        · next es ha =>
          split
          · next hd => exact F (by simp [kindAt_of_file hd])
          · next ds0 hb0 =>
            split
            · next ds hb =>
              split
              · exact .fail _ (.inr rfl)
              · next m hm => exact .movedirMerge es ds0 ds m hab hpre' ha hb0 hb hm ⟨_, _, _, rfl⟩
            · exact .fail _ (.inr rfl)
          · next hbn =>
            split
            · next hc => exact F (by simp [kindAt_of_none hbn, hc])
            · split
              · next ps hp => exact .movedirNew es ps hab hpre' ha hbn hp ⟨_, _, _, rfl⟩
              · next hp => exact F (by simp [kindAt_of_none hbn, kindAt_ne_dir hp])
  | copydir p q c =>
    dsimp only [adm2] at F
    dsimp only [step2]
    split
    · next hpre => exact F (by simp [hpre])
    · next hpre =>
      have hpre' : isPrefix a b = false := by simpa using hpre
      split
      · next hd =>
        split
        · next ha => exact F (by simp [notFound_mem_admDirArg ha])
        · next ha => exact F (by simp [dirExpected_mem_admDirArg ha])
        · exact F (by simp [kindAt_of_file hd])
      · next ds hb =>
        split
        · next ha => exact F (by simp [notFound_mem_admDirArg ha])
        · next ha => exact F (by simp [dirExpected_mem_admDirArg ha])
        · next es ha =>
          split
          · exact .fail _ (.inr rfl)
          · next m hm => exact .copydirMerge es ds m hpre' ha hb hm ⟨_, _, _, rfl⟩
      · next hbn =>
        split
        · next hc => exact F (by simp [kindAt_of_none hbn, hc])
        · split
          · next ha => exact F (by simp [notFound_mem_admDirArg ha])
          · next ha => exact F (by simp [dirExpected_mem_admDirArg ha])
          · next es ha =>
            split
            · next hbl => exact F (by simp [hbl])
            · next hbl => exact .copydirNew es hpre' ha hbn (by simpa using hbl) ⟨_, _, _, rfl⟩
  | _ => dsimp only [step2] <;> exact .noop _ (by simp)

theorem step_move_ok {st : State} {s d : Str} {ow : Bool} {a b : List Name} {v : Val}
    (ha : validate s = .ok a) (hb : validate d = .ok b) (hne : a ≠ b)
    (hok : (step st (.move s d ow)).2 = .ok v) :
    ∃ data ps, st.root.get a = some (.file data) ∧ b ≠ [] ∧ st.root.get b.dropLast = some (.dir ps) ∧
      (∀ ds, st.root.get b ≠ some (.dir ds)) ∧
      step st (.move s d ow) = upd st ((st.root.set b (.file data)).del a) := by
  have hs := step_two_ok (op := .move s d ow) rfl ha hb hok
  rw [hs] at hok ⊢
  have h2 := eff2 st a b (.move s d ow)
  generalize step2 st a b (.move s d ow) = r at h2 hok
  cases h2 with
  | fail e => cases hok
  | noop v' h => exact absurd (h ⟨_, _, _, Or.inl rfl⟩) hne
  | move data ps ha' _ hbne hp hnd _ => exact ⟨data, ps, ha', hbne, hp, hnd, rfl⟩
  -- every other effect names its operation, which is not this one
  | _ => rename_i hop; obtain ⟨_, _, _, h⟩ := hop; cases h

/-! ### invariants of the effects -/

theorem eff1_isDir {s : State} {cs : List Name} {op : Op} {r : State × Out} (h : Eff1 s cs op r)
    (hd : s.root.isDir = true) : r.1.root.isDir = true := by
  cases h with
  | clear => rfl
  | _ => simp [upd, isDir_set, isDir_del, isDir_mkdirs, hd]

theorem eff2_isDir {s : State} {a b : List Name} {op : Op} {r : State × Out} (h : Eff2 s a b op r)
    (hd : s.root.isDir = true) : r.1.root.isDir = true := by
  cases h with
  | movedirMerge es ds0 ds m => exact isDir_setAt_dir _ b m (by rw [isDir_del]; exact hd)
  | copydirMerge es ds m => exact isDir_setAt_dir _ b m hd
  | _ => simp [upd, isDir_set, isDir_del, isDir_mkdirs, hd]

theorem eff1_wf {s : State} {cs : List Name} {op : Op} {r : State × Out} (h : Eff1 s cs op r)
    (hc : ∀ c ∈ cs, cleanName c = true) (hw : s.root.wf = true) : r.1.root.wf = true := by
  cases h with
  | same o => exact hw
  | setFile b v es => exact set_wf _ _ _ hc rfl hw
  | mkdir es => exact set_wf _ _ _ hc rfl hw
  | mkdirs => exact mkdirs_wf _ _ _ (by simpa using hc) hw
  | delFile b => exact del_wf _ _ hw
  | delEmpty => exact del_wf _ _ hw
  | delTree es => exact del_wf _ _ hw
  | clear => rfl

theorem eff2_wf {s : State} {a b : List Name} {op : Op} {r : State × Out} (h : Eff2 s a b op r)
    (hb : ∀ c ∈ b, cleanName c = true) (hw : s.root.wf = true) : r.1.root.wf = true := by
  cases h with
  | fail e => exact hw
  | noop v _ => exact hw
  | move data ps => exact del_wf _ _ (set_wf _ _ _ hb rfl hw)
  | copy data ps => exact set_wf _ _ _ hb rfl hw
  | movedirMerge es ds0 ds m _ _ ha _ hd hm =>
    have h1 := del_wf a _ hw
    have hes : entsWf es = true := by simpa [Node.wf] using get_wf _ _ _ hw ha
    have hds : entsWf ds = true := by simpa [Node.wf] using get_wf _ _ _ h1 hd
    exact setAt_wf _ _ _ hb h1 (mergeEnts_wf _ _ _ hes hds hm)
  | movedirNew es ps _ _ ha =>
    have hes : (Node.dir es).wf = true := get_wf _ _ _ hw ha
    exact del_wf _ _ (set_wf _ _ _ hb hes hw)
  | copydirMerge es ds m _ ha hd hm =>
    have hes : entsWf es = true := by simpa [Node.wf] using get_wf _ _ _ hw ha
    have hds : entsWf ds = true := by simpa [Node.wf] using get_wf _ _ _ hw hd
    exact setAt_wf _ _ _ hb hw (mergeEnts_wf _ _ _ hes hds hm)
  | copydirNew es _ ha =>
    have hes : (Node.dir es).wf = true := get_wf _ _ _ hw ha
    exact set_wf _ _ _ hb hes (mkdirs_wf _ _ _ (by simpa using hb) hw)

/-! ### frame -/

/-- the component paths at which a one-path operation may change or remove a file; a file anywhere else is kept
(`eff1_frame`).  `makedirs` disturbs no file and so has none. -/
def touch1 (op : Op) (cs q : List Name) : Prop :=
  match op with
  | .removetree _ => cs <+: q
  | .remove _ | .removedir _ | .writebytes _ _ | .appendbytes _ _ | .create _ _ | .touch _
  | .openbin _ _ | .makedir _ _ => q = cs
  | _ => False

def touch2 (op : Op) (a b q : List Name) : Prop :=
  match op with
  | .move _ _ _ => q = a ∨ q = b
  | .copy _ _ _ => q = b
  | .movedir _ _ _ => a <+: q ∨ b <+: q
  | .copydir _ _ _ => b <+: q
  | _ => False

theorem touch1_write {op : Op} (h : isWrite op) (cs q : List Name) : touch1 op cs q ↔ q = cs := by
  cases op <;> simp [isWrite] at h <;> simp [touch1]

theorem eff1_frame {s : State} {cs : List Name} {op : Op} {r : State × Out} (h : Eff1 s cs op r)
    (q : List Name) (b : Bytes) (hq : s.root.get q = some (.file b)) (hn : ¬ touch1 op cs q) :
    r.1.root.get q = some (.file b) := by
  cases h with
  | same o => exact hq
  | setFile b' v es hne hp hnd hw =>
    rw [touch1_write hw] at hn
    exact get_set_file _ _ _ _ _ hq (not_prefix_of_not_dir hq hn hnd)
  | mkdir es hne hp hnone hop =>
    obtain ⟨p, r, rfl⟩ := hop
    simp only [touch1] at hn
    exact get_set_file _ _ _ _ _ hq (not_prefix_of_not_dir hq hn (by simp [hnone]))
  | mkdirs => exact mkdirs_file _ _ _ _ _ hq
  | delFile b' hne hb hop =>
    obtain ⟨p, rfl⟩ := hop
    simp only [touch1] at hn
    exact get_del_file _ _ _ _ hq (not_prefix_of_not_dir hq hn (by simp [hb]))
  | delEmpty hne hb hop =>
    obtain ⟨p, rfl⟩ := hop
    simp only [touch1] at hn
    refine get_del_file _ _ _ _ hq ?_
    intro hp
    obtain ⟨c, r, rfl⟩ := prefix_ne_split hp (Ne.symm hn)
    rw [get_append, hb] at hq
    simp [Node.get, Ents.lookup] at hq
  | delTree es hne hb hop =>
    obtain ⟨p, rfl⟩ := hop
    simp only [touch1] at hn
    exact get_del_file _ _ _ _ hq hn
  | clear he hop =>
    obtain ⟨p, rfl⟩ := hop
    subst he
    exact absurd List.nil_prefix hn

theorem writeFile_frame (s : State) (cs q : List Name) (f : Option Bytes → Bytes) (v : Val) (b : Bytes)
    (hq : s.root.get q = some (.file b)) (hne : q ≠ cs) :
    (writeFile s cs f v).1.root.get q = some (.file b) :=
  eff1_frame (eff_writeFile s cs f v) q b hq hne

theorem eff2_frame {s : State} {a bp : List Name} {op : Op} {r : State × Out}
    (h : Eff2 s a bp op r) (q : List Name) (b : Bytes) (hq : s.root.get q = some (.file b))
    (hn : ¬ touch2 op a bp q) : r.1.root.get q = some (.file b) := by
  cases h with
  | fail e => exact hq
  | noop v _ => exact hq
  | move data ps ha hab hb hp hnd hop =>
    obtain ⟨p, q', o, rfl⟩ := hop
    simp only [touch2, not_or] at hn
    have h1 := get_set_file bp q s.root (.file data) b hq (not_prefix_of_not_dir hq hn.2 hnd)
    exact get_del_file _ _ _ _ h1 (not_prefix_of_not_dir hq hn.1 (by simp [ha]))
  | copy data ps ha hab hb hp hnd hop =>
    obtain ⟨p, q', o, rfl⟩ := hop
    simp only [touch2] at hn
    exact get_set_file bp q s.root (.file data) b hq (not_prefix_of_not_dir hq hn hnd)
  | movedirMerge es ds0 ds m _ _ ha _ hd hm hop =>
    obtain ⟨p, q', o, rfl⟩ := hop
    simp only [touch2, not_or] at hn
    exact get_setAt_file _ _ _ _ _ (get_del_file _ _ _ _ hq hn.1) hn.2
  | movedirNew es ps _ _ ha _ _ hop =>
    obtain ⟨p, q', o, rfl⟩ := hop
    simp only [touch2, not_or] at hn
    exact get_del_file _ _ _ _ (get_set_file _ _ _ _ _ hq hn.2) hn.1
  | copydirMerge es ds m _ ha hd hm hop =>
    obtain ⟨p, q', o, rfl⟩ := hop
    simp only [touch2] at hn
    exact get_setAt_file _ _ _ _ _ hq hn
  | copydirNew es _ ha _ _ hop =>
    obtain ⟨p, q', o, rfl⟩ := hop
    simp only [touch2] at hn
    exact get_set_file _ _ _ _ _ (mkdirs_file _ _ _ _ _ hq) hn

end Fs.TreeLemmas
