/-
  The bulk algorithms of `FsModel.BaseWalk` never look at the class of an error, they pass it on.  So a run over
  a primitive interface `P : Prim σ` whose states are reached through `emb : State → σ` (a filesystem that
  refines the reference: `emb = id`, second part of this file; a filesystem object wrapping ONE reference state: a
  single-layer MultiFS, `BaseWalkMulti`) follows the run over the reference's primitives `PR` call by call,
  provided each of its nine calls does: the same result while the reference's calls succeed, and when one fails
  both runs fail there, in the same state.

  Every `sim_*` proof is the same step (`follows_cases`, rewrite, go on / `follows_err`) once per call of the
  algorithm: the model writes its `match`es inline, so the step is a lemma only for the model's combinators
  (`sim_whenDir`, `sim_andThen`, `sim_whenExists`).

  `PrimSim P emb` (each of the nine calls satisfies `LiftE`) is all the traversals need.  `BaseWalkAdm.PrimAdm` is
  the other half: the exact outcome or an admissible class of the calls made BEFORE the first write, which `LiftE`
  does not give; an instance proves both from `CallAdm` facts (`BaseWalkAdm.prim_of_calls`).

  The second part (`Fs.BaseWalkLift`) is what the instance for ANY filesystem `F` that refines the reference
  (`BaseWalkAdm.prim_of_refines`) rests on.
-/
import FsProofs.Lemmas.BaseWalkRm
import FsProofs.Lemmas.MultiFsLemmas

namespace Fs.BaseWalkSim
open Fs Fs.Path Fs.Ref Fs.BaseWalk Fs.BaseWalkPrim Fs.BaseWalkRm

section
variable {σ : Type}

/-- the run over `P` (in states `emb t`) follows the run over the reference's primitives -/
def LiftE {α : Type} (emb : State → σ) (rM : σ × Res α) (rR : State × Res α) : Prop :=
  (∃ t v, rR = (t, .ok v) ∧ rM = (emb t, .ok v)) ∨ (∃ t e e', rR = (t, .err e) ∧ rM = (emb t, .err e'))

theorem liftE_refl {α : Type} (emb : State → σ) (t : State) (r : Res α) : LiftE emb (emb t, r) (t, r) := by
  cases r with
  | ok v => exact Or.inl ⟨t, v, rfl, rfl⟩
  | err e => exact Or.inr ⟨t, e, e, rfl, rfl⟩

theorem liftE_err {α : Type} (emb : State → σ) (t : State) (e e' : Err) :
    LiftE (α := α) emb (emb t, .err e') (t, .err e) := Or.inr ⟨t, e, e', rfl, rfl⟩

theorem liftE_ok {α : Type} {emb : State → σ} {rM : σ × Res α} {rR : State × Res α} (h : LiftE emb rM rR)
    {t : State} {v : α} (hR : rR = (t, .ok v)) : rM = (emb t, .ok v) := by
  subst hR
  rcases h with ⟨_, _, h, hm⟩ | ⟨_, _, _, h, _⟩ <;> cases h
  exact hm

theorem liftE_fail {α : Type} {emb : State → σ} {rM : σ × Res α} {rR : State × Res α} (h : LiftE emb rM rR)
    {t : State} {e : Err} (hR : rR = (t, .err e)) : ∃ e', rM = (emb t, .err e') := by
  subst hR
  rcases h with ⟨_, _, h, _⟩ | ⟨_, _, e', h, hm⟩ <;> cases h
  exact ⟨e', hm⟩

/-- one call `r` of an interface (states `emb t`) against the reference's `op` on `t`, class included -/
def CallAdm (emb : State → σ) (t : State) (op : Op) (r : σ × Out) : Prop :=
  (∀ t' v, Ref.step t op = (t', .ok v) → r = (emb t', .ok v)) ∧
  (∀ e, (Ref.step t op).2 = .err e → ∃ e', r = (emb t, .err e') ∧ e' ∈ adm t op)

theorem liftE_of_callAdm {emb : State → σ} {t : State} {op : Op} {r : σ × Out} (h : CallAdm emb t op r) :
    LiftE emb r (Ref.step t op) := by
  rcases hs : Ref.step t op with ⟨t', v | e⟩
  · exact Or.inl ⟨t', v, rfl, h.1 t' v hs⟩
  · obtain ⟨e', hr, _⟩ := h.2 e (by rw [hs])
    obtain rfl : t' = t := by
      have := QueryLemmas.step_err_state (s := t) (op := op) (e := e) (by rw [hs])
      rwa [hs] at this
    exact Or.inr ⟨t', e, e', rfl, hr⟩

/-- every call of `P` follows the reference's -/
structure PrimSim (P : Prim σ) (emb : State → σ) : Prop where
  validatepath : ∀ t p, GoodS t → LiftE emb (P.validatepath (emb t) p) (PR.validatepath t p)
  exists_ : ∀ t p, GoodS t → LiftE emb (P.exists_ (emb t) p) (PR.exists_ t p)
  getinfo : ∀ t p, GoodS t → LiftE emb (P.getinfo (emb t) p) (PR.getinfo t p)
  scandir : ∀ t p, GoodS t → LiftE emb (P.scandir (emb t) p) (PR.scandir t p)
  makedir : ∀ t p, GoodS t → LiftE emb (P.makedir (emb t) p) (PR.makedir t p)
  makedirs : ∀ t p, GoodS t → LiftE emb (P.makedirs (emb t) p) (PR.makedirs t p)
  copy : ∀ t a b, GoodS t → LiftE emb (P.copy (emb t) a b) (PR.copy t a b)
  remove : ∀ t p, GoodS t → LiftE emb (P.remove (emb t) p) (PR.remove t p)
  removedir : ∀ t p, GoodS t → LiftE emb (P.removedir (emb t) p) (PR.removedir t p)

/-- `LiftE`, and the reference's run ends in a good state (so that the next call can be compared) -/
abbrev Follows {α : Type} (emb : State → σ) (rM : σ × Res α) (rR : State × Res α) : Prop :=
  LiftE emb rM rR ∧ GoodS rR.1

theorem follows_cases {α : Type} {emb : State → σ} {rM : σ × Res α} {rR : State × Res α} (h : Follows emb rM rR) :
    (∃ t v, GoodS t ∧ rR = (t, .ok v) ∧ rM = (emb t, .ok v)) ∨
    (∃ t e e', GoodS t ∧ rR = (t, .err e) ∧ rM = (emb t, .err e')) := by
  obtain ⟨⟨t, v, rfl, hm⟩ | ⟨t, e, e', rfl, hm⟩, G⟩ := h
  · exact Or.inl ⟨t, v, G, rfl, hm⟩
  · exact Or.inr ⟨t, e, e', G, rfl, hm⟩

theorem follows_refl {α : Type} (emb : State → σ) {t : State} (G : GoodS t) (r : Res α) :
    Follows emb (emb t, r) (t, r) := ⟨liftE_refl emb t r, G⟩

theorem follows_err {α : Type} (emb : State → σ) {t : State} (G : GoodS t) (e e' : Err) :
    Follows (α := α) emb (emb t, .err e') (t, .err e) := ⟨liftE_err emb t e e', G⟩

theorem scanNames_state (t : State) (p : Str) :
    ∀ (ns : List Name) (acc : List ScanInfo), (scanNames Ref.step p ns acc t).1 = t
  | [], _ => rfl
  | n :: ns, acc => by
    have hq := RouteLemmas.step_query_state t (.getinfo (combine p n)) rfl
    rw [scanNames]
    rcases hr : Ref.step t (.getinfo (combine p n)) with ⟨s, v | e⟩ <;> rw [hr] at hq <;> subst hq
    · cases v with
      | info nm d sz => exact scanNames_state s p ns _
      | _ => rfl
    · rfl

theorem scanOf_state (t : State) (p : Str) : (scanOf Ref.step t p).1 = t := by
  have hq := RouteLemmas.step_query_state t (.listdir p) rfl
  rw [scanOf]
  rcases hr : Ref.step t (.listdir p) with ⟨s, v | e⟩ <;> rw [hr] at hq <;> subst hq
  · cases v with
    | names l => exact scanNames_state s p l []
    | _ => rfl
  · rfl

theorem good_scan (t : State) (G : GoodS t) (p : Str) : GoodS (PR.scandir t p).1 := by
  show GoodS (scanOf Ref.step t p).1
  rw [scanOf_state t p]
  exact G

theorem good_validate (t : State) (G : GoodS t) (p : Str) : GoodS (PR.validatepath t p).1 := by
  show GoodS (validateOf Ref.step t p).1
  rw [validateOf_ref t G.opn p]
  exact G

theorem sim_whenDir (emb : State → σ) (rM : σ × Out) (rR : State × Out) (h : Follows emb rM rR) (kM : σ → σ × Out)
    (kR : State → State × Out) (hk : ∀ s, GoodS s → Follows emb (kM (emb s)) (kR s)) :
    Follows emb (whenDir rM kM) (whenDir rR kR) := by
  rcases follows_cases h with ⟨s, v, G1, hr, hf⟩ | ⟨s, e, e', G1, hr, hf⟩ <;> rw [hr, hf]
  · simp only [whenDir]
    cases v with
    | info nm d sz =>
      cases d with
      | true => exact hk s G1
      | false => exact follows_refl emb G1 _
    | _ => exact follows_refl emb G1 _
  · exact follows_err emb G1 e e'

theorem sim_andThen (emb : State → σ) (rM : σ × Out) (rR : State × Out) (h : Follows emb rM rR) (kM : σ → σ × Out)
    (kR : State → State × Out) (hk : ∀ s, GoodS s → Follows emb (kM (emb s)) (kR s)) :
    Follows emb (andThen rM kM) (andThen rR kR) := by
  rcases follows_cases h with ⟨s, v, G1, rfl, rfl⟩ | ⟨s, e, e', G1, rfl, rfl⟩
  · exact hk s G1
  · exact follows_err emb G1 e e'

variable (P : Prim σ) (emb : State → σ) (H : PrimSim P emb)
include H

theorem sim_rmEntries (visitM : Str → σ → σ × Out) (visitR : Str → State → State × Out)
    (hv : ∀ d t, GoodS t → Follows emb (visitM d (emb t)) (visitR d t)) (d : Str) :
    ∀ (l : List ScanInfo) (t : State), GoodS t →
      Follows emb (rmEntries P visitM d l (emb t)) (rmEntries PR visitR d l t)
  | [], t, G => follows_refl emb G _
  | (n, isDir, sz) :: rest, t, G => by
    simp only [rmEntries]
    cases isDir with
    | true =>
      simp only [if_true]
      rcases follows_cases (hv (combine d n) t G) with ⟨s, v, G1, hr, hf⟩ | ⟨s, e, e', G1, hr, hf⟩ <;> rw [hr, hf]
      · simp only
        rcases follows_cases ⟨H.removedir s (combine d n) G1, goodS_step G1 _ (by intro h; cases h)⟩ with
          ⟨s2, v2, G2, hr2, hf2⟩ | ⟨s2, e2, e2', G2, hr2, hf2⟩ <;> rw [hr2, hf2]
        · exact sim_rmEntries visitM visitR hv d rest s2 G2
        · exact follows_err emb G2 e2 e2'
      · exact follows_err emb G1 e e'
    | false =>
      simp only [Bool.false_eq_true, if_false]
      rcases follows_cases ⟨H.remove t (combine d n) G, goodS_step G _ (by intro h; cases h)⟩ with
        ⟨s2, v2, G2, hr2, hf2⟩ | ⟨s2, e2, e2', G2, hr2, hf2⟩ <;> rw [hr2, hf2]
      · exact sim_rmEntries visitM visitR hv d rest s2 G2
      · exact follows_err emb G2 e2 e2'

theorem sim_rmWalk : ∀ (fuel : Nat) (d : Str) (t : State), GoodS t →
    Follows emb (rmWalk P fuel d (emb t)) (rmWalk PR fuel d t)
  | 0, _, t, G => follows_refl emb G _
  | fuel + 1, d, t, G => by
    simp only [rmWalk]
    rcases follows_cases ⟨H.scandir t d G, good_scan t G d⟩ with ⟨s, v, G1, hr, hf⟩ | ⟨s, e, e', G1, hr, hf⟩ <;>
      rw [hr, hf]
    · exact sim_rmEntries P emb H _ _ (fun d' t' G' => sim_rmWalk fuel d' t' G') d v s G1
    · exact follows_err emb G1 e e'

theorem sim_removetreeBody (fuel : Nat) (t : State) (G : GoodS t) (p np : Str) :
    Follows emb (removetreeBody P fuel (emb t) p np) (removetreeBody PR fuel t p np) := by
  simp only [removetreeBody]
  rcases follows_cases (sim_rmWalk P emb H fuel np t G) with ⟨s, v, G1, hr, hf⟩ | ⟨s, e, e', G1, hr, hf⟩ <;>
    rw [hr, hf]
  · simp only
    split
    · exact follows_refl emb G1 _
    · exact ⟨H.removedir s p G1, goodS_step G1 _ (by intro h; cases h)⟩
  · exact follows_err emb G1 e e'

theorem sim_removetree (fuel : Nat) (t : State) (G : GoodS t) (p : Str) :
    Follows emb (removetree P fuel (emb t) p) (removetree PR fuel t p) := by
  simp only [removetree]
  rcases follows_cases ⟨H.validatepath t p G, good_validate t G p⟩ with ⟨s, np, G1, hr, hf⟩ | ⟨s, e, e', G1, hr, hf⟩ <;>
    rw [hr, hf]
  · exact sim_removetreeBody P emb H fuel s G1 p np
  · exact follows_err emb G1 e e'

theorem sim_structEntries (a b d : Str) : ∀ (l : List ScanInfo) (q : List Str) (t : State), GoodS t →
    Follows emb (structEntries P a b d l q (emb t)) (structEntries PR a b d l q t)
  | [], _, t, G => follows_refl emb G _
  | (n, isDir, sz) :: rest, q, t, G => by
    simp only [structEntries]
    cases isDir with
    | false => simpa using sim_structEntries a b d rest q t G
    | true =>
      simp only [if_true]
      cases target a b (combine d n) with
      | err e => exact follows_refl emb G _
      | ok tg =>
        simp only
        rcases follows_cases ⟨H.makedir t tg G, goodS_step G _ (by intro h; cases h)⟩ with
          ⟨s2, v2, G2, hr2, hf2⟩ | ⟨s2, e2, e2', G2, hr2, hf2⟩ <;> rw [hr2, hf2]
        · exact sim_structEntries a b d rest _ s2 G2
        · exact follows_err emb G2 e2 e2'

theorem sim_copyFileInternal (t : State) (G : GoodS t) (a b : Str) :
    Follows emb (copyFileInternal P (emb t) a b) (copyFileInternal PR t a b) := by
  simp only [copyFileInternal]
  rcases follows_cases ⟨H.validatepath t a G, good_validate t G a⟩ with ⟨s, v, G1, hr, hf⟩ | ⟨s, e, e', G1, hr, hf⟩ <;>
    rw [hr, hf]
  · simp only
    rcases follows_cases ⟨H.validatepath s b G1, good_validate s G1 b⟩ with
      ⟨s2, v2, G2, hr2, hf2⟩ | ⟨s2, e2, e2', G2, hr2, hf2⟩ <;> rw [hr2, hf2]
    · simp only
      split
      · exact follows_refl emb G2 _
      · exact ⟨H.copy s2 a b G2, goodS_step G2 _ (by intro h; cases h)⟩
    · exact follows_err emb G2 e2 e2'
  · exact follows_err emb G1 e e'

theorem sim_fileEntries (a b d : Str) : ∀ (l : List ScanInfo) (q : List Str) (t : State), GoodS t →
    Follows emb (fileEntries P a b d l q (emb t)) (fileEntries PR a b d l q t)
  | [], _, t, G => follows_refl emb G _
  | (n, isDir, sz) :: rest, q, t, G => by
    simp only [fileEntries]
    cases isDir with
    | true => simpa using sim_fileEntries a b d rest _ t G
    | false =>
      simp only [Bool.false_eq_true, if_false]
      cases target a b (combine d n) with
      | err e => exact follows_refl emb G _
      | ok tg =>
        simp only
        rcases follows_cases (sim_copyFileInternal P emb H t G (combine d n) tg) with
          ⟨s2, v2, G2, hr2, hf2⟩ | ⟨s2, e2, e2', G2, hr2, hf2⟩ <;> rw [hr2, hf2]
        · exact sim_fileEntries a b d rest _ s2 G2
        · exact follows_err emb G2 e2 e2'

theorem sim_walkBreadth (visitM : Str → List ScanInfo → List Str → σ → σ × Res (List Str))
    (visitR : Str → List ScanInfo → List Str → State → State × Res (List Str))
    (hv : ∀ d l q t, GoodS t → Follows emb (visitM d l q (emb t)) (visitR d l q t)) :
    ∀ (fuel : Nat) (Q : List Str) (t : State), GoodS t →
      Follows emb (walkBreadth P visitM fuel Q (emb t)) (walkBreadth PR visitR fuel Q t)
  | 0, _, t, G => follows_refl emb G _
  | _ + 1, [], t, G => follows_refl emb G _
  | fuel + 1, d :: Q, t, G => by
    simp only [walkBreadth]
    rcases follows_cases ⟨H.scandir t d G, good_scan t G d⟩ with ⟨s, v, G1, hr, hf⟩ | ⟨s, e, e', G1, hr, hf⟩ <;>
      rw [hr, hf]
    · simp only
      rcases follows_cases (hv d v Q s G1) with ⟨s2, v2, G2, hr2, hf2⟩ | ⟨s2, e2, e2', G2, hr2, hf2⟩ <;>
        rw [hr2, hf2]
      · exact sim_walkBreadth visitM visitR hv fuel v2 s2 G2
      · exact follows_err emb G2 e2 e2'
    · exact follows_err emb G1 e e'

theorem sim_copyDir (fuel : Nat) (t : State) (G : GoodS t) (a b : Str) :
    Follows emb (copyDir P fuel (emb t) a b) (copyDir PR fuel t a b) := by
  simp only [copyDir]
  cases normRes a with
  | err e => exact follows_refl emb G _
  | ok na =>
    cases normRes b with
    | err e => exact follows_refl emb G _
    | ok nb =>
      simp only
      rcases follows_cases ⟨H.validatepath t a G, good_validate t G a⟩ with
        ⟨s, ra, G1, hr, hf⟩ | ⟨s, e, e', G1, hr, hf⟩ <;> rw [hr, hf]
      · simp only
        rcases follows_cases ⟨H.validatepath s b G1, good_validate s G1 b⟩ with
          ⟨s2, rb, G2, hr2, hf2⟩ | ⟨s2, e2, e2', G2, hr2, hf2⟩ <;> rw [hr2, hf2]
        · simp only
          split
          · exact follows_refl emb G2 _
          · rcases follows_cases ⟨H.makedirs s2 rb G2, goodS_step G2 _ (by intro h; cases h)⟩ with
              ⟨s3, v3, G3, hr3, hf3⟩ | ⟨s3, e3, e3', G3, hr3, hf3⟩ <;> rw [hr3, hf3]
            · simp only [structLoop, filesLoop]
              rcases follows_cases (sim_walkBreadth P emb H _ _
                  (fun d l q t' G' => sim_structEntries P emb H ra rb d l q t' G') fuel [ra] s3 G3) with
                ⟨s4, v4, G4, hr4, hf4⟩ | ⟨s4, e4, e4', G4, hr4, hf4⟩ <;> rw [hr4, hf4]
              · exact sim_walkBreadth P emb H _ _ (fun d l q t' G' => sim_fileEntries P emb H na nb d l q t' G')
                  fuel [na] s4 G4
              · exact follows_err emb G4 e4 e4'
            · exact follows_err emb G3 e3 e3'
        · exact follows_err emb G2 e2 e2'
      · exact follows_err emb G1 e e'

theorem sim_whenExists (create : Bool) (p : Str) (t : State) (G : GoodS t) (kM : σ → σ × Out)
    (kR : State → State × Out) (hk : ∀ s, GoodS s → Follows emb (kM (emb s)) (kR s)) :
    Follows emb (whenExists create (fun s => P.exists_ s p) (emb t) kM)
      (whenExists create (fun s => PR.exists_ s p) t kR) := by
  cases create with
  | true => simpa [whenExists] using hk t G
  | false =>
    simp only [whenExists, Bool.false_eq_true, if_false]
    rcases follows_cases ⟨H.exists_ t p G, goodS_step G _ (by intro h; cases h)⟩ with
      ⟨s3, v3, G3, hr3, hf3⟩ | ⟨s3, e3, e3', G3, hr3, hf3⟩ <;> rw [hr3, hf3]
    · cases v3 with
      | bool bb =>
        cases bb with
        | false => exact follows_refl emb G3 _
        | true => exact hk s3 G3
      | _ => exact hk s3 G3
    · exact follows_err emb G3 e3 e3'

theorem sim_copydir (fuel : Nat) (t : State) (G : GoodS t) (a b : Str) (create : Bool) :
    Follows emb (copydir P fuel (emb t) a b create) (copydir PR fuel t a b create) := by
  simp only [copydir]
  rcases follows_cases ⟨H.validatepath t a G, good_validate t G a⟩ with
    ⟨s, ns, G1, hr, hf⟩ | ⟨s, e, e', G1, hr, hf⟩ <;> rw [hr, hf]
  · simp only
    rcases follows_cases ⟨H.validatepath s b G1, good_validate s G1 b⟩ with
      ⟨s2, nd, G2, hr2, hf2⟩ | ⟨s2, e2, e2', G2, hr2, hf2⟩ <;> rw [hr2, hf2]
    · simp only
      split
      · exact follows_refl emb G2 _
      · refine sim_whenExists P emb H create nd s2 G2 _ _ (fun s' G' => ?_)
        exact sim_whenDir emb _ _ ⟨H.getinfo s' ns G', goodS_step G' _ (by intro h; cases h)⟩ _ _
          (fun s'' G'' => sim_copyDir P emb H fuel s'' G'' ns nd)
    · exact follows_err emb G2 e2 e2'
  · exact follows_err emb G1 e e'

theorem sim_moveDir (rtM : σ → Str → σ × Out) (rtR : State → Str → State × Out)
    (hrt : ∀ s p, GoodS s → Follows emb (rtM (emb s) p) (rtR s p))
    (fuel : Nat) (t : State) (G : GoodS t) (a b : Str) :
    Follows emb (moveDir P rtM fuel (emb t) a b) (moveDir PR rtR fuel t a b) := by
  simp only [moveDir]
  refine sim_whenDir emb _ _ ⟨H.getinfo t a G, goodS_step G _ (by intro h; cases h)⟩ _ _ (fun s G1 => ?_)
  exact sim_andThen emb _ _ ⟨H.makedir s b G1, goodS_step G1 _ (by intro h; cases h)⟩ _ _ fun s2 G2 =>
    sim_andThen emb _ _ (sim_copyDir P emb H fuel s2 G2 a b) _ _ fun s3 G3 => hrt s3 a G3

theorem sim_movedir (rtM : σ → Str → σ × Out) (rtR : State → Str → State × Out)
    (hrt : ∀ s p, GoodS s → Follows emb (rtM (emb s) p) (rtR s p))
    (fuel : Nat) (t : State) (G : GoodS t) (a b : Str) (create : Bool) :
    Follows emb (movedir P rtM fuel (emb t) a b create) (movedir PR rtR fuel t a b create) := by
  simp only [movedir]
  rcases follows_cases ⟨H.validatepath t a G, good_validate t G a⟩ with
    ⟨s, ns, G1, hr, hf⟩ | ⟨s, e, e', G1, hr, hf⟩ <;> rw [hr, hf]
  · simp only
    rcases follows_cases ⟨H.validatepath s b G1, good_validate s G1 b⟩ with
      ⟨s2, nd, G2, hr2, hf2⟩ | ⟨s2, e2, e2', G2, hr2, hf2⟩ <;> rw [hr2, hf2]
    · simp only
      split
      · exact follows_refl emb G2 _
      · split
        · exact follows_refl emb G2 _
        · exact sim_whenExists P emb H create b s2 G2 _ _
            (fun s' G' => sim_moveDir P emb H rtM rtR hrt fuel s' G' a b)
    · exact follows_err emb G2 e2 e2'
  · exact follows_err emb G1 e e'

end

end Fs.BaseWalkSim

/-! ## a filesystem that refines the reference (`emb = id`) -/

namespace Fs.BaseWalkLift
open Fs Fs.Path Fs.Ref Fs.BaseWalk Fs.BaseWalkPrim Fs.BaseWalkRm Fs.BaseWalkSim Fs.WrapRefines Fs.MultiFsLemmas

/-- `LiftE id` stated on the reference's verdict (the hypothesis of `BaseWalkLaws.movedir_operational_eq_gen`) -/
def Lift {α : Type} (rF rR : State × Res α) : Prop :=
  (rR.2.isOk = true ∧ rF = rR) ∨ (rR.2.isOk = false ∧ rF.2.isOk = false ∧ rF.1 = rR.1)

theorem liftE_of_lift {α : Type} {rF rR : State × Res α} (h : Lift rF rR) : LiftE id rF rR := by
  rcases rR with ⟨s, v | e⟩
  · rcases h with ⟨_, rfl⟩ | ⟨h, _⟩
    · exact Or.inl ⟨s, v, rfl, rfl⟩
    · cases h
  · rcases h with ⟨h, _⟩ | ⟨_, hF, hs⟩
    · cases h
    · rcases rF with ⟨s', v' | e'⟩
      · cases hF
      · obtain rfl : s' = s := hs
        exact Or.inr ⟨s', e, e', rfl, rfl⟩

theorem good_of (t : State) (G : GoodS t) : MultiFsLemmas.Good t := ⟨G.opn, G.dir, G.wf⟩

section
variable (F : FS State) (hF : RefinesRef F)
include hF

/-- one call of `F` other than `copydir` / `movedir` -/
theorem callAdm_of_refines (t : State) (G : GoodS t) (op : Op) (hb : bulk op = false) :
    CallAdm id t op (F t op) := by
  rcases refines_cases F hF t (good_of t G) op hb with ⟨hok, h⟩ | ⟨e0, e', hr, hf, ha⟩
  · refine ⟨fun t' v h0 => by rw [h, h0]; rfl, fun e he => ?_⟩
    rw [he] at hok
    cases hok
  · refine ⟨fun t' v h0 => ?_, fun e _ => ⟨e', hf, ha⟩⟩
    rw [hr] at h0
    cases h0

theorem lift_call (t : State) (G : GoodS t) (op : Op) (hb : bulk op = false) :
    LiftE id (F t op) (Ref.step t op) :=
  liftE_of_callAdm (callAdm_of_refines F hF t G op hb)

/-- `validatepath` of a refining filesystem is the reference's, class included -/
theorem validateOf_exact (t : State) (G : GoodS t) (p : Str) : validateOf F t p = validateOf Ref.step t p := by
  simp only [validateOf, exists_exact F hF t (good_of t G) p]

theorem lift_scanNames (p : Str) (t : State) (G : GoodS t) : ∀ (ns : List Name) (acc : List ScanInfo),
    LiftE id (scanNames F p ns acc t) (scanNames Ref.step p ns acc t)
  | [], _ => liftE_refl id t _
  | n :: ns, acc => by
    have hq := RouteLemmas.step_query_state t (.getinfo (combine p n)) rfl
    rw [scanNames, scanNames]
    rcases lift_call F hF t G (.getinfo (combine p n)) rfl with ⟨s, v, hr, hf⟩ | ⟨s, e, e', hr, hf⟩ <;>
      rw [hr] at hq <;> subst hq <;> rw [hr, hf]
    · cases v with
      | info nm d sz => exact lift_scanNames p s G ns _
      | _ => exact liftE_refl id s _
    · exact liftE_err id s e e'

theorem lift_scanOf (t : State) (G : GoodS t) (p : Str) : LiftE id (scanOf F t p) (scanOf Ref.step t p) := by
  have hq := RouteLemmas.step_query_state t (.listdir p) rfl
  rw [scanOf, scanOf]
  rcases lift_call F hF t G (.listdir p) rfl with ⟨s, v, hr, hf⟩ | ⟨s, e, e', hr, hf⟩ <;>
    rw [hr] at hq <;> subst hq <;> rw [hr, hf]
  · cases v with
    | names l => exact lift_scanNames F hF p s G l []
    | _ => exact liftE_refl id s _
  · exact liftE_err id s e e'

end

/-! ### the fields of `primOfStep` -/
section Fields
variable {σ : Type} (F : FS σ) (s : σ) (p q : Str)
theorem prim_validatepath : (primOfStep F).validatepath s p = validateOf F s p := rfl
theorem prim_exists : (primOfStep F).exists_ s p = F s (.exists_ p) := rfl
theorem prim_getinfo : (primOfStep F).getinfo s p = F s (.getinfo p) := rfl
theorem prim_scandir : (primOfStep F).scandir s p = scanOf F s p := rfl
theorem prim_makedir : (primOfStep F).makedir s p = F s (.makedir p true) := rfl
theorem prim_makedirs : (primOfStep F).makedirs s p = F s (.makedirs p true) := rfl
theorem prim_copy : (primOfStep F).copy s p q = F s (.copy p q true) := rfl
theorem prim_remove : (primOfStep F).remove s p = F s (.remove p) := rfl
theorem prim_removedir : (primOfStep F).removedir s p = F s (.removedir p) := rfl
end Fields

end Fs.BaseWalkLift
