/-
  The MountFS functor (FsModel/MountFs.lean) against the reference on the GLUED tree: vocabulary
  (`Kind`, `PrimRefines`, `Inv`, `glue`, fixtures) and the primitive-level refinement `prim_spec`
  used by FsProofs/MountRefines.lean.  Everything is declared in `namespace Fs.MountLemmas`, the name the other
  modules cite it under (`MountLemmas.prim_spec`); no module has that name.  `open Fs.MultiFsLemmas` is for
  `adm1_of_alike` and `ref_listdir` (Lemmas/StepAct.lean and QueryLemmas.lean declare them there); nothing here is about
  MultiFS.
-/
import FsModel.MountFs
import FsModel.RouteSpec
import FsProofs.Lemmas.MountTree
import FsProofs.Lemmas.RouteLemmas
import FsProofs.Lemmas.WrapLemmas

namespace Fs.MountLemmas
open Fs Fs.Path Fs.PathSpec Fs.PathLemmas Fs.Ref Fs.Route Fs.MountFs Fs.MountTree Fs.WrapLemmas Fs.TreeLemmas Fs.MultiFsLemmas

/-! ## vocabulary -/

/-- how the states of a member filesystem type are read by the reference: the tree a user of the
member sees, the invariant under which that reading is valid, and the FIXTURES inside the member
(paths that cannot be removed through it: mount points of a member that is itself a MountFS) -/
structure Kind (σ : Type) where
  abs : σ → State
  inv : σ → Prop
  fix : σ → List (List Name)
  std : ∀ s, inv s → (abs s).closed = false ∧ (abs s).root.wf = true ∧ (abs s).root.isDir = true

/-- a plain filesystem state: itself, open, a well-formed directory tree, no fixtures -/
def plainKind : Kind State where
  abs := id
  inv := fun s => s.closed = false ∧ s.root.wf = true ∧ s.root.isDir = true
  fix := fun _ => []
  std := fun _ h => h

/-- no path argument contains NUL -/
def noNulOp (op : Op) : Prop := ∀ p ∈ op.paths, '\x00' ∉ p

/-- the calls a MountFS makes on a member, as reference operations (`Prim.memberOp` of the methods it defines, and
`exists` for `validatepath`) — and `isempty`, which no member receives (`scanFirst` sends `listdir`): it is the reference
meaning `primOp` of `scanFirst`, and a MountFS that is itself a member answers it (`mount_prim_refines`) -/
def isMemberOp : Op → Bool
  | .exists_ _ | .getinfo _ | .listdir _ | .isempty _ | .makedir _ _ | .openbin _ _ | .readbytes _
  | .writebytes _ _ | .appendbytes _ _ | .remove _ | .removedir _ | .settimes _ | .getsize _ | .gettype _
  | .isdir _ | .isfile _ => true
  | _ => false

/-- `remove` / `removedir` of exactly a fixture -/
def hitsFixture (fix : List (List Name)) : Op → Prop
  | .remove p | .removedir p => ∃ cs, validate p = .ok cs ∧ cs ∈ fix
  | _ => False

/-- the calls whose error CLASS a composite relies on: `getinfo` (`FS.exists` turns exactly
ResourceNotFound into `False`) and `readbytes` of the root (a directory: FileExpected — what a mount
point answers) -/
def exactOp : Op → Prop
  | .getinfo _ => True
  | .readbytes p => validate p = .ok []
  | _ => False

/-- outcome of an implementation (`o`) against the reference's (`o'`): equal when the reference
succeeds; when it fails, a failure with an admissible class — the reference's own class for `exactOp` -/
def OutRel (s : State) (op : Op) (o o' : Out) : Prop :=
  (o'.isOk = true → o = o') ∧
  (∀ e', o' = .err e' → ∃ e, o = .err e ∧ e ∈ adm s op ∧ (exactOp op → e = e'))

/-- one call of `F` refines the reference's on the abstract state -/
def Refines1 {σ : Type} (K : Kind σ) (F : FS σ) (s : σ) (op : Op) : Prop :=
  K.inv (F s op).1 ∧ K.fix (F s op).1 = K.fix s ∧ K.abs (F s op).1 = (Ref.step (K.abs s) op).1 ∧
  OutRel (K.abs s) op (F s op).2 (Ref.step (K.abs s) op).2

/-- **what a MountFS needs from a member** (NUL-free paths are the only ones it hands on: `_delegate` refuses the
others itself) -/
def PrimRefines {σ : Type} (K : Kind σ) (F : FS σ) : Prop :=
  ∀ s op, K.inv s → isMemberOp op = true → noNulOp op → ¬ hitsFixture (K.fix s) op → Refines1 K F s op

/-- an outcome that refines the reference's on a part refines it on the whole -/
theorem OutRel.mono {s s' : State} {op op' : Op} {o o' : Out} (h : OutRel s' op' o o')
    (hadm : ∀ e ∈ adm s' op', e ∈ adm s op ∨ (exactOp op' ∧ ∀ e', o' = .err e' → e' ∈ adm s op))
    (hex : exactOp op → exactOp op') : OutRel s op o o' := by
  refine ⟨h.1, fun e' he' => ?_⟩
  obtain ⟨e, h1, h2, h3⟩ := h.2 e' he'
  refine ⟨e, h1, ?_, fun hx => h3 (hex hx)⟩
  rcases hadm e h2 with h | ⟨hx, ht⟩
  · exact h
  · exact h3 hx ▸ ht e' he'

theorem noNulOp_one {op : Op} {p : Str} (hp : op.paths = [p]) (h : '\x00' ∉ p) : noNulOp op := by
  intro q hq
  rw [hp] at hq
  cases List.mem_singleton.1 hq
  exact h

theorem hitsFixture_respell {fix fix' : List (List Name)} {op : Op} {p r : Str} {cs cs' : List Name}
    (hp : op.paths = [p]) (hv : validate p = .ok cs) (hr : validate r = .ok cs') (hsub : cs' ∈ fix' → cs ∈ fix)
    (h : hitsFixture fix' (WrapLemmas.mapPaths (fun _ => r) op)) : hitsFixture fix op := by
  cases op <;> cases hp <;> first | exact h | skip
  all_goals
    obtain ⟨_, h1, h2⟩ := h
    cases hr.symm.trans h1
    exact ⟨cs, hv, hsub h2⟩

theorem rootSpecial_of_member {op : Op} (hm : isMemberOp op = true) (h1 : ∀ q, op ≠ .getinfo q)
    (h2 : ∀ q, op ≠ .removedir q) : WrapLemmas.rootSpecial op = false := by
  cases op <;> first | rfl | exact absurd rfl (h1 _) | exact absurd rfl (h2 _) | cases hm

/-! ## the state of a MountFS against its glued tree -/

section Mount
variable {σ : Type}

/-- the key `mount()` stores for a mount point given by its components -/
def keyOf (mp : List Name) : Str := Mount.mountKey (RouteSpec.absOf mp)

/-- the member trees with their mount paths, in table order -/
def grafts (K : Kind σ) (mps : List (List Name)) (l : List (Str × σ)) : List (List Name × Node) :=
  mps.zip (l.map fun e => (K.abs e.2).root)

/-- **the tree the user of the MountFS sees**: the default tree with each member's tree grafted at
its mount path (over the placeholder directory `mount()` created there) -/
def glue (K : Kind σ) (mps : List (List Name)) (ms : MState σ) : State :=
  ⟨glueN ms.dflt.root (grafts K mps ms.mounts), ms.closed⟩

/-- the fixtures of the composition: its own mount points (the root is no fixture: it cannot be
removed anyway) and the members' fixtures below theirs -/
def fixOf (K : Kind σ) (mps : List (List Name)) (ms : MState σ) : List (List Name) :=
  mps.filter (· ≠ []) ++ (mps.zip ms.mounts).flatMap fun x => (K.fix x.2.2).map (x.1 ++ ·)

/-- the states the refinement talks about: an open MountFS whose table holds exactly the clean,
pairwise non-nested mount points `mps` (in order), over an open well-formed default tree that has a
placeholder directory at every mount point, every member within its own invariant -/
structure Inv (K : Kind σ) (mps : List (List Name)) (ms : MState σ) : Prop where
  opn : ms.closed = false
  dstd : ms.dflt.closed = false ∧ ms.dflt.root.wf = true ∧ ms.dflt.root.isDir = true
  keys : ms.mounts.map (·.1) = mps.map keyOf
  clean : ∀ mp ∈ mps, ∀ c ∈ mp, cleanName c = true
  disj : Disjoint mps
  minv : ∀ e ∈ ms.mounts, K.inv e.2
  ph : ∀ mp ∈ mps, ∃ es, ms.dflt.root.get mp = some (.dir es)

/-! ### routing (relating `MountFs.delegate` to C17's `routeSpec`) -/

def idxFrom : Nat → List (List Name) → List (List Name × Nat)
  | _, [] => []
  | k, mp :: r => (mp, k) :: idxFrom (k + 1) r

theorem idxFrom_fst (k : Nat) (mps : List (List Name)) : (idxFrom k mps).map (·.1) = mps := by
  induction mps generalizing k with
  | nil => rfl
  | cons mp r ih => exact congrArg (mp :: ·) (ih (k + 1))

theorem table_eq (mps : List (List Name)) (l : List (Str × σ)) (k : Nat) (h : l.map (·.1) = mps.map keyOf) :
    tableFrom k l = RouteSpec.tableOf (idxFrom k mps) := by
  induction mps generalizing l k with
  | nil => cases List.map_eq_nil_iff.1 h; rfl
  | cons mp r ih =>
    obtain ⟨⟨_, s⟩, l, rfl, rfl, h2⟩ := List.map_eq_cons_iff.1 h
    exact congrArg ((keyOf mp, k) :: ·) (ih l (k + 1) h2)

theorem routeSpec_idx_none (mps : List (List Name)) (k : Nat) (cs : List Name) :
    RouteSpec.routeSpec (idxFrom k mps) cs = none ↔ ∀ mp ∈ mps, ¬ mp <+: cs := by
  rw [RouteLemmas.routeSpec_eq_find, Option.map_eq_none_iff, List.find?_eq_none]
  conv => rhs; rw [← idxFrom_fst k mps, List.forall_mem_map]
  simp only [List.isPrefixOf_iff_prefix]

theorem routeSpec_idx_some (mps : List (List Name)) (k : Nat) (cs : List Name) (j : Nat) (rest : List Name)
    (h : RouteSpec.routeSpec (idxFrom k mps) cs = some (j, rest)) :
    ∃ pre mp post, mps = pre ++ mp :: post ∧ j = k + pre.length ∧ cs = mp ++ rest := by
  induction mps generalizing k with
  | nil => cases h
  | cons mp r ih =>
    rw [idxFrom, RouteSpec.routeSpec] at h
    split at h
    · next hp =>
      cases h
      exact ⟨[], mp, r, rfl, rfl, (List.prefix_iff_eq_append.1 (List.isPrefixOf_iff_prefix.1 hp)).symm⟩
    · obtain ⟨pre, m, post, h1, h2, h3⟩ := ih (k + 1) h
      exact ⟨mp :: pre, m, post, congrArg (mp :: ·) h1, by rw [h2, List.length_cons]; omega, h3⟩

/-- **`_delegate` on a state of the invariant**, for a path that validates to `cs`: the first mount
point that is a component prefix of `cs` (member index = position + 1, remainder joined), else
`default_fs` with the raw path -/
theorem delegate_spec {K : Kind σ} {mps : List (List Name)} {ms : MState σ} (hinv : Inv K mps ms)
    {p : Str} {cs : List Name} (hv : validate p = .ok cs) :
    delegate ms p =
      match RouteSpec.routeSpec (idxFrom 1 mps) cs with
      | some (i, rest) => .ok (i, joinSlash rest)
      | none => .ok (0, p) := by
  have hc : Clean cs := clean_of_cleanName (validate_clean p cs hv)
  have hcl : ∀ e ∈ idxFrom 1 mps, Clean e.1 := fun e he =>
    clean_of_cleanName (hinv.clean e.1 (idxFrom_fst 1 mps ▸ List.mem_map_of_mem he))
  rw [delegate, table, table_eq mps ms.mounts 1 hinv.keys]
  exact RouteLemmas.delegate_tableOf (idxFrom 1 mps) hcl p _ cs hc (not_nul_of_validate_ok hv) (validate_ok hv).2

/-- `_delegate` refuses what `validate` refuses, with the same class (invalid characters on the RAW path first, then
`normpath`) -/
theorem delegate_err {ms : MState σ} {p : Str} {e : Err} (h : validate p = .err e) : delegate ms p = .err e := by
  by_cases hn : '\x00' ∈ p
  · cases (show validate p = .err .InvalidCharsInPath by simp [validate, hn]).symm.trans h
    exact RouteLemmas.delegate_nul hn
  · obtain ⟨rfl, hnorm⟩ := (QueryLemmas.validate_err p e h).resolve_left fun h' => hn h'.2
    rw [delegate, RouteLemmas.delegate_noNul hn, hnorm]

/-! ### calling one member -/

theorem callAt_mid (F : FS σ) (A B : List (Str × σ)) (k : Str) (s : σ) (op : Op) :
    callAt F (A ++ (k, s) :: B) A.length op = (A ++ (k, (F s op).1) :: B, (F s op).2) := by
  induction A with
  | nil => rfl
  | cons a A ih => simp only [List.cons_append, List.length_cons, callAt, ih]

/-- the member states split where the mount points do -/
theorem mounts_split {l : List (Str × σ)} {pre post : List (List Name)} {mp : List Name}
    (h : l.map (·.1) = (pre ++ mp :: post).map keyOf) :
    ∃ A s B, l = A ++ (keyOf mp, s) :: B ∧ A.length = pre.length := by
  rw [List.map_append, List.map_cons] at h
  obtain ⟨A, _, rfl, hA, h2⟩ := List.map_eq_append_iff.1 h
  obtain ⟨⟨_, s⟩, B, rfl, rfl, _⟩ := List.map_eq_cons_iff.1 h2
  exact ⟨A, s, B, rfl, by simpa using congrArg List.length hA⟩

theorem grafts_split (K : Kind σ) (pre post : List (List Name)) (mp : List Name) (A B : List (Str × σ)) (k : Str)
    (s : σ) (hl : A.length = pre.length) :
    grafts K (pre ++ mp :: post) (A ++ (k, s) :: B) =
      grafts K pre A ++ (mp, (K.abs s).root) :: grafts K post B := by
  simp only [grafts, List.map_append, List.map_cons]
  rw [List.zip_append (by simp [hl])]
  rfl

end Mount

/-! ## reference steps on a glued tree -/

theorem memberOp_ne_close {op : Op} (h : isMemberOp op = true) : op ≠ .close := by
  intro e; subst e; simp [isMemberOp] at h

theorem memberOp_frame {op : Op} (h : isMemberOp op = true) : frameOp op = true := by
  cases op <;> first | rfl | exact h

theorem memberOp_paths {op : Op} (h : isMemberOp op = true) : ∃ p, op.paths = [p] := by
  cases op <;> first | exact ⟨_, rfl⟩ | cases h

/-- the same call with another spelling of the same components -/
theorem step_respell {s : State} {op : Op} {p q : Str} {cs : List Name} (hc : s.closed = false)
    (hp : op.paths = [p]) (hv : validate p = .ok cs) (hq : validate q = .ok cs) :
    Ref.step s (mapPaths (fun _ => q) op) = Ref.step s op := by
  rcases QueryLemmas.op_cases op with rfl | ⟨a, m, rfl⟩ | ⟨_, _, hno⟩ | ⟨a, b, hab⟩
  · cases hp
  · cases hp
    rw [mapPaths, QueryLemmas.step_openbin s q m hc, QueryLemmas.step_openbin s p m hc, hv, hq]
    rfl
  · rw [step_mapPaths_one _ s hc hp hno, QueryLemmas.step_one s op p hc hp hno, hv, hq]
  · cases hab.symm.trans hp

theorem adm_respell {s : State} {op : Op} {p q : Str} {cs : List Name} (hc : s.closed = false)
    (hp : op.paths = [p]) (hv : validate p = .ok cs) (hq : validate q = .ok cs) :
    adm s (mapPaths (fun _ => q) op) = adm s op := by
  rcases QueryLemmas.op_cases op with rfl | ⟨a, m, rfl⟩ | ⟨_, _, hno⟩ | ⟨a, b, hab⟩
  · cases hp
  · cases hp
    rw [mapPaths, QueryLemmas.adm_openbin s q m hc, QueryLemmas.adm_openbin s p m hc, hv, hq]
    rfl
  · rw [adm_mapPaths_one _ s hc hp hno, QueryLemmas.adm_one s op p hc hp hno, hv, hq]
  · cases hab.symm.trans hp

theorem mapPaths_self {op : Op} {p : Str} (hp : op.paths = [p]) : mapPaths (fun _ => p) op = op := by
  cases op <;> cases hp <;> rfl

/-- **a call below a mount point**: the reference step on the glued tree `G` at `mp ++ rest` is the
reference step on the member's tree at `rest`, grafted back at `mp` (error class included); at the
mount point itself (`rest = []`) for every call but `getinfo` (name) and `removedir` -/
theorem step_at_mount {G : State} {mp rest : List Name} {es : Ents} {op : Op} {p r : Str}
    (hc : G.closed = false) (hg : G.root.get mp = some (.dir es)) (hp : op.paths = [p])
    (hv : validate p = .ok (mp ++ rest)) (hr : validate r = .ok rest)
    (hsp : mp = [] ∨ rest ≠ [] ∨ rootSpecial op = false) :
    Ref.step G op = graft G mp (Ref.step ⟨.dir es, false⟩ (mapPaths (fun _ => r) op)) := by
  have hview : viewOf G (.dir es) = ⟨.dir es, false⟩ := by rw [viewOf, hc]
  rcases hsp with rfl | hsp
  · -- a root mount: the member's tree is the whole tree
    obtain ⟨root, cl⟩ := G
    cases Option.some.inj hg
    cases (hc : cl = false)
    rw [step_respell rfl hp hv hr]
    exact (graft_nil _ _ (QueryLemmas.step_closed_same _ op (by rintro rfl; cases hp))).symm
  · have := ref_step_graft G mp es op (fun _ => p) (fun _ => r) hg (by rintro rfl; cases hp)
      (fun _ _ => by rw [hv, hr]; rfl)
      (hsp.symm.imp_right fun h _ _ e => h (Res.ok.inj (hr.symm.trans e)))
    rwa [mapPaths_self hp, hview] at this

/-- every class admissible for the member at `rest` is admissible for the glued tree at `mp ++ rest`
(at the mount point itself: except for the calls that treat the ROOT of a filesystem specially) -/
theorem adm1_at_mount {T : Node} {mp rest : List Name} {es : Ents} {op : Op}
    (hg : T.get mp = some (.dir es)) (hm : isMemberOp op = true)
    (hx : rest = [] → mp ≠ [] → (∀ q, op ≠ .readbytes q) ∧ (∀ q, op ≠ .remove q) ∧ (∀ q, op ≠ .removedir q) ∧
      (∀ q m, op = .openbin q m → (parseBinMode m).isSome = true)) :
    ∀ e ∈ adm1 (.dir es) rest op, e ∈ adm1 T (mp ++ rest) op := by
  by_cases hsub : mp = []
  · subst hsub
    simp only [Node.get, Option.some.injEq] at hg
    subst hg
    intro e he; simpa using he
  have hbl : ∀ r, blockedByFile T [] (mp ++ r) = blockedByFile (.dir es) [] r :=
    fun r => blocked_sub [] mp (by simpa using hg) r
  by_cases hcs : rest = []
  · subst hcs
    obtain ⟨h1, h2, h3, h4⟩ := hx rfl hsub
    obtain ⟨ps, hps⟩ := get_parent_dir hsub hg
    have hkp : kindAt T (parentOf mp) = some true := by simp [kindAt, parentOf, hps]
    have hk0 : kindAt T mp = some true := by simp [kindAt, hg]
    have hk0' : kindAt (.dir es) [] = some true := by simp [kindAt, Node.get]
    have hb0 : blockedByFile T [] mp = false := by
      have := hbl []; simpa [blockedByFile] using this
    intro e
    -- `T` shows at `mp` what the member shows at its root: a directory, not blocked, below a directory.  Being the root
    -- matters only to `admFileArg` (`readbytes`, `openbin` with a mode that does not parse), `remove` and `removedir`,
    -- which `hx` excludes; elsewhere `cs = []` stands beside "is a directory" or "the parent is no directory"
    cases op <;> simp only [isMemberOp, Bool.false_eq_true] at hm
    all_goals first
      | exact absurd rfl (h1 _)
      | exact absurd rfl (h2 _)
      | exact absurd rfl (h3 _)
      | skip
    all_goals simp [adm1, admDirArg, admFileArg, admFileTarget, List.append_nil, hsub, hkp, hk0, hk0', hb0,
      blockedByFile]
    all_goals try (intro h1; simp_all)
    all_goals try (split <;> simp_all)
    all_goals try (have := h4 _ _ rfl; simp_all)
  · intro e he
    rw [adm1_of_alike (alike_sub hg hcs)]; exact he

/-! ### calls routed to the default tree -/

theorem adm1_glueN (d : Node) (l : List (List Name × Node)) (cs : List Name) (op : Op)
    (hdis : Disjoint (l.map (·.1))) (hph : ∀ e ∈ l, (d.get e.1).isSome = true) (hn : ∀ e ∈ l, ¬ e.1 <+: cs)
    (hm : isMemberOp op = true) : adm1 (glueN d l) cs op = adm1 d cs op :=
  adm1_of_alike (alike_along fun q hq => see_glueN d l q hdis hph fun e he hp => hn e he (hp.trans hq)) op

/-- **a call routed to the default tree** (its path is not at/below any mount path): the reference
step on the glued tree is the reference step on the default tree, re-glued; same outcome, same
admissible classes; the placeholders survive -/
theorem step_default {d : State} {l : List (List Name × Node)} {cs : List Name} {op : Op} {p : Str}
    (hc : d.closed = false) (hdis : Disjoint (l.map (·.1))) (hph : ∀ e ∈ l, (d.root.get e.1).isSome = true)
    (hn : ∀ e ∈ l, ¬ e.1 <+: cs) (hm : isMemberOp op = true) (hp : op.paths = [p]) (hv : validate p = .ok cs)
    (hmode : ∀ q m, op = .openbin q m → (parseBinMode m).isSome = true) :
    Ref.step ⟨glueN d.root l, false⟩ op = (⟨glueN (Ref.step d op).1.root l, false⟩, (Ref.step d op).2) ∧
    (∀ e ∈ l, (Ref.step d op).1.root.get e.1 = d.root.get e.1) ∧
    adm ⟨glueN d.root l, false⟩ op = adm d op := by
  obtain ⟨rt, cl⟩ := d
  cases (hc : cl = false)
  obtain ⟨f1, f2, _⟩ := step1_glueN rt false l cs op hdis hph hn (memberOp_frame hm)
  rw [QueryLemmas.step_admitted (s := ⟨glueN rt l, false⟩) rfl hp hv hmode, QueryLemmas.step_admitted (s := ⟨rt, false⟩) rfl hp hv hmode,
    QueryLemmas.adm_admitted (s := ⟨glueN rt l, false⟩) rfl hp hv, QueryLemmas.adm_admitted (s := ⟨rt, false⟩) rfl hp hv]
  exact ⟨f1, f2, adm1_glueN rt l cs op hdis hph hn hm⟩

/-! ## calls of a MountFS against the reference on the glued tree -/

section Calls
variable {σ : Type}

theorem grafts_fst (K : Kind σ) (mps : List (List Name)) (l : List (Str × σ)) (h : mps.length = l.length) :
    (grafts K mps l).map (·.1) = mps := by
  simp only [grafts]
  exact List.map_fst_zip (by simp [h])

theorem keys_length {mps : List (List Name)} {l : List (Str × σ)} (h : l.map (·.1) = mps.map keyOf) :
    mps.length = l.length := by
  have := congrArg List.length h
  simpa using this.symm

theorem grafts_mem {K : Kind σ} {mps : List (List Name)} {ms : MState σ} (hinv : Inv K mps ms)
    {e : List Name × Node} (he : e ∈ grafts K mps ms.mounts) : e.1 ∈ mps := by
  have := List.mem_map_of_mem (f := (·.1)) he
  rwa [grafts_fst K mps ms.mounts (keys_length hinv.keys)] at this

theorem grafts_ph {K : Kind σ} {mps : List (List Name)} {ms : MState σ} (hinv : Inv K mps ms) :
    ∀ e ∈ grafts K mps ms.mounts, (ms.dflt.root.get e.1).isSome = true := by
  intro e he
  obtain ⟨es, h⟩ := hinv.ph e.1 (grafts_mem hinv he)
  simp [h]

theorem grafts_disj {K : Kind σ} {mps : List (List Name)} {ms : MState σ} (hinv : Inv K mps ms) :
    Disjoint ((grafts K mps ms.mounts).map (·.1)) := by
  rw [grafts_fst K mps ms.mounts (keys_length hinv.keys)]; exact hinv.disj

/-- the decomposition of a state of the invariant at one of its mount points -/
structure At (K : Kind σ) (pre : List (List Name)) (mp : List Name) (post : List (List Name)) (ms : MState σ)
    (A : List (Str × σ)) (s : σ) (B : List (Str × σ)) : Prop where
  eq : ms.mounts = A ++ (keyOf mp, s) :: B
  lenA : A.length = pre.length
  sinv : K.inv s

theorem at_of_inv {K : Kind σ} {pre post : List (List Name)} {mp : List Name} {ms : MState σ}
    (hinv : Inv K (pre ++ mp :: post) ms) : ∃ A s B, At K pre mp post ms A s B := by
  obtain ⟨A, s, B, h1, h2⟩ := mounts_split hinv.keys
  exact ⟨A, s, B, h1, h2, hinv.minv (keyOf mp, s) (by rw [h1]; simp)⟩

theorem glue_get_mount {K : Kind σ} {pre post : List (List Name)} {mp : List Name} {ms : MState σ}
    {A B : List (Str × σ)} {s : σ} (hinv : Inv K (pre ++ mp :: post) ms) (hat : At K pre mp post ms A s B) :
    (glue K (pre ++ mp :: post) ms).root.get mp = some (K.abs s).root := by
  have hd := grafts_disj hinv
  have hph := hinv.ph mp (by simp)
  simp only [glue]
  rw [hat.eq, grafts_split K pre post mp A B _ s hat.lenA] at hd ⊢
  obtain ⟨es, hes⟩ := hph
  exact glueN_get_mount _ _ _ mp _ hd (by simp [hes])

theorem call_member_eq (D : FS State) (F : FS σ) {K : Kind σ} {pre post : List (List Name)} {mp : List Name}
    {ms : MState σ} {A B : List (Str × σ)} {s : σ} (hat : At K pre mp post ms A s B) (op : Op) :
    call D F ms (pre.length + 1) op =
      ({ ms with mounts := A ++ (keyOf mp, (F s op).1) :: B }, (F s op).2) := by
  simp only [call]
  rw [hat.eq, ← hat.lenA, callAt_mid]

/-- the state after a member made a refining step: invariant, fixtures, and the glued tree with the
member's new tree grafted at its mount path -/
theorem member_step_state {K : Kind σ} {pre post : List (List Name)} {mp : List Name} {ms : MState σ}
    {A B : List (Str × σ)} {s s' : σ} (hinv : Inv K (pre ++ mp :: post) ms) (hat : At K pre mp post ms A s B)
    (hs' : K.inv s') (hfix : K.fix s' = K.fix s) :
    let ms' : MState σ := { ms with mounts := A ++ (keyOf mp, s') :: B }
    Inv K (pre ++ mp :: post) ms' ∧ fixOf K (pre ++ mp :: post) ms' = fixOf K (pre ++ mp :: post) ms ∧
    glue K (pre ++ mp :: post) ms' =
      ⟨setAt (glue K (pre ++ mp :: post) ms).root mp (K.abs s').root, false⟩ := by
  intro ms'
  refine ⟨?_, ?_, ?_⟩
  · refine ⟨hinv.opn, hinv.dstd, ?_, hinv.clean, hinv.disj, ?_, hinv.ph⟩
    · have := hinv.keys
      rw [hat.eq] at this
      simpa [ms'] using this
    · intro e he
      simp only [ms', List.mem_append, List.mem_cons] at he
      rcases he with he | rfl | he
      · exact hinv.minv e (by rw [hat.eq]; simp [he])
      · exact hs'
      · exact hinv.minv e (by rw [hat.eq]; simp [he])
  · simp only [fixOf, ms']
    rw [hat.eq, List.zip_append (by simp [hat.lenA]), List.zip_append (by simp [hat.lenA])]
    simp only [List.zip_cons_cons, List.flatMap_append, List.flatMap_cons, hfix]
  · have hd := grafts_disj hinv
    obtain ⟨es, hes⟩ := hinv.ph mp (by simp)
    simp only [glue, ms']
    rw [hat.eq] at hd ⊢
    rw [grafts_split K pre post mp A B _ s hat.lenA] at hd ⊢
    rw [grafts_split K pre post mp A B _ s' hat.lenA]
    rw [glueN_update _ _ _ mp (K.abs s).root (K.abs s').root hd (by simp [hes]), hinv.opn]

theorem isMemberOp_mapPaths (f : Str → Str) (op : Op) : isMemberOp (mapPaths f op) = isMemberOp op := by
  cases op <;> rfl

theorem step_one_not_loose {s : State} {op : Op} {p : Str} (hp : op.paths = [p]) :
    (Ref.step s op).2 ≠ .err .OperationFailed :=
  MultiFsLemmas.not_loose s op (by cases op <;> first | rfl | cases hp)

theorem root_dir_of_std {K : Kind σ} {s : σ} (h : K.inv s) : ∃ es, K.abs s = ⟨.dir es, false⟩ := by
  obtain ⟨h1, _, h3⟩ := K.std s h
  generalize K.abs s = st at h1 h3
  obtain ⟨root, cl⟩ := st
  simp only at h1 h3
  subst h1
  cases root with
  | file b => simp [Node.isDir] at h3
  | dir es => exact ⟨es, rfl⟩

/-- **where `_delegate` sends a valid path** on a state of the invariant: to `default_fs` with the raw path when no mount
point is a prefix, else to the member at the first such mount point with the remainder -/
theorem route_cases {K : Kind σ} {mps : List (List Name)} {ms : MState σ} (hinv : Inv K mps ms) {p : Str}
    {cs : List Name} (hv : validate p = .ok cs) :
    ((∀ mp ∈ mps, ¬ mp <+: cs) ∧ delegate ms p = .ok (0, p)) ∨
    ∃ pre mp post rest A s B es, mps = pre ++ mp :: post ∧ cs = mp ++ rest ∧ At K pre mp post ms A s B ∧
      delegate ms p = .ok (pre.length + 1, joinSlash rest) ∧ K.abs s = ⟨.dir es, false⟩ ∧
      (glue K mps ms).root.get mp = some (.dir es) := by
  have hdel := delegate_spec hinv hv
  cases hrs : RouteSpec.routeSpec (idxFrom 1 mps) cs with
  | none => rw [hrs] at hdel; exact .inl ⟨(routeSpec_idx_none mps 1 cs).1 hrs, hdel⟩
  | some ir =>
    obtain ⟨i, rest⟩ := ir
    rw [hrs] at hdel
    obtain ⟨pre, mp, post, rfl, hi, hcs⟩ := routeSpec_idx_some mps 1 cs i rest hrs
    obtain ⟨A, s, B, hat⟩ := at_of_inv hinv
    obtain ⟨es, hes⟩ := root_dir_of_std hat.sinv
    have hi' : i = pre.length + 1 := by omega
    refine .inr ⟨pre, mp, post, rest, A, s, B, es, rfl, hcs, hat, hi' ▸ hdel, hes, ?_⟩
    have := glue_get_mount hinv hat
    rwa [hes] at this

theorem glue_std {K : Kind σ} {mps : List (List Name)} {ms : MState σ} (hinv : Inv K mps ms) :
    (glue K mps ms).closed = false := hinv.opn

theorem glueN_wf_isDir (d : Node) (l : List (List Name × Node)) (hd : d.wf = true ∧ d.isDir = true)
    (hl : ∀ e ∈ l, (∀ c ∈ e.1, cleanName c = true) ∧ e.2.wf = true ∧ e.2.isDir = true) :
    (glueN d l).wf = true ∧ (glueN d l).isDir = true := by
  induction l with
  | nil => exact hd
  | cons e r ih =>
    obtain ⟨h1, h2, h3⟩ := hl e (by simp)
    obtain ⟨i1, i2⟩ := ih (fun e' h' => hl e' (by simp [h']))
    simp only [glueN]
    cases hx : e.2 with
    | file b => rw [hx] at h3; simp [Node.isDir] at h3
    | dir m =>
      rw [hx] at h2
      refine ⟨setAt_wf _ _ m h1 i1 (by simpa [Node.wf] using h2), ?_⟩
      rcases isDir_setAt (glueN d r) e.1 m with h | h
      · rw [h]; exact i2
      · exact h

theorem glue_wf_isDir {K : Kind σ} {mps : List (List Name)} {ms : MState σ} (hinv : Inv K mps ms) :
    (glue K mps ms).root.wf = true ∧ (glue K mps ms).root.isDir = true := by
  refine glueN_wf_isDir _ _ ⟨hinv.dstd.2.1, hinv.dstd.2.2⟩ ?_
  intro e he
  have hmem : e.1 ∈ mps := grafts_mem hinv he
  have h2 : e.2 ∈ ms.mounts.map fun x => (K.abs x.2).root := (List.of_mem_zip he).2
  obtain ⟨x, hx, hxe⟩ := List.mem_map.1 h2
  obtain ⟨_, w, dd⟩ := K.std x.2 (hinv.minv x hx)
  rw [← hxe]
  exact ⟨hinv.clean e.1 hmem, w, dd⟩

/-- the conclusion shape shared by all primitive-level statements -/
def StepOk (K : Kind σ) (mps : List (List Name)) (ms : MState σ) (op : Op) (r : MState σ × Out) : Prop :=
  Inv K mps r.1 ∧ fixOf K mps r.1 = fixOf K mps ms ∧ glue K mps r.1 = (Ref.step (glue K mps ms) op).1 ∧
  OutRel (glue K mps ms) op r.2 (Ref.step (glue K mps ms) op).2

theorem stepOk_fail {K : Kind σ} {mps : List (List Name)} {ms : MState σ} {op : Op} {e e' : Err} (hinv : Inv K mps ms)
    (hstep : Ref.step (glue K mps ms) op = fail (glue K mps ms) e') (hadm : e ∈ adm (glue K mps ms) op)
    (hex : exactOp op → e = e') : StepOk K mps ms op (ms, .err e) := by
  refine ⟨hinv, rfl, by rw [hstep]; rfl, ?_⟩
  rw [hstep]
  exact ⟨fun h => (by cases h), fun e'' he => by cases he; exact ⟨e, rfl, hadm, hex⟩⟩

theorem mem_fixOf {K : Kind σ} {mps : List (List Name)} {ms : MState σ} {mp : List Name} (h : mp ∈ mps)
    (hne : mp ≠ []) : mp ∈ fixOf K mps ms := by
  simp only [fixOf, List.mem_append, List.mem_filter]
  exact Or.inl ⟨h, by simpa using hne⟩

theorem mem_fixOf_below {K : Kind σ} {pre post : List (List Name)} {mp : List Name} {ms : MState σ}
    {A B : List (Str × σ)} {s : σ} (hat : At K pre mp post ms A s B) {f : List Name} (hf : f ∈ K.fix s) :
    mp ++ f ∈ fixOf K (pre ++ mp :: post) ms := by
  simp only [fixOf, List.mem_append]
  right
  rw [hat.eq, List.zip_append (by simp [hat.lenA])]
  simp only [List.zip_cons_cons, List.flatMap_append, List.flatMap_cons, List.mem_append, List.mem_map]
  exact Or.inr (Or.inl ⟨f, hf, rfl⟩)

/-- **from the default tree to the whole**: no mount point lies at or above the path, so the reference's `op` on the
glued tree is its `op` on the default tree, re-glued (`step_default`) -/
theorem stepOk_of_default (D : FS State) (F : FS σ) {K : Kind σ} {mps : List (List Name)} {ms : MState σ} {op : Op}
    {p : Str} {cs : List Name} (hinv : Inv K mps ms) (hm : isMemberOp op = true) (hp : op.paths = [p])
    (hv : validate p = .ok cs) (hmode : ∀ q m, op = .openbin q m → (parseBinMode m).isSome = true)
    (hn : ∀ mp ∈ mps, ¬ mp <+: cs) (hD : Refines1 plainKind D ms.dflt op) :
    StepOk K mps ms op (call D F ms 0 op) := by
  obtain ⟨d1, _, d3, d4⟩ := hD
  simp only [plainKind, id] at d1 d3 d4
  obtain ⟨s1, s2, s3⟩ := step_default hinv.dstd.1 (grafts_disj hinv) (grafts_ph hinv)
    (fun e he => hn e.1 (grafts_mem hinv he)) hm hp hv hmode
  have hG : glue K mps ms = ⟨glueN ms.dflt.root (grafts K mps ms.mounts), false⟩ := by
    simp only [glue, hinv.opn]
  refine ⟨⟨hinv.opn, d1, hinv.keys, hinv.clean, hinv.disj, hinv.minv, fun mp hmp => ?_⟩, rfl, ?_, ?_⟩
  · obtain ⟨e, he, rfl⟩ := List.mem_map.1 (grafts_fst K mps ms.mounts (keys_length hinv.keys) ▸ hmp)
    show ∃ es, (D ms.dflt op).1.root.get e.1 = _
    rw [d3, s2 e he]
    exact hinv.ph e.1 (grafts_mem hinv he)
  · rw [hG, s1, ← d3]
    simp only [glue, call, hinv.opn]
  · rw [hG, s1]
    exact d4.mono (fun e he => .inl (s3 ▸ he)) id

/-- **from a member to the whole**: every class admissible for the member is admissible for the whole, unless the
member has to answer `op'` exactly (the reference's own class is truthful) -/
theorem stepOk_of_member (F : FS σ) {K : Kind σ} {pre post : List (List Name)} {mp : List Name} {ms : MState σ}
    {A B : List (Str × σ)} {s : σ} {es : Ents} {op op' : Op} {p : Str} (hinv : Inv K (pre ++ mp :: post) ms)
    (hat : At K pre mp post ms A s B) (hes : K.abs s = ⟨.dir es, false⟩) (hp : op.paths = [p])
    (hF : Refines1 K F s op')
    (hstep : Ref.step (glue K (pre ++ mp :: post) ms) op =
      graft (glue K (pre ++ mp :: post) ms) mp (Ref.step ⟨.dir es, false⟩ op'))
    (hadm : ∀ e ∈ adm ⟨.dir es, false⟩ op', e ∈ adm (glue K (pre ++ mp :: post) ms) op ∨ exactOp op')
    (hex : exactOp op → exactOp op') :
    StepOk K (pre ++ mp :: post) ms op ({ ms with mounts := A ++ (keyOf mp, (F s op').1) :: B }, (F s op').2) := by
  have hGc : (glue K (pre ++ mp :: post) ms).closed = false := hinv.opn
  obtain ⟨f1, f2, f3, f4⟩ := hF
  rw [hes] at f3 f4
  obtain ⟨i1, i2, i3⟩ := member_step_state hinv hat f1 f2
  refine ⟨i1, i2, ?_, ?_⟩
  · rw [i3, f3, hstep]
    simp only [graft, hGc]
  · rw [hstep]
    refine f4.mono (fun e he => (hadm e he).imp_right fun hx => ⟨hx, fun e' he' => ?_⟩) hex
    have he'' : (Ref.step (glue K (pre ++ mp :: post) ms) op).2 = .err e' := by rw [hstep]; exact he'
    exact (QueryLemmas.step_truthful _ _ _ (glue_wf_isDir hinv).2 he'').resolve_right
      fun h => step_one_not_loose hp (h ▸ he'')

/-- **the common body `fs, _path = self._delegate(path); return fs.<method>(_path, …)` refines the
reference on the glued tree** — for every member-level call, on any path string, that is not the removal
of a fixture (and, for `getinfo`, does not name a mount point: that case has the name fix-up) -/
theorem routed_spec (D : FS State) (F : FS σ) {K : Kind σ} {mps : List (List Name)} {ms : MState σ}
    (hD : PrimRefines plainKind D) (hF : PrimRefines K F) (hinv : Inv K mps ms)
    (op : Op) (p : Str) (hp : op.paths = [p]) (hm : isMemberOp op = true)
    (hfix : ¬ hitsFixture (fixOf K mps ms) op)
    (hgi : ∀ q, op = .getinfo q → ∀ mp ∈ mps, mp ≠ [] → validate p ≠ .ok mp)
    (hmode : ∀ q m, op = .openbin q m → (parseBinMode m).isSome = true) :
    let r := routed D F ms p (fun q => mapPaths (fun _ => q) op)
    let G := glue K mps ms
    Inv K mps r.1 ∧ fixOf K mps r.1 = fixOf K mps ms ∧ glue K mps r.1 = (Ref.step G op).1 ∧
    OutRel G op r.2 (Ref.step G op).2 := by
  intro r G
  have hGc : G.closed = false := hinv.opn
  cases hv : validate p with
  | err e =>
    have hr : r = (ms, .err e) := by
      simp only [r, routed, delegate_err hv]
    obtain ⟨h1, h2⟩ := QueryLemmas.step_refused hGc hp hv hmode
    rw [hr]
    exact stepOk_fail hinv h1 (by rw [h2]; simp) (fun _ => rfl)
  | ok cs =>
    have hcn := validate_clean p cs hv
    rcases route_cases hinv hv with ⟨hnone, hdel⟩ | ⟨pre, mp, post, rest, A, s, B, es, rfl, rfl, hat, hdel, hes, hget⟩
    · have hr : r = call D F ms 0 op := by
        simp only [r, routed, hdel, mapPaths_self hp]
      rw [hr]
      exact stepOk_of_default D F hinv hm hp hv hmode hnone (hD ms.dflt op hinv.dstd hm
        (noNulOp_one hp (not_nul_of_validate_ok hv)) (by cases op <;> first | exact id | exact fun ⟨_, _, h⟩ => nomatch h))
    · have hrest : ∀ c ∈ rest, cleanName c = true := fun c hc => hcn c (by simp [hc])
      have hvr : validate (joinSlash rest) = .ok rest := validate_mkp false hrest
      let op' := mapPaths (fun _ => joinSlash rest) op
      have hp' : op'.paths = [joinSlash rest] := by simp only [op', paths_mapPaths, hp]; rfl
      have hr : r = ({ ms with mounts := A ++ (keyOf mp, (F s op').1) :: B }, (F s op').2) := by
        simp only [r, routed, hdel]
        exact call_member_eq D F hat op'
      -- the mount point itself is a fixture, and its `getinfo` is not routed here
      have hroot : rest = [] → mp ≠ [] → (∀ q, op ≠ .getinfo q) ∧ (∀ q, op ≠ .remove q) ∧ ∀ q, op ≠ .removedir q := by
        rintro rfl hmp
        rw [List.append_nil] at hv
        have hmpfix : mp ∈ fixOf K (pre ++ mp :: post) ms := mem_fixOf (by simp) hmp
        refine ⟨?_, ?_, ?_⟩ <;> rintro q rfl <;> cases hp
        · exact hgi _ rfl mp (by simp) hmp hv
        · exact hfix ⟨_, hv, hmpfix⟩
        · exact hfix ⟨_, hv, hmpfix⟩
      have hF' := hF s op' hat.sinv (by rw [isMemberOp_mapPaths]; exact hm)
        (noNulOp_one hp' (not_mem_mkp (by decide) false (noNul_of_cleanName hrest)))
        (fun hh => hfix (hitsFixture_respell hp hv hvr (mem_fixOf_below hat) hh))
      -- below the mount point, or at it for a call that does not single out the root
      have hstep := step_at_mount hGc hget hp hv hvr (by
        by_cases h1 : mp = []
        · exact .inl h1
        by_cases h2 : rest = []
        · exact .inr (.inr (rootSpecial_of_member hm (hroot h2 h1).1 (hroot h2 h1).2.2))
        · exact .inr (.inl h2))
      rw [hr]
      refine stepOk_of_member F hinv hat hes hp hF' hstep (fun e he => ?_) (fun hex => ?_)
      · -- at the mount point the member may call the root of its tree missing: `readbytes` has to be exact there
        rw [QueryLemmas.adm_admitted (s := ⟨.dir es, false⟩) rfl hp' hvr, adm1_mapPaths] at he
        rw [QueryLemmas.adm_admitted hGc hp hv]
        by_cases hx : rest = [] ∧ mp ≠ [] ∧ ∃ q, op = .readbytes q
        · obtain ⟨rfl, _, q, rfl⟩ := hx
          exact .inr hvr
        · refine .inl (adm1_at_mount hget hm (fun h0 hmp => ?_) e he)
          exact ⟨fun q hq => hx ⟨h0, hmp, q, hq⟩, (hroot h0 hmp).2.1, (hroot h0 hmp).2.2, hmode⟩
      · cases op <;> first | exact hex.elim | trivial | skip
        cases hp
        obtain ⟨_, rfl⟩ := List.append_eq_nil_iff.1 (Res.ok.inj (hv.symm.trans hex))
        exact hvr

end Calls

section Prims
variable {σ : Type}

theorem relpath_joinSlash {rest : List Name} (h : Clean rest) : relpath (joinSlash rest) = [] ↔ rest = [] := by
  have : joinSlash rest = mkp false rest := by simp [mkp]
  rw [this]
  simp only [relpath, lstripSlash_mkp h]
  exact join_clean_eq_nil_iff h

/-- no two mount points of the invariant are comparable -/
theorem mp_not_prefix {mps : List (List Name)} (hd : Disjoint mps) {mp q : List Name} (hm : mp ∈ mps) (hq : q ∈ mps)
    (hp : mp <+: q) : q = mp :=
  Decidable.byContradiction fun hne => (disjoint_mem hd hq hm hne).2 hp

theorem renameInfo_false {b : Bool} (h : b = false) (n : Name) (o : Out) : renameInfo b n o = o := by
  subst h
  rcases o with (v | e) <;> try rfl
  cases v <;> rfl

/-- **`MountFS.getinfo`** -/
theorem getinfo_spec (D : FS State) (F : FS σ) {K : Kind σ} {mps : List (List Name)} {ms : MState σ}
    (hD : PrimRefines plainKind D) (hF : PrimRefines K F) (hinv : Inv K mps ms) (p : Str) :
    StepOk K mps ms (.getinfo p) (getinfoRouted D F ms p) := by
  have hroute : (∀ mp ∈ mps, mp ≠ [] → validate p ≠ .ok mp) →
      StepOk K mps ms (.getinfo p) (routed D F ms p .getinfo) := fun h =>
    routed_spec D F hD hF hinv (.getinfo p) p rfl rfl (fun h => h) (fun _ _ => h) nofun
  cases hv : validate p with
  | err e =>
    have h1 := hroute (by intro mp _ _ h; rw [hv] at h; cases h)
    simp only [getinfoRouted, routed, delegate_err hv] at h1 ⊢
    exact h1
  | ok cs =>
    have hcn := validate_clean p cs hv
    rcases route_cases hinv hv with ⟨hnone, hdel⟩ | ⟨pre, mp, post, rest, A, s, B, es, rfl, rfl, hat, hdel, hes, hget⟩
    · have h1 := hroute (by
        intro mq hmq _ h
        cases Res.ok.inj (hv.symm.trans h)
        exact hnone _ hmq (List.prefix_refl _))
      simp only [getinfoRouted, routed, hdel] at h1 ⊢
      rw [renameInfo_false (by simp)]
      exact h1
    · by_cases hr0 : rest = []
      · -- a mount point (the root mount included): the member answers for its root, `getinfo` puts the mount point's
        -- name in, and that is what the reference says of the directory at `mp`
        subst hr0
        rw [List.append_nil] at hv hcn
        obtain ⟨f1, f2, f3, f4⟩ := hF s (.getinfo (joinSlash [])) hat.sinv rfl
          (noNulOp_one rfl (by decide)) (fun h => h)
        rw [hes] at f3 f4
        have href : Ref.step ⟨.dir es, false⟩ (.getinfo (joinSlash [])) = (⟨.dir es, false⟩, .ok (.info [] true 0)) := by
          rw [QueryLemmas.step_admitted (s := ⟨.dir es, false⟩) rfl rfl (cs := []) (by decide) (by nofun)]; rfl
        rw [href] at f3 f4
        obtain ⟨i1, i2, i3⟩ := member_step_state hinv hat f1 f2
        have hG : Ref.step (glue K (pre ++ mp :: post) ms) (.getinfo p) =
            (glue K (pre ++ mp :: post) ms, .ok (.info (lastName mp) true 0)) := by
          rw [QueryLemmas.step_admitted hinv.opn rfl hv (by nofun)]
          simp only [step1, hget, done]
        have hname : basename (Mount.normOf p) = lastName mp := by
          simp only [Mount.normOf, (validate_ok hv).2]
          exact basename_mkp _ (clean_of_cleanName hcn)
        have hdec : decide (pre.length + 1 ≠ 0 ∧ relpath (joinSlash ([] : List Name)) = []) = true :=
          decide_eq_true ⟨Nat.succ_ne_zero _, by decide⟩
        simp only [getinfoRouted, hdel]
        rw [call_member_eq D F hat, f4.1 rfl, hdec, hname]
        refine ⟨i1, i2, ?_, ?_⟩
        · rw [i3, f3, hG, setAt_self _ _ _ hget]
          simp only [glue, hinv.opn]
        · rw [hG]
          exact ⟨fun _ => rfl, fun e' he' => nomatch he'⟩
      · -- strictly below a mount point: plain routing, no fix-up
        have h1 := hroute (by
          intro mq hmq _ h
          have h := Res.ok.inj (hv.symm.trans h)
          have hmq' := mp_not_prefix hinv.disj (by simp) hmq (h ▸ List.prefix_append mp rest)
          exact hr0 (List.append_cancel_left (h.trans (hmq'.trans (List.append_nil mp).symm))))
        have hrest : Clean rest := clean_of_cleanName (fun c hc => hcn c (by simp [hc]))
        simp only [getinfoRouted, routed, hdel] at h1 ⊢
        rw [renameInfo_false (by simp [mt (relpath_joinSlash hrest).1 hr0])]
        exact h1

/-- **`_scan_mount_points` is invisible**: re-describing the entries of a listed directory through
`self.getinfo` succeeds for every entry and changes nothing the user can see -/
theorem scanMountPoints_ok (D : FS State) (F : FS σ) {K : Kind σ} {mps : List (List Name)}
    (hD : PrimRefines plainKind D) (hF : PrimRefines K F) (cs : List Name) (hcs : ∀ c ∈ cs, cleanName c = true)
    (G : State) (es : Ents) (hG : G.root.get cs = some (.dir es)) (hw : G.root.wf = true) :
    ∀ (names : List Name) (ms : MState σ), Inv K mps ms → glue K mps ms = G → (∀ n ∈ names, n ∈ Ents.names es) →
      let r := scanMountPoints D F ('/' :: dirs cs) names ms
      r.2 = .ok () ∧ Inv K mps r.1 ∧ fixOf K mps r.1 = fixOf K mps ms ∧ glue K mps r.1 = G := by
  intro names
  induction names with
  | nil => intro ms hinv hg _; exact ⟨rfl, hinv, rfl, hg⟩
  | cons n rest ih =>
    intro ms hinv hg hn
    simp only [scanMountPoints]
    split
    · -- a mount point: one full `getinfo`
      have hnm : n ∈ Ents.names es := hn n (by simp)
      obtain ⟨ch, hch⟩ := Option.ne_none_iff_exists'.1 ((mem_names_iff n es).1 hnm)
      have hesw : entsWf es = true := by
        have := TreeLemmas.get_wf cs G.root _ hw hG
        simpa [Node.wf] using this
      have hnc : cleanName n = true := lookup_cleanName n ch es hesw hch
      have hall : ∀ c ∈ cs ++ [n], cleanName c = true := by
        intro c hc
        rcases List.mem_append.1 hc with h | h
        · exact hcs c h
        · simp only [List.mem_singleton] at h; subst h; exact hnc
      have hq : ('/' :: dirs cs) ++ n = mkp true (cs ++ [n]) := by
        simp only [mkp, if_true, join_snoc]; rfl
      rw [hq]
      have hvq : validate (mkp true (cs ++ [n])) = .ok (cs ++ [n]) := validate_mkp true hall
      have hspec := getinfo_spec D F hD hF hinv (mkp true (cs ++ [n]))
      obtain ⟨j1, j2, j3, j4⟩ := hspec
      rw [hg, RouteLemmas.step_query_state _ _ rfl] at j3
      have hok : ((Ref.step G (.getinfo (mkp true (cs ++ [n])))).2).isOk = true := by
        have hGc : G.closed = false := by rw [← hg]; exact hinv.opn
        rw [QueryLemmas.step_admitted hGc rfl hvq (by nofun)]
        have : G.root.get (cs ++ [n]) = some ch := by
          rw [TreeLemmas.get_append, hG]; simp [Node.get, hch]
        simp only [step1, this]
        cases ch <;> rfl
      rw [hg] at j4
      have hout := j4.1 hok
      simp only [checked, hinv.opn, Bool.false_eq_true, if_false]
      have : ∃ v, (getinfoRouted D F ms (mkp true (cs ++ [n]))).2 = .ok v := by
        rw [hout]
        cases h : (Ref.step G (.getinfo (mkp true (cs ++ [n])))).2 with
        | ok v => exact ⟨v, rfl⟩
        | err e => rw [h] at hok; simp [Res.isOk] at hok
      obtain ⟨v, hv⟩ := this
      simp only [hv]
      obtain ⟨k1, k2, k3, k4⟩ := ih _ j1 j3 (fun m hm => hn m (by simp [hm]))
      exact ⟨k1, k2, by rw [k3, j2], k4⟩
    · exact ih ms hinv hg (fun m hm => hn m (by simp [hm]))

theorem listdir_cases (s : State) (hc : s.closed = false) (p : Str) :
    (∃ e, Ref.step s (.listdir p) = (s, .err e)) ∨
    (∃ cs es, validate p = .ok cs ∧ s.root.get cs = some (.dir es) ∧
      Ref.step s (.listdir p) = (s, .ok (.names (Ents.names es)))) := by
  cases hv : validate p with
  | err e => exact .inl ⟨e, (QueryLemmas.step_refused hc (op := .listdir p) rfl hv nofun).1⟩
  | ok cs =>
    rw [ref_listdir s hc p cs hv]
    rcases hg : s.root.get cs with _ | _ | es
    · exact .inl ⟨.ResourceNotFound, rfl⟩
    · exact .inl ⟨.DirectoryExpected, rfl⟩
    · exact .inr ⟨cs, es, rfl, hg, rfl⟩

theorem stepOk_isempty {K : Kind σ} {mps : List (List Name)} {ms ms' : MState σ} {p : Str} {o : Out}
    (h : StepOk K mps ms (.listdir p) (ms', o)) : StepOk K mps ms (.isempty p) (ms', firstOf o) := by
  obtain ⟨h1, h2, h3, h4, h5⟩ := h
  rw [StepOk, ref_isempty]
  unfold OutRel
  rw [adm_isempty]
  refine ⟨h1, h2, h3, fun hok => congrArg firstOf (h4 ((firstOf_isOk _).symm.trans hok)), fun e' he' => ?_⟩
  obtain ⟨e, g1, g2, _⟩ := h5 e' (firstOf_err_iff.1 he')
  exact ⟨e, firstOf_err_iff.2 g1, g2, fun h => h.elim⟩

theorem mem_take {α : Type} {l : List α} {n : Nat} {x : α} (h : x ∈ l.take n) : x ∈ l := List.mem_of_mem_take h

/-- **`MountFS.scandir`** (consumed entirely — `listdir`-like — or for its first entry, as `FS.isempty` does) -/
theorem scan_spec (D : FS State) (F : FS σ) {K : Kind σ} {mps : List (List Name)} {ms : MState σ}
    (hD : PrimRefines plainKind D) (hF : PrimRefines K F) (hinv : Inv K mps ms) (p : Str)
    (fo : Bool) :
    StepOk K mps ms (if fo then .isempty p else .listdir p) (scanRouted D F ms p fo) := by
  have hR : StepOk K mps ms (.listdir p) (routed D F ms p .listdir) :=
    routed_spec D F hD hF hinv (.listdir p) p rfl rfl (by simp [hitsFixture]) (by intro q h; cases h)
      (by intro q m h; cases h)
  -- `scanRouted` = `routed` followed by `_scan_mount_points`, which is invisible
  have core : ∃ ms' o, scanRouted D F ms p fo = (ms', if fo then firstOf o else o) ∧
      StepOk K mps ms (.listdir p) (ms', o) := by
    cases hdl : delegate ms p with
    | err e =>
      refine ⟨ms, .err e, by simp [scanRouted, hdl, firstOf], ?_⟩
      simpa [routed, hdl] using hR
    | ok ir =>
      obtain ⟨i, r⟩ := ir
      simp only [routed, hdl] at hR
      simp only [scanRouted, hdl]
      generalize hx : call D F ms i (.listdir r) = x at hR ⊢
      obtain ⟨x1, x2⟩ := x
      obtain ⟨j1, j2, j3, j4⟩ := hR
      simp only at j1 j2 j3 j4 ⊢
      rcases listdir_cases (glue K mps ms) hinv.opn p with ⟨e, r1⟩ | ⟨cs, es, hv, hg, r1⟩
      · rw [r1] at j4
        obtain ⟨e2, g1, _⟩ := j4.2 e rfl
        subst g1
        refine ⟨x1, .err e2, by cases fo <;> simp [firstOf], j1, j2, j3, ?_⟩
        rw [r1]; exact j4
      · rw [r1] at j3 j4
        have := j4.1 rfl
        simp only at this
        subst this
        simp only at j3
        by_cases hbr : i = 0 ∧ ms.mounts ≠ []
        · simp only [hbr, ne_eq, not_false_eq_true, and_self, if_true]
          have hkey : Mount.mountKey (Mount.normOf p) = '/' :: dirs cs := by
            simp only [Mount.normOf, (validate_ok hv).2]
            exact RouteLemmas.mountKey_mkp (clean_of_cleanName (validate_clean p cs hv))
          rw [hkey]
          obtain ⟨k1, k2, k3, k4⟩ := scanMountPoints_ok D F hD hF cs (validate_clean p cs hv) (glue K mps ms) es hg
            (glue_wf_isDir hinv).1 (if fo then (Ents.names es).take 1 else Ents.names es) x1 j1 j3
            (by intro n hn; cases fo <;> simp only [Bool.false_eq_true, if_false, if_true] at hn
                · exact hn
                · exact List.mem_of_mem_take hn)
          refine ⟨_, .ok (.names (Ents.names es)), ?_, k2, by rw [k3, j2], by rw [k4, r1], by rw [r1]; exact j4⟩
          rw [k1]
          cases fo <;> simp [firstOf]
        · simp only [hbr, if_false]
          refine ⟨x1, .ok (.names (Ents.names es)), by cases fo <;> simp [firstOf], j1, j2, by rw [r1]; exact j3, ?_⟩
          rw [r1]; exact j4
  obtain ⟨ms', o, h1, h2⟩ := core
  rw [h1]
  cases fo
  · simpa using h2
  · simpa using stepOk_isempty h2

/-- the primitives (`Route.Prim`) the programs of `MountFs.prog` use -/
def usedPrim : Prim → Bool
  | .getinfo _ | .listdir _ | .scandir _ | .scanFirst _ | .makedir _ _ | .openbin _ _ | .openRead _ | .openWrite _
  | .openAppend _ _ | .remove _ | .removedir _ | .readbytes _ | .getsize _ | .gettype _ | .isdir _ | .isfile _
  | .setinfo _ | .upload _ _ | .writebytes _ _ => true
  | _ => false

/-- what a primitive means on ONE filesystem: the reference operation on its path -/
def primOp (pr : Prim) : Op := pr.memberOp pr.path

theorem primOp_member {pr : Prim} (h : usedPrim pr = true) : isMemberOp (primOp pr) = true := by
  cases pr <;> first | rfl | cases h

theorem primOp_paths (pr : Prim) (h : usedPrim pr = true) : (primOp pr).paths = [pr.path] := by
  cases pr <;> first | rfl | cases h

theorem memberOp_mapPaths (pr : Prim) (q : Str) (h : usedPrim pr = true) :
    pr.memberOp q = mapPaths (fun _ => q) (primOp pr) := by
  cases pr <;> first | rfl | cases h

theorem checked_of_inv {K : Kind σ} {mps : List (List Name)} {ms : MState σ} (hinv : Inv K mps ms)
    (k : MState σ × Out) : checked ms k = k := by
  simp [checked, hinv.opn]

/-- **`MountFS.removedir`**: `_delegate` on the raw path, then the root refused,
then the member's `removedir` -/
theorem removedir_spec (D : FS State) (F : FS σ) {K : Kind σ} {mps : List (List Name)} {ms : MState σ}
    (hD : PrimRefines plainKind D) (hF : PrimRefines K F) (hinv : Inv K mps ms) (p : Str)
    (hfix : ¬ hitsFixture (fixOf K mps ms) (.removedir p)) :
    StepOk K mps ms (.removedir p) (prim D F ms (.removedir p)) := by
  have hGc : (glue K mps ms).closed = false := hinv.opn
  simp only [prim, checked_of_inv hinv]
  cases hv : validate p with
  | err e =>
    obtain ⟨h1, h2⟩ := QueryLemmas.step_refused hGc (op := .removedir p) rfl hv nofun
    simp only [delegate_err hv]
    exact stepOk_fail hinv h1 (by rw [h2]; simp) (fun h => h.elim)
  | ok cs =>
    have hcn := validate_clean p cs hv
    have hc : Clean cs := clean_of_cleanName hcn
    have hnorm := (validate_ok hv).2
    have hdel : ∃ ir, delegate ms p = .ok ir := by
      rw [delegate_spec hinv hv]
      cases RouteSpec.routeSpec (idxFrom 1 mps) cs with
      | none => exact ⟨_, rfl⟩
      | some x => exact ⟨_, rfl⟩
    obtain ⟨ir, hir⟩ := hdel
    simp only [hir, Mount.normOf, hnorm]
    by_cases hroot : cs = []
    · subst hroot
      have hn0 : mkp (startsWithSlash p) [] = [] ∨ mkp (startsWithSlash p) [] = ['/'] := by
        cases startsWithSlash p <;> simp [mkp, joinWith]
      simp only [hn0, if_true]
      have hstep : Ref.step (glue K mps ms) (.removedir p) = fail (glue K mps ms) .RemoveRootError := by
        rw [QueryLemmas.step_admitted hGc rfl hv (by nofun)]; simp [step1]
      refine stepOk_fail hinv hstep ?_ (fun h => h.elim)
      rw [QueryLemmas.adm_admitted hGc (op := .removedir p) rfl hv]
      simp [adm1]
    · have hn0 : ¬ (mkp (startsWithSlash p) cs = [] ∨ mkp (startsWithSlash p) cs = ['/']) := by
        intro h
        rcases h with h | h
        · exact hroot ((mkp_eq_nil_iff hc).1 h).2
        · exact hroot ((mkp_eq_slash_iff hc).1 h).2
      simp only [hn0, if_false]
      exact routed_spec D F hD hF hinv (.removedir p) p rfl rfl hfix (by intro q h; cases h) (by intro q m h; cases h)

/-- **every method MountFS defines refines its reference meaning on the glued tree** -/
theorem prim_spec (D : FS State) (F : FS σ) {K : Kind σ} {mps : List (List Name)} {ms : MState σ}
    (hD : PrimRefines plainKind D) (hF : PrimRefines K F) (hinv : Inv K mps ms) (pr : Prim)
    (hu : usedPrim pr = true) (hfix : ¬ hitsFixture (fixOf K mps ms) (primOp pr)) :
    StepOk K mps ms (primOp pr) (prim D F ms pr) := by
  have hGc : (glue K mps ms).closed = false := hinv.opn
  have plain : ∀ (hgi : ∀ q, primOp pr ≠ .getinfo q)
      (hmode : ∀ q m, primOp pr = .openbin q m → (parseBinMode m).isSome = true),
      StepOk K mps ms (primOp pr) (routed D F ms pr.path (pr.memberOp ·)) := by
    intro hgi hmode
    have := routed_spec D F hD hF hinv (primOp pr) pr.path (primOp_paths pr hu) (primOp_member hu) hfix
      (fun q h => absurd h (hgi q)) hmode
    have hfun : (fun q => mapPaths (fun _ => q) (primOp pr)) = (pr.memberOp ·) := by
      funext q; exact (memberOp_mapPaths pr q hu).symm
    rw [hfun] at this
    exact this
  cases pr <;> simp only [usedPrim, Bool.false_eq_true] at hu
  case getinfo p => simpa [prim, primOp, Prim.memberOp, Prim.path, checked_of_inv hinv] using getinfo_spec D F hD hF hinv p
  case scandir p => simpa [prim, primOp, Prim.memberOp, Prim.path, checked_of_inv hinv] using scan_spec D F hD hF hinv p false
  case scanFirst p => simpa [prim, primOp, Prim.memberOp, Prim.path, checked_of_inv hinv] using scan_spec D F hD hF hinv p true
  case removedir p => exact removedir_spec D F hD hF hinv p hfix
  case openbin p m =>
    simp only [prim]
    by_cases hmode : (parseBinMode m).isNone = true
    · simp only [hmode, if_true]
      obtain ⟨hstep, hadm⟩ := QueryLemmas.refused hGc (op := .openbin p m) (e := .ValueError) (if_pos hmode)
      exact stepOk_fail hinv hstep hadm (fun h => h.elim)
    · simp only [hmode, Bool.false_eq_true, if_false, checked_of_inv hinv]
      have := plain (by intro q h; simp [primOp, Prim.memberOp] at h) (by
        intro q m' h
        simp only [primOp, Prim.memberOp, Prim.path, Op.openbin.injEq] at h
        obtain ⟨_, rfl⟩ := h
        cases h' : parseBinMode m <;> simp_all)
      simpa [Prim.memberOp, Prim.path] using this
  all_goals
    simp only [prim, checked_of_inv hinv]
    exact plain (by intro q h; simp [primOp, Prim.memberOp] at h) (by
      intro q m h
      first
        | (simp [primOp, Prim.memberOp] at h; done)
        | (simp only [primOp, Prim.memberOp, Prim.path, Op.openbin.injEq] at h
           obtain ⟨_, rfl⟩ := h
           decide))

/-- **`MountFS.validatepath`** agrees with the reference's `validate` (every path: `_delegate` looks at the raw
path's characters first, then normalises) -/
theorem validate_spec (D : FS State) (F : FS σ) {K : Kind σ} {mps : List (List Name)} {ms : MState σ}
    (hD : PrimRefines plainKind D) (hF : PrimRefines K F) (hinv : Inv K mps ms) (p : Str) :
    validatepath D F ms p = (match validate p with | .ok _ => .ok () | .err e => .err e) := by
  have hrt : validatepath D F ms p =
      match (routed D F ms p .exists_).2 with | .err e => .err e | .ok _ => .ok () := by
    simp only [validatepath, routed, hinv.opn, Bool.false_eq_true, if_false]
    cases delegate ms p <;> rfl
  rw [hrt]
  cases hv : validate p with
  | err e => simp only [routed, delegate_err hv]
  | ok cs =>
    -- the member's `exists` answers as the reference's on the glued tree, which succeeds on a valid path
    have hR := routed_spec D F hD hF hinv (.exists_ p) p rfl rfl (fun h => h) nofun nofun
    have hok := QueryLemmas.step_admitted (glue_std hinv) (op := .exists_ p) rfl hv nofun
    have : (routed D F ms p .exists_).2 = _ := hR.2.2.2.1 (by rw [hok]; rfl)
    rw [this, hok]
    rfl

/-- a MountFS (its states within `Inv K mps`) as a member kind: read through `glue`, fixtures `fixOf`
— so that the functor can be applied again -/
def mountKind (K : Kind σ) (mps : List (List Name)) (fx : List (List Name)) : Kind (MState σ) where
  abs := glue K mps
  inv := fun ms => Inv K mps ms ∧ fixOf K mps ms = fx
  fix := fun _ => fx
  std := fun _ h => ⟨h.1.opn, (glue_wf_isDir h.1).1, (glue_wf_isDir h.1).2⟩

end Prims

end Fs.MountLemmas
