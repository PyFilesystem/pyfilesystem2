/-
  Helper lemmas for `MultiRefines.multi_queries_refine_overlay`: queries on ANY stack of good,
  type-consistent layers answer what the reference answers on the overlay.
-/
import FsProofs.Lemmas.MultiFsOverlay

namespace Fs.MultiFsLemmas
open Fs Fs.Ref Fs.MultiFs Fs.WrapRefines Fs.MemRefines

/-- an open, non-empty stack of good layers that agree on the type of every path -/
structure GoodStack (s : MState State) : Prop where
  opn : s.closed = false
  ne : s.layers ≠ []
  good : AllGood s
  cons : Consistent s

/-- the refinement statement for a query: nothing changes; the reference's answer on the overlay, or
both fail and the class is admissible for the overlay -/
def QSim (s : MState State) (op : Op) (r : MState State × Out) : Prop :=
  r.1 = s ∧ (r.2 = (Ref.step (overlay s) op).2 ∨
    ∃ e e', (Ref.step (overlay s) op).2 = .err e ∧ r.2 = .err e' ∧ e' ∈ adm (overlay s) op)

section
variable {s : MState State}

theorem bulk_of_query {op : Op} (hq : RouteSpec.isQuery op = true) : bulk op = false := by
  cases op <;> first | rfl | cases hq

/-- `QSim` in the form of `callLayer_cases` (an answer equal to the reference's failure is admissible: `ref_err_adm`) -/
theorem QSim.cases {op : Op} {r : MState State × Out} (h : QSim s op r) (hd : (overlay s).root.isDir = true)
    (hb : bulk op = false) :
    ((Ref.step (overlay s) op).2.isOk = true ∧ r = (s, (Ref.step (overlay s) op).2)) ∨
    ∃ e e', (Ref.step (overlay s) op).2 = .err e ∧ r = (s, .err e') ∧ e' ∈ adm (overlay s) op := by
  obtain ⟨h1, h | ⟨e, e', hr, h, ha⟩⟩ := h
  · cases hr : (Ref.step (overlay s) op).2 with
    | ok v => exact Or.inl ⟨rfl, Prod.ext h1 (h.trans hr)⟩
    | err e => exact Or.inr ⟨e, e, rfl, Prod.ext h1 (h.trans hr), ref_err_adm _ hd op hb e hr⟩
  · exact Or.inr ⟨e, e', hr, Prod.ext h1 h, ha⟩

theorem order_ne_nil (G : GoodStack s) : order s ≠ [] := order_ne_nil_of_layers G.ne

theorem overNode_dir (es : Ents) (rest : Option Node) : ∃ es', overNode (.dir es) rest = .dir es' := by
  cases rest with
  | none => exact ⟨es, by simp [overNode]⟩
  | some m => cases m <;> simp [overNode]

/-- the operations whose answer depends only on the type (and, for a file, the bytes) of the node at
the path -/
def pointOp : Op → Bool
  | .isdir _ | .isfile _ | .getsize _ | .gettype _ | .readbytes _ | .openbin _ _ | .exists_ _ | .getinfo _ => true
  | _ => false

/-- answer and admissible classes of a point query depend only on the type / bytes of the node -/
theorem step1_point_congr (op : Op) (hq : pointOp op = true) (t1 t2 : State) (cs : List Name) (n : Node)
    (rest : Option Node) (h1 : t1.root.get cs = some n) (h2 : t2.root.get cs = some (overNode n rest)) :
    (step1 t1 cs op).2 = (step1 t2 cs op).2 ∧ adm1 t1.root cs op = adm1 t2.root cs op := by
  have hb1 := TreeLemmas.not_blocked_of_get t1.root n [] cs (by simpa using h1)
  have hb2 := TreeLemmas.not_blocked_of_get t2.root _ [] cs (by simpa using h2)
  have hsh : (t1.root.get cs).map shallow = (t2.root.get cs).map shallow := by
    rw [h1, h2]
    cases n with
    | file b => rw [overNode_file]
    | dir es => obtain ⟨es', he⟩ := overNode_dir es rest; rw [he]; rfl
  have hk : kindAt t1.root cs = kindAt t2.root cs := by rw [kindAt_eq, kindAt_eq]; exact kind_of_shallow hsh
  have hpk : parentKind t1.root cs = parentKind t2.root cs := by
    by_cases hne : cs = []
    · subst hne; exact kind_of_shallow hsh
    · obtain ⟨e1, hp1⟩ := TreeLemmas.get_parent_dir hne h1
      obtain ⟨e2, hp2⟩ := TreeLemmas.get_parent_dir hne h2
      simp only [parentKind, parentOf, hp1, hp2, Option.map_some, Node.isDir]
  have hkp : kindAt t1.root (parentOf cs) = kindAt t2.root (parentOf cs) := by rw [kindAt_eq, kindAt_eq]; exact hpk
  have hrn : readsNames op = false := by cases op <;> first | rfl | cases hq
  refine ⟨?_, ?_⟩
  · rw [step1_act, step1_act, hb1, hb2, hpk, act1_shallow hsh cs _ _ op hrn]
    generalize act1 cs _ _ _ op = x
    cases x <;> rfl
  · exact adm1_of_kinds hk hkp (hb1.trans hb2.symm) Iff.rfl op (by rintro p rfl; cases hq)

/-- a point query handed to the first layer that has the path (`g`: how the reference's answer is obtained
from `step1` once the path has validated — the identity, or the mode check of `openbin`) -/
theorem stack_point_found (F : FS State) (hF : RefinesRef F) (G : GoodStack s) (op : Op)
    (hq : pointOp op = true) (hqs : RouteSpec.isQuery op = true) (hb : bulk op = false)
    (cs : List Name) (g : Out → Out)
    (hred : ∀ t : State, t.closed = false → (Ref.step t op).2 = g (step1 t cs op).2)
    (hadm : ∀ t : State, t.closed = false → adm t op = adm1 t.root cs op)
    (i : Nat) (hf : (order s).find? (hasAt s cs) = some i) :
    QSim s op (callLayer F s i op) := by
  obtain ⟨l, n, _, _, hl, hn, _, _, hov⟩ := overlay_first s G.cons G.ne cs i hf
  have Gl : Good l.st := G.good l (List.mem_of_getElem? hl)
  obtain ⟨hout, hadm1⟩ := step1_point_congr op hq l.st (overlay s) cs n _ hn hov
  have hrl := hred l.st Gl.opn
  have hro := hred (overlay s) G.opn
  have hal := hadm l.st Gl.opn
  have hao := hadm (overlay s) G.opn
  rcases callLayer_cases F hF s G.good i l hl op hb with ⟨_, h⟩ | ⟨e, e', hr, h, ha⟩
  · rw [h, RouteLemmas.step_query_state l.st op hqs, set_st_self _ _ _ hl]
    exact ⟨rfl, Or.inl (by rw [hrl, hro, hout])⟩
  · rw [h]
    refine ⟨rfl, Or.inr ⟨e, e', ?_, rfl, ?_⟩⟩
    · rw [hro, ← hout, ← hrl, hr]
    · rw [hao, ← hadm1, ← hal]; exact ha

/-- `_delegate(path)` then the same query on that layer (`openbin` included, when its mode parses) -/
theorem stack_onDelegate (F : FS State) (hF : RefinesRef F) (G : GoodStack s) (op : Op) (p : Str)
    (hp : op.paths = [p]) (hm : ∀ q m, op = .openbin q m → (parseBinMode m).isSome = true) (hq : pointOp op = true)
    (hqs : RouteSpec.isQuery op = true) (hb : bulk op = false) (onNone : Out)
    (hmiss : ∀ cs, validate p = .ok cs → (overlay s).root.get cs = none →
      step1 (overlay s) cs op = (overlay s, onNone)) :
    QSim s op (onDelegate F s p op onNone) := by
  rw [onDelegate_eq F hF s G.good p op onNone]
  cases hv : validate p with
  | err e =>
    simp only [order_ne_nil G, if_false]
    exact ⟨rfl, Or.inl (by rw [(QueryLemmas.step_refused G.opn hp hv hm).1]; rfl)⟩
  | ok cs =>
    simp only
    cases hf : (order s).find? (hasAt s cs) with
    | none =>
      exact ⟨rfl, Or.inl (by
        rw [QueryLemmas.step_admitted G.opn hp hv hm, hmiss cs hv (overlay_get_none s G.cons G.ne cs hf)])⟩
    | some i =>
      exact stack_point_found F hF G op hq hqs hb cs id
        (fun t ht => by rw [QueryLemmas.step_admitted ht hp hv hm]; rfl)
        (fun t ht => QueryLemmas.adm_admitted ht hp hv) i hf

theorem stack_exists (F : FS State) (hF : RefinesRef F) (G : GoodStack s) (p : Str) :
    QSim s (.exists_ p) (existsM F s p) := by
  rw [existsM_eq F hF s G.good p]
  refine ⟨rfl, Or.inl ?_⟩
  rw [ref_exists (overlay s) G.opn]
  cases hv : validate p with
  | err e => simp [order_ne_nil G]
  | ok cs =>
    simp only [anyHas]
    cases hf : (order s).find? (hasAt s cs) with
    | none => simp [overlay_get_none s G.cons G.ne cs hf]
    | some i =>
      obtain ⟨_, _, _, _, _, _, _, _, hov⟩ := overlay_first s G.cons G.ne cs i hf
      simp [hov]

theorem stack_getinfo (F : FS State) (hF : RefinesRef F) (G : GoodStack s) (p : Str) :
    QSim s (.getinfo p) (getinfoM F s p) := by
  have hro := QueryLemmas.step_one (overlay s) (.getinfo p) p G.opn rfl nofun
  cases hv : validate p with
  | err e =>
    rw [getinfoM_eq F hF s G.good p, hv]
    simp only [order_ne_nil G, if_false]
    exact ⟨rfl, Or.inl (by rw [hro, hv]; rfl)⟩
  | ok cs =>
    cases hf : (order s).find? (hasAt s cs) with
    | none =>
      rw [getinfoM_eq F hF s G.good p, hv]
      simp only [hf]
      refine ⟨rfl, Or.inl ?_⟩
      rw [hro, hv]; simp [step1, overlay_get_none s G.cons G.ne cs hf, fail]
    | some i =>
      obtain ⟨l, n, _, _, hl, hn, _, _, hov⟩ := overlay_first s G.cons G.ne cs i hf
      rw [getinfoM_has F hF s G.good p cs hv i hf l n hl hn]
      refine ⟨rfl, Or.inl ?_⟩
      rw [hro, hv]
      cases n with
      | file b => rw [overNode_file] at hov; simp [step1, hov, done]
      | dir es =>
        obtain ⟨es', he⟩ := overNode_dir es _
        rw [he] at hov; simp [step1, hov, done]

/-- `openbin` in a mode that cannot write (the read side of `MultiFS.openbin`) -/
theorem stack_openbin_read (F : FS State) (hF : RefinesRef F) (G : GoodStack s) (p m : Str)
    (hcw : Route.checkWritable m = false) :
    QSim s (.openbin p m) (openbinM F s p m) := by
  unfold openbinM
  have hqs : RouteSpec.isQuery (.openbin p m) = true := by
    simp only [RouteSpec.isQuery]; rw [show (m.contains 'w' || m.contains 'a' || m.contains '+' || m.contains 'x') = false from hcw]; rfl
  cases hpm : parseBinMode m with
  | some md =>
    -- a mode that parses: an ordinary one-path query
    have hmo : Route.modeOk m = true := by
      cases h : Route.modeOk m with
      | true => rfl
      | false => rw [parse_none_of_not_modeOk m h] at hpm; cases hpm
    simp only [hmo, Bool.not_true, Bool.false_eq_true, if_false, hcw]
    exact stack_onDelegate F hF G _ p rfl (fun _ _ e => by cases e; rw [hpm]; rfl) rfl hqs rfl _
      (fun cs _ hg => step1_openbin_missing (overlay s) cs p m md hpm (RouteLemmas.parse_readonly m md hpm hcw).1 hg)
  | none =>
    -- the reference says ValueError before it looks at the path; `Mode(mode)` lets a `t` through, and then the
    -- path is looked at first
    have hro : (Ref.step (overlay s) (.openbin p m)).2 = .err .ValueError := by
      rw [QueryLemmas.step_openbin (overlay s) p m G.opn, hpm]; rfl
    cases hmo : Route.modeOk m with
    | false => exact ⟨rfl, Or.inl hro.symm⟩
    | true =>
      simp only [Bool.not_true, Bool.false_eq_true, if_false, hcw]
      rw [onDelegate_eq F hF s G.good p _ _]
      have hadm := QueryLemmas.adm_openbin (overlay s) p m G.opn
      cases hv : validate p with
      | err e =>
        simp only [order_ne_nil G, if_false]
        exact ⟨rfl, Or.inr ⟨.ValueError, e, hro, rfl, by rw [hadm, hv, hpm]; simp⟩⟩
      | ok cs =>
        simp only
        rw [hv] at hadm
        cases hf : (order s).find? (hasAt s cs) with
        | some i =>
          exact stack_point_found F hF G _ rfl hqs rfl cs (fun _ => .err .ValueError)
            (fun t ht => by rw [QueryLemmas.step_openbin t p m ht, hpm]; rfl)
            (fun t ht => by rw [QueryLemmas.adm_openbin t p m ht, hv]) i hf
        | none =>
          exact ⟨rfl, Or.inr ⟨.ValueError, .ResourceNotFound, hro, rfl, by
            rw [hadm]; simp [adm1, hpm, admFileArg, kindAt, overlay_get_none s G.cons G.ne cs hf]⟩⟩

end

end Fs.MultiFsLemmas
