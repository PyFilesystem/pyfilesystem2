/-
  Lemmas about the modelled FTP server (`FsModel.FtpServer`): the listing round trip — what the server
  renders (`FtpParse`'s renderers over the profile) is parsed back by the library's parsers (the round-trip
  lemmas of `FtpLemmas`) into exactly the entries of the directory.
-/
import FsModel.FtpServer
import FsModel.Ftp
import FsProofs.Lemmas.FtpLemmas
import FsProofs.Lemmas.PathLemmas
import FsProofs.Lemmas.TreeLemmas

namespace Fs.FtpServerLemmas
open Fs Fs.Path Fs.FtpParse Fs.FtpServer Fs.FtpLemmas

/-! ### decimal rendering -/

theorem decimalAux_spec : ∀ (f n : Nat), n < f →
    natOfDigits (decimalAux f n) = n ∧ decimalAux f n ≠ [] ∧ ∀ c ∈ decimalAux f n, isDigit c = true
  | 0, n, h => absurd h (Nat.not_lt_zero n)
  | f + 1, n, h => by
    unfold decimalAux
    by_cases h10 : n < 10
    · simp only [h10, if_true]
      refine ⟨?_, by simp, ?_⟩
      · have := digitChar_val n
        simp only [natOfDigits, List.foldl_cons, List.foldl_nil, Nat.zero_mul, Nat.zero_add]
        rw [this]; exact Nat.mod_eq_of_lt h10
      · intro c hc; simp only [List.mem_singleton] at hc; subst hc; exact digitChar_isDigit n
    · simp only [h10, if_false]
      have hlt : n / 10 < f := by omega
      obtain ⟨h1, h2, h3⟩ := decimalAux_spec f (n / 10) hlt
      refine ⟨?_, by simp, ?_⟩
      · rw [natOfDigits_snoc, h1, digitChar_val]; omega
      · intro c hc
        rcases List.mem_append.1 hc with hc | hc
        · exact h3 c hc
        · simp only [List.mem_singleton] at hc; subst hc; exact digitChar_isDigit n

theorem decimal_val (n : Nat) : natOfDigits (decimal n) = n := (decimalAux_spec (n + 1) n (Nat.lt_succ_self n)).1
theorem decimal_ne (n : Nat) : decimal n ≠ [] := (decimalAux_spec (n + 1) n (Nat.lt_succ_self n)).2.1
theorem decimal_digits (n : Nat) : ∀ c ∈ decimal n, isDigit c = true :=
  (decimalAux_spec (n + 1) n (Nat.lt_succ_self n)).2.2

/-! ### the wire form of a path -/

/-- PathLemmas' table over `mkp` applies to the wire form -/
theorem wirePath_eq (cs : List Name) : wirePath cs = PathLemmas.mkp true cs := by
  cases cs with
  | nil => rfl
  | cons c r =>
    show (c :: r).flatMap (fun c => '/' :: c) = '/' :: joinWith '/' (c :: r)
    induction r generalizing c with
    | nil => simp [joinWith]
    | cons d r ih => rw [List.flatMap_cons, ih d]; simp [joinWith]

theorem wfName_of_clean {c : Name} (h : cleanName c = true) : WFName c :=
  have ⟨h1, h2, h3, h4⟩ := (TreeLemmas.cleanName_iff.1 h).1
  ⟨h1, h4, h2, h3⟩

/-- the entry line of an `MLST` reply states the fully qualified pathname; the library takes its last
    component -/
theorem pathName_wire (cs : List Name) (hne : cs ≠ []) (hcl : ∀ c ∈ cs, cleanName c = true) :
    pathName (wirePath cs) = some (cs.getLast?.getD []) := by
  have hc := TreeLemmas.clean_of_cleanName hcl
  have hl := wfName_of_clean (hcl _ (TreeLemmas.last_mem cs hne))
  have h1 : ¬ (PathLemmas.mkp true cs = [] ∨ PathLemmas.mkp true cs = ['/']) := by
    rw [PathLemmas.mkp_eq_nil_iff hc, PathLemmas.mkp_eq_slash_iff hc]; simp [hne]
  unfold pathName
  simp only [wirePath_eq, h1, if_false, PathLemmas.rstripSlash_mkp hc hne, PathLemmas.basename_mkp true hc,
    hl.ne, Option.some.injEq, hl.dot, hl.dotdot, or_self]

/-! ### the facts of an entry are well-formed -/

theorem stops_of_head (p : Char → Bool) (s : Str) (h : ∀ c r, s = c :: r → p c = false) : Stops p s := h

instance (p : Char → Bool) : (s : Str) → Decidable (Stops p s)
  | [] => isTrue fun _ _ h => nomatch h
  | c :: _ => decidable_of_iff (p c = false) ⟨fun h _ _ e => by cases e; exact h, fun h => h c _ rfl⟩

instance (s : Str) : Decidable (Stripped s) := inferInstanceAs (Decidable (_ ∧ _))

instance (kv : Str × Str) : Decidable (WFFact kv) :=
  decidable_of_iff ('=' ∉ kv.1 ∧ ';' ∉ kv.1 ∧ ' ' ∉ kv.1 ∧ ';' ∉ kv.2 ∧ ' ' ∉ kv.2 ∧ Stripped kv.1 ∧ Stripped kv.2)
    ⟨fun ⟨a, b, c, d, e, f, g⟩ => ⟨a, b, c, d, e, f, g⟩, fun ⟨a, b, c, d, e, f, g⟩ => ⟨a, b, c, d, e, f, g⟩⟩

theorem wf_size (n : Nat) : WFFact (kSize, decimal n) :=
  ⟨show '=' ∉ kSize by decide, show ';' ∉ kSize by decide, show ' ' ∉ kSize by decide,
   digits_not_mem _ (decimal_digits n) ';' (by decide), digits_not_mem _ (decimal_digits n) ' ' (by decide),
   show Stripped kSize by decide, digits_stripped _ (decimal_digits n)⟩

theorem entryFacts_wf (cfg : Profile) (hcf : Conforming cfg) (name : Name) (n : Node) :
    ∀ kv ∈ entryFacts cfg name n, WFFact kv := by
  intro kv hkv
  simp only [entryFacts, List.mem_cons] at hkv
  rcases hkv with rfl | rfl | h
  · cases n.isDir <;> decide
  · exact wf_size _
  · exact hcf.facts_wf name n kv h

theorem entryFacts_ne (cfg : Profile) (name : Name) (n : Node) : entryFacts cfg name n ≠ [] := by
  simp [entryFacts]

/-- the facts as the library stores them: keys lower-cased -/
def parsedFacts (cfg : Profile) (name : Name) (n : Node) : List (Str × Str) :=
  (entryFacts cfg name n).map fun kv => (lower kv.1, kv.2)

theorem parsedFacts_eq (cfg : Profile) (name : Name) (n : Node) :
    parsedFacts cfg name n = (kType, if n.isDir then kDir else kFile) :: (kSize, decimal (sizeOf cfg n)) ::
      (cfg.facts name n).map fun kv => (lower kv.1, kv.2) := by
  simp only [parsedFacts, entryFacts, List.map_cons]
  rw [show lower kType = kType by decide, show lower kSize = kSize by decide]

def StatesSize (cfg : Profile) (n : Node) : Prop := (decimal (sizeOf cfg n)).length ≤ maxStrDigits

theorem statesSize_of (cfg : Profile) (hcf : Conforming cfg) (n : Node) (h : SizeOk n) : StatesSize cfg n := by
  cases n with
  | file b => exact h
  | dir es => exact hcf.dir_size

/-- C20's `mlsd_roundtrip` for an arbitrary pathname text behind the facts -/
theorem parseMlsxLine_text (facts : List (Str × Str)) (text nm : Str)
    (hf : ∀ kv ∈ facts, WFFact kv) (hne : facts ≠ [])
    (hnd : (facts.map (fun kv => lower kv.1)).Nodup) (hp : pathName (rstripEol text) = some nm)
    (ty : Str) (hty : (dictGet kType (facts.map (fun kv => (lower kv.1, kv.2)))).getD kFile = ty)
    (htyok : ty = kDir ∨ ty = kFile)
    (sz : Nat) (hsz : mlsdSize (facts.map (fun kv => (lower kv.1, kv.2))) = .ok sz)
    (mo cr : Option (Option Int))
    (hmo : mlsdTime (facts.map (fun kv => (lower kv.1, kv.2))) kModify = .ok mo)
    (hcr : mlsdTime (facts.map (fun kv => (lower kv.1, kv.2))) kCreate = .ok cr) :
    parseMlsxLine (renderMlsd facts text) =
      .ok (some ⟨nm, ty = kDir, facts.map (fun kv => (lower kv.1, kv.2)), sz, mo, cr⟩) :=
  by rw [parseMlsxLine_rendered facts text hf hne hnd, hp, mlsxVal_some nm _ ty hty htyok sz hsz mo cr hmo hcr]

/-- one entry line, for any pathname text behind the facts of `k` whose `pathName` is `nm` -/
theorem entry_line (cfg : Profile) (hcf : Conforming cfg) (text nm : Str) (k : Name) (n : Node)
    (hsz : StatesSize cfg n) (hp : pathName (rstripEol text) = some nm) :
    ∃ i, parseMlsxLine (renderMlsd (entryFacts cfg k n) text) = .ok (some i) ∧
      (i.name, i.isDir, i.size) = (nm, n.isDir, sizeOf cfg n) := by
  have hsize : mlsdSize (parsedFacts cfg k n) = .ok (sizeOf cfg n) := by
    have := mlsdSize_digits (parsedFacts cfg k n) (decimal (sizeOf cfg n))
      (by rw [parsedFacts_eq]; simp [dictGet, show kType ≠ kSize by decide])
      (decimal_ne _) (decimal_digits _) hsz
    rw [this, decimal_val]
  have hty : (dictGet kType (parsedFacts cfg k n)).getD kFile = (if n.isDir then kDir else kFile) := by
    rw [parsedFacts_eq]; simp [dictGet]
  refine ⟨_, parseMlsxLine_text _ text nm (entryFacts_wf cfg hcf k n) (entryFacts_ne cfg k n) (hcf.facts_nodup k n) hp
    _ hty (by cases n.isDir <;> simp) _ hsize _ _ (eq_ok_valOr none (mlsdTime_ok _ _)) (eq_ok_valOr none (mlsdTime_ok _ _)), ?_⟩
  cases n.isDir <;> simp [show kFile ≠ kDir by decide]

/-- what the library makes of one entry of a directory -/
def entOf (cfg : Profile) (kv : Name × Node) : Name × Bool × Nat := (kv.1, kv.2.isDir, sizeOf cfg kv.2)

/-- an entry the MLSD format carries faithfully (C20: `WFName`, `NoEol`) and whose size can be stated -/
def MlsdOk (cfg : Profile) (kv : Name × Node) : Prop := WFName kv.1 ∧ NoEol kv.1 ∧ StatesSize cfg kv.2

theorem map_filterMap_of_some {α β γ : Type} (f : α → Option β) (g : β → γ) (k : α → γ) (l : List α)
    (H : ∀ a ∈ l, (f a).map g = some (k a)) : (l.filterMap f).map g = l.map k := by
  induction l with
  | nil => rfl
  | cons a l ih =>
    have ha := H a (by simp)
    cases hf : f a with
    | none => rw [hf] at ha; cases ha
    | some b =>
      rw [hf] at ha
      simp [hf, Option.some.inj ha, ih fun a h => H a (by simp [h])]

theorem mlsd_listing (cfg : Profile) (hcf : Conforming cfg) (es : Ents) (h : ∀ kv ∈ es, MlsdOk cfg kv) :
    ∃ infos, parseMlsx (es.map fun kv => mlsxLine cfg kv.1 kv.2) = .ok infos ∧
      infos.map (fun i => (i.name, i.isDir, i.size)) = es.map (entOf cfg) := by
  refine ⟨_, parseMlsx_eq _, ?_⟩
  rw [List.filterMap_map]
  refine map_filterMap_of_some _ _ _ es fun kv hkv => ?_
  obtain ⟨hn, heol, hsz⟩ := h kv hkv
  obtain ⟨i, hl, hi⟩ := entry_line cfg hcf kv.1 kv.1 kv.1 kv.2 hsz (by rw [rstripEol_noEol _ heol, pathName_wf _ hn])
  rw [Function.comp, show mlsxVal _ = some i from Res.ok.inj ((parseMlsxLine_eq (mlsxLine cfg kv.1 kv.2)).symm.trans hl)]
  exact congrArg some hi

/-! ### the MLST reply -/

theorem not_mem_wirePath (x : Char) (hx : x ≠ '/') (cs : List Name) (h : ∀ c ∈ cs, x ∉ c) : x ∉ wirePath cs := by
  rw [wirePath_eq]
  exact PathLemmas.not_mem_mkp hx true h

theorem entryFacts_noNl (cfg : Profile) (hcf : Conforming cfg) (name : Name) (n : Node) :
    ∀ kv ∈ entryFacts cfg name n, '\n' ∉ kv.1 ∧ '\n' ∉ kv.2 := by
  intro kv hkv
  simp only [entryFacts, List.mem_cons] at hkv
  rcases hkv with rfl | rfl | h
  · cases n.isDir
    · exact ⟨show '\n' ∉ kType by decide, show '\n' ∉ kFile by decide⟩
    · exact ⟨show '\n' ∉ kType by decide, show '\n' ∉ kDir by decide⟩
  · exact ⟨show '\n' ∉ kSize by decide, digits_not_mem _ (decimal_digits _) '\n' (by decide)⟩
  · exact hcf.facts_line name n kv h

theorem noEol_of_noCrLf {n : Name} (h : NoCrLf n) : NoEol n :=
  stops_reverse_of_all _ _ fun c hc => by
    have hr : c ≠ '\r' := fun e => h.1 (e ▸ hc)
    have hn : c ≠ '\n' := fun e => h.2 (e ▸ hc)
    simp [isEol, hr, hn]

/-- the three lines of an `MLST` reply as `response.split("\n")` cuts them (/repo 79535c4) -/
theorem split_mlst (cfg : Profile) (hcf : Conforming cfg) (p : List Name) (n : Node)
    (hp : ∀ c ∈ p, '\n' ∉ c) :
    ((splitOn '\n' (mlstText cfg p n)).drop 1).dropLast =
      [' ' :: renderMlsd (entryFacts cfg (p.getLast?.getD []) n) (wirePath p)] := by
  have hwire : '\n' ∉ wirePath p := not_mem_wirePath _ (by decide) p hp
  have h1 : '\n' ∉ "250-Listing \"".toList ++ wirePath p ++ "\":".toList := by
    simp only [List.mem_append, not_or]
    exact ⟨⟨by rw [String.toList_ofList]; decide, hwire⟩, by rw [String.toList_ofList]; decide⟩
  have h2 : '\n' ∉ ' ' :: renderMlsd (entryFacts cfg (p.getLast?.getD []) n) (wirePath p) := by
    simp only [renderMlsd_eq, List.mem_cons, List.mem_append, not_or]
    exact ⟨by decide, not_mem_factsText _ (by decide) (by decide) _ (entryFacts_noNl cfg hcf _ n), by decide, hwire⟩
  unfold mlstText
  rw [List.append_assoc, List.cons_append, PathLemmas.splitOn_append_sep _ _ _ h1,
    PathLemmas.splitOn_append_sep _ _ _ h2,
    PathLemmas.splitOn_of_not_mem _ _ (by rw [String.toList_ofList]; decide)]
  simp

theorem mlst_reply (cfg : Profile) (hcf : Conforming cfg) (p : List Name) (n : Node) (hne : p ≠ [])
    (hcl : ∀ c ∈ p, cleanName c = true) (hp : ∀ c ∈ p, NoCrLf c) (hsz : StatesSize cfg n) :
    ∃ i, parseMlsx (((splitOn '\n' (mlstText cfg p n)).drop 1).dropLast) = .ok [i] ∧
      (i.name, i.isDir, i.size) = (p.getLast?.getD [], n.isDir, sizeOf cfg n) := by
  rw [split_mlst cfg hcf p n (fun c hc => (hp c hc).2)]
  have heol : rstripEol (wirePath p) = wirePath p :=
    rstripEol_noEol _ (noEol_of_noCrLf ⟨not_mem_wirePath _ (by decide) p fun x hx => (hp x hx).1,
      not_mem_wirePath _ (by decide) p fun x hx => (hp x hx).2⟩)
  obtain ⟨i, hl, hi⟩ := entry_line cfg hcf (wirePath p) (p.getLast?.getD []) (p.getLast?.getD []) n hsz
    (by rw [heol, pathName_wire p hne hcl])
  refine ⟨i, ?_, hi⟩
  simp only [parseMlsx]
  rw [parseMlsxLine_lead_space _ (render_head _ _ (entryFacts_wf cfg hcf _ n) (entryFacts_ne cfg _ n)), hl]

/-! ### LIST -/

/-- an entry the LIST format carries faithfully (C20: `WFLinuxName`) and whose size can be stated -/
def ListOk (cfg : Profile) (kv : Name × Node) : Prop := Stops isSpace kv.1 ∧ '\n' ∉ kv.1 ∧ StatesSize cfg kv.2

theorem listEntry_wf (cfg : Profile) (hcf : Conforming cfg) (k : Name) (v : Node) (h : ListOk cfg (k, v)) :
    WFLinux cfg.cy (listEntry cfg k v) where
  ty := by cases v <;> simp [listEntry, Node.isDir, isTypeChar]
  perms := hcf.list_perms v
  suffix := Or.inl rfl
  links := hcf.list_links v
  uid := hcf.list_uid
  gid := hcf.list_gid
  size := ⟨decimal_ne _, decimal_digits _, h.2.2⟩
  time := hcf.list_time
  name :=
    { start := h.1, nl := h.2.1, nl_target := nofun, target := nofun
      link := fun hl => by cases v <;> simp [listEntry, Node.isDir] at hl }

theorem strip_ne_nil (c : Char) (r : Str) (h : isSpace c = false) : strip (c :: r) ≠ [] := by
  unfold strip lstrip rstrip
  rw [List.dropWhile_cons_of_neg (by simp [h]), List.reverse_cons, dropWhile_append_cons isSpace _ c [] h]
  simp

theorem listLine_head (cfg : Profile) (k : Name) (v : Node) :
    ∃ c r, listLine cfg k v = c :: r ∧ isSpace c = false := by
  refine ⟨if v.isDir then 'd' else '-', _, rfl, ?_⟩
  cases v.isDir <;> decide

theorem list_line (cfg : Profile) (hcf : Conforming cfg) (k : Name) (v : Node) (h : ListOk cfg (k, v)) :
    ∃ i, parseLine cfg.cy (listLine cfg k v) = .ok (some i) ∧ Ftp.listEnt i = entOf cfg (k, v) := by
  refine ⟨_, linux_line_roundtrip_core cfg.cy (listEntry cfg k v) (listEntry_wf cfg hcf k v h), ?_⟩
  simp only [Ftp.listEnt, entOf, listEntry, Option.getD_some, decimal_val]
  cases v <;> simp [Node.isDir]

theorem list_listing (cfg : Profile) (hcf : Conforming cfg) (es : Ents) (h : ∀ kv ∈ es, ListOk cfg kv) :
    ∃ infos, parse cfg.cy (es.map fun kv => listLine cfg kv.1 kv.2) = .ok infos ∧
      infos.map Ftp.listEnt = es.map (entOf cfg) := by
  refine ⟨_, parse_eq _ _, ?_⟩
  rw [List.filter_eq_self.2, List.filterMap_map]
  · refine map_filterMap_of_some _ _ _ es fun kv hkv => ?_
    obtain ⟨i, hi, he⟩ := list_line cfg hcf kv.1 kv.2 (h kv hkv)
    rw [Function.comp, hi]
    exact congrArg some he
  · intro l hl
    obtain ⟨kv, -, rfl⟩ := List.mem_map.1 hl
    obtain ⟨c, r, hcr, hc⟩ := listLine_head cfg kv.1 kv.2
    simpa [hcr] using strip_ne_nil c r hc

/-! ### the ordered dictionary of `_read_dir` -/

theorem odSet_new (e : Ftp.Ent) (l : List Ftp.Ent) (h : e.1 ∉ l.map (·.1)) : Ftp.odSet e l = l ++ [e] := by
  induction l with
  | nil => rfl
  | cons x rest ih =>
    simp only [List.map_cons, List.mem_cons, not_or] at h
    simp only [Ftp.odSet, if_neg (Ne.symm h.1), ih h.2, List.cons_append]

theorem odOf_nodup (l : List Ftp.Ent) (h : (l.map (·.1)).Nodup) : Ftp.odOf l = l := by
  unfold Ftp.odOf
  rw [ParseLemmas.foldl_append_new _ id l [] (fun e _ d hd => odSet_new e d hd) (by simpa using h)]
  simp

theorem odGet_entries (cfg : Profile) (name : Name) (es : Ents) :
    Ftp.odGet name (es.map (entOf cfg)) = (Ents.lookup name es).map fun v => entOf cfg (name, v) := by
  induction es with
  | nil => rfl
  | cons e rest ih =>
    obtain ⟨k, v⟩ := e
    by_cases hk : k = name
    · subst hk; simp [Ftp.odGet, Ents.lookup, entOf]
    · simp [Ftp.odGet, Ents.lookup, entOf, hk, ih]

theorem names_entries (cfg : Profile) (es : Ents) : (es.map (entOf cfg)).map (·.1) = Ents.names es := by
  simp [entOf, Ents.names]

/-! ### evaluating over `pyftpdlib` -/

instance (s : Str) : Decidable (NoCrLf s) := inferInstanceAs (Decidable (_ ∧ _))

instance : (n : Node) → Decidable (SizeOk n)
  | .file b => inferInstanceAs (Decidable ((decimal b.length).length ≤ maxStrDigits))
  | .dir _ => isTrue trivial

/-- `pyftpdlib` with its string literals spelt out as lists of characters, the form on which `decide +kernel`
    evaluates: the kernel is very slow on `String.toList` of a literal, and a literal IS `String.ofList` of its
    characters. -/
theorem pyftpdlib_eq (mlsd : Bool) (cy : Nat) : pyftpdlib mlsd cy =
    { mlsd := mlsd, mfmt := true,
      mlstParams := ['t', 'y', 'p', 'e', '*', ';', 'p', 'e', 'r', 'm', '*', ';', 's', 'i', 'z', 'e', '*', ';',
        'm', 'o', 'd', 'i', 'f', 'y', '*', ';', 'u', 'n', 'i', 'q', 'u', 'e', '*', ';',
        'u', 'n', 'i', 'x', '.', 'm', 'o', 'd', 'e', ';', 'u', 'n', 'i', 'x', '.', 'u', 'i', 'd', ';',
        'u', 'n', 'i', 'x', '.', 'g', 'i', 'd', ';'],
      feats := [(['E', 'P', 'R', 'T'], []), (['E', 'P', 'S', 'V'], []), (['M', 'D', 'T', 'M'], []),
        (['R', 'E', 'S', 'T'], ['S', 'T', 'R', 'E', 'A', 'M']), (['S', 'I', 'Z', 'E'], []), (['T', 'V', 'F', 'S'], []),
        (['U', 'T', 'F', '8'], [])],
      facts := fun _ n =>
        [(['m', 'o', 'd', 'i', 'f', 'y'], ['2', '0', '0', '0', '0', '1', '0', '1', '0', '0', '0', '0', '0', '0']),
         (['p', 'e', 'r', 'm'],
          if n.isDir then ['e', 'l', 'c', 'd', 'f', 'm', 'M', 'T', 'p'] else ['r', 'a', 'd', 'f', 'w', 'M', 'T'])],
      dirSize := 4096,
      perms := fun n =>
        if n.isDir then ['r', 'w', 'x', 'r', '-', 'x', 'r', '-', 'x'] else ['r', 'w', '-', 'r', '-', '-', 'r', '-', '-'],
      links := fun _ => ['1'], uid := ['r', 'o', 'o', 't'], gid := ['r', 'o', 'o', 't'],
      month := 1, day := 1, time := .year 2000, cy := cy } := by
  unfold pyftpdlib
  repeat rw [String.toList_ofList]

end Fs.FtpServerLemmas
