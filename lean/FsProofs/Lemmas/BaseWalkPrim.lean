/-
  The path strings the walkers of `FsModel.BaseWalk` build (`combine`, `frombase`, `isbase`,
  `abspath(normpath(…))`) on clean absolute paths `absOf cs`, and the primitive calls of `primOfStep Ref.step`
  on such paths, as `step1`/`step2` on components.
-/
import FsModel.BaseWalk
import FsProofs.Lemmas.TreeLemmas
import FsProofs.Lemmas.WrapLemmas

namespace Fs.BaseWalkPrim
open Fs Fs.Path Fs.PathSpec Fs.PathLemmas Fs.Ref Fs.BaseWalk Fs.TreeLemmas Fs.WrapLemmas

/-- every component is a legal resource name -/
def CleanN (cs : List Name) : Prop := ∀ c ∈ cs, cleanName c = true

theorem cleanN_nil : CleanN [] := by intro c hc; cases hc

theorem cleanN_append {a b : List Name} : CleanN (a ++ b) ↔ CleanN a ∧ CleanN b := by
  simp only [CleanN, List.mem_append]
  constructor
  · intro h; exact ⟨fun c hc => h c (Or.inl hc), fun c hc => h c (Or.inr hc)⟩
  · rintro ⟨h1, h2⟩ c (hc | hc); exact h1 c hc; exact h2 c hc

theorem cleanN_single {n : Name} : CleanN [n] ↔ cleanName n = true := by
  simp [CleanN]

theorem cleanN_snoc {a : List Name} {n : Name} (ha : CleanN a) (hn : cleanName n = true) : CleanN (a ++ [n]) :=
  cleanN_append.2 ⟨ha, cleanN_single.2 hn⟩

/-! ### path strings -/

theorem absOf_nil : absOf [] = ['/'] := rfl

theorem absOf_eq_root {cs : List Name} (h : CleanN cs) : absOf cs = ['/'] ↔ cs = [] := by
  rw [absOf, mkp_eq_slash_iff (clean_of_cleanName h)]; simp

/-- `combine(dir_path, info.name)` -/
theorem combine_absOf {cs : List Name} {n : Name} (h : CleanN cs) (hn : cleanName n = true) :
    combine (absOf cs) n = absOf (cs ++ [n]) :=
  combine_mkp (clean_of_cleanName h) (startsWithSlash_of_not_mem n (TreeLemmas.cleanName_iff.1 hn).1.2.2.2)

/-- `abspath(normpath(p))` of a clean absolute path is the path -/
theorem normRes_absOf {cs : List Name} (h : CleanN cs) : normRes (absOf cs) = .ok (absOf cs) := by
  have hc := clean_of_cleanName h
  simp only [normRes, absOf, normpath_mkp hc, abspath_mkp hc]

theorem normRes_of_validate {p : Str} {cs : List Name} (h : validate p = .ok cs) :
    normRes p = .ok (absOf cs) := by
  simp only [normRes, (validate_ok h).2, abspath_mkp (clean_of_cleanName (validate_ok h).1), absOf]

theorem isbase_absOf {a b : List Name} (ha : CleanN a) (hb : CleanN b) :
    isbase (absOf a) (absOf b) = true ↔ a <+: b :=
  isbase_mkp_iff true true a b (clean_of_cleanName ha) (clean_of_cleanName hb)

theorem isbase_absOf_false {a b : List Name} (ha : CleanN a) (hb : CleanN b) (h : ¬ a <+: b) :
    isbase (absOf a) (absOf b) = false := by
  rw [Bool.eq_false_iff]; intro e; exact h ((isbase_absOf ha hb).1 e)

/-- `combine(dst_root, frombase(src_root, path))` for a path strictly below the source root -/
theorem target_absOf {a b r : List Name} (ha : CleanN a) (hb : CleanN b) (hr : CleanN r) (hne : r ≠ []) :
    target (absOf a) (absOf b) (absOf (a ++ r)) = .ok (absOf (b ++ r)) := by
  have hca := clean_of_cleanName ha
  have hcb := clean_of_cleanName hb
  have hcr := clean_of_cleanName hr
  simp only [target, absOf]
  rw [frombase_mkp true hca hcr, mkp_append true b r]
  have hne' : (mkp true b == []) = false := by simp [mkp]
  simp only [combine, hne', Bool.false_eq_true, if_false, lstripSlash_mkp hcr]
  by_cases hbe : b = []
  · subst hbe
    simp [mkp, rstripSlash, joinWith, lstripSlash]
  · rw [rstripSlash_mkp hcb hbe]
    simp [hbe, hne, mkp]

theorem whenExists_eq {σ : Type} {ex : σ → σ × Out} {s : σ} {b : Bool} (hex : ex s = (s, .ok (.bool b)))
    (create : Bool) (k : σ → σ × Out) :
    whenExists create ex s k = if !create && !b then (s, .err .ResourceNotFound) else k s := by
  cases create
  · simp only [whenExists, Bool.false_eq_true, if_false, hex]
    cases b <;> rfl
  · rfl

/-! ### the primitives of `Ref.step` on clean absolute paths -/

theorem ref_one (t : State) (hc : t.closed = false) (op : Op) {cs : List Name} (h : CleanN cs)
    (hp : op.paths = [absOf cs]) (hno : ∀ q m, op ≠ .openbin q m := by intro q m e; cases e) :
    Ref.step t op = step1 t cs op :=
  QueryLemmas.step_admitted hc hp (validate_absOf h) fun q m e => absurd e (hno q m)

theorem ref_two (t : State) (hc : t.closed = false) (op : Op) {a b : List Name} (ha : CleanN a) (hb : CleanN b)
    (hp : op.paths = [absOf a, absOf b]) : Ref.step t op = step2 t a b op := by
  rw [QueryLemmas.step_two t op _ _ hc hp, validate_absOf ha, validate_absOf hb]

/-- `fs.validatepath(p)` over `Ref.step` -/
theorem validateOf_ref (t : State) (hc : t.closed = false) (p : Str) :
    validateOf Ref.step t p = (t, match validate p with
      | .err e => .err e
      | .ok cs => .ok (absOf cs)) := by
  unfold validateOf
  rw [QueryLemmas.step_one t _ p hc rfl (by intro q m h; cases h)]
  cases hv : validate p with
  | err e => simp [fail]
  | ok cs => simp [step1, done, normRes_of_validate hv]

theorem validateOf_ref_absOf (t : State) (hc : t.closed = false) {cs : List Name} (h : CleanN cs) :
    validateOf Ref.step t (absOf cs) = (t, .ok (absOf cs)) := by
  rw [validateOf_ref t hc, validate_absOf h]

/-- what a scan reports of one entry -/
def infoOf (e : Name × Node) : ScanInfo :=
  match e.2 with
  | .dir _ => (e.1, true, 0)
  | .file b => (e.1, false, b.length)

def infos (es : Ents) : List ScanInfo := es.map infoOf

theorem scanNames_ref (t : State) (hc : t.closed = false) {cs : List Name} (h : CleanN cs) (es : Ents)
    (hg : t.root.get cs = some (.dir es)) (hwf : entsWf es = true) :
    ∀ (es' : Ents) (acc : List ScanInfo), (∀ e ∈ es', e ∈ es) →
      scanNames Ref.step (absOf cs) (Ents.names es') acc t = (t, .ok (acc ++ infos es'))
  | [], acc, _ => by simp [scanNames, Ents.names, infos]
  | (k, v) :: es', acc, hsub => by
    have hmem : (k, v) ∈ es := hsub _ (by simp)
    have hl := TreeLemmas.lookup_of_mem hwf hmem
    have hk : cleanName k = true := lookup_cleanName k v es hwf hl
    have hgk : t.root.get (cs ++ [k]) = some v := by
      rw [TreeLemmas.get_append, hg]; simp [Node.get, hl]
    have ih := scanNames_ref t hc h es hg hwf es' (acc ++ [infoOf (k, v)]) (fun e he => hsub e (by simp [he]))
    simp only [Ents.names, List.map_cons] at ih ⊢
    rw [scanNames, combine_absOf h hk, ref_one t hc _ (cleanN_snoc h hk) rfl]
    cases v with
    | file _ | dir _ =>
      simp only [step1, hgk, done, WrapLemmas.lastName_append cs [k] (by simp)]
      simp only [infoOf] at ih
      rw [ih]; simp [infos, infoOf]

/-- `fs.scandir(path)` (the base-class one: `listdir` + `getinfo` per name) over `Ref.step` -/
theorem scanOf_ref (t : State) (hc : t.closed = false) (hwf : t.root.wf = true) {cs : List Name} (h : CleanN cs) :
    scanOf Ref.step t (absOf cs) = (t, match t.root.get cs with
      | none => .err .ResourceNotFound
      | some (.file _) => .err .DirectoryExpected
      | some (.dir es) => .ok (infos es)) := by
  unfold scanOf
  rw [ref_one t hc _ h rfl]
  cases hg : t.root.get cs with
  | none => simp [step1, hg, fail]
  | some n =>
    cases n with
    | file b => simp [step1, hg, fail]
    | dir es =>
      simp only [step1, hg, done]
      have := scanNames_ref t hc h es hg (TreeLemmas.entsWf_of_get hwf hg) es [] (fun e he => he)
      simpa using this

end Fs.BaseWalkPrim
