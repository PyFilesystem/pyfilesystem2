/-
  One pass over the entries of a source directory against a destination directory (`foldEnts`), and the
  overlays built from it: `recNode .struct`, `recNode .files` (BaseWalkSpec) and `Ref.mergeEnts` are ONE overlay
  of a source directory on a destination directory; they differ in the source nodes they write (`own`):
  directories, files, both.  `IsOvl own R` says so entry by entry (`ovl1`); what the result shows at every path
  (`ovl_get`) and the failures (a written node over a node of the other kind: `Conflict`; a directory that is not
  written, without a destination directory: `Uncovered`) are proved once from it.

  The declarations go into namespace `Fs.BaseWalkMerge`, which `Lemmas/BaseWalkMerge.lean` continues; the last one,
  `mergeEnts_get`, goes into `Fs.TreeLemmas`, which its user C05 has open for the facts about trees.
-/
import FsProofs.Lemmas.BaseWalkSpec
import FsProofs.Lemmas.TreeLemmas

namespace Fs.BaseWalkMerge
open Fs Fs.Ref Fs.BaseWalkSpec Fs.TreeLemmas

/-! ### basics -/

theorem get_cons_empty (k : Name) (r : List Name) : (Node.dir []).get (k :: r) = none := by
  simp [Node.get, Ents.lookup]

/-- induction over the sub-directories of a directory -/
theorem ents_induction {P : Ents → Prop}
    (step : ∀ es, (∀ k e, Ents.lookup k es = some (.dir e) → P e) → P es) (es : Ents) : P es := by
  have key : ∀ n (es : Ents), entsCount es ≤ n → P es := by
    intro n
    induction n with
    | zero =>
      intro es h
      apply step
      intro k e hl
      have := TreeLemmas.lookup_count hl
      simp only [Node.count] at this
      omega
    | succ n ih =>
      intro es h
      apply step
      intro k e hl
      have := TreeLemmas.lookup_count hl
      simp only [Node.count] at this
      exact ih e (by omega)
  exact key _ es (Nat.le_refl _)

theorem file_get_ne_dir (b : Bytes) (r : List Name) (e : Ents) : (Node.file b).get r ≠ some (.dir e) := by
  cases r <;> simp [Node.get]

theorem file_get {b : Bytes} {r : List Name} {n : Node} (h : (Node.file b).get r = some n) : r = [] ∧ n = .file b := by
  cases r with
  | nil => cases h; exact ⟨rfl, rfl⟩
  | cons c r' => rw [get_cons_file] at h; cases h

theorem get_singleton {es : Ents} {k : Name} {v : Node} (h : Ents.lookup k es = some v) :
    (Node.dir es).get [k] = some v := by
  rw [get_cons_dir, h, Option.bind_some, get_nil]

/-! ### one pass over the source entries

`lvl`, `recKids` and `Ref.mergeEnts` have one shape: the source entries are visited in order; an entry `(k, v)`
looks at the destination entry of its name and fails (`none`), leaves it (`some none`) or replaces it. -/

def foldEnts (f : Node → Option Node → Option (Option Node)) : Ents → Ents → Option Ents
  | [], ds => some ds
  | (k, v) :: es, ds =>
    match f v (Ents.lookup k ds) with
    | none => none
    | some none => foldEnts f es ds
    | some (some n) => foldEnts f es (Ents.put k n ds)

variable {f : Node → Option Node → Option (Option Node)}

/-- the source names are unique, so each destination entry is decided by the source entry of its name alone,
seen against the ORIGINAL destination -/
theorem foldEnts_spec : ∀ (es ds d1 : Ents), entsWf es = true → foldEnts f es ds = some d1 → ∀ k,
    match Ents.lookup k es with
    | none => Ents.lookup k d1 = Ents.lookup k ds
    | some v => ∃ r, f v (Ents.lookup k ds) = some r ∧ Ents.lookup k d1 = r.or (Ents.lookup k ds)
  | [], ds, d1, _, h, k => by
    cases h
    rfl
  | (k0, v0) :: es, ds, d1, he, h, k => by
    obtain ⟨_, hu, _, he'⟩ := entsWf_cons.1 he
    rw [foldEnts] at h
    rw [lookup_cons]
    rcases hf : f v0 (Ents.lookup k0 ds) with _ | _ | n <;> rw [hf] at h
    · cases h
    · have IH := foldEnts_spec es ds d1 he' h
      by_cases hk : k0 = k
      · subst hk
        have := IH k0
        rw [hu] at this
        rw [if_pos rfl]
        exact ⟨none, hf, this⟩
      · rw [if_neg hk]
        exact IH k
    · have IH := foldEnts_spec es (Ents.put k0 n ds) d1 he' h
      by_cases hk : k0 = k
      · subst hk
        have := IH k0
        rw [hu, lookup_put_same] at this
        rw [if_pos rfl]
        exact ⟨some n, hf, this⟩
      · have := IH k
        rw [lookup_put_other _ _ _ _ (Ne.symm hk)] at this
        rw [if_neg hk]
        exact this

theorem foldEnts_none : ∀ (es ds : Ents), entsWf es = true → foldEnts f es ds = none →
    ∃ k v, Ents.lookup k es = some v ∧ f v (Ents.lookup k ds) = none
  | [], _, _, h => by cases h
  | (k0, v0) :: es, ds, he, h => by
    obtain ⟨_, hu, _, he'⟩ := entsWf_cons.1 he
    have lift : ∀ k v, Ents.lookup k es = some v → k0 ≠ k ∧ Ents.lookup k ((k0, v0) :: es) = some v := by
      intro k v hl
      have hk : k0 ≠ k := by intro hk; subst hk; rw [hu] at hl; cases hl
      exact ⟨hk, by rw [lookup_cons, if_neg hk, hl]⟩
    rw [foldEnts] at h
    rcases hf : f v0 (Ents.lookup k0 ds) with _ | _ | n <;> rw [hf] at h
    · exact ⟨k0, v0, by rw [lookup_cons, if_pos rfl], hf⟩
    · obtain ⟨k, v, h1, h2⟩ := foldEnts_none es ds he' h
      exact ⟨k, v, (lift k v h1).2, h2⟩
    · obtain ⟨k, v, h1, h2⟩ := foldEnts_none es _ he' h
      rw [lookup_put_other _ _ _ _ (Ne.symm (lift k v h1).1)] at h2
      exact ⟨k, v, (lift k v h1).2, h2⟩

theorem foldEnts_wf : ∀ (es ds d1 : Ents), entsWf es = true → entsWf ds = true →
    (∀ k v o n, Ents.lookup k es = some v → (∀ x, o = some x → x.wf = true) → f v o = some (some n) → n.wf = true) →
    foldEnts f es ds = some d1 → entsWf d1 = true
  | [], ds, d1, _, hd, _, h => by
    cases h
    exact hd
  | (k0, v0) :: es, ds, d1, he, hd, hf, h => by
    obtain ⟨hk0, hu, _, he'⟩ := entsWf_cons.1 he
    have hf' : ∀ k v o n, Ents.lookup k es = some v → (∀ x, o = some x → x.wf = true) → f v o = some (some n) →
        n.wf = true := by
      intro k v o n hl
      have hk : k0 ≠ k := by intro hk; subst hk; rw [hu] at hl; cases hl
      exact hf k v o n (by rw [lookup_cons, if_neg hk, hl])
    rw [foldEnts] at h
    rcases hr : f v0 (Ents.lookup k0 ds) with _ | _ | n <;> rw [hr] at h
    · cases h
    · exact foldEnts_wf es ds d1 he' hd hf' h
    · have hn : n.wf = true :=
        hf k0 v0 _ n (by rw [lookup_cons, if_pos rfl]) (fun x hx => lookup_wf _ _ _ hd hx) hr
      exact foldEnts_wf es _ d1 he' (entsWf_put _ _ _ hk0 hn hd) hf' h

/-- `own`: the source nodes the overlay writes; `R`: the overlay on sub-directories -/
def ovl1 (own : Node → Bool) (R : Ents → Ents → Option Ents) : Node → Option Node → Option (Option Node)
  | .file b, o =>
    if own (.file b) then (match o with | some (.dir _) => none | _ => some (some (.file b))) else some none
  | .dir _, some (.file _) => none
  | .dir e, some (.dir d) => (R e d).map fun m => some (.dir m)
  | .dir e, none => if own (.dir e) then (R e []).map fun m => some (.dir m) else none

structure IsOvl (own : Node → Bool) (R : Ents → Ents → Option Ents) : Prop where
  spec : ∀ es ds m, entsWf es = true → R es ds = some m → ∀ k,
    match Ents.lookup k es with
    | none => Ents.lookup k m = Ents.lookup k ds
    | some v => ∃ r, ovl1 own R v (Ents.lookup k ds) = some r ∧ Ents.lookup k m = r.or (Ents.lookup k ds)
  fail : ∀ es ds, entsWf es = true → R es ds = none →
    ∃ k v, Ents.lookup k es = some v ∧ ovl1 own R v (Ents.lookup k ds) = none

theorem isOvl_of_fold {own : Node → Bool} {R : Ents → Ents → Option Ents}
    (h : ∀ es ds, R es ds = foldEnts (ovl1 own R) es ds) : IsOvl own R :=
  ⟨fun es ds m he hm => foldEnts_spec es ds m he (h es ds ▸ hm), fun es ds he hm => foldEnts_none es ds he (h es ds ▸ hm)⟩

/-- what an overlay shows at a path where the source has `n` and the destination showed `x` -/
def obs (own : Node → Bool) : Option Node → Option (Option Bytes) → Option (Option Bytes)
  | some n, x => if own n then some (shallow n) else x
  | none, x => x

theorem ovl_get {own : Node → Bool} {R : Ents → Ents → Option Ents} (H : IsOvl own R) :
    ∀ (q : List Name) (es ds m : Ents), entsWf es = true → R es ds = some m →
      ((Node.dir m).get q).map shallow = obs own ((Node.dir es).get q) (((Node.dir ds).get q).map shallow) := by
  intro q
  induction q with
  | nil =>
    intro es ds m _ _
    simp only [get_nil, obs, Option.map_some, shallow]
    split <;> rfl
  | cons k r ih =>
    intro es ds m he h
    have hs := H.spec es ds m he h k
    simp only [get_cons_dir]
    rcases hle : Ents.lookup k es with _ | ⟨b | e⟩ <;> rw [hle] at hs
    · rw [hs]; rfl
    · obtain ⟨r0, hr0, hm⟩ := hs
      rw [hm]
      simp only [ovl1] at hr0
      by_cases ho : own (.file b) = true
      · rw [if_pos ho] at hr0
        rcases hld : Ents.lookup k ds with _ | ⟨b1 | d⟩ <;> rw [hld] at hr0 <;> cases hr0 <;>
          cases r <;> simp [obs, ho, shallow, get_nil, get_cons_file]
      · rw [if_neg ho] at hr0
        cases hr0
        cases r <;> simp [obs, ho, get_nil, get_cons_file]
    · obtain ⟨r0, hr0, hm⟩ := hs
      have he0 : entsWf e = true := wf_dir.mp (lookup_wf _ _ _ he hle)
      rw [hm]
      rcases hld : Ents.lookup k ds with _ | ⟨b1 | d⟩ <;> rw [hld] at hr0 <;> simp only [ovl1] at hr0
      · split at hr0
        · next ho =>
          obtain ⟨m', hm', rfl⟩ := Option.map_eq_some_iff.1 hr0
          simp only [Option.some_or, Option.bind_some, Option.bind_none, Option.map_none]
          rw [ih e [] m' he0 hm']
          cases r with
          | nil => simp [obs, get_nil, ho, shallow]
          | cons c r' => rw [get_cons_empty]; rfl
        · cases hr0
      · cases hr0
      · obtain ⟨m', hm', rfl⟩ := Option.map_eq_some_iff.1 hr0
        simp only [Option.some_or, Option.bind_some]
        exact ih e d m' he0 hm'

def Conflict (own : Node → Bool) (S D : Node) : Prop :=
  ∃ q n d, S.get q = some n ∧ D.get q = some d ∧ own n = true ∧ n.isDir ≠ d.isDir

def Uncovered (own : Node → Bool) (S D : Node) : Prop :=
  ∃ q e, S.get q = some (.dir e) ∧ own (.dir e) = false ∧ ∀ d, D.get q ≠ some (.dir d)

theorem ovl_no_conflict {own : Node → Bool} {R : Ents → Ents → Option Ents} (H : IsOvl own R) :
    ∀ (q : List Name) (es ds m : Ents), entsWf es = true → R es ds = some m →
      ∀ n d, (Node.dir es).get q = some n → (Node.dir ds).get q = some d → own n = true → n.isDir ≠ d.isDir →
      False := by
  intro q
  induction q with
  | nil =>
    intro es ds m _ _ n d hn hd _ hk
    cases hn; cases hd
    exact hk rfl
  | cons k r ih =>
    intro es ds m he h n d hn hd ho hk
    have hs := H.spec es ds m he h k
    rw [get_cons_dir] at hn hd
    rcases hle : Ents.lookup k es with _ | v <;> rw [hle] at hn hs
    · cases hn
    rcases hld : Ents.lookup k ds with _ | dn <;> rw [hld] at hd hs
    · cases hd
    obtain ⟨r0, hr0, _⟩ := hs
    cases v with
    | file b =>
      obtain ⟨rfl, rfl⟩ := file_get hn
      cases hd
      cases d with
      | file _ => exact hk rfl
      | dir _ => simp [ovl1, ho] at hr0
    | dir e =>
      cases dn with
      | file _ => cases hr0
      | dir d' =>
        obtain ⟨m', hm', _⟩ := Option.map_eq_some_iff.1 hr0
        exact ih e d' m' (wf_dir.mp (lookup_wf _ _ _ he hle)) hm' n d hn hd ho hk

theorem ovl_covered {own : Node → Bool} {R : Ents → Ents → Option Ents} (H : IsOvl own R) :
    ∀ (q : List Name) (es ds m : Ents), entsWf es = true → R es ds = some m →
      ∀ e, (Node.dir es).get q = some (.dir e) → own (.dir e) = false → ∃ d, (Node.dir ds).get q = some (.dir d) := by
  intro q
  induction q with
  | nil => intro es ds m _ _ e _ _; exact ⟨ds, rfl⟩
  | cons k r ih =>
    intro es ds m he h e hq ho
    have hs := H.spec es ds m he h k
    rw [get_cons_dir] at hq ⊢
    rcases hle : Ents.lookup k es with _ | ⟨b | e0⟩ <;> rw [hle] at hq hs
    · cases hq
    · exact absurd hq (file_get_ne_dir _ _ _)
    · obtain ⟨r0, hr0, _⟩ := hs
      have he0 : entsWf e0 = true := wf_dir.mp (lookup_wf _ _ _ he hle)
      rcases hld : Ents.lookup k ds with _ | ⟨b1 | d⟩ <;> rw [hld] at hr0 <;> simp only [ovl1] at hr0
      · split at hr0
        · next ho0 =>
          obtain ⟨m', hm', _⟩ := Option.map_eq_some_iff.1 hr0
          obtain ⟨d, hd⟩ := ih e0 [] m' he0 hm' e hq ho
          cases r with
          | nil => cases hq; rw [ho0] at ho; cases ho
          | cons c r' => rw [get_cons_empty] at hd; cases hd
        · cases hr0
      · cases hr0
      · obtain ⟨m', hm', _⟩ := Option.map_eq_some_iff.1 hr0
        exact ih e0 d m' he0 hm' e hq ho

theorem ovl_none_conflict {own : Node → Bool} {R : Ents → Ents → Option Ents} (H : IsOvl own R)
    (hown : ∀ e e', own (.dir e) = own (.dir e')) (es : Ents) : ∀ (ds : Ents), entsWf es = true → R es ds = none →
      Conflict own (.dir es) (.dir ds) ∨ Uncovered own (.dir es) (.dir ds) := by
  induction es using ents_induction with
  | step es ih =>
    intro ds he h
    obtain ⟨k, v, hle, hn⟩ := H.fail es ds he h
    have lift : ∀ e d, Ents.lookup k es = some (.dir e) → Ents.lookup k ds = some (.dir d) →
        Conflict own (.dir e) (.dir d) ∨ Uncovered own (.dir e) (.dir d) →
        Conflict own (.dir es) (.dir ds) ∨ Uncovered own (.dir es) (.dir ds) := by
      rintro e d h1 h2 (⟨q, n, x, hq1, hq2, ho, hk⟩ | ⟨q, e', hq1, ho, hq2⟩)
      · exact Or.inl ⟨k :: q, n, x, by rw [get_cons_dir, h1]; exact hq1, by rw [get_cons_dir, h2]; exact hq2, ho, hk⟩
      · exact Or.inr ⟨k :: q, e', by rw [get_cons_dir, h1]; exact hq1, ho, fun x => by rw [get_cons_dir, h2]; exact hq2 x⟩
    cases v with
    | file b =>
      rcases hld : Ents.lookup k ds with _ | ⟨b1 | d⟩ <;> rw [hld] at hn <;> simp only [ovl1] at hn <;>
        split at hn <;> cases hn
      next ho => exact Or.inl ⟨[k], _, _, get_singleton hle, get_singleton hld, ho, by simp [Node.isDir]⟩
    | dir e =>
      have he0 : entsWf e = true := wf_dir.mp (lookup_wf _ _ _ he hle)
      by_cases ho : own (.dir e) = true
      · rcases hld : Ents.lookup k ds with _ | ⟨b1 | d⟩ <;> rw [hld] at hn <;> simp only [ovl1, ho, if_true] at hn
        · -- nothing bars the way in a new, empty directory
          rcases ih k e hle [] he0 (Option.map_eq_none_iff.1 hn) with ⟨q, n, x, _, hq2, _, hk⟩ | ⟨q, e', _, ho', _⟩
          · cases q with
            | nil => cases hq2; rename_i hq1; cases hq1; exact absurd rfl hk
            | cons c q' => rw [get_cons_empty] at hq2; cases hq2
          · rw [hown e' e, ho] at ho'; cases ho'
        · exact Or.inl ⟨[k], _, _, get_singleton hle, get_singleton hld, ho, by simp [Node.isDir]⟩
        · exact lift e d hle hld (ih k e hle d he0 (Option.map_eq_none_iff.1 hn))
      · have ho' : own (.dir e) = false := by simpa using ho
        rcases hld : Ents.lookup k ds with _ | ⟨b1 | d⟩
        · exact Or.inr ⟨[k], e, get_singleton hle, ho', fun x hx => by simp [get_cons_dir, hld] at hx⟩
        · exact Or.inr ⟨[k], e, get_singleton hle, ho', fun x hx => by simp [get_cons_dir, hld, get_nil] at hx⟩
        · rw [hld] at hn
          exact lift e d hle hld (ih k e hle d he0 (Option.map_eq_none_iff.1 hn))

theorem mergeEnts_eq_fold : ∀ (es ds : Ents),
    mergeEnts es ds = foldEnts (fun v o => (mergeNode v o).map some) es ds
  | [], _ => by rw [mergeEnts, foldEnts]
  | (k, v) :: es, ds => by
    rw [mergeEnts, foldEnts]
    rcases mergeNode v (Ents.lookup k ds) with _ | n
    · rfl
    · exact mergeEnts_eq_fold es _

theorem mergeNode_ovl1 (v : Node) (o : Option Node) :
    (mergeNode v o).map some = ovl1 (fun _ => true) mergeEnts v o := by
  cases v <;> rcases o with _ | ⟨_ | _⟩ <;> simp [mergeNode, ovl1, Function.comp_def]

theorem isOvl_merge : IsOvl (fun _ => true) mergeEnts :=
  isOvl_of_fold fun es ds => by
    rw [mergeEnts_eq_fold]
    congr 1
    funext v o
    exact mergeNode_ovl1 v o

end Fs.BaseWalkMerge

namespace Fs.TreeLemmas
open Fs Fs.Ref Fs.BaseWalkSpec Fs.BaseWalkMerge

theorem mergeEnts_get (es ds m : Ents) (r : List Name) (data : Bytes) (hes : entsWf es = true)
    (hm : mergeEnts es ds = some m) (hg : (Node.dir es).get r = some (.file data)) :
    (Node.dir m).get r = some (.file data) := by
  have h := ovl_get isOvl_merge r es ds m hes hm
  rw [hg] at h
  rcases hr : (Node.dir m).get r with _ | ⟨b | e⟩ <;> rw [hr] at h <;> cases h
  rfl

end Fs.TreeLemmas
