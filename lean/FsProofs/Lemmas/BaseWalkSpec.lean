/-
  Tree-level description of what `copy_dir` (fs/copy.py) computes, phase by phase.  No strings, no operations:
  pure functions on `Node` / `Ents`.

  `copy_dir` runs two breadth-first walks over the source: `copy_structure` (phase `struct`: every
  sub-directory is created at the destination, `makedir(recreate=True)`) and the file walk (phase `files`:
  every file is copied over the destination position).  Pending directories are given by their paths
  relative to source / destination root.  `none` = a file/directory name conflict (the walk fails there).
-/
import FsModel.Ref

namespace Fs.BaseWalkSpec
open Fs Fs.Ref

inductive Phase where
  | struct | files
  deriving DecidableEq, Repr

/-- the class the walk fails with on a name conflict: `makedir(recreate=True)` on a file /
`copy(overwrite=True)` onto a directory -/
def cls : Phase → Err
  | .struct => .DirectoryExpected
  | .files => .FileExpected

/-- one source directory (entries `es`) against the destination directory (entries `ds`) -/
def lvl : Phase → Ents → Ents → Option Ents
  | _, [], ds => some ds
  | .struct, (_, .file _) :: es, ds => lvl .struct es ds
  | .struct, (k, .dir _) :: es, ds =>
    match Ents.lookup k ds with
    | none => lvl .struct es (Ents.put k (.dir []) ds)
    | some (.dir _) => lvl .struct es ds
    | some (.file _) => none
  | .files, (_, .dir _) :: es, ds => lvl .files es ds
  | .files, (k, .file b) :: es, ds =>
    match Ents.lookup k ds with
    | some (.dir _) => none
    | _ => lvl .files es (Ents.put k (.file b) ds)

/-- the sub-directories of a directory, in entry order (what the walker queues) -/
def kids : Ents → List Name
  | [] => []
  | (_, .file _) :: es => kids es
  | (k, .dir _) :: es => k :: kids es

mutual
/-- a source directory over the destination directory: this level, then every sub-directory -/
def recNode (ph : Phase) : Node → Node → Option Node
  | .dir es, .dir ds =>
    match lvl ph es ds with
    | none => none
    | some d1 => (recKids ph es d1).map .dir
  | _, _ => none
/-- the sub-directories of the source entries, each over the destination entry of its name (which must
be a directory by now) -/
def recKids (ph : Phase) : Ents → Ents → Option Ents
  | [], ds => some ds
  | (k, v) :: es, ds =>
    match v with
    | .file _ => recKids ph es ds
    | .dir _ =>
      match Ents.lookup k ds with
      | some dn =>
        (match recNode ph v dn with
         | none => none
         | some m => recKids ph es (Ents.put k m ds))
      | none => none
end

/-- process the pending directory at relative path `r`: source sub-tree `S.get r` over destination
sub-tree `D.get r` -/
def modAt (ph : Phase) (S D : Node) (r : List Name) : Option Node :=
  match S.get r, D.get r with
  | some sn, some dn => (recNode ph sn dn).map (setAt D r)
  | _, _ => none

/-- a queue of pending directories, in order -/
def recQ (ph : Phase) (S : Node) : List (List Name) → Node → Option Node
  | [], D => some D
  | r :: Q, D => (modAt ph S D r).bind (recQ ph S Q)

/-- the destination after `copy_dir` of the source directory `S` into the destination directory `D`:
structure first, then files -/
def opMerge (S D : Node) : Option Node :=
  (recNode .struct S D).bind (recNode .files S)

/-- what can be observed of a node without its entries: a file's bytes / "a directory" -/
def shallow : Node → Option Bytes
  | .file b => some b
  | .dir _ => none

/-- the two trees show the same thing at every path (names, types, bytes; entry ORDER aside) -/
def ObsEq (a b : Node) : Prop := ∀ q, (a.get q).map shallow = (b.get q).map shallow

/-- neither path is a prefix of the other (= `MountTree.Diverge`) -/
def Inc (p q : List Name) : Prop := ¬ p <+: q ∧ ¬ q <+: p

/-- every directory of `S` at or below `r` is a directory of `D` -/
def Cov (S D : Node) (r : List Name) : Prop :=
  ∀ x es, S.get (r ++ x) = some (.dir es) → ∃ ds, D.get (r ++ x) = some (.dir ds)

end Fs.BaseWalkSpec
