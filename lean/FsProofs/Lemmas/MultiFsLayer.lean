/-
  A mutating MultiFS method whose paths only the layer at `w` may hold acts on that layer as the reference acts on
  that layer's own tree (`LSim`: the routing half, per method, no overlay in sight; `lsim_step`).  One layer is the
  instance `w = 0`, every path (`MultiFsSingle`).  `usim_of_lsim` lifts every such statement to the overlay at once,
  for paths through top-level names only that layer may hold (`step_local`: the locality half; `unshadowed_step`).
-/
import FsProofs.Lemmas.MultiFsUnshadowed

namespace Fs.MultiFsLemmas
open Fs Fs.Ref Fs.MultiFs Fs.WrapRefines Fs.MemRefines

/-- the call acts on the layer at `w` as the reference acts on that layer's tree: the reference's outcome and
that layer in the reference's resulting state, or both fail, nothing changes and the class is admissible -/
def LSim (s : MState State) (w : Nat) (lw : Layer State) (op : Op) (r : MState State × Out) : Prop :=
  ((Ref.step lw.st op).2.isOk = true ∧ r = (putW s w lw (Ref.step lw.st op).1, (Ref.step lw.st op).2)) ∨
  (∃ e e', (Ref.step lw.st op).2 = .err e ∧ r = (s, .err e') ∧ e' ∈ adm lw.st op)

/-- an open stack of good layers, its write layer at position `w` (no consistency: the overlay is not in sight) -/
structure WriteAt (s : MState State) (w : Nat) (lw : Layer State) : Prop where
  opn : s.closed = false
  good : AllGood s
  lay : s.layers[w]? = some lw
  wr : writePos s = some w

section
variable {s : MState State} {w : Nat} {lw : Layer State}

theorem WriteAt.glw (U : WriteAt s w lw) : Good lw.st := U.good lw (List.mem_of_getElem? U.lay)

theorem WriteAt.ne (U : WriteAt s w lw) : s.layers ≠ [] := fun h => by have := U.lay; rw [h] at this; cases this

theorem WriteAt.lt (U : WriteAt s w lw) : w < s.layers.length := (List.getElem?_eq_some_iff.1 U.lay).1

theorem putW_self (hl : s.layers[w]? = some lw) : putW s w lw lw.st = s := by
  unfold putW; rw [set_st_self _ _ _ hl]

theorem lsim_exact (U : WriteAt s w lw) (op : Op) (hb : bulk op = false) (o : Out)
    (h : Ref.step lw.st op = (lw.st, o)) : LSim s w lw op (s, o) := by
  cases o with
  | ok v => left; rw [h]; exact ⟨rfl, by rw [putW_self U.lay]⟩
  | err e => right; exact ⟨e, e, by rw [h], rfl, ref_err_adm lw.st U.glw.dir op hb e (by rw [h])⟩

theorem lsim_call (F : FS State) (hF : RefinesRef F) (U : WriteAt s w lw) (op : Op) (hb : bulk op = false) :
    LSim s w lw op (callLayer F s w op) := by
  rcases callLayer_cases F hF s U.good w lw U.lay op hb with ⟨hok, h⟩ | ⟨e, e', hr, h, ha⟩
  · exact Or.inl ⟨hok, h⟩
  · exact Or.inr ⟨e, e', by rw [hr], h, ha⟩

theorem lsim_transfer (F : FS State) (hF : RefinesRef F) (U : WriteAt s w lw) (op op' : Op) (hb' : bulk op' = false)
    (g : Val → Val) (href : Ref.step lw.st op = mapOut g (Ref.step lw.st op'))
    (hadm : ∀ e, e ∈ adm lw.st op' → e ∈ adm lw.st op) :
    LSim s w lw op (mapOut g (callLayer F s w op')) := by
  rcases callLayer_cases F hF s U.good w lw U.lay op' hb' with ⟨hok, h⟩ | ⟨e, e', hr, h, ha⟩
  · rw [h]
    generalize Ref.step lw.st op' = r' at href hok
    obtain ⟨t', _ | _⟩ := r'
    · exact Or.inl ⟨by rw [href]; rfl, by rw [href]; rfl⟩
    · cases hok
  · rw [h]
    exact Or.inr ⟨e, e', by rw [href, hr]; rfl, rfl, hadm e' ha⟩

/-- `_delegate` of a path only the layer at `w` may hold -/
theorem find_at (U : WriteAt s w lw) {cs : List Name} (h : OnlyAt s w cs) :
    (order s).find? (hasAt s cs) = if (lw.st.root.get cs).isSome then some w else none := by
  rw [find_onlyAt h U.lt]
  simp only [hasAt, U.lay]

theorem onWrite_at (F : FS State) (U : WriteAt s w lw) (op : Op) : onWrite F s op = callLayer F s w op := by
  unfold onWrite; rw [U.wr]

theorem anyHas_at (U : WriteAt s w lw) {cs : List Name} (h : OnlyAt s w cs) :
    anyHas s cs = (lw.st.root.get cs).isSome := by
  rw [anyHas, find_at U h]
  cases (lw.st.root.get cs).isSome <;> rfl

/-! ### the methods that are one call on one layer -/

/-- `_delegate_required(path).<method>(path)`: the layer at `w` is asked if it has the path; if none has it the
reference answers ResourceNotFound as well -/
theorem lsim_onDelegate (F : FS State) (hF : RefinesRef F) (U : WriteAt s w lw) (op : Op) (p : Str)
    (hp : op.paths = [p]) (hno : ∀ q m, op ≠ .openbin q m) (hb : bulk op = false)
    (hO : ∀ cs, validate p = .ok cs → OnlyAt s w cs)
    (hmiss : ∀ cs, lw.st.root.get cs = none → step1 lw.st cs op = (lw.st, .err .ResourceNotFound)) :
    LSim s w lw op (onDelegate F s p op) := by
  rw [onDelegate_eq F hF s U.good p op _]
  have href := QueryLemmas.step_one lw.st op p U.glw.opn hp hno
  cases hv : validate p with
  | err e =>
    simp only [order_ne_nil_of_layers U.ne, if_false]
    exact lsim_exact U op hb _ (by rw [href, hv]; rfl)
  | ok cs =>
    simp only [find_at U (hO cs hv)]
    cases hget : lw.st.root.get cs with
    | none =>
      simp only [Option.isSome_none, Bool.false_eq_true, if_false]
      exact lsim_exact U op hb _ (by rw [href, hv]; exact hmiss _ hget)
    | some n =>
      simp only [Option.isSome_some, if_true]
      exact lsim_call F hF U op hb

theorem lsim_openbin_write (F : FS State) (hF : RefinesRef F) (U : WriteAt s w lw) (p m : Str)
    (hcw : Route.checkWritable m = true) : LSim s w lw (.openbin p m) (openbinM F s p m) := by
  unfold openbinM
  cases hmo : Route.modeOk m with
  | false =>
    simp only [Bool.not_false, if_true]
    apply lsim_exact U _ rfl
    rw [QueryLemmas.step_openbin lw.st p m U.glw.opn, parse_none_of_not_modeOk m hmo]; rfl
  | true =>
    simp only [Bool.not_true, Bool.false_eq_true, if_false, hcw, if_true]
    rw [onWrite_at F U]
    exact lsim_call F hF U _ rfl

/-! ### `create`, `touch` (`exists`, then `open(path, "wb")` on the write layer) -/

/-- the shared tail of `create` / `touch` when the file has to be made: `open(path, "wb")` on the write layer -/
theorem lsim_make (F : FS State) (hF : RefinesRef F) (U : WriteAt s w lw) (op : Op) (p : Str) (v : Val)
    (hp : op.paths = [p]) (hno : ∀ q m, op ≠ .openbin q m)
    (hadm : ∀ cs, adm1 lw.st.root cs op = admFileTarget lw.st.root cs)
    (hstep : ∀ cs, validate p = .ok cs → step1 lw.st cs op = writeFile lw.st cs (fun _ => []) v) :
    LSim s w lw op (mapOut (fun _ => v) (callLayer F s w (.openbin p ['w', 'b']))) :=
  lsim_transfer F hF U op (.openbin p ['w', 'b']) rfl (fun _ => v)
    (ref_make_rel lw.st U.glw.opn op p v hp hno hstep)
    (by intro e he; rw [← adm_write_wb lw.st U.glw.opn op p hp hno hadm]; exact he)

theorem lsim_create (F : FS State) (hF : RefinesRef F) (U : WriteAt s w lw) (p : Str) (wipe : Bool)
    (hO : ∀ cs, validate p = .ok cs → OnlyAt s w cs) :
    LSim s w lw (.create p wipe) (createM F s p wipe) := by
  have hmake := fun w' => lsim_make F hF U (.create p w') p (.bool true) rfl nofun (fun _ => rfl)
  have href := QueryLemmas.step_one lw.st (.create p wipe) p U.glw.opn rfl nofun
  rw [createM_eq F hF s U.good w U.wr (order_ne_nil_of_layers U.ne)]
  cases wipe with
  | true => exact hmake true (fun cs _ => by simp [step1])
  | false =>
    simp only [Bool.false_eq_true, if_false]
    cases hv : validate p with
    | err e => exact lsim_exact U _ rfl _ (by rw [href, hv]; rfl)
    | ok cs =>
      simp only [anyHas_at U (hO cs hv)]
      cases hget : lw.st.root.get cs with
      | some n => exact lsim_exact U _ rfl _ (by rw [href, hv]; simp [step1, hget, done])
      | none => exact hmake false (fun cs' hv' => by rw [hv] at hv'; cases hv'; simp [step1, hget])

theorem lsim_touch (F : FS State) (hF : RefinesRef F) (U : WriteAt s w lw) (p : Str)
    (hO : ∀ cs, validate p = .ok cs → OnlyAt s w cs) : LSim s w lw (.touch p) (touchM F s p) := by
  have href := QueryLemmas.step_one lw.st (.touch p) p U.glw.opn rfl nofun
  rw [touchM_eq F hF s U.good w U.wr (order_ne_nil_of_layers U.ne)]
  cases hv : validate p with
  | err e => exact lsim_exact U _ rfl _ (by rw [href, hv]; rfl)
  | ok cs =>
    simp only [anyHas_at U (hO cs hv)]
    cases hget : lw.st.root.get cs with
    | some n =>
      -- `create` answered False: `setinfo` on the write layer, which has the path
      simp only [Option.isSome_some, if_true]
      rw [callLayer_settimes F hF s U.good w lw U.lay p cs hv n hget]
      exact lsim_exact U _ rfl _ (by rw [href, hv]; simp [step1, hget, done])
    | none =>
      exact lsim_make F hF U (.touch p) p .unit rfl nofun (fun _ => rfl)
        (fun cs' hv' => by rw [hv] at hv'; cases hv'; simp [step1, hget])

/-! ### `copy`, `move` (read through the layer that has the source, `upload` to the write layer) -/

theorem dst_guard {ow : Bool} {o : Option Node} (hd : ow = true ∨ o = none) : (!ow && o.isSome) = false := by
  rcases hd with h | h <;> simp [h]

open Fs.WrapLemmas in
/-- `with self.open(src, "rb") as f: self.upload(dst, f)` once the guards of `copy` have passed -/
theorem lsim_transfer_copy (F : FS State) (hF : RefinesRef F) (U : WriteAt s w lw) (a b : Str) (ow : Bool)
    (ca cb : List Name) (hva : validate a = .ok ca) (hvb : validate b = .ok cb)
    (hO : OnlyAt s w ca) (hne : ca ≠ cb) (hd : ow = true ∨ lw.st.root.get cb = none) :
    LSim s w lw (.copy a b ow) (transferM F s (absOf ca) (absOf cb)) := by
  have Gt := U.glw
  have hca := TreeLemmas.validate_clean a _ hva
  have hcb := TreeLemmas.validate_clean b cb hvb
  have href : Ref.step lw.st (.copy a b ow) = step2 lw.st ca cb (.copy a b ow) := by
    rw [QueryLemmas.step_two lw.st _ a b Gt.opn rfl, hva, hvb]
  have hadm : adm lw.st (.copy a b ow) = adm2 lw.st.root ca cb (.copy a b ow) := by
    rw [QueryLemmas.adm_two lw.st _ a b Gt.opn rfl, hva, hvb]
  have hg := dst_guard hd
  unfold transferM
  rw [onDelegate_eq F hF s U.good (absOf ca) _ _, validate_absOf hca]
  simp only [find_at U hO]
  cases hget : lw.st.root.get ca with
  | none =>
    simp only [Option.isSome_none, Bool.false_eq_true, if_false]
    apply lsim_exact U _ rfl
    rw [href]; simp [step2, hg, hne, hget, fail]
  | some n =>
    simp only [Option.isSome_some, if_true]
    have hrb : Ref.step lw.st (.readbytes (absOf ca)) = step1 lw.st ca (.readbytes (absOf ca)) := by
      rw [QueryLemmas.step_one lw.st _ (absOf ca) Gt.opn rfl (by nofun), validate_absOf hca]
    cases n with
    | dir es =>
      rcases callLayer_cases F hF s U.good w lw U.lay (.readbytes (absOf ca)) rfl with
        ⟨hok, _⟩ | ⟨e, e', hr, h, ha⟩
      · rw [hrb] at hok; simp [step1, hget, fail, Res.isOk] at hok
      · rw [h]
        right
        refine ⟨.FileExpected, e', ?_, rfl, ?_⟩
        · rw [href]; simp [step2, hg, hne, hget, fail]
        · rw [hadm]
          rw [QueryLemmas.adm_one lw.st _ (absOf ca) Gt.opn rfl (by nofun), validate_absOf hca] at ha
          exact (QueryLemmas.adm2_src ha).1
    | file data =>
      have hrb' : Ref.step lw.st (.readbytes (absOf ca)) = (lw.st, .ok (.bytes data)) := by
        rw [hrb]; simp [step1, hget, done]
      rw [callLayer_query F hF s U.good w lw U.lay _ rfl (by rw [hrb']) (by rw [hrb']; rfl), hrb']
      simp only [onWrite_at F U]
      have hw := (QueryLemmas.writebytes_eq data Gt.opn (validate_absOf hcb)).1
      have hc2 := QueryLemmas.step2_copy_write lw.st ca cb a b ow data hget hne (dst_guard hd)
      have key := lsim_transfer F hF U (.copy a b ow) (.writebytes (absOf cb) data) rfl (fun v => v)
        (by rw [href, hc2, hw, mapOut_id])
        (by
          intro e he
          rw [hadm]
          rw [QueryLemmas.adm_one lw.st _ (absOf cb) Gt.opn rfl (by nofun), validate_absOf hcb] at he
          exact (QueryLemmas.adm2_dst hne he).1)
      rwa [mapOut_id] at key

open Fs.WrapLemmas in
theorem lsim_copy (F : FS State) (hF : RefinesRef F) (U : WriteAt s w lw) (a b : Str) (ow : Bool)
    (hOa : ∀ cs, validate a = .ok cs → OnlyAt s w cs) (hOb : ∀ cs, validate b = .ok cs → OnlyAt s w cs) :
    LSim s w lw (.copy a b ow) (copyM F s a b ow) := by
  have Gt := U.glw
  have href := QueryLemmas.step_two lw.st (.copy a b ow) a b Gt.opn rfl
  unfold copyM
  rw [validateM_eq F hF s U.good a w U.wr U.lt]
  cases hva : validate a with
  | err e => simp only; apply lsim_exact U _ rfl; rw [href, hva]; rfl
  | ok ca =>
    simp only
    rw [validateM_eq F hF s U.good b w U.wr U.lt]
    cases hvb : validate b with
    | err e => simp only; apply lsim_exact U _ rfl; rw [href, hva, hvb]; rfl
    | ok cb =>
      simp only
      have hca := TreeLemmas.validate_clean a _ hva
      have hcb := TreeLemmas.validate_clean b cb hvb
      have hinj := absOf_inj hca hcb
      rw [hva, hvb] at href
      simp only at href
      have hbody : (ow = true ∨ lw.st.root.get cb = none) →
          LSim s w lw (.copy a b ow) (if absOf ca = absOf cb then (s, .err .IllegalDestination)
            else transferM F s (absOf ca) (absOf cb)) := by
        intro hd
        have hg := dst_guard hd
        by_cases hne : ca = cb
        · simp only [hinj.2 hne, if_true]
          apply lsim_exact U _ rfl
          rw [href]; simp [step2, hg, hne, fail]
        · have : ¬ absOf ca = absOf cb := fun h => hne (hinj.1 h)
          simp only [this, if_false]
          exact lsim_transfer_copy F hF U a b ow ca cb hva hvb (hOa _ hva) hne hd
      cases ow with
      | true => simp only [if_true]; exact hbody (Or.inl rfl)
      | false =>
        simp only [Bool.false_eq_true, if_false]
        rw [existsM_eq F hF s U.good (absOf cb), validate_absOf hcb]
        simp only [anyHas_at U (hOb cb hvb)]
        cases hget : lw.st.root.get cb with
        | some n =>
          simp only [Option.isSome_some]
          apply lsim_exact U _ rfl
          rw [href]; simp [step2, hget, fail]
        | none =>
          simp only [Option.isSome_none]
          exact hbody (Or.inr hget)

/-! ### `move`: the transfer, then `remove(src)` on the stack the transfer left -/

theorem onlyAt_putW {cs : List Name} (hl : s.layers[w]? = some lw) (t' : State) (h : OnlyAt s w cs) :
    OnlyAt (putW s w lw t') w cs := fun j hj => by
  rw [hasAt_putW_other w lw t' hl cs j hj]; exact h j hj

theorem WriteAt.putW (U : WriteAt s w lw) (t' : State) (G' : Good t') :
    WriteAt (MultiFsLemmas.putW s w lw t') w { lw with st := t' } := by
  refine ⟨U.opn, ?_, by rw [putW_get w lw t' U.lay w]; simp, (putW_cfg w lw t' U.lay).writePos.trans U.wr⟩
  intro l hl'
  rcases mem_putW w lw t' U.lay hl' with rfl | ⟨j, _, hj⟩
  · exact G'
  · exact U.good l (List.mem_of_getElem? hj)

theorem putW_putW (t' t'' : State) :
    ({ MultiFsLemmas.putW s w lw t' with
        layers := (MultiFsLemmas.putW s w lw t').layers.set w { ({ lw with st := t' } : Layer State) with st := t'' } } :
      MState State) = MultiFsLemmas.putW s w lw t'' := by
  simp [MultiFsLemmas.putW, List.set_set]

open Fs.WrapLemmas in
/-- the transfer and the final `remove(src)` of `move`, once its guards have passed -/
theorem lsim_transfer_move (F : FS State) (hF : RefinesRef F) (U : WriteAt s w lw) (a b : Str) (ow : Bool)
    (ca cb : List Name) (data : Bytes) (hva : validate a = .ok ca) (hvb : validate b = .ok cb)
    (hO : OnlyAt s w ca) (hne : ca ≠ cb)
    (hget : lw.st.root.get ca = some (.file data)) (hd : ow = true ∨ lw.st.root.get cb = none) :
    LSim s w lw (.move a b ow) (moveFinish F s (absOf ca) (absOf cb)) := by
  have Gt := U.glw
  have hca := TreeLemmas.validate_clean a _ hva
  have hcb := TreeLemmas.validate_clean b cb hvb
  have href : Ref.step lw.st (.move a b ow) = step2 lw.st ca cb (.move a b ow) := by
    rw [QueryLemmas.step_two lw.st _ a b Gt.opn rfl, hva, hvb]
  have hadm : adm lw.st (.move a b ow) = adm2 lw.st.root ca cb (.move a b ow) := by
    rw [QueryLemmas.adm_two lw.st _ a b Gt.opn rfl, hva, hvb]
  have hm2 := QueryLemmas.step2_move_write lw.st ca cb a b ow data hget hne (dst_guard hd)
  have hw := (QueryLemmas.writebytes_eq data Gt.opn (validate_absOf hcb)).1
  unfold moveFinish transferM
  rw [onDelegate_eq F hF s U.good (absOf ca) _ _, validate_absOf hca]
  simp only [find_at U hO, hget, Option.isSome_some, if_true]
  have hrb' : Ref.step lw.st (.readbytes (absOf ca)) = (lw.st, .ok (.bytes data)) := by
    rw [QueryLemmas.step_one lw.st _ (absOf ca) Gt.opn rfl (by nofun), validate_absOf hca]
    simp [step1, hget, done]
  rw [callLayer_query F hF s U.good w lw U.lay _ rfl (by rw [hrb']) (by rw [hrb']; rfl), hrb']
  simp only [onWrite_at F U]
  rcases callLayer_cases F hF s U.good w lw U.lay (.writebytes (absOf cb) data) rfl with
    ⟨hok, h⟩ | ⟨e, e', hr, h, ha⟩
  · -- the write succeeded: the source is still a file of the (new) layer state, `remove` takes it away
    have hputW : ({ s with layers := s.layers.set w { lw with st := (Ref.step lw.st (.writebytes (absOf cb) data)).1 } } :
        MState State) = MultiFsLemmas.putW s w lw (Ref.step lw.st (.writebytes (absOf cb) data)).1 := rfl
    rw [h, hputW]
    cases hwv : (Ref.step lw.st (.writebytes (absOf cb) data)).2 with
    | err e => rw [hwv] at hok; cases hok
    | ok v =>
      simp only
      have hwf : writeFile lw.st cb (fun _ => data) = ((Ref.step lw.st (.writebytes (absOf cb) data)).1, .ok v) := by
        rw [← hw]; exact Prod.ext rfl hwv
      have hkeep := TreeLemmas.writeFile_frame lw.st cb ca (fun _ => data) .unit data hget hne
      rw [hwf] at hkeep
      have G' : Good (Ref.step lw.st (.writebytes (absOf cb) data)).1 :=
        good_step Gt _ (by intro h; cases h)
      have U' := U.putW _ G'
      rw [onDelegate_eq F hF _ U'.good (absOf ca) _ _, validate_absOf hca]
      simp only [find_at U' (onlyAt_putW U.lay _ hO), hkeep, Option.isSome_some, if_true]
      have hne' : ca ≠ [] := TreeLemmas.ne_nil_of_file Gt.dir hget
      have hrm : Ref.step (Ref.step lw.st (.writebytes (absOf cb) data)).1 (.remove (absOf ca)) =
          ({ (Ref.step lw.st (.writebytes (absOf cb) data)).1 with
              root := (Ref.step lw.st (.writebytes (absOf cb) data)).1.root.del ca }, .ok .unit) := by
        rw [QueryLemmas.step_one _ _ (absOf ca) G'.opn rfl (by nofun), validate_absOf hca]
        simp [step1, hne', hkeep, upd]
      rcases callLayer_cases F hF _ U'.good w _ U'.lay (.remove (absOf ca)) rfl with
        ⟨_, h2⟩ | ⟨e, _, hr2, _, _⟩
      · rw [h2, putW_putW, hrm]
        left
        rw [href, hm2, hwf]
        exact ⟨rfl, rfl⟩
      · rw [hrm] at hr2; exact absurd (congrArg Prod.snd hr2) (by simp)
  · -- the write failed: nothing changed, and the reference's `move` fails too
    rw [h]
    right
    have hwf : writeFile lw.st cb (fun _ => data) = (lw.st, .err e) := by rw [← hw]; exact hr
    refine ⟨e, e', ?_, rfl, ?_⟩
    · rw [href, hm2, hwf]
    · rw [hadm]
      rw [QueryLemmas.adm_one lw.st _ (absOf cb) Gt.opn rfl (by nofun), validate_absOf hcb] at ha
      exact (QueryLemmas.adm2_dst hne ha).2

open Fs.WrapLemmas in
theorem lsim_move (F : FS State) (hF : RefinesRef F) (U : WriteAt s w lw) (a b : Str) (ow : Bool)
    (hOa : ∀ cs, validate a = .ok cs → OnlyAt s w cs) (hOb : ∀ cs, validate b = .ok cs → OnlyAt s w cs) :
    LSim s w lw (.move a b ow) (moveM F s a b ow) := by
  have Gt := U.glw
  have href := QueryLemmas.step_two lw.st (.move a b ow) a b Gt.opn rfl
  unfold moveM
  rw [validateM_eq F hF s U.good a w U.wr U.lt]
  cases hva : validate a with
  | err e => simp only; apply lsim_exact U _ rfl; rw [href, hva]; rfl
  | ok ca =>
    simp only
    rw [validateM_eq F hF s U.good b w U.wr U.lt]
    cases hvb : validate b with
    | err e => simp only; apply lsim_exact U _ rfl; rw [href, hva, hvb]; rfl
    | ok cb =>
      simp only
      have hca := TreeLemmas.validate_clean a _ hva
      have hcb := TreeLemmas.validate_clean b cb hvb
      have hinj := absOf_inj hca hcb
      have hadm : adm lw.st (.move a b ow) = adm2 lw.st.root ca cb (.move a b ow) := by
        rw [QueryLemmas.adm_two lw.st _ a b Gt.opn rfl, hva, hvb]
      rw [hva, hvb] at href
      simp only at href
      have hbody : (ow = true ∨ lw.st.root.get cb = none) →
          LSim s w lw (.move a b ow) (moveBody F s (absOf ca) (absOf cb)) := by
        intro hd
        unfold moveBody
        have hO := hOa _ hva
        cases hget : lw.st.root.get ca with
        | none =>
          rw [getinfoM_eq F hF s U.good (absOf ca), validate_absOf hca]
          simp only [find_at U hO, hget, Option.isSome_none, Bool.false_eq_true, if_false]
          apply lsim_exact U _ rfl
          rw [href]; simp [step2, hget, fail]
        | some n =>
          have hf : (order s).find? (hasAt s ca) = some w := by rw [find_at U hO, hget]; rfl
          rw [getinfoM_has F hF s U.good (absOf ca) _ (validate_absOf hca) w hf lw n U.lay hget]
          cases n with
          | dir es =>
            simp only
            apply lsim_exact U _ rfl
            rw [href]; simp [step2, hget, fail]
          | file data =>
            simp only
            by_cases hne : ca = cb
            · subst hne
              have how : ow = true := by
                rcases hd with h | h
                · exact h
                · rw [hget] at h; cases h
              subst how
              simp only [if_true]
              apply lsim_exact U _ rfl
              rw [href]; simp [step2, hget, done]
            · have : ¬ absOf ca = absOf cb := fun h => hne (hinj.1 h)
              simp only [this, if_false]
              exact lsim_transfer_move F hF U a b ow ca cb data hva hvb hO hne hget hd
      cases ow with
      | true => simp only [if_true]; exact hbody (Or.inl rfl)
      | false =>
        simp only [Bool.false_eq_true, if_false]
        rw [existsM_eq F hF s U.good (absOf cb), validate_absOf hcb]
        simp only [anyHas_at U (hOb cb hvb)]
        cases hgb : lw.st.root.get cb with
        | none =>
          simp only [Option.isSome_none]
          exact hbody (Or.inr hgb)
        | some nb =>
          simp only [Option.isSome_some]
          -- the destination exists: DestinationExists, whatever the source is
          have hmem : Err.DestinationExists ∈ adm lw.st (.move a b false) := by
            rw [hadm]; simp [adm2, kindAt, hgb]; cases nb <;> simp
          cases hget : lw.st.root.get ca with
          | none =>
            right
            exact ⟨.ResourceNotFound, .DestinationExists, by rw [href]; simp [step2, hget, fail], rfl, hmem⟩
          | some n =>
            cases n with
            | dir es =>
              right
              exact ⟨.FileExpected, .DestinationExists, by rw [href]; simp [step2, hget, fail], rfl, hmem⟩
            | file data =>
              apply lsim_exact U _ rfl
              rw [href]; simp [step2, hget, hgb, fail]

/-- the inherited defaults that WALK the filesystem (`fs/walk.py`, `fs/copy.py`, `fs/move.py`) -/
def walker : Op → Bool
  | .removetree _ | .movedir _ _ _ | .copydir _ _ _ => true
  | _ => false

/-- **routing** -/
theorem lsim_step (fuel : Nat) (F : FS State) (hF : RefinesRef F) (U : WriteAt s w lw) (op : Op) (hop : op ≠ .close)
    (hq : RouteSpec.isQuery op = false) (hwk : walker op = false)
    (hO : ∀ p ∈ op.paths, ∀ cs, validate p = .ok cs → OnlyAt s w cs) :
    LSim s w lw op (MultiFs.step fuel F s op) := by
  rw [step_open fuel F s U.opn op hop]
  cases op <;> first | (cases hq; done) | (cases hwk; done) | skip
  all_goals simp only [stepOpen]
  case close => exact absurd rfl hop
  case makedir | makedirs | writebytes | appendbytes | settimes =>
    rw [onWrite_at F U]; exact lsim_call F hF U _ rfl
  case create p wp => exact lsim_create F hF U p wp (hO p (by simp [Op.paths]))
  case touch p => exact lsim_touch F hF U p (hO p (by simp [Op.paths]))
  case openbin p m =>
    exact lsim_openbin_write F hF U p m (by simpa only [RouteLemmas.isQuery_openbin, Bool.not_eq_false'] using hq)
  case remove p | removedir p =>
    exact lsim_onDelegate F hF U _ p rfl nofun rfl (hO p (by simp [Op.paths]))
      (fun cs hg => by cases cs <;> first | cases hg | simp [step1, hg, fail])
  case move a b o => exact lsim_move F hF U a b o (hO a (by simp [Op.paths])) (hO b (by simp [Op.paths]))
  case copy a b o => exact lsim_copy F hF U a b o (hO a (by simp [Op.paths])) (hO b (by simp [Op.paths]))

/-- **the lift**: what a call does to the layer at `w`, it does to the overlay, when its paths go through names
only that layer may hold (the overlay agrees with that layer on those names: `step_local`) -/
theorem usim_of_lsim (G : GoodStack s) (hl : s.layers[w]? = some lw) (op : Op) (hop : op ≠ .close)
    (hb : bulk op = false) (hP : OpIn (OnlyW s w) op) {r : MState State × Out} (h : LSim s w lw op r) :
    USim s w lw op r := by
  have Gt : Good lw.st := G.good lw (List.mem_of_getElem? hl)
  have hA := overlay_agreeOn G w lw hl
  obtain ⟨eu, heu, hnu⟩ := overlay_root_dir G
  have hnu' : NodupTop (overlay s).root := by unfold NodupTop; rw [heu]; exact hnu
  obtain ⟨hout, hAres, hft, hfu⟩ := step_local Gt.opn G.opn hA (nodupTop_good Gt) hnu' op hop hb hP
  have hadm := adm_local Gt.opn G.opn hA op hb hP
  unfold LSim at h
  rw [hout, hadm] at h
  obtain ⟨h1, h2, h3⟩ := outcome_split h
  exact ⟨h1, fun hk => by
    rw [h2 hk]; exact ⟨rfl, rfl, obsEq_putW G w lw hl _ _ (good_step Gt op hop) hft hfu hAres⟩, h3⟩

theorem unshadowed_step (fuel : Nat) (F : FS State) (hF : RefinesRef F) (G : GoodStack s) (U : WriteAt s w lw) (op : Op)
    (hop : op ≠ .close) (hq : RouteSpec.isQuery op = false) (hwk : walker op = false)
    (hP : OpIn (OnlyW s w) op) : USim s w lw op (MultiFs.step fuel F s op) :=
  usim_of_lsim G U.lay op hop (by cases op <;> first | rfl | cases hwk) hP
    (lsim_step fuel F hF U op hop hq hwk fun p hp cs hv => by
      obtain ⟨c, rest, rfl, hc⟩ := hP p hp cs hv
      exact hc.at rest)

end

end Fs.MultiFsLemmas
