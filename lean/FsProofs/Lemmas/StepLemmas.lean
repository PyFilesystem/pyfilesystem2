/-
  How `Ref.step` and `Ref.adm` unfold, by the shape of the operation: `close`, `openbin`
  (whose mode is looked at before its path), one path, two paths.  Both functions start with a
  `match` that has a catch-all arm, so `split` yields the arm together with the negated patterns
  and no proof here has to go through the constructors of `Op`, except `op_cases`.
  Namespace `Fs.QueryLemmas`: this is the part of QueryLemmas.lean that StepEffects needs as well.
-/
import FsModel.Ref
import FsModel.RefAdm

namespace Fs.QueryLemmas
open Fs Fs.Ref Fs.Path

theorem mapM_one (p : Str) :
    [p].mapM validate = match validate p with | .ok cs => .ok [cs] | .err e => .err e := by
  unfold List.mapM List.mapM.loop List.mapM.loop
  cases validate p <;> rfl

theorem mapM_two (a b : Str) :
    [a, b].mapM validate =
      match validate a with
      | .err e => .err e
      | .ok ca => match validate b with
        | .err e => .err e
        | .ok cb => .ok [ca, cb] := by
  unfold List.mapM List.mapM.loop List.mapM.loop List.mapM.loop
  cases validate a <;> cases validate b <;> rfl

theorem op_cases (op : Op) :
    op = .close ∨ (∃ p m, op = .openbin p m) ∨
    (∃ p, op.paths = [p] ∧ ∀ q m, op ≠ .openbin q m) ∨ (∃ a b, op.paths = [a, b]) := by
  cases op
  case close => exact .inl rfl
  case openbin p m => exact .inr (.inl ⟨p, m, rfl⟩)
  case move a b _ | copy a b _ | movedir a b _ | copydir a b _ =>
    exact .inr (.inr (.inr ⟨a, b, rfl⟩))
  all_goals exact .inr (.inr (.inl ⟨_, rfl, fun _ _ => Op.noConfusion⟩))

theorem step_close (s : State) : step s .close = ({ s with closed := true }, .ok .unit) := rfl

theorem step_closed (s : State) (op : Op) (hop : op ≠ .close) (hc : s.closed = true) :
    step s op = fail s .FilesystemClosed := by
  unfold step
  split
  · exact absurd rfl hop
  · rw [if_pos hc]

/-- one-path operations other than `openbin` -/
theorem step_one (s : State) (op : Op) (p : Str) (hc : s.closed = false) (hp : op.paths = [p])
    (hno : ∀ q m, op ≠ .openbin q m) :
    step s op = match validate p with
      | .err e => fail s e
      | .ok cs => step1 s cs op := by
  unfold step
  split
  · cases hp
  · rw [if_neg (by simp [hc])]
    split
    · exact absurd rfl (hno _ _)
    · rw [hp, mapM_one]
      cases validate p <;> rfl

theorem step_openbin (s : State) (p m : Str) (hc : s.closed = false) :
    step s (.openbin p m) =
      if (parseBinMode m).isNone then fail s .ValueError
      else match validate p with
        | .err e => fail s e
        | .ok cs => step1 s cs (.openbin p m) := by
  simp only [step, hc, Op.paths, mapM_one]
  cases validate p <;> rfl

theorem step_two (s : State) (op : Op) (a b : Str) (hc : s.closed = false) (hp : op.paths = [a, b]) :
    step s op = match validate a with
      | .err e => fail s e
      | .ok ca => match validate b with
        | .err e => fail s e
        | .ok cb => step2 s ca cb op := by
  unfold step
  split
  · cases hp
  · rw [if_neg (by simp [hc])]
    split
    · cases hp
    · rw [hp, mapM_two]
      cases validate a <;> cases validate b <;> rfl

theorem adm_closed (s : State) (op : Op) (hop : op ≠ .close) (hc : s.closed = true) :
    adm s op = [.FilesystemClosed] := by
  unfold adm
  split
  · exact absurd rfl hop
  · rw [if_pos hc]

theorem adm_one (s : State) (op : Op) (p : Str) (hc : s.closed = false) (hp : op.paths = [p])
    (hno : ∀ q m, op ≠ .openbin q m) :
    adm s op = match validate p with
      | .err e => [e]
      | .ok cs => adm1 s.root cs op := by
  unfold adm
  split
  · cases hp
  · rw [if_neg (by simp [hc]), hp, mapM_one]
    -- here `simp` also takes the catch-all arm of the `match` on `op`: `hno` discharges its side condition
    simp only [List.flatMap_cons, List.flatMap_nil, List.append_nil, admPath]
    cases validate p with
    | ok cs => rfl
    | err e => simp only [ne_eq, List.append_nil, List.cons_ne_nil, not_false_eq_true, if_true]

theorem adm_openbin (s : State) (p m : Str) (hc : s.closed = false) :
    adm s (.openbin p m) = match validate p with
      | .err e => if (parseBinMode m).isNone then [.ValueError, e] else [e]
      | .ok cs => adm1 s.root cs (.openbin p m) := by
  simp only [adm, hc, Op.paths, mapM_one, admPath, List.flatMap_cons, List.flatMap_nil,
    List.append_nil]
  cases validate p <;> simp

theorem adm_two (s : State) (op : Op) (a b : Str) (hc : s.closed = false) (hp : op.paths = [a, b]) :
    adm s op = match validate a, validate b with
      | .err ea, .err eb => [ea, eb]
      | .err ea, .ok cb => ea :: admAny s.root cb
      | .ok ca, .err eb => eb :: admAny s.root ca
      | .ok ca, .ok cb => adm2 s.root ca cb op := by
  unfold adm
  split
  · cases hp
  · rw [if_neg (by simp [hc]), hp, mapM_two]
    simp only [List.flatMap_cons, List.flatMap_nil, List.append_nil, admPath]
    cases validate a <;> cases validate b
    · rfl
    all_goals
      simp only [ne_eq, List.append_nil, List.nil_append, List.cons_append, List.cons_ne_nil,
        not_false_eq_true, if_true]
      split
      · cases hp
      · rfl

theorem step_admitted {s : State} {op : Op} {p : Str} {cs : List Name} (hc : s.closed = false) (hp : op.paths = [p])
    (hv : validate p = .ok cs) (hm : ∀ q m, op = .openbin q m → (parseBinMode m).isSome = true) :
    step s op = step1 s cs op := by
  rcases op_cases op with rfl | ⟨q, m, rfl⟩ | ⟨q, hq, hno⟩ | ⟨a, b, hab⟩
  · cases hp
  · cases hp
    obtain ⟨md, hmd⟩ := Option.isSome_iff_exists.1 (hm p m rfl)
    rw [step_openbin s p m hc, hv, hmd]
    rfl
  · rw [step_one s op p hc hp hno, hv]
  · cases hab.symm.trans hp

theorem adm_admitted {s : State} {op : Op} {p : Str} {cs : List Name} (hc : s.closed = false) (hp : op.paths = [p])
    (hv : validate p = .ok cs) : adm s op = adm1 s.root cs op := by
  rcases op_cases op with rfl | ⟨q, m, rfl⟩ | ⟨q, hq, hno⟩ | ⟨a, b, hab⟩
  · cases hp
  · cases hp
    rw [adm_openbin s p m hc, hv]
  · rw [adm_one s op p hc hp hno, hv]
  · cases hab.symm.trans hp

theorem step_refused {s : State} {op : Op} {p : Str} {e : Err} (hc : s.closed = false) (hp : op.paths = [p])
    (hv : validate p = .err e) (hm : ∀ q m, op = .openbin q m → (parseBinMode m).isSome = true) :
    step s op = fail s e ∧ adm s op = [e] := by
  rcases op_cases op with rfl | ⟨q, m, rfl⟩ | ⟨q, hq, hno⟩ | ⟨a, b, hab⟩
  · cases hp
  · cases hp
    obtain ⟨md, hmd⟩ := Option.isSome_iff_exists.1 (hm p m rfl)
    rw [step_openbin s p m hc, adm_openbin s p m hc, hv, hmd]
    exact ⟨rfl, rfl⟩
  · rw [step_one s op p hc hp hno, adm_one s op p hc hp hno, hv]
    exact ⟨rfl, rfl⟩
  · cases hab.symm.trans hp

theorem step_two_admitted {s : State} {op : Op} {p q : Str} {a b : List Name} (hc : s.closed = false)
    (hp : op.paths = [p, q]) (hv1 : validate p = .ok a) (hv2 : validate q = .ok b) :
    step s op = step2 s a b op ∧ adm s op = adm2 s.root a b op := by
  rw [step_two s op p q hc hp, adm_two s op p q hc hp, hv1, hv2]
  exact ⟨rfl, rfl⟩

end Fs.QueryLemmas
