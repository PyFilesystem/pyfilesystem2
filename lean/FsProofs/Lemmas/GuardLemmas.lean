/-
  Helper lemmas for C04 / C18: the `Safe` fixpoint, its soundness for the operational semantics
  `Exec`, and the facts about `Ref.step` the wrapper semantics needs.
-/
import FsModel.Guard
import FsProofs.Lemmas.Queries

namespace Fs.GuardLemmas
open Fs Fs.Ref Fs.Guard Fs.Generated

/-! ### table plumbing -/

theorem shapeOf_missing_of_not_mem (cls m : String) (h : m ∉ methodsOf cls) :
    shapeOf cls m = .missing := by
  unfold shapeOf
  have : (shapeRowsOf cls).find? (fun r => r.1 == m) = none := by
    rw [List.find?_eq_none]
    intro r hr hp
    apply h
    simp only [methodsOf, List.mem_map]
    exact ⟨r, hr, by simpa using hp⟩
  rw [this]

/-! ### the `Safe` fixpoint -/

theorem harmlessStep_base {cls : String} {f : String → Bool} {m : String} (h : shapeOf cls m = .baseDefault) :
    harmlessStep cls f m = ((callsOf m).1.all f && (!(callsOf m).2 || overriddenHarmless cls)) := by
  rw [harmlessStep, h]

theorem harmlessStep_shape {cls : String} {f : String → Bool} {m : String} (h : shapeOf cls m ≠ .baseDefault) :
    harmlessStep cls f m = harmlessShape m (shapeOf cls m) := by
  unfold harmlessStep
  split
  · exact absurd ‹_› h
  · rfl

theorem harmlessStep_mono (cls : String) (f g : String → Bool) (hfg : ∀ m, f m = true → g m = true)
    (m : String) (h : harmlessStep cls f m = true) : harmlessStep cls g m = true := by
  by_cases hb : shapeOf cls m = .baseDefault
  · rw [harmlessStep_base hb, Bool.and_eq_true, List.all_eq_true] at h ⊢
    exact ⟨fun c hc => hfg c (h.1 c hc), h.2⟩
  · rwa [harmlessStep_shape hb] at h ⊢

theorem harmlessN_mono (cls : String) (n : Nat) : ∀ m, harmlessN cls n m = true → harmlessN cls (n + 1) m = true := by
  induction n with
  | zero => intro m h; simp [harmlessN] at h
  | succ n ih =>
    intro m h
    show harmlessStep cls (harmlessN cls (n + 1)) m = true
    exact harmlessStep_mono cls (harmlessN cls n) (harmlessN cls (n + 1)) ih m h

/-- once two consecutive levels agree, all later levels agree: the depth bound suffices -/
theorem harmlessN_stable (cls : String) (b : Nat)
    (h : ∀ m, harmlessN cls (b + 1) m = harmlessN cls b m) :
    ∀ k m, harmlessN cls (b + k) m = harmlessN cls b m := by
  intro k
  induction k with
  | zero => intro m; rfl
  | succ k ih =>
    intro m
    have e : harmlessN cls (b + k) = harmlessN cls b := funext ih
    show harmlessStep cls (harmlessN cls (b + k)) m = harmlessN cls b m
    rw [e]
    exact h m

/-- agreement of two levels only has to be checked on the names of the table -/
theorem harmlessN_agree_of_table (cls : String) (a b : Nat)
    (h : ∀ m ∈ methodsOf cls, harmlessN cls (a + 1) m = harmlessN cls (b + 1) m) :
    ∀ m, harmlessN cls (a + 1) m = harmlessN cls (b + 1) m := by
  intro m
  by_cases hm : m ∈ methodsOf cls
  · exact h m hm
  · have hb : shapeOf cls m ≠ .baseDefault := by rw [shapeOf_missing_of_not_mem cls m hm]; nofun
    exact (harmlessStep_shape hb).trans (harmlessStep_shape hb).symm

theorem safe_of_table {cls m : String} (hT : TableSafe cls = true) (hm : m ∈ methodsOf cls) :
    Safe cls m = true := List.all_eq_true.mp hT m hm

/-! ### modes -/

theorem not_writing_of_covers (chars : List Char) (mode : Str) (hc : coversWriting chars = true)
    (hr : rejects chars mode = false) : isWritingMode mode = false := by
  unfold coversWriting at hc
  unfold rejects at hr
  unfold isWritingMode
  simp only [Bool.and_eq_true, List.all_eq_true] at hc
  rw [List.any_eq_false] at hr ⊢
  intro c hcm hw
  have hw' : c ∈ wchars := by simpa using hw
  have := hc.2 c hw'
  exact hr c hcm this

/-- what is assumed of the underlying filesystem: passive methods and opens in a non-writing
mode do not change its state -/
structure Honest {σ : Type} (I : Inner σ) : Prop where
  passive : ∀ m s s', isPassive m = true → I.call m s s' → s' = s
  readOpen : ∀ mode s s', isWritingMode mode = false → I.openAs mode s s' → s' = s

theorem seqOf_id {σ : Type} (R : String → σ → σ → Prop) (A : String → Prop)
    (h : ∀ c s s', A c → R c s s' → s' = s) : ∀ s s', SeqOf R A s s' → s' = s := by
  intro s s' hs
  induction hs with
  | nil s => rfl
  | cons c hA hR _ ih => rw [ih]; exact h c _ _ hA hR

/-- a mode string that `validate_bin` accepts is accepted by the `Mode(..)` constructor -/
theorem modeValid_of_parse (m : Str) (h : (parseBinMode m).isSome = true) : modeValid m = true := by
  obtain ⟨md, hm⟩ := Option.isSome_iff_exists.1 h
  cases m with
  | nil => cases hm
  | cons c r =>
    -- the first three guards of `parseBinMode` are the three conjuncts of `modeValid`
    obtain ⟨h1, hm⟩ := QueryLemmas.ite_none_eq_some hm
    obtain ⟨h2, hm⟩ := QueryLemmas.ite_none_eq_some hm
    obtain ⟨h3, -⟩ := QueryLemmas.ite_none_eq_some hm
    have tt : ∀ {b : Bool}, ¬ (!b) = true → b = true := by decide
    rw [modeValid, tt h1, tt h2, Bool.eq_false_iff.2 h3]
    rfl

/-- `r` is not a writing mode character of this tree's `Mode.writing` -/
theorem r_not_writing : isWritingMode ['r'] = false := by decide

/-- shapes that are harmless on their own are sound -/
theorem execShape_sound_simple {σ : Type} (cls : String) (I : Inner σ) (hI : Honest I)
    (R : String → σ → σ → Prop) (m : String) (s s' : σ) (sh : Shape)
    (hb : sh ≠ .baseDefault) (hh : harmlessShape m sh = true)
    (hx : execShape cls I R m s s' sh) : s' = s := by
  cases sh with
  | raisesReadOnly => exact hx
  | modeGuarded chars passes validates =>
    obtain ⟨mode, hm⟩ := hx
    by_cases hv : (validates && !modeValid mode) = true
    · simpa [hv] using hm
    have hv' : (validates && !modeValid mode) = false := by simpa using hv
    simp only [hv', Bool.false_eq_true, if_false] at hm
    by_cases hr : rejects chars mode = true
    · simpa [hr] using hm
    · have hr' : rejects chars mode = false := by simpa using hr
      simp only [hr'] at hm
      cases passes with
      | true =>
        simp only [harmlessShape, Bool.not_true, Bool.or_false, Bool.and_eq_true] at hh
        exact hI.readOpen mode s s' (not_writing_of_covers chars mode hh.2 hr') (by simpa using hm)
      | false => exact hI.readOpen ['r'] s s' r_not_writing (by simpa using hm)
  | delegates => exact hI.passive m s s' hh hx
  | other => exact hx
  | baseDefault => exact absurd rfl hb
  | abstract => simp [harmlessShape] at hh
  | unknown => simp [harmlessShape] at hh
  | missing => exact False.elim hx

theorem exec_id_of_overridden {σ : Type} (cls : String) (I : Inner σ) (hI : Honest I)
    (ho : overriddenHarmless cls = true) :
    ∀ n m s s', ExecN cls I n m s s' → s' = s := by
  intro n
  induction n with
  | zero => intro m s s' h; exact False.elim h
  | succ n ih =>
    intro m s s' h
    have hx : execShape cls I (ExecN cls I n) m s s' (shapeOf cls m) := h
    by_cases hb : shapeOf cls m = .baseDefault
    · rw [hb] at hx
      exact seqOf_id _ _ (fun c a b _ hR => ih c a b hR) s s' hx
    · have hm : m ∈ methodsOf cls := Decidable.byContradiction fun hm => by
        rw [shapeOf_missing_of_not_mem cls m hm] at hx
        exact hx
      have hh : harmlessShape m (shapeOf cls m) = true := by
        unfold overriddenHarmless at ho
        rw [List.all_eq_true] at ho
        exact ho m hm
      exact execShape_sound_simple cls I hI _ m s s' _ hb hh hx

/-- Soundness of `Safe`: a method that is harmless at some depth never changes the state of the
underlying filesystem, whatever the call depth of the execution. -/
theorem harmless_sound {σ : Type} (cls : String) (I : Inner σ) (hI : Honest I) :
    ∀ n k m s s', harmlessN cls k m = true → ExecN cls I n m s s' → s' = s := by
  intro n
  induction n with
  | zero => intro k m s s' _ h; exact False.elim h
  | succ n ih =>
    intro k m s s' hk h
    cases k with
    | zero => simp [harmlessN] at hk
    | succ k =>
      have hx : execShape cls I (ExecN cls I n) m s s' (shapeOf cls m) := h
      have hs : harmlessStep cls (harmlessN cls k) m = true := hk
      by_cases hb : shapeOf cls m = .baseDefault
      · rw [hb] at hx
        simp only [harmlessStep_base hb, Bool.and_eq_true, List.all_eq_true, Bool.or_eq_true, Bool.not_eq_eq_eq_not,
          Bool.not_true] at hs
        refine seqOf_id _ _ ?_ s s' hx
        intro c a b hA hR
        cases hA with
        | inl hc => exact ih k c a b (hs.1 c hc) hR
        | inr he =>
          cases hs.2 with
          | inl hne => rw [he.1] at hne; exact absurd hne (by decide)
          | inr ho => exact exec_id_of_overridden cls I hI ho n c a b hR
      · exact execShape_sound_simple cls I hI _ m s s' _ hb (harmlessStep_shape hb ▸ hs) hx


def opKind : Op → Kind
  | .exists_ _ | .isdir _ | .isfile _ | .listdir _ | .getsize _ | .gettype _ | .isempty _
  | .getinfo _ | .readbytes _ => .query
  | .openbin _ _ => .opener
  | .close => .helper
  | _ => .mutator

/-- one evaluation of `kindOf` for the 25 names: every separate one pays for the literals of `kindOf`'s lists again -/
theorem kindOf_opMeth (op : Op) : kindOf (opMeth op) = some (opKind op) := by
  have h : refMethods.map kindOf = (List.replicate 9 (some .query) ++ List.replicate 7 (some .mutator) ++
      [some .opener] ++ List.replicate 7 (some .mutator) ++ [some .helper]) := by decide +kernel
  simp only [refMethods, List.map_cons, List.map_nil, List.replicate, List.cons_append, List.nil_append,
    List.cons.injEq, and_true] at h
  cases op <;> simp only [opMeth, opKind, h]

theorem opMeth_mem_refMethods (op : Op) : opMeth op ∈ refMethods := by
  cases op <;> simp only [opMeth, refMethods, List.mem_cons, true_or, or_true]

theorem opMeth_ne_close {op : Op} (hop : op ≠ .close) : opMeth op ≠ "close" := by
  cases op <;> first | exact absurd rfl hop | simp [opMeth]

theorem passive_opKind {op : Op} (h : isPassive (opMeth op) = true) :
    opKind op = .query ∨ opKind op = .helper := by
  simpa [isPassive, kindOf_opMeth] using h

theorem opener_is_openbin {op : Op} (h : isOpener (opMeth op) = true) : ∃ p m, op = .openbin p m := by
  have hk : opKind op = .opener := by simpa [isOpener, kindOf_opMeth] using h
  cases op <;> first | exact ⟨_, _, rfl⟩ | cases hk

theorem passive_not_mut {m : String} (h : isPassive m = true) : (isMutator m || isOpener m) = false := by
  unfold isPassive at h
  unfold isMutator isOpener
  revert h
  cases kindOf m with
  | none => simp
  | some k => cases k <;> simp

theorem mutating_not_passive {op : Op} (hm : refMutating op = true) : isPassive (opMeth op) = false := by
  cases hp : isPassive (opMeth op) with
  | false => rfl
  | true =>
    have := Bool.or_eq_false_iff.mp (passive_not_mut hp)
    simp [refMutating, this.1, this.2] at hm

theorem opener_not_mutator {m : String} (h : isOpener m = true) : isMutator m = false := by
  unfold isOpener at h
  unfold isMutator
  rw [eq_of_beq h]
  rfl

theorem passive_of_not_mut (op : Op) (h : (isMutator (opMeth op) || isOpener (opMeth op)) = false) :
    isPassive (opMeth op) = true := by
  unfold isMutator isOpener at h
  unfold isPassive
  rw [kindOf_opMeth] at h ⊢
  revert h
  cases opKind op <;> simp

/-! ### `Ref.step`: what `kindOf` calls passive, or an open for reading, is a query of `RouteSpec.isQuery`, and those
change nothing (`RouteLemmas.step_query_state`) -/

theorem query_of_passive {op : Op} (h : isPassive (opMeth op) = true) (hop : op ≠ .close) :
    RouteSpec.isQuery op = true := by
  have hk := passive_opKind h
  cases op <;> first | rfl | exact absurd rfl hop | simp only [opKind, reduceCtorEq, or_self] at hk

theorem wchars_eq : wchars = ['w', 'a', '+', 'x'] := by decide

/-- `Mode.writing` of this tree asks for the characters `RouteSpec.isQuery` asks for -/
theorem query_of_not_writing (p m : Str) (h : isWritingMode m = false) : RouteSpec.isQuery (.openbin p m) = true := by
  rw [isWritingMode, wchars_eq, List.any_eq_false] at h
  have hc : ∀ c, c ∈ ['w', 'a', '+', 'x'] → m.contains c = false := fun c hc =>
    Bool.eq_false_iff.2 fun hm => h c (List.contains_iff_mem.1 hm) (List.contains_iff_mem.2 hc)
  simp only [RouteSpec.isQuery, hc 'w' (by decide), hc 'a' (by decide), hc '+' (by decide), hc 'x' (by decide)]
  rfl

/-- every two-path operation is a mutator, and `step2` ignores the others -/
theorem step2_query_pure (st : State) (a b : List Name) (op : Op) (h : isPassive (opMeth op) = true) :
    (step2 st a b op).1 = st := by
  have hk := passive_opKind h
  cases op <;> simp only [opKind, reduceCtorEq, or_self] at hk
  all_goals rfl

theorem ref_passive_pure (s : State) (op : Op) (h : isPassive (opMeth op) = true) (hop : op ≠ .close) :
    (step s op).1 = s :=
  RouteLemmas.step_query_state s op (query_of_passive h hop)

/-! ### the wrapper semantics `RO.step` -/

theorem safe_shape {cls m : String} {sh : Shape} (h : Safe cls m = true) (hsh : shapeOf cls m = sh)
    (hb : sh ≠ .baseDefault) : harmlessShape m sh = true := by
  subst hsh
  exact (harmlessStep_shape hb).symm.trans h

/-- `!passes`: the body opens for reading whatever the mode -/
theorem safe_modeGuarded {cls m : String} {chars : List Char} {passes validates : Bool} (h : Safe cls m = true)
    (hsh : shapeOf cls m = .modeGuarded chars passes validates) :
    isOpener m = true ∧ (coversWriting chars || !passes) = true := by
  simpa only [harmlessShape, Bool.and_eq_true] using safe_shape h hsh nofun

theorem asRead_pure (s : Ref.State) (op : Op) (h : isOpener (opMeth op) = true) : (Ref.step s (asRead op)).1 = s := by
  obtain ⟨p, m, rfl⟩ := opener_is_openbin h
  exact RouteLemmas.step_query_state _ _ (query_of_not_writing p _ r_not_writing)

theorem opener_read_pure (s : Ref.State) (op : Op) (h : isOpener (opMeth op) = true)
    (hw : isWritingMode (opMode op) = false) : (Ref.step s op).1 = s := by
  obtain ⟨p, m, rfl⟩ := opener_is_openbin h
  exact RouteLemmas.step_query_state _ _ (query_of_not_writing p m hw)

/-- `RO.step` for anything but `close` -/
theorem ro_step_eq (cls : String) (st : RO.State) (op : Op) (hop : op ≠ .close) :
    RO.step cls st op =
        (if st.closed && guardOf cls (opMeth op) == .guarded then (st, .err .FilesystemClosed)
         else match shapeOf cls (opMeth op) with
          | .raisesReadOnly => (st, .err .ResourceReadOnly)
          | .modeGuarded chars passes validates =>
              if validates && !modeValid (opMode op) then (st, .err .ValueError)
              else if rejects chars (opMode op) then (st, .err .ResourceReadOnly)
              else if passes then RO.pass st op else RO.pass st (asRead op)
          | .baseDefault =>
              if Safe cls (opMeth op) then
                (st, if refMutating op then .err .ResourceReadOnly else (Ref.step st.inner op).2)
              else RO.pass st op
          | .other => (st, (Ref.step st.inner op).2)
          | .missing => (st, .err .Unsupported)
          | _ => RO.pass st op) := by
  cases op <;> first | exact absurd rfl hop | rfl

/-- one step through a wrapper whose method is `Safe` leaves the wrapped state alone -/
theorem ro_step_inner (cls : String) (st : RO.State) (op : Op) (h : Safe cls (opMeth op) = true) :
    (RO.step cls st op).1.inner = st.inner := by
  by_cases hop : op = .close
  · subst hop; rfl
  · rw [ro_step_eq cls st op hop]
    split
    · rfl
    · cases hs : shapeOf cls (opMeth op) with
      | raisesReadOnly => rfl
      | modeGuarded chars passes validates =>
        have hh := safe_modeGuarded h hs
        simp only
        split
        · rfl
        split
        · rfl
        · rename_i _ hr
          have hr' : rejects chars (opMode op) = false := by simpa using hr
          cases passes with
          | true =>
            simp only [Bool.not_true, Bool.or_false] at hh
            have hw := not_writing_of_covers chars _ hh.2 hr'
            simp only [if_true, RO.pass]
            exact opener_read_pure _ _ hh.1 hw
          | false =>
            simp only [RO.pass]
            exact asRead_pure _ _ hh.1
      | delegates =>
        have hh := safe_shape h hs nofun
        simp only [RO.pass]
        exact ref_passive_pure _ _ hh hop
      | baseDefault => simp only
      | other => rfl
      | missing => rfl
      | abstract =>
        cases safe_shape h hs nofun
      | unknown =>
        cases safe_shape h hs nofun

/-- a table all of whose names are `Safe` makes every *reference* operation safe: names outside
the table resolve to nothing (`missing`) -/
theorem ro_step_inner_of_table (cls : String) (hT : TableSafe cls = true) (st : RO.State) (op : Op) :
    (RO.step cls st op).1.inner = st.inner := by
  by_cases hm : opMeth op ∈ methodsOf cls
  · exact ro_step_inner cls st op (safe_of_table hT hm)
  · by_cases hop : op = .close
    · subst hop; rfl
    · rw [ro_step_eq cls st op hop, shapeOf_missing_of_not_mem cls _ hm]
      split <;> rfl

theorem ro_run_inner (cls : String) (hT : TableSafe cls = true) :
    ∀ (ops : List Op) (st : RO.State), (RO.run cls st ops).1.inner = st.inner := by
  intro ops
  induction ops with
  | nil => intro st; rfl
  | cons op ops ih =>
    intro st
    show (RO.run cls (RO.step cls st op).1 ops).1.inner = st.inner
    rw [ih, ro_step_inner_of_table cls hT]

theorem ro_mutator_raises (cls : String) (st : RO.State) (op : Op)
    (hs : Safe cls (opMeth op) = true) (hm : refMutating op = true)
    (hc : (st.closed && guardOf cls (opMeth op) == .guarded) = false)
    (hrej : ∀ chars passes validates, shapeOf cls (opMeth op) = .modeGuarded chars passes validates →
      (validates && !modeValid (opMode op)) = false ∧ rejects chars (opMode op) = true) :
    (RO.step cls st op).2 = .err .ResourceReadOnly := by
  have hop : op ≠ .close := by
    intro h; subst h; revert hm; decide
  rw [ro_step_eq cls st op hop, hc]
  simp only [Bool.false_eq_true, if_false]
  cases hsh : shapeOf cls (opMeth op) with
  | raisesReadOnly => rfl
  | modeGuarded chars passes validates =>
    simp only [(hrej chars passes validates hsh).1, (hrej chars passes validates hsh).2, if_true, Bool.false_eq_true, if_false]
  | delegates =>
    exact absurd (safe_shape hs hsh nofun) (Bool.eq_false_iff.mp (mutating_not_passive hm))
  | baseDefault => simp only [hs, if_true, hm]
  | other =>
    exact absurd (safe_shape hs hsh nofun) (Bool.eq_false_iff.mp (mutating_not_passive hm))
  | missing =>
    cases safe_shape hs hsh nofun
  | abstract =>
    cases safe_shape hs hsh nofun
  | unknown =>
    cases safe_shape hs hsh nofun

/-! ### witnesses for the classification -/

/-- decidable fingerprint of a tree: every path with the bytes of the file there -/
def flat (t : Node) : List (List Name × Option Bytes) :=
  (t.walk []).map fun (p, n) => (p, match n with | .file b => some b | .dir _ => none)

private def a : Str := ['a']
private def b : Str := ['b']
private def s0 : State := State.empty
private def sF : State := { root := .dir [(a, .file [1])], closed := false }     -- one file `a`
private def sD : State := { root := .dir [(a, .dir [])], closed := false }       -- one empty directory `a`
private def sDF : State := { root := .dir [(a, .dir [(b, .file [1])])], closed := false }  -- `a/b`

def witness : String → Option (State × Op)
  | "makedir" => some (s0, .makedir a false)
  | "makedirs" => some (s0, .makedirs a false)
  | "writebytes" => some (s0, .writebytes a [1])
  | "appendbytes" => some (s0, .appendbytes a [1])
  | "create" => some (s0, .create a false)
  | "touch" => some (s0, .touch a)
  | "openbin" => some (s0, .openbin a ['w'])
  | "remove" => some (sF, .remove a)
  | "removedir" => some (sD, .removedir a)
  | "removetree" => some (sDF, .removetree a)
  | "move" => some (sF, .move a b false)
  | "copy" => some (sF, .copy a b false)
  | "movedir" => some (sDF, .movedir a b true)
  | "copydir" => some (sDF, .copydir a b true)
  | _ => none

def witnessOk (m : String) : Bool :=
  match witness m with
  | some (s, op) => opMeth op == m && !s.closed && s.root.wf && flat (step s op).1.root != flat s.root
  | none => false

theorem witness_ok : ∀ m ∈ refMethods, (isMutator m || isOpener m) = true → m ≠ "settimes" →
    witnessOk m = true := by
  decide +kernel

end Fs.GuardLemmas
