/-
  For `FsProofs/PathGenEq.lean`; nothing here mentions the generated definitions.
  Each loop of fs/path.py gets a hand-stated step function and a lemma "for ANY body `f` that agrees pointwise
  with the step function, running the loop combinator of `FsModel/PyStr.lean` gives what the hand model's
  recursion gives".  `PathGenEq` instantiates `f` with the lambda the translator emitted and discharges the
  agreement by `simp`/`rfl`, so the equality proofs do not depend on variable names or on the exact
  shape of the generated `let`s.  For the two `while` loops the lemma also shows that the translator's
  fuel hint suffices (the loop never returns `Err.Leak`).
-/
import FsModel.PyStr
import FsProofs.Lemmas.PathLemmas
import FsProofs.Lemmas.PyStrLemmas
import FsProofs.Lemmas.PyLoop

namespace Fs.PathGenLemmas
open Fs Fs.PyStr Fs.PyLoop Fs.PyStrLemmas Fs.PathLemmas

theorem rsplit1_cases (c : Char) (s : Str) :
    (c ∉ s ∧ Path.rsplit1 c s = none) ∨
    (∃ a b, s = a ++ c :: b ∧ c ∉ b ∧ Path.rsplit1 c s = some (a, b)) := rsplit1_spec c s

/-- the body of `normpath`'s component loop, on the in-order component list -/
def normStep (c : Str) (s : List Str) : Flow (List Str) Empty :=
  if Path.inDotDot c then
    (if c == ['.', '.'] then
      (match s.getLast? with
       | none => .exc .IndexError
       | some _ => .next s.dropLast)
     else .next s)
  else .next (s ++ [c])

theorem pyFor_normStep (f : Str → List Str → Flow (List Str) Empty)
    (hf : ∀ c s, f c s = normStep c s) (cs : List Str) (s : List Str) :
    pyFor cs s f =
      (match Path.normLoop cs s.reverse with
       | none => .exc .IndexError
       | some r => .done r) := by
  induction cs generalizing s with
  | nil => simp [pyFor, Path.normLoop]
  | cons c cs ih =>
    rw [pyFor, hf, normStep]
    conv => rhs; rw [Path.normLoop.eq_def]
    by_cases h1 : Path.inDotDot c = true
    · by_cases h2 : (c == ['.', '.']) = true
      · simp only [h1, h2, if_true]
        rcases list_nil_or_snoc s with rfl | ⟨i, x, rfl⟩
        · simp
        · simp [ih]
      · simp only [h1, h2, if_true]
        simp [ih]
    · simp only [h1]
      simp [ih]

/-- body of `join`'s loop: state = (relpaths in order, absolute) -/
def joinStep (p : Str) (s : List Str × Bool) : Flow (List Str × Bool) Empty :=
  match p with
  | [] => .next s
  | c :: _ => if c = '/' then .next ([p], true) else .next (s.1 ++ [p], s.2)

theorem pyFor_joinStep (f : Str → List Str × Bool → Flow (List Str × Bool) Empty)
    (hf : ∀ p s, f p s = joinStep p s) (ps : List Str) (rel : List Str) (ab : Bool) :
    pyFor ps (rel, ab) f = .done ((Path.join.go ps ab rel.reverse).2, (Path.join.go ps ab rel.reverse).1) := by
  induction ps generalizing rel ab with
  | nil => simp [pyFor, join_go_nil]
  | cons p ps ih =>
    rw [pyFor, hf]
    cases p with
    | nil => simp only [joinStep, join_go_cons_nil]; exact ih rel ab
    | cons c r =>
      simp only [joinStep]
      rw [join_go_cons _ _ _ _ (by simp), startsWithSlash_cons]
      by_cases hc : c = '/'
      · simp only [hc, if_true, decide_true]
        have := ih [('/' :: r)] true
        simpa using this
      · simp only [hc, if_false, decide_false]
        have := ih (rel ++ [c :: r]) ab
        simpa using this

theorem join_tail (ab : Bool) (rel : List Str) :
    (match Path.normpath (pyJoin '/' rel) with
      | Res.err e => Res.err e
      | Res.ok t2 => if ab = true then Res.ok (Path.abspath t2) else Res.ok t2) =
    (do let path ← Path.normpath (Path.joinSlash rel)
        pure (if ab = true then Path.abspath path else path)) := by
  cases Path.normpath (Path.joinSlash rel) with
  | err e => rfl
  | ok n => cases ab <;> rfl

/-- one round of `while bits1 and bits1[-1] == "": bits1.pop()` -/
def stripStep (s : List Str) : Flow (List Str) Empty :=
  match s.getLast? with
  | none => .brk s
  | some x => if x == [] then .next s.dropLast else .brk s

theorem pyWhile_stripStep (f : List Str → Flow (List Str) Empty) (hf : ∀ s, f s = stripStep s)
    (fuel : Nat) (s : List Str) (h : s.length < fuel) :
    pyWhile fuel s f = .done (Path.dropTrailingEmpty s) := by
  refine pyWhile_rule f List.length (fun s o => o = .done (Path.dropTrailingEmpty s)) (fun s => ?_) fuel s h
  rw [hf, stripStep]
  rcases list_nil_or_snoc s with rfl | ⟨i, x, rfl⟩
  · simp [Path.dropTrailingEmpty]
  · by_cases hx : x = []
    · subst hx; simp [Path.dropTrailingEmpty]
    · simp [hx, Path.dropTrailingEmpty]

theorem pyFor_zipStep (f : Str × Str → Unit → Flow Unit Bool)
    (hf : ∀ x s, f x s = if x.1 != x.2 then .ret false else .next ()) (a b : List Str) :
    pyFor (List.zip a b) () f = if Path.zipAllEq a b then .done () else .ret false := by
  induction a generalizing b with
  | nil => simp [pyFor, Path.zipAllEq]
  | cons x xs ih =>
    cases b with
    | nil => simp [pyFor, Path.zipAllEq]
    | cons y ys =>
      rw [List.zip_cons_cons, pyFor, hf, Path.zipAllEq]
      by_cases hxy : x = y
      · subst hxy; simp [ih]
      · simp [hxy]

theorem pyFor_commonStep (f : Str × Str → Nat → Flow Nat Empty)
    (hf : ∀ x s, f x s = if x.1 != x.2 then .brk s else .next (s + 1)) (a b : List Str) (n : Nat) :
    pyFor (List.zip a b) n f = .done (n + Path.commonLen a b) := by
  induction a generalizing b n with
  | nil => simp [pyFor, Path.commonLen]
  | cons x xs ih =>
    cases b with
    | nil => simp [pyFor, Path.commonLen]
    | cons y ys =>
      rw [List.zip_cons_cons, pyFor, hf, Path.commonLen]
      by_cases hxy : x = y
      · subst hxy; simp [ih]; omega
      · simp [hxy]

theorem findGo_eq (xs : Str) (k : Nat) : findGo '/' xs k = Path.findSlashFrom.go xs k := by
  induction xs generalizing k with
  | nil => simp [findGo, Path.findSlashFrom.go]
  | cons x xs ih => simp [findGo, Path.findSlashFrom.go, ih]

/-- `find` in a string that ends with the character always succeeds below the length -/
theorem pyFind_ends (q : Str) (pos : Nat) (h : pos < (q ++ ['/']).length) :
    ∃ i, Path.findSlashFrom (q ++ ['/']) pos = some i ∧ pyFind (q ++ ['/']) '/' (Int.ofNat pos) = Int.ofNat i ∧
      pos ≤ i ∧ i < (q ++ ['/']).length := by
  have hle : pos ≤ q.length := by simp at h; omega
  have hmem : '/' ∈ (q ++ ['/']).drop pos := by
    rw [List.drop_append_of_le_length hle]; simp
  obtain ⟨j, hj, h1, h2⟩ := findGo_of_mem '/' _ pos hmem
  refine ⟨j, ?_, ?_, h1, ?_⟩
  · rw [Path.findSlashFrom, ← findGo_eq, hj]
  · rw [pyFind, clampIdx_ofNat _ _ (by simp; omega)]
    simp only [hj]
  · simp at h2 ⊢; omega

/-- the `while pos < len_path` loop of `recursepath` -/
def recStep (path : Str) (s : Int × List Str) : Flow (Int × List Str) Empty :=
  if s.1 < Int.ofNat path.length then
    .next (pyFind path '/' s.1 + 1, s.2 ++ [pySliceTo path (pyFind path '/' s.1)])
  else .brk s

theorem pyWhile_recStep (q : Str) (f : Int × List Str → Flow (Int × List Str) Empty)
    (hf : ∀ s, f s = recStep (q ++ ['/']) s) (fuel pos : Nat) (acc : List Str)
    (h1 : 1 ≤ fuel) (h2 : (q ++ ['/']).length + 1 ≤ pos + fuel) :
    ∃ pos', pyWhile fuel (Int.ofNat pos, acc) f =
      .done (pos', Path.recurseLoop (q ++ ['/']) fuel pos acc.reverse) := by
  induction fuel generalizing pos acc with
  | zero => omega
  | succ n ih =>
    rw [pyWhile, hf, recStep, Path.recurseLoop]
    by_cases hp : pos < (q ++ ['/']).length
    · obtain ⟨i, hi, hfind, hle, hlt⟩ := pyFind_ends q pos hp
      have hp' : Int.ofNat pos < Int.ofNat (q ++ ['/']).length := by
        simp only [Int.ofNat_eq_natCast]; omega
      simp only [hp, hp', if_true, hi, hfind]
      rw [pySliceTo_ofNat _ _ (by omega)]
      have hn : 1 ≤ n := by omega
      obtain ⟨pos', hpos'⟩ := ih (i + 1) (acc ++ [List.take i (q ++ ['/'])]) hn (by omega)
      refine ⟨pos', ?_⟩
      have e : Int.ofNat i + 1 = Int.ofNat (i + 1) := by simp
      rw [e, hpos']
      simp
    · have hp' : ¬ Int.ofNat pos < Int.ofNat (q ++ ['/']).length := by
        simp only [Int.ofNat_eq_natCast]; omega
      simp only [hp, hp', if_false]
      exact ⟨Int.ofNat pos, by simp⟩

end Fs.PathGenLemmas
