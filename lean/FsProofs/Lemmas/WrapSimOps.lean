/-
  The methods of `WrapFS` that are more than one delegated call (`getinfo`, `isempty`, `removedir`,
  `removetree`, `copy`, `copydir`), one lemma each: if the inner calls the method makes agree
  (`MemLemmas.Agree`) with the reference's calls on the view, grafted at `P`, then so does the method.
  With `A = adm …` this gives `Sim F pth → Sim (SubFS at sub over F) (pth ++ sub)` (`sim_sub`, below);
  with `A = []` the exact result over the reference itself (`wrap_exact` in WrapExact.lean).
  Namespace `Fs.WrapLemmas`, as in WrapLemmas.lean.
-/
import FsProofs.Lemmas.WrapSimLemmas

namespace Fs.WrapLemmas
open Fs Fs.Ref Fs.TreeLemmas Fs.MemRefines
open Fs.MemLemmas (Agree)

theorem delegate_valid {sub cs : List Name} {p : Str} (hs : ∀ c ∈ sub, cleanName c = true)
    (h : validate p = .ok cs) :
    Wrap.Sub.delegate (absOf sub) p = .ok (fdel sub p) ∧ Wrap.isRootPath p = .ok (decide (cs = [])) := by
  have hr := validate_ok_resolve h
  rw [fdel_ok h]
  exact ⟨delegate_of_resolve (clean_of_cleanName hs) (not_nul_of_validate_ok h) hr, isRootPath_of_resolve hr⟩

section RefRoot
variable {es : Ents} {p : Str} (hv : validate p = .ok [])
include hv

theorem ref_getinfo_root : Ref.step (V es) (.getinfo p) = done (V es) (.info [] true 0) :=
  ref_getinfo_dir rfl hv rfl

theorem ref_listdir_root : Ref.step (V es) (.listdir p) = done (V es) (.names (Ents.names es)) := by
  rw [QueryLemmas.step_admitted (s := V es) (op := .listdir p) rfl rfl hv nofun]; simp [step1, V, Node.get]

theorem ref_removedir_root : Ref.step (V es) (.removedir p) = fail (V es) .RemoveRootError := by
  rw [QueryLemmas.step_admitted (s := V es) (op := .removedir p) rfl rfl hv nofun]; simp [step1]

theorem ref_removetree_root : Ref.step (V es) (.removetree p) = upd (V es) (.dir []) := by
  rw [QueryLemmas.step_admitted (s := V es) (op := .removetree p) rfl rfl hv nofun]; simp [step1]

end RefRoot

theorem ref_exists_valid (s : State) (p : Str) (cs : List Name) (hc : s.closed = false) (hv : validate p = .ok cs) :
    Ref.step s (.exists_ p) = done s (.bool (s.root.get cs).isSome) := by
  rw [QueryLemmas.step_admitted (op := .exists_ p) hc rfl hv nofun]; rfl

/-- exception class: `copydir` into itself (the reference says IllegalDestination) when one of the
guards `WrapFS.copydir` evaluates BEFORE `copy_dir` fires: destination missing without `create`
(ResourceNotFound), source missing (ResourceNotFound) or not a directory (DirectoryExpected) -/
def excCopydir (es : Ents) : Op → Prop
  | .copydir a b c => ∃ ca cb, validate a = .ok ca ∧ validate b = .ok cb ∧ isPrefix ca cb = true ∧
      ((c = false ∧ (Node.dir es).get cb = none) ∨ ¬ ∃ eas, (Node.dir es).get ca = some (.dir eas))
  | _ => False

section RefTwo
variable {es : Ents} {a b : Str} {ca cb : List Name} (ha : validate a = .ok ca) (hb : validate b = .ok cb)
include ha hb

theorem ref_copy_exists (hg : ((Node.dir es).get cb).isSome = true) :
    Ref.step (V es) (.copy a b false) = fail (V es) .DestinationExists := by
  rw [(QueryLemmas.step_two_admitted (s := V es) rfl rfl ha hb).1]
  simp [step2, V, hg]

theorem ref_copy_missing (hg : ((Node.dir es).get cb).isSome = false) :
    Ref.step (V es) (.copy a b false) = Ref.step (V es) (.copy a b true) := by
  rw [(QueryLemmas.step_two_admitted (s := V es) rfl rfl ha hb).1, (QueryLemmas.step_two_admitted (s := V es) rfl rfl ha hb).1]
  simp [step2, V, hg]

/-! the reference's `copydir` at the three guards `WrapFS.copydir` evaluates first: when the destination is
not inside the source it fails with the guard's class, and that class is admissible in any case -/

theorem ref_copydir_create {c : Bool} (hc : c = true ∨ ((Node.dir es).get cb).isSome = true) :
    Ref.step (V es) (.copydir a b c) = Ref.step (V es) (.copydir a b true) := by
  rw [(QueryLemmas.step_two_admitted (s := V es) rfl rfl ha hb).1, (QueryLemmas.step_two_admitted (s := V es) rfl rfl ha hb).1]
  rcases hc with rfl | hc
  · rfl
  · simp only [step2, V]
    cases hgb : (Node.dir es).get cb with
    | none => simp [hgb] at hc
    | some nb => cases nb <;> rfl

theorem ref_copydir_prefix (c : Bool) (hp : isPrefix ca cb = true) :
    Ref.step (V es) (.copydir a b c) = fail (V es) .IllegalDestination := by
  rw [(QueryLemmas.step_two_admitted (s := V es) rfl rfl ha hb).1]
  simp [step2, hp]

theorem ref_copydir_nodst (hg : (Node.dir es).get cb = none) :
    (isPrefix ca cb = false → Ref.step (V es) (.copydir a b false) = fail (V es) .ResourceNotFound) ∧
      Err.ResourceNotFound ∈ adm (V es) (.copydir a b false) := by
  constructor
  · intro hp
    rw [(QueryLemmas.step_two_admitted (s := V es) rfl rfl ha hb).1]
    simp [step2, V, hp, hg]
  · rw [QueryLemmas.adm_two (V es) _ a b rfl rfl, ha, hb]
    simp [adm2, kindAt, V, hg]

theorem ref_copydir_nosrc (c : Bool) (hcc : c = true ∨ ((Node.dir es).get cb).isSome = true)
    (hg : (Node.dir es).get ca = none) :
    (isPrefix ca cb = false → Ref.step (V es) (.copydir a b c) = fail (V es) .ResourceNotFound) ∧
      Err.ResourceNotFound ∈ adm (V es) (.copydir a b c) := by
  constructor
  · intro hp
    rw [ref_copydir_create ha hb hcc, (QueryLemmas.step_two_admitted (s := V es) rfl rfl ha hb).1]
    simp only [step2, V, hp, hg, Bool.false_eq_true, if_false]
    rcases (Node.dir es).get cb with _ | _ | _ <;> rfl
  · rw [QueryLemmas.adm_two (V es) _ a b rfl rfl, ha, hb]
    simp [adm2, admDirArg, kindAt, V, hg]

theorem ref_copydir_filesrc (c : Bool) (hcc : c = true ∨ ((Node.dir es).get cb).isSome = true) {d : Bytes}
    (hg : (Node.dir es).get ca = some (.file d)) :
    (isPrefix ca cb = false → Ref.step (V es) (.copydir a b c) = fail (V es) .DirectoryExpected) ∧
      Err.DirectoryExpected ∈ adm (V es) (.copydir a b c) := by
  constructor
  · intro hp
    rw [ref_copydir_create ha hb hcc, (QueryLemmas.step_two_admitted (s := V es) rfl rfl ha hb).1]
    simp only [step2, V, hp, hg, Bool.false_eq_true, if_false]
    rcases (Node.dir es).get cb with _ | _ | _ <;> rfl
  · rw [QueryLemmas.adm_two (V es) _ a b rfl rfl, ha, hb]
    simp [adm2, admDirArg, kindAt, V, hg]

end RefTwo

theorem getinfo_nonroot {σ : Type} (dp : Wrap.Delegate) (F : Wrap.FS σ) (s : σ) (p q : Str)
    (hd : dp p = .ok q) (hr : Wrap.isRootPath p = .ok false) :
    Wrap.getinfo dp F s p = F s (.getinfo q) := by
  simp only [Wrap.getinfo, hd, hr]
  generalize F s (.getinfo q) = r
  obtain ⟨s1, o⟩ := r
  cases o with
  | err e => rfl
  | ok v => cases v <;> rfl

theorem isempty_eq (dp : Wrap.Delegate) (F : Wrap.FS State) (s : State) (p q : Str) (hd : dp p = .ok q) :
    Wrap.isempty dp F s p = empPost (F s (.listdir q)) := by
  simp only [Wrap.isempty, hd]
  generalize F s (.listdir q) = r
  obtain ⟨s1, o⟩ := r
  cases o with
  | err e => rfl
  | ok v => cases v <;> rfl

theorem empPost_graft (s : State) (sub : List Name) (r : State × Out) :
    empPost (graft s sub r) = graft s sub (empPost r) := rfl

theorem agree_empPost {A : List Err} {s : State} {m r : State × Out} (h : Agree A s m r) :
    Agree A s (empPost m) (empPost r) := by
  rcases h with rfl | ⟨e, e', rfl, hr, he⟩
  · exact Or.inl rfl
  · exact Or.inr ⟨e, e', rfl, firstOf_err_iff.2 hr, he⟩

/-! ### the six methods -/

section Methods
variable {F : Wrap.FS State} {dp : Wrap.Delegate} {s : State} {P : List Name} {es : Ents} {A A' : List Err}
  (hc : s.closed = false) (hdir : s.root.get P = some (.dir es))
include hc hdir

/-- `hroot`: what the inner `getinfo` says of the view's root (a directory, under its name in the parent) -/
theorem getinfo_agree {p q : Str} {cs : List Name} (hv : validate p = .ok cs) (hd : dp p = .ok q)
    (hroot : cs = [] → ∃ n, F s (.getinfo q) = (s, .ok (.info n true 0)))
    (hin : cs ≠ [] → Agree A s (F s (.getinfo q)) (graft s P (Ref.step (V es) (.getinfo p)))) :
    Agree A s (Wrap.getinfo dp F s p) (graft s P (Ref.step (V es) (.getinfo p))) := by
  have hr := isRootPath_of_resolve (validate_ok_resolve hv)
  by_cases hcs : cs = []
  · subst hcs
    obtain ⟨n, hF⟩ := hroot rfl
    left
    rw [ref_getinfo_root hv, graft_done_V hc hdir]
    simp [Wrap.getinfo, hd, hr, hF, done]
  · rw [getinfo_nonroot dp F s p q hd (by rw [hr, decide_eq_false hcs])]
    exact hin hcs

omit hc hdir in
theorem isempty_agree {p q : Str} (hd : dp p = .ok q)
    (hin : Agree A s (F s (.listdir q)) (graft s P (Ref.step (V es) (.listdir p)))) :
    Agree A s (Wrap.isempty dp F s p) (graft s P (Ref.step (V es) (.isempty p))) := by
  rw [isempty_eq dp F s p q hd, ref_isempty, ← empPost_graft]
  exact agree_empPost hin

theorem removedir_agree {p q : Str} {cs : List Name} (hv : validate p = .ok cs) (hd : dp p = .ok q)
    (hin : cs ≠ [] → Agree A s (F s (.removedir q)) (graft s P (Ref.step (V es) (.removedir p)))) :
    Agree A s (Wrap.removedir dp F s p) (graft s P (Ref.step (V es) (.removedir p))) := by
  have hr := isRootPath_of_resolve (validate_ok_resolve hv)
  by_cases hcs : cs = []
  · subst hcs
    left
    rw [ref_removedir_root hv, graft_fail_V hc hdir]
    simp [Wrap.removedir, hr, fail]
  · simpa [Wrap.removedir, hr, hcs, hd] using hin hcs

/-- `hloop`: the scan-and-remove loop of the root branch empties the directory (`rmLoop_sim`) -/
theorem removetree_agree {p q : Str} {cs : List Name} (hv : validate p = .ok cs) (hd : dp p = .ok q)
    (hlist : cs = [] → Agree A' s (F s (.listdir q)) (graft s P (Ref.step (V es) (.listdir p))))
    (hloop : cs = [] →
      Wrap.rmLoop F q (Ents.names es) s = ({ s with root := setAt s.root P (.dir []) }, .ok .unit))
    (hin : cs ≠ [] → Agree A s (F s (.removetree q)) (graft s P (Ref.step (V es) (.removetree p)))) :
    Agree A s (Wrap.removetree dp F s p) (graft s P (Ref.step (V es) (.removetree p))) := by
  have hr := isRootPath_of_resolve (validate_ok_resolve hv)
  by_cases hcs : cs = []
  · subst hcs
    have hl := agree_ok (hlist rfl) (by rw [ref_listdir_root hv]; rfl)
    rw [ref_listdir_root hv, graft_done_V hc hdir] at hl
    left
    rw [ref_removetree_root hv, graft_upd_V hc]
    simp only [Wrap.removetree, hr, hd, decide_true, if_true, hl, done, hloop rfl]
    rfl
  · simpa [Wrap.removetree, hr, hcs, hd] using hin hcs

theorem copy_agree {a b qa qb : Str} {ca cb : List Name} (ow : Bool) (ha : validate a = .ok ca)
    (hb : validate b = .ok cb) (hda : dp a = .ok qa) (hdb : dp b = .ok qb)
    (hE : Agree A' s (F s (.exists_ qb)) (graft s P (Ref.step (V es) (.exists_ b))))
    (hT : Agree A s (F s (.copy qa qb true)) (graft s P (Ref.step (V es) (.copy a b true)))) :
    Agree A s (Wrap.copy dp F s a b ow) (graft s P (Ref.step (V es) (.copy a b ow))) := by
  cases ow with
  | true => simpa [Wrap.copy, hda, hdb] using hT
  | false =>
    have hE := agree_ok hE (by rw [ref_exists_valid (V es) b cb rfl hb]; rfl)
    rw [ref_exists_valid (V es) b cb rfl hb, graft_done_V hc hdir] at hE
    cases hg : ((Node.dir es).get cb).isSome with
    | true =>
      left
      rw [ref_copy_exists ha hb hg, graft_fail_V hc hdir]
      simp [Wrap.copy, hda, hdb, hE, V, hg, done, fail]
    | false =>
      rw [ref_copy_missing ha hb hg]
      simpa [Wrap.copy, hda, hdb, hE, V, hg, done] using hT

/-- a guard of `WrapFS.copydir` has fired, with class `E`: that is the reference's answer, unless the
destination lies inside the source (the reference tests that first: `excCopydir`) -/
theorem copydir_guard {a b : Str} {ca cb : List Name} {c : Bool} (ha : validate a = .ok ca)
    (hb : validate b = .ok cb) {W : State × Out} {E : Err} (hW : W = (s, .err E))
    (hg : (c = false ∧ (Node.dir es).get cb = none) ∨ ¬ ∃ eas, (Node.dir es).get ca = some (.dir eas))
    (hR : (isPrefix ca cb = false → Ref.step (V es) (.copydir a b c) = fail (V es) E) ∧
      E ∈ adm (V es) (.copydir a b c)) :
    Agree A s W (graft s P (Ref.step (V es) (.copydir a b c))) ∨
      (excCopydir es (.copydir a b c) ∧
        Agree (A ++ adm (V es) (.copydir a b c)) s W (graft s P (Ref.step (V es) (.copydir a b c)))) := by
  cases hp : isPrefix ca cb with
  | false => rw [hW, hR.1 hp, graft_fail_V hc hdir]; exact Or.inl (Or.inl rfl)
  | true =>
    refine Or.inr ⟨⟨ca, cb, ha, hb, hp, hg⟩, Or.inr ⟨E, .IllegalDestination, hW, ?_, List.mem_append_right _ hR.2⟩⟩
    rw [ref_copydir_prefix ha hb c hp]; rfl

/-- `copydir`: the destination guard, the source guards, then `copy_dir`.  In the exception class `excCopydir` both
fail, the wrapper with its guard's class, which is admissible. -/
theorem copydir_agree {a b qa qb : Str} {ca cb : List Name} (c : Bool) (ha : validate a = .ok ca)
    (hb : validate b = .ok cb) (hda : dp a = .ok qa) (hdb : dp b = .ok qb)
    (hE : Agree A' s (F s (.exists_ qb)) (graft s P (Ref.step (V es) (.exists_ b))))
    (hroot : ca = [] → ∃ n, F s (.getinfo qa) = (s, .ok (.info n true 0)))
    (hI : ca ≠ [] → Agree A s (F s (.getinfo qa)) (graft s P (Ref.step (V es) (.getinfo a))))
    (hT : (c = true ∨ ((Node.dir es).get cb).isSome = true) →
      Agree A s (F s (.copydir qa qb true)) (graft s P (Ref.step (V es) (.copydir a b true)))) :
    Agree A s (Wrap.copydir dp F s a b c) (graft s P (Ref.step (V es) (.copydir a b c))) ∨
      (excCopydir es (.copydir a b c) ∧ Agree (A ++ adm (V es) (.copydir a b c)) s (Wrap.copydir dp F s a b c)
        (graft s P (Ref.step (V es) (.copydir a b c)))) := by
  have hE := agree_ok hE (by rw [ref_exists_valid (V es) b cb rfl hb]; rfl)
  rw [ref_exists_valid (V es) b cb rfl hb, graft_done_V hc hdir] at hE
  have hRi := QueryLemmas.step_admitted (s := V es) (op := .getinfo a) rfl rfl ha nofun
  -- the part after the destination guard
  have hgo : (c = true ∨ ((Node.dir es).get cb).isSome = true) →
      Agree A s (Wrap.copydirGo F qa qb s) (graft s P (Ref.step (V es) (.copydir a b c))) ∨
        (excCopydir es (.copydir a b c) ∧ Agree (A ++ adm (V es) (.copydir a b c)) s (Wrap.copydirGo F qa qb s)
          (graft s P (Ref.step (V es) (.copydir a b c)))) := by
    intro hcc
    cases hga : (Node.dir es).get ca with
    | none =>
      -- the inner `getinfo(_src)` fails, and its error is the wrapper's
      have hI := hI (ne_nil_of_get_none hga)
      rw [hRi, show step1 (V es) ca (.getinfo a) = fail (V es) .ResourceNotFound by simp [step1, V, hga],
        graft_fail_V hc hdir] at hI
      have hR := ref_copydir_nosrc ha hb c hcc hga
      rcases hI with hF | ⟨e, _, hF, -, he⟩
      · exact copydir_guard hc hdir ha hb (by simp only [Wrap.copydirGo, hF]; rfl) (Or.inr (by simp [hga])) hR
      · obtain ⟨e', he'⟩ : ∃ e', (Ref.step (V es) (.copydir a b c)).2 = .err e' := by
          cases hp : isPrefix ca cb with
          | false => exact ⟨_, by rw [hR.1 hp]; rfl⟩
          | true => exact ⟨_, by rw [ref_copydir_prefix ha hb c hp]; rfl⟩
        exact Or.inl (Or.inr ⟨e, e', by simp only [Wrap.copydirGo, hF], he', he⟩)
    | some nd =>
      obtain ⟨n, sz, hF⟩ : ∃ n sz, F s (.getinfo qa) = (s, .ok (.info n nd.isDir sz)) := by
        by_cases hca : ca = []
        · subst hca
          cases Option.some.inj hga
          obtain ⟨n, h⟩ := hroot rfl
          exact ⟨n, 0, h⟩
        · obtain ⟨sz, hR⟩ : ∃ sz, step1 (V es) ca (.getinfo a) = done (V es) (.info (lastName ca) nd.isDir sz) := by
            cases nd with
            | file d => exact ⟨d.length, by simp only [step1, V, hga]; rfl⟩
            | dir eas => exact ⟨0, by simp only [step1, V, hga]; rfl⟩
          have := agree_ok (hI hca) (by rw [hRi, hR]; rfl)
          rw [hRi, hR, graft_done_V hc hdir] at this
          exact ⟨_, sz, this⟩
      cases nd with
      | file d =>
        exact copydir_guard hc hdir ha hb (by simp only [Wrap.copydirGo, hF, Node.isDir]) (Or.inr (by simp [hga]))
          (ref_copydir_filesrc ha hb c hcc hga)
      | dir eas =>
        left
        rw [ref_copydir_create ha hb hcc]
        simpa only [Wrap.copydirGo, hF, Node.isDir] using hT hcc
  cases c with
  | true => simpa only [Wrap.copydir, hda, hdb, if_true] using hgo (Or.inl rfl)
  | false =>
    cases hg : ((Node.dir es).get cb).isSome with
    | true =>
      simpa only [Wrap.copydir, hda, hdb, hE, V, hg, done, Bool.false_eq_true, if_false] using hgo (Or.inr hg)
    | false =>
      have hgn : (Node.dir es).get cb = none := by simpa using hg
      exact copydir_guard hc hdir ha hb (by simp [Wrap.copydir, hda, hdb, hE, V, hg, done]) (Or.inl ⟨rfl, hgn⟩)
        (ref_copydir_nodst ha hb hgn)

end Methods

/-! ### `adm`-monotonicity along the inner calls -/

theorem adm_two_mono (s : State) {op op' : Op} {a b : Str} (hp : op.paths = [a, b]) (hp' : op'.paths = [a, b])
    (h2 : ∀ ca cb e, e ∈ adm2 s.root ca cb op → e ∈ adm2 s.root ca cb op') :
    ∀ e ∈ adm s op, e ∈ adm s op' := by
  intro e he
  have hop : ∀ {o : Op}, o.paths = [a, b] → o ≠ .close := fun h e => by subst e; cases h
  cases hc : s.closed with
  | true =>
    rw [QueryLemmas.adm_closed s _ (hop hp) hc] at he
    rw [QueryLemmas.adm_closed s _ (hop hp') hc]; exact he
  | false =>
    rw [QueryLemmas.adm_two s _ a b hc hp] at he
    rw [QueryLemmas.adm_two s _ a b hc hp']
    generalize validate a = va at he ⊢
    generalize validate b = vb at he ⊢
    cases va <;> cases vb <;> first | exact he | exact h2 _ _ e he

theorem adm_copy_mono (s : State) (a b : Str) (ow : Bool) :
    ∀ e ∈ adm s (.copy a b true), e ∈ adm s (.copy a b ow) := by
  refine adm_two_mono s rfl rfl fun ca cb e he => ?_
  simp only [adm2, List.mem_append] at he ⊢
  rcases he with (he | he) | he
  · exact Or.inl (Or.inl he)
  · simp at he
  · exact Or.inr he

theorem adm_copydir_mono (s : State) (a b : Str) (c : Bool) :
    ∀ e ∈ adm s (.copydir a b true), e ∈ adm s (.copydir a b c) := by
  refine adm_two_mono s rfl rfl fun ca cb e he => ?_
  simp only [adm2, List.mem_append] at he ⊢
  rcases he with ((he | he) | he) | he
  · exact Or.inl (Or.inl (Or.inl he))
  · exact Or.inl (Or.inl (Or.inr he))
  · simp at he
  · exact Or.inr he

theorem adm_copydir_of_getinfo {es : Ents} (a b : Str) (c : Bool) (ca cb : List Name) (ha : validate a = .ok ca)
    (hb : validate b = .ok cb) :
    ∀ e ∈ adm (V es) (.getinfo a), e ∈ adm (V es) (.copydir a b c) := by
  intro e he
  rw [QueryLemmas.adm_one (V es) _ a rfl rfl (by simp), ha] at he
  rw [QueryLemmas.adm_two (V es) _ a b rfl rfl, ha, hb]
  simp only [adm1, List.mem_append] at he
  simp only [adm2, admDirArg, List.mem_append]
  rcases he with he | he
  · exact Or.inl (Or.inl (Or.inl (Or.inl he)))
  · left; left; left; right
    split at he
    · rename_i h1; simp [h1]; simpa using he
    · simp at he

theorem good_after {s : State} {P : List Name} {es es' : Ents} (G : Good s P es) (hw : entsWf es' = true) :
    Good { s with root := setAt s.root P (.dir es') } P es' :=
  ⟨G.opn, setAt_wf _ _ _ G.names G.wf hw, get_setAt_self G.dir _, G.names⟩

section Ops
variable {F : Wrap.FS State} {pth sub : List Name} (hS : Sim F pth) {s : State} {es : Ents}
  (G : Good s (pth ++ sub) es)
include hS G

omit hS in
theorem subNames : ∀ c ∈ sub, cleanName c = true := fun c hc => G.names c (by simp [hc])

theorem inner_getinfo_root {p : Str} (hv : validate p = .ok []) :
    ∃ n, F s (.getinfo (fdel sub p)) = (s, .ok (.info n true 0)) := by
  obtain ⟨esP, GP, hsubdir⟩ := good_split G
  have hP := ref_getinfo_dir (s := V esP) rfl (validate_absOf (subNames G)) hsubdir
  obtain ⟨_, h2, _⟩ := hS s esP (.getinfo (absOf sub)) GP (by simp) (by simp [nulRootTest])
    (by simp [knownDeviation]) (by rw [hP]; simp [done])
  rw [fdel_ok hv, List.append_nil, h2 (by rw [hP]; rfl), hP, graft_done_V GP.opn GP.dir]
  exact ⟨_, rfl⟩

omit G in
/-- every entry is removed (sub-directories with `removetree`, files with `remove`), the directory itself stays.
`q` is the path string the wrapper scans: all that matters is what its children validate to. -/
theorem rmLoop_sim {q : Str}
    (hq : ∀ k, cleanName k = true → ∃ ip, Path.join [q, k] = .ok ip ∧ validate ip = .ok (sub ++ [k])) :
    ∀ (es : Ents) (s : State), Good s (pth ++ sub) es →
      Wrap.rmLoop F q (Ents.names es) s = ({ s with root := setAt s.root (pth ++ sub) (.dir []) }, .ok .unit) := by
  intro es
  induction es with
  | nil => intro s G; rw [setAt_self _ _ _ G.dir]; rfl
  | cons e es' ih =>
    intro s G
    obtain ⟨k, v⟩ := e
    have hwf : entsWf ((k, v) :: es') = true := get_wf _ _ _ G.wf G.dir
    simp only [entsWf, Bool.and_eq_true] at hwf
    have hk := hwf.1.1.1
    obtain ⟨ip, hj, hvi⟩ := hq k hk
    have hvk : validate (absOf [k]) = .ok [k] := validate_absOf (by simpa using hk)
    have hget : (V ((k, v) :: es')).root.get [k] = some v := by simp [V, Node.get, Ents.lookup]
    have hdel : (V ((k, v) :: es')).root.del [k] = .dir es' := by simp [V, Node.del, Ents.erase]
    have call : ∀ op : Op, op.paths = [absOf [k]] → (∀ q m, op ≠ .openbin q m) → op ≠ .close → ¬ knownDeviation op →
        (step1 (V ((k, v) :: es')) [k] op).2.isOk = true →
        F s (mapPaths (fun _ => ip) op) = graft s (pth ++ sub) (step1 (V ((k, v) :: es')) [k] op) := by
      intro op hp hno hcl hkd hok
      have hR := QueryLemmas.step_admitted (s := V ((k, v) :: es')) rfl hp hvk fun q m h => absurd h (hno q m)
      rw [← hR] at hok ⊢
      exact agree_ok (core_of hS G (fun _ => ip) op hcl
        (fun p h => by rw [hp] at h; cases List.mem_singleton.1 h; exact ⟨_, hvk, hvi⟩)
        (Or.inr (nonroot_one hp hvk (by simp))) hkd (fun h => by rw [h] at hok; cases hok)) hok
    have hnext := ih _ (good_after G hwf.2)
    simp only [setAt_setAt] at hnext
    simp only [Ents.names, List.map_cons, Wrap.rmLoop, hj]
    cases v with
    | dir d =>
      have hi := call (.getinfo (absOf [k])) rfl (by simp) (by simp) (by simp [knownDeviation])
        (by simp only [step1, hget]; rfl)
      have ht := call (.removetree (absOf [k])) rfl (by simp) (by simp) (by simp [knownDeviation])
        (by simp only [step1, hget]; rfl)
      simp only [mapPaths, step1, hget, hdel, graft_done_V G.opn G.dir, graft_upd_V G.opn, List.cons_ne_nil,
        if_false] at hi ht
      simp only [hi, ht, done, upd]
      exact hnext
    | file d =>
      have hi := call (.getinfo (absOf [k])) rfl (by simp) (by simp) (by simp [knownDeviation])
        (by simp only [step1, hget]; rfl)
      have ht := call (.remove (absOf [k])) rfl (by simp) (by simp) (by simp [knownDeviation])
        (by simp only [step1, hget]; rfl)
      simp only [mapPaths, step1, hget, hdel, graft_done_V G.opn G.dir, graft_upd_V G.opn, List.cons_ne_nil,
        if_false] at hi ht
      simp only [hi, ht, done, upd]
      exact hnext

end Ops

theorem join_child_valid {sub : List Name} (hsn : ∀ c ∈ sub, cleanName c = true) {k : Name} (hk : cleanName k = true) :
    ∃ ip, Path.join [absOf sub, k] = .ok ip ∧ validate ip = .ok (sub ++ [k]) := by
  refine ⟨_, join_child (clean_of_cleanName hsn) hk, validate_absOf fun c hc => ?_⟩
  rcases List.mem_append.1 hc with hc | hc
  · exact hsn c hc
  · cases List.mem_singleton.1 hc; exact hk

/-- **the functor lemma**: a `SubFS` at `sub` over a filesystem that shows a refinement of the
reference at `pth` shows a refinement of the reference at `pth ++ sub` -/
theorem sim_sub {F : Wrap.FS State} {pth sub : List Name} (hS : Sim F pth) :
    Sim (Wrap.Sub.stepOpen (absOf sub) F) (pth ++ sub) := by
  intro s es op G hop hnn hk hl
  refine simAt_of_agree G.opn G.dir hl ?_
  have hsn := subNames G
  obtain hval | ⟨e0, hinv⟩ := QueryLemmas.firstErr_cases validate op.paths
  case inr =>
    -- some path argument does not validate: refused by the wrapper
    obtain ⟨e, hW, he⟩ := stepOpen_invalid F sub (clean_of_cleanName hsn) s op hinv
    obtain ⟨ha, e', hR, -⟩ := ref_of_firstErr (v := V es) rfl hinv
    exact Or.inr ⟨e, e', hW, by rw [hR]; rfl, he hnn ▸ ha⟩
  have hd : ∀ {p cs}, validate p = .ok cs → Wrap.Sub.delegate (absOf sub) p = .ok (fdel sub p) :=
    fun hv => (delegate_valid hsn hv).1
  cases op with
  | close => exact absurd rfl hop
  | getinfo p =>
    obtain ⟨cs, hv⟩ := hval p (List.mem_singleton_self p)
    exact getinfo_agree G.opn G.dir hv (hd hv) (fun h => inner_getinfo_root hS G (h ▸ hv))
      fun hcs => core1 hS G (.getinfo p) rfl (by simp) hv (Or.inr hcs)
  | isempty p =>
    obtain ⟨cs, hv⟩ := hval p (List.mem_singleton_self p)
    rw [adm_isempty]
    exact isempty_agree (hd hv) (core1 hS G (.listdir p) rfl (by simp) hv (Or.inl rfl))
  | removedir p =>
    obtain ⟨cs, hv⟩ := hval p (List.mem_singleton_self p)
    exact removedir_agree G.opn G.dir hv (hd hv) fun hcs => core1 hS G (.removedir p) rfl (by simp) hv (Or.inr hcs)
  | removetree p =>
    obtain ⟨cs, hv⟩ := hval p (List.mem_singleton_self p)
    refine removetree_agree G.opn G.dir hv (hd hv) (fun _ => core1 hS G (.listdir p) rfl (by simp) hv (Or.inl rfl))
      (fun h => rmLoop_sim hS ?_ es s G) fun hcs => core1 hS G (.removetree p) rfl (by simp) hv (Or.inr hcs)
    rw [fdel_ok (h ▸ hv), List.append_nil]
    exact fun _ => join_child_valid hsn
  | copy a b o =>
    obtain ⟨ca, ha⟩ := hval a (by simp [Op.paths])
    obtain ⟨cb, hb⟩ := hval b (by simp [Op.paths])
    exact copy_agree G.opn G.dir o ha hb (hd ha) (hd hb) (core1 hS G (.exists_ b) rfl (by simp) hb (Or.inl rfl))
      (agree_mono (adm_copy_mono _ a b o) (core hS G (.copy a b true) (by simp) (valid_two rfl ha hb) (Or.inl rfl)
        (by simp [knownDeviation]) (MultiFsLemmas.not_loose _ _ rfl)))
  | copydir a b c =>
    obtain ⟨ca, ha⟩ := hval a (by simp [Op.paths])
    obtain ⟨cb, hb⟩ := hval b (by simp [Op.paths])
    refine (copydir_agree G.opn G.dir c ha hb (hd ha) (hd hb) (core1 hS G (.exists_ b) rfl (by simp) hb (Or.inl rfl))
      (fun h => inner_getinfo_root hS G (h ▸ ha))
      (fun hca => agree_mono (adm_copydir_of_getinfo a b c ca cb ha hb)
        (core1 hS G (.getinfo a) rfl (by simp) ha (Or.inr hca)))
      fun hcc => agree_mono (adm_copydir_mono _ a b c) (core hS G (.copydir a b true) (by simp) (valid_two rfl ha hb)
        (Or.inl rfl) (by simp [knownDeviation]) (by rw [← ref_copydir_create ha hb hcc]; exact hl))).elim id
      fun h => agree_mono (by simp) h.2
  | move a b o | movedir a b o =>
    obtain ⟨ca, ha⟩ := hval a (by simp [Op.paths])
    obtain ⟨cb, hb⟩ := hval b (by simp [Op.paths])
    simpa only [Wrap.Sub.stepOpen, Wrap.stepOpen, Wrap.direct2, hd ha, hd hb, mapPaths] using core hS G _ hop hval (Or.inl rfl) hk hl
  | _ =>
    all_goals
      obtain ⟨cs, hv⟩ := hval _ (List.mem_singleton_self _)
      simpa only [Wrap.Sub.stepOpen, Wrap.stepOpen, Wrap.direct1, hd hv, mapPaths] using core hS G _ hop hval (Or.inl rfl) hk hl

end Fs.WrapLemmas
