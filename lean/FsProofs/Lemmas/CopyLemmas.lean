/-
  `fs.tools.copy_file_data` (FsModel/File.lean, part (d)): the short-read reader, the copy loop and its chunks; and the
  draining loops of the read paths over `IoRef` (part (e)).
-/
import FsProofs.Lemmas.FileLemmas

namespace Fs.CopyLemmas
open Fs Fs.File Fs.FileLemmas

/-! ### the short-read reader -/

theorem readSize_pos (chunk : Int) (avail : Nat) (o : Option Nat) (hc : chunk ≠ 0) (ha : 0 < avail) :
    1 ≤ readSize chunk avail o := by
  unfold readSize
  rw [if_neg hc]
  cases o with
  | some k => exact Nat.le_max_left _ _
  | none =>
    simp only
    split
    · exact ha
    · exact Nat.le_min.mpr ⟨by omega, ha⟩

theorem readSize_le (chunk : Int) (avail : Nat) (o : Option Nat) (ha : 0 < avail) :
    readSize chunk avail o ≤ avail := by
  unfold readSize
  split
  · exact Nat.zero_le _
  · have hcap : (if chunk < 0 then avail else min chunk.toNat avail) ≤ avail := by
      split
      · exact Nat.le_refl _
      · exact Nat.min_le_right _ _
    cases o with
    | none => exact hcap
    | some k => exact Nat.max_le.mpr ⟨ha, Nat.le_trans (Nat.min_le_right _ _) hcap⟩

theorem readSize_le_chunk (chunk : Int) (avail : Nat) (o : Option Nat) (hc : 0 < chunk) :
    readSize chunk avail o ≤ chunk.toNat := by
  unfold readSize
  rw [if_neg (by omega), if_neg (by omega)]
  cases o with
  | none => exact Nat.min_le_left _ _
  | some k => exact Nat.max_le.mpr ⟨by omega, Nat.le_trans (Nat.min_le_right _ _) (Nat.min_le_left _ _)⟩

theorem read_append (r : Reader) (chunk : Int) : (r.read chunk).1 ++ (r.read chunk).2.data = r.data :=
  List.take_append_drop _ _

theorem read_isEmpty (r : Reader) (chunk : Int) (hc : chunk ≠ 0) :
    (r.read chunk).1.isEmpty = r.data.isEmpty := by
  obtain ⟨data, oracle⟩ := r
  cases data with
  | nil => simp [Reader.read]
  | cons x xs =>
    have hk := readSize_pos chunk (x :: xs).length oracle.head? hc (Nat.succ_pos _)
    obtain ⟨k, hk'⟩ := Nat.exists_eq_succ_of_ne_zero (Nat.ne_of_gt hk)
    simp only [Reader.read, hk']
    rfl

theorem read_rest_lt (r : Reader) (chunk : Int) (hc : chunk ≠ 0) (hd : r.data.isEmpty = false) :
    (r.read chunk).2.data.length < r.data.length := by
  have h1 := congrArg List.length (read_append r chunk)
  have h2 : 0 < (r.read chunk).1.length := by
    rw [List.length_pos_iff, ← List.isEmpty_eq_false_iff, read_isEmpty r chunk hc, hd]
  rw [List.length_append] at h1
  omega

theorem copyLoop_eq_chunks (chunk : Int) (fuel : Nat) (r : Reader) (out : Bytes) :
    copyLoop chunk fuel r out = out ++ (copyChunks chunk fuel r).flatten := by
  induction fuel generalizing r out with
  | zero => simp [copyLoop, copyChunks]
  | succ fuel ih =>
    rw [copyLoop, copyChunks]
    simp only []
    split
    · simp
    · rw [ih, List.flatten_cons, List.append_assoc]

theorem copyChunks_flatten (chunk : Int) (hc : chunk ≠ 0) (fuel : Nat) (r : Reader)
    (hf : r.data.length < fuel) : (copyChunks chunk fuel r).flatten = r.data := by
  induction fuel generalizing r with
  | zero => omega
  | succ fuel ih =>
    rw [copyChunks]
    simp only [read_isEmpty r chunk hc]
    cases hd : r.data.isEmpty with
    | true => simpa using hd.symm
    | false =>
      have hlt := read_rest_lt r chunk hc hd
      rw [if_neg (by simp), List.flatten_cons, ih _ (by omega), read_append]

theorem copyLoop_exact (chunk : Int) (hc : chunk ≠ 0) (fuel : Nat) (r : Reader) (out : Bytes)
    (hf : r.data.length < fuel) : copyLoop chunk fuel r out = out ++ r.data := by
  rw [copyLoop_eq_chunks, copyChunks_flatten chunk hc fuel r hf]

/-- every chunk handed to `write` is non-empty and (for a positive chunk size) at most that long -/
theorem copyChunks_bounded (chunk : Int) (fuel : Nat) (r : Reader) :
    ∀ c ∈ copyChunks chunk fuel r, c ≠ [] ∧ (0 < chunk → c.length ≤ chunk.toNat) := by
  induction fuel generalizing r with
  | zero => simp [copyChunks]
  | succ fuel ih =>
    intro c hcm
    obtain ⟨data, oracle⟩ := r
    unfold copyChunks at hcm
    simp only [Reader.read] at hcm
    cases hne : (List.take (readSize chunk data.length oracle.head?) data).isEmpty with
    | true => simp [hne] at hcm
    | false =>
      simp only [hne, Bool.false_eq_true, if_false, List.mem_cons] at hcm
      rcases hcm with h | hcm
      · subst h
        constructor
        · intro h; simp [h] at hne
        · intro hpos
          have := readSize_le_chunk chunk data.length oracle.head? hpos
          simp only [List.length_take]; omega
      · exact ih _ c hcm

/-- `chunk_size or 1024 * 1024` is never 0 -/
theorem effChunk_ne_zero (chunk : Option Int) : effChunk chunk ≠ 0 := by
  unfold effChunk
  cases chunk with
  | none => decide
  | some c =>
    simp only
    split
    · decide
    · assumption

/-! ### sessions over IoRef -/

/-- the generic draining argument: a call that returns a non-empty prefix of the unread data
(and advances by its length) until nothing is left returns the unread data -/
theorem drainWith_exact (fl : Flags) (op : Op) (take : Bytes → Bytes)
    (hp : ∀ l, take l <+: l)
    (hn : ∀ l, l ≠ [] → take l ≠ [])
    (h1 : ∀ s : IoState, s.closed = false → take (s.bytes.drop s.pos) ≠ [] →
      IoRef.step fl s op = ({ s with pos := s.pos + (take (s.bytes.drop s.pos)).length },
                            .bytes (take (s.bytes.drop s.pos))))
    (h0 : ∀ s : IoState, s.closed = false → s.bytes.drop s.pos = [] →
      (IoRef.step fl s op).2 = .bytes [] ∨ (IoRef.step fl s op).2 = .err .stopIteration)
    (fuel : Nat) (s : IoState) (ho : s.closed = false) (hf : s.bytes.length - s.pos < fuel) :
    (drainWith fl op fuel s).flatten = s.bytes.drop s.pos := by
  induction fuel generalizing s with
  | zero => omega
  | succ fuel ih =>
    rw [drainWith]
    by_cases hrest : s.bytes.drop s.pos = []
    · rw [hrest]
      cases hstep : IoRef.step fl s op with
      | mk s' o =>
        have := h0 s ho hrest
        rw [hstep] at this
        rcases this with h | h <;> (simp only at h; subst h; rfl)
    · have hne := hn _ hrest
      rw [h1 s ho hne]
      simp only
      have hlt : s.pos < s.bytes.length := by
        apply Nat.lt_of_not_le
        intro h
        exact hrest (List.drop_eq_nil_of_le h)
      have hlen : 0 < (take (s.bytes.drop s.pos)).length := List.length_pos_iff.mpr hne
      rw [if_neg (by rwa [List.isEmpty_iff]), List.flatten_cons,
        ih ⟨s.bytes, s.pos + (take (s.bytes.drop s.pos)).length, s.closed⟩ ho (by simp only; omega),
        ← List.drop_drop]
      exact List.prefix_iff_eq_append.1 (hp _)

theorem drain_readN (fl : Flags) (op : Op) (n : Int) (hn : n ≠ 0)
    (hop : ∀ s : IoState, s.closed = false → IoRef.step fl s op = IoRef.readN s (some n)) (file : Bytes) :
    (drainWith fl op (file.length + 1) ⟨file, 0, false⟩).flatten = file :=
  drainWith_exact fl op (limit (some n)) (limit_prefix _)
    (fun l hl => limit_ne_nil _ l (fun h => hn (Option.some.inj h)) hl)
    (fun s ho _ => hop s ho)
    (fun s ho hrest => Or.inl (by rw [hop s ho, IoRef.readN, hrest, limit_nil]))
    (file.length + 1) ⟨file, 0, false⟩ rfl (Nat.lt_succ_self _)

end Fs.CopyLemmas
