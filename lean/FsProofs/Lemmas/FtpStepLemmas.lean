/-
  One call on FTPFS (`Ftp.step` over the modelled server) against the reference (`Ref.step1` / `step2`),
  operation by operation — the FTP counterpart of the `mem_*` lemmas of `MemLemmas` and the `os_*` lemmas of
  `OsLemmas`.
-/
import FsProofs.Lemmas.FtpModelLemmas
import FsProofs.Lemmas.QueryLemmas

namespace Fs.FtpStepLemmas
open Fs Fs.Ref Fs.FtpParse Fs.FtpServer Fs.Ftp Fs.FtpServerLemmas Fs.FtpModelLemmas
open Fs.TreeLemmas Fs.MemLemmas

/-- a path argument the protocol and the listing format carry: no CR / LF in the text (the command line),
    every component a name the listing carries faithfully -/
def ArgOk (cfg : Profile) (p : Str) : Prop :=
  NoCrLf p ∧ ∀ cs, Ref.validate p = .ok cs → ∀ c ∈ cs, NameOk cfg c

theorem nameOk_of {cfg : Profile} {n : Name} (h : NoCrLf n) (hs : Stops isSpace n) : NameOk cfg n := ⟨h, fun _ => hs⟩

theorem argOk_of_validate {cfg : Profile} {p : Str} {cs : List Name} (hn : NoCrLf p) (hv : Ref.validate p = .ok cs)
    (h : ∀ c ∈ cs, NameOk cfg c) : ArgOk cfg p :=
  ⟨hn, fun cs' hv' => by rw [hv] at hv'; cases hv'; exact h⟩

theorem argOk_name {cfg : Profile} {c : Name} (hc : NameOk cfg c) (hv : Ref.validate c = .ok [c]) : ArgOk cfg c :=
  argOk_of_validate hc.1 hv fun _ h => by cases List.mem_singleton.1 h; exact hc

theorem any_invalid_eq (p : Str) (h : NoCrLf p) : p.any isInvalidChar = p.contains '\x00' := by
  induction p with
  | nil => rfl
  | cons c r ih =>
    have hr : NoCrLf r := ⟨fun hm => h.1 (List.mem_cons_of_mem _ hm), fun hm => h.2 (List.mem_cons_of_mem _ hm)⟩
    have h1 : c ≠ '\r' := fun e => h.1 (by rw [e]; simp)
    have h2 : c ≠ '\n' := fun e => h.2 (by rw [e]; simp)
    simp only [List.any_cons, ih hr, List.contains_cons, isInvalidChar]
    have e1 : (c == '\r') = false := by simpa using h1
    have e2 : (c == '\n') = false := by simpa using h2
    have e3 : ('\x00' == c) = (c == '\x00') := BEq.comm
    rw [e1, e2, e3]
    simp

/-- FTPFS's `validatepath` is the reference's on a path without CR / LF -/
theorem validate_eq (p : Str) (h : NoCrLf p) : Ftp.validate p = Ref.validate p := by
  unfold Ftp.validate Ref.validate
  rw [any_invalid_eq p h]

theorem pathOk_of {cfg : Profile} {p : Str} {cs : List Name} (ha : ArgOk cfg p) (hv : Ref.validate p = .ok cs) :
    PathOk cfg cs :=
  ⟨TreeLemmas.validate_clean p cs hv, ha.2 cs hv⟩

theorem fvalidate_of {cfg : Profile} {p : Str} {cs : List Name} (ha : ArgOk cfg p) (hv : Ref.validate p = .ok cs) :
    Ftp.validate p = .ok cs := by rw [validate_eq p ha.1, hv]

theorem run_mapRes (X : Server) (p : Prog (Res α)) (f : α → Val) (t : Node) :
    Ftp.run X (mapRes p f) t = ((Ftp.run X p t).1, (Ftp.run X p t).2.map f) := by
  unfold mapRes
  rw [run_bind]
  cases (Ftp.run X p t).2 <;> rfl

theorem step_not_close (X : Server) (cy : Nat) (s : State) {op : Op} (hop : op ≠ .close) :
    Ftp.step X cy s op = if s.closed then (s, .err (closedErr op)) else
      ({ s with root := (Ftp.run X (callProg cy op) s.root).1 }, (Ftp.run X (callProg cy op) s.root).2) := by
  unfold Ftp.step
  split
  · exact absurd rfl hop
  · rfl

/-- one call on an open FTPFS over a conforming server: the FEAT exchange tells the variant, then the
    operation's program runs -/
theorem step_open {cfg : Profile} (hcf : Conforming cfg) {cy : Nat} (s : State) (hc : s.closed = false) {op : Op}
    (hop : op ≠ .close) :
    Ftp.step (exec cfg) cy s op =
      ({ s with root := (Ftp.run (exec cfg) (opProg cy cfg.mlsd cfg.mfmt op) s.root).1 },
       (Ftp.run (exec cfg) (opProg cy cfg.mlsd cfg.mfmt op) s.root).2) := by
  rw [step_not_close _ _ _ hop, hc, if_neg Bool.false_ne_true, callProg, run_bind, run_features cfg hcf,
    supports_mlst cfg hcf, supports_mfmt cfg hcf]

theorem state_eta (s : State) : ({ s with root := s.root } : State) = s := by cases s; rfl

/-! ### invalid paths and invalid modes: the same failure as the reference -/

theorem opProg_refused1 (cy : Nat) (m mf : Bool) (op : Op) (p : Str) (e : Err) (hp : op.paths = [p])
    (hv : Ftp.validate p = .err e) (hmd : ∀ q mo, op = .openbin q mo → ∃ md, parseBinMode mo = some md) :
    opProg cy m mf op = .ret (.err e) := by
  cases op with
  | move | copy | movedir | copydir | close => cases hp
  | openbin q mo =>
    cases hp
    obtain ⟨md, hm⟩ := hmd _ _ rfl
    simp only [opProg, openbin, hm, hv, mapRes, Prog.bind]
  | exists_ | isdir | isfile | listdir | isempty | getsize | gettype | getinfo =>
    cases hp; simp only [opProg, withPath, hv, mapRes, Prog.bind]
  | readbytes => cases hp; simp only [opProg, readbytes, hv, mapRes, Prog.bind]
  | makedir => cases hp; simp only [opProg, makedir, hv, mapRes, Prog.bind]
  | makedirs => cases hp; simp only [opProg, makedirs, hv, mapRes, Prog.bind]
  | writebytes => cases hp; simp only [opProg, writebytes, hv, mapRes, Prog.bind]
  | appendbytes => cases hp; simp only [opProg, appendbytes, openbin, QueryLemmas.mode_ab, hv, mapRes, Prog.bind]
  | create => cases hp; simp only [opProg, create, hv, mapRes, Prog.bind]
  | touch => cases hp; simp only [opProg, touch, create, hv, mapRes, Prog.bind]
  | settimes => cases hp; simp only [opProg, setinfo, hv, mapRes, Prog.bind]
  | remove => cases hp; simp only [opProg, remove, hv, mapRes, Prog.bind]
  | removedir => cases hp; simp only [opProg, removedir, hv, mapRes, Prog.bind]
  | removetree => cases hp; simp only [opProg, removetree, hv, mapRes, Prog.bind]

theorem opProg_refused2 (cy : Nat) (m mf : Bool) (op : Op) (p q : Str) (e : Err) (hp : op.paths = [p, q])
    (hv : Ftp.validate p = .err e ∨ ((∃ a, Ftp.validate p = .ok a) ∧ Ftp.validate q = .err e)) :
    opProg cy m mf op = .ret (.err e) := by
  cases op with
  | move | copy | movedir | copydir =>
    cases hp
    rcases hv with hv | ⟨⟨a, ha⟩, hv⟩
    · simp only [opProg, move, copy, movedir, copydir, hv, mapRes, Prog.bind]
    · simp only [opProg, move, copy, movedir, copydir, ha, hv, mapRes, Prog.bind]
  | _ => cases hp

open QueryLemmas in
/-- on paths without CR / LF the two `validatepath`s agree -/
theorem ftp_step_refused {cfg : Profile} (hcf : Conforming cfg) (t : Node) (op : Op) (e : Err)
    (hn : ∀ p ∈ op.paths, NoCrLf p) (hr : refusal Ref.validate op = some e) :
    Ftp.step (exec cfg) cfg.cy ⟨t, false⟩ op = fail ⟨t, false⟩ e := by
  have hop : op ≠ .close := by rintro rfl; cases hr
  rw [step_open hcf ⟨t, false⟩ rfl hop]
  rcases refusal_some hr with ⟨p, m, rfl, hm, rfl⟩ | ⟨p, hp, hv, hmd⟩ | ⟨p, q, hp, hv⟩
  · simp only [opProg, openbin, hm, mapRes, Prog.bind, run_ret]; rfl
  · rw [← validate_eq p (hn p (by rw [hp]; simp))] at hv
    rw [opProg_refused1 _ _ _ op p e hp hv hmd]; rfl
  · rw [← validate_eq p (hn p (by rw [hp]; simp)), ← validate_eq q (hn q (by rw [hp]; simp))] at hv
    rw [opProg_refused2 _ _ _ op p q e hp hv]; rfl

/-! ### one-path operations, valid path -/

theorem makedirSpec_step1 (t : Node) (p : Str) (cs : List Name) (rc : Bool) :
    ((⟨(makedirSpec t cs rc).1, false⟩ : State), unitVal (makedirSpec t cs rc).2) =
      step1 ⟨t, false⟩ cs (.makedir p rc) := by
  simp only [makedirSpec, step1, parentOf]
  by_cases hne : cs = []
  · subst hne; cases rc <;> rfl
  · simp only [hne, if_false]
    rcases t.get cs.dropLast with _ | ⟨_ | _⟩
    · rfl
    · rfl
    · rcases t.get cs with _ | ⟨_ | _⟩ <;> cases rc <;> rfl

theorem writeSpec_writeFile (t : Node) (cs : List Name) (f : Option Bytes → Bytes) (v : Val) :
    ((⟨(writeSpec t cs f).1, false⟩ : State), (writeSpec t cs f).2.map fun _ => v) = writeFile ⟨t, false⟩ cs f v := by
  simp only [writeSpec, writeFile, parentOf]
  by_cases hne : cs = []
  · subst hne; rfl
  · simp only [hne, if_false]
    rcases t.get cs.dropLast with _ | ⟨_ | _⟩
    · rfl
    · rfl
    · rcases t.get cs with _ | ⟨_ | _⟩ <;> rfl

section
variable {cfg : Profile} (t : Node) (p : Str) (cs : List Name) (h : Hyp cfg t)
  (hv : Ref.validate p = .ok cs) (ha : ArgOk cfg p)
include h hv ha

/-- `openbin` reads its mode first and `makedirs` is MemoryFS's: both are treated apart, below -/
theorem ftp_step1 (op : Op) (hp : op.paths = [p]) (hno : ∀ q m, op ≠ .openbin q m) (hnm : ∀ q r, op ≠ .makedirs q r) :
    Ftp.step (exec cfg) cfg.cy ⟨t, false⟩ op = step1 ⟨t, false⟩ cs op := by
  have hpo := pathOk_of ha hv
  have hfv := fvalidate_of ha hv
  rw [step_open h.conf ⟨t, false⟩ rfl (by rintro rfl; cases hp)]
  cases op <;> simp only [Op.paths, List.cons.injEq, and_true, reduceCtorEq, and_false] at hp
  all_goals subst hp
  case exists_ => simp only [opProg, run_mapRes, withPath, hfv, run_existsC h cs hpo, step1, done, map_ok]
  case isdir =>
    simp only [opProg, run_mapRes, withPath, hfv, run_isdirC h cs hpo, step1, done, isDirAt]
    rfl
  case isfile =>
    simp only [opProg, run_mapRes, withPath, hfv, run_isfileC h cs hpo, step1, done, isFileAt]
    rfl
  case listdir =>
    simp only [opProg, run_mapRes, withPath, hfv, run_scandirC h cs hpo, step1, scandirSpec]
    rcases t.get cs with _ | ⟨_ | _⟩ <;> simp [done, fail, entOf, Ents.names]
  case isempty =>
    simp only [opProg, run_mapRes, withPath, hfv, run_isemptyC h cs hpo, step1, isemptySpec]
    rcases t.get cs with _ | ⟨_ | _⟩ <;> rfl
  case getsize =>
    simp only [opProg, run_mapRes, withPath, hfv, run_getinfo_ent h cs hpo, step1]
    cases hg : t.get cs with
    | none => rfl
    | some n =>
      cases n with
      | file b => simp [ne_nil_of_file h.isDir hg, FtpServer.sizeOf, Node.isDir, done]
      | dir es => rfl
  case gettype =>
    simp only [opProg, run_mapRes, withPath, hfv, run_getinfo_ent h cs hpo, step1]
    rcases t.get cs with _ | ⟨_ | _⟩ <;> rfl
  case getinfo =>
    simp only [opProg, run_mapRes, withPath, hfv, run_getinfo_ent h cs hpo, step1]
    cases hg : t.get cs with
    | none => rfl
    | some n =>
      cases n with
      | file b => simp [ne_nil_of_file h.isDir hg, FtpServer.sizeOf, Node.isDir, done]
      | dir es => rfl
  case readbytes =>
    simp only [opProg, run_mapRes, readbytes, hfv, run_readbytesC h cs hpo, step1, readSpec]
    rcases t.get cs with _ | ⟨_ | _⟩ <;> rfl
  case settimes =>
    simp only [opProg, run_mapRes, run_setinfo h cs hpo _ _ rfl hfv, step1, setinfoSpec]
    cases (t.get cs).isSome <;> rfl
  case makedir q r =>
    rw [← makedirSpec_step1 t q cs r, unitVal_eq]
    simp only [opProg, run_mapRes, run_makedir h cs hpo r _ hfv]
  case makedirs q r => exact absurd rfl (hnm q r)
  case writebytes =>
    simp only [opProg, run_mapRes, writebytes, hfv, run_uploadC h cs hpo, step1]
    exact writeSpec_writeFile t cs _ _
  case appendbytes =>
    simp only [opProg, run_mapRes, run_appendbytes h cs hpo _ _ hfv, step1]
    exact writeSpec_writeFile t cs _ _
  case create =>
    simp only [opProg, run_mapRes, run_create h cs hpo _ _ hfv, step1, createSpec]
    split
    · rfl
    · rw [← writeSpec_writeFile]
      cases (writeSpec t cs fun _ => []).2 <;> rfl
  case touch =>
    simp only [opProg, run_mapRes, run_touch h cs hpo _ _ rfl hfv, step1, touchSpec]
    split
    · rfl
    · exact writeSpec_writeFile t cs _ _
  case openbin q m => exact absurd rfl (hno q m)
  case remove =>
    simp only [opProg, run_mapRes, remove, hfv, run_removeC h cs hpo, step1, removeSpec]
    by_cases hne : cs = []
    · subst hne; rfl
    · simp only [hne, if_false]
      rcases t.get cs with _ | ⟨_ | _⟩ <;> rfl
  case removedir =>
    simp only [opProg, run_mapRes, removedir, hfv, run_removedirC h cs hpo, step1, removedirSpec]
    by_cases hne : cs = []
    · subst hne; rfl
    · simp only [hne, if_false]
      rcases t.get cs with _ | ⟨_ | es⟩ <;> first | rfl | (cases es <;> rfl)
  case removetree =>
    simp only [opProg, run_mapRes, run_removetree h cs hpo _ hfv, step1, removetreeSpec]
    by_cases hne : cs = []
    · subst hne; rfl
    · simp only [hne, if_false]
      rcases t.get cs with _ | ⟨_ | _⟩ <;> rfl

theorem ftp_openbin (mode : Str) (md : Mode) (hm : parseBinMode mode = some md) :
    Ftp.step (exec cfg) cfg.cy ⟨t, false⟩ (.openbin p mode) = step1 ⟨t, false⟩ cs (.openbin p mode) := by
  rw [step_open h.conf ⟨t, false⟩ rfl (by nofun)]
  simp only [opProg, run_mapRes, run_openbin h cs (pathOk_of ha hv) p mode md hm (fvalidate_of ha hv), step1, hm,
    openbinSpec, parentOf]
  by_cases hne : cs = []
  · subst hne; rfl
  · simp only [hne, if_false]
    rcases t.get cs.dropLast with _ | ⟨_ | _⟩
    · rfl
    · rfl
    · rcases t.get cs with _ | ⟨_ | _⟩
      · cases md.create <;> rfl
      · cases md.exclusive <;> cases md.truncate <;> rfl
      · rfl

end

/-! ### `makedirs` = MemoryFS's (the same base-class code over an equivalent `getinfo` / `makedir`) -/

theorem run_interGo {cfg : Profile} {t : Node} (h : Hyp cfg t) : ∀ (L acc : List (List Name)),
    (∀ d ∈ L, PathOk cfg d) →
    Ftp.run (exec cfg) (interGo cfg.cy cfg.mlsd L acc) t = (t, Mem.intermediateDirs.go ⟨t, false⟩ L acc) := by
  intro L
  induction L with
  | nil => intro acc _; simp [interGo, go_nil]
  | cons pre rest ih =>
    intro acc hL
    have hp := hL pre (by simp)
    simp only [interGo, run_bind, run_getinfo_ent h pre hp]
    cases hg : t.get pre with
    | none =>
      rw [go_cons_none ⟨t, false⟩ pre rest acc hg]
      exact ih _ (fun d hd => hL d (by simp [hd]))
    | some n =>
      cases n with
      | file b => rw [go_cons_file ⟨t, false⟩ pre rest acc b hg]; simp [Node.isDir]
      | dir es => rw [go_cons_dir ⟨t, false⟩ pre rest acc es hg]; simp [Node.isDir]

theorem intermediateDirs_go_all (P : List Name → Prop) (s : State) : ∀ (L acc r : List (List Name)), (∀ d ∈ L, P d) →
    (∀ d ∈ acc, P d) → Mem.intermediateDirs.go s L acc = .ok r → ∀ d ∈ r, P d := by
  intro L
  induction L with
  | nil => intro acc r _ ha hr; rw [go_nil] at hr; cases hr; exact ha
  | cons pre rest ih =>
    intro acc r hL ha hr
    rcases hg : s.root.get pre with _ | ⟨b | es⟩
    · rw [go_cons_none s pre rest acc hg] at hr
      exact ih _ _ (fun d hd => hL d (List.mem_cons_of_mem _ hd)) (List.forall_mem_cons.2 ⟨hL pre (by simp), ha⟩) hr
    · rw [go_cons_file s pre rest acc b hg] at hr; cases hr
    · rw [go_cons_dir s pre rest acc es hg] at hr; cases hr; exact ha

theorem hyp_foldl {cfg : Profile} (dirs : List (List Name)) (hd : ∀ d ∈ dirs, PathOk cfg d) :
    ∀ (t : Node), Hyp cfg t → Hyp cfg (dirs.foldl (fun t d => Node.set d t (Node.dir [])) t) := by
  induction dirs with
  | nil => intro t h; exact h
  | cons d ds ih =>
    intro t h
    simp only [List.foldl_cons]
    exact ih (fun x hx => hd x (by simp [hx])) _ (hyp_set h d (hd d (by simp)) _ rfl (treeOk_emptyDir cfg))

theorem mem_opendirCheck (t : Node) (p : Str) (cs : List Name) (hv : Ref.validate p = .ok cs) :
    Mem.opendirCheck ⟨t, false⟩ p = opendirSpec t cs := by
  simp only [Mem.opendirCheck, Mem.getinfo, Mem.vpath, hv, opendirSpec, Bool.false_eq_true, if_false]
  cases hg : t.get cs with
  | none => rfl
  | some n => cases n <;> rfl

/-- `FS.makedirs` over FTPFS computes what it computes over MemoryFS (run level: tree and verdict) -/
theorem run_makedirs_mem {cfg : Profile} (t : Node) (p : Str) (cs : List Name) (h : Hyp cfg t)
    (hv : Ref.validate p = .ok cs) (ha : ArgOk cfg p) (r : Bool) :
    ((⟨(Ftp.run (exec cfg) (makedirs cfg.cy cfg.mlsd p r) t).1, false⟩ : State),
      unitVal (Ftp.run (exec cfg) (makedirs cfg.cy cfg.mlsd p r) t).2) = Mem.makedirs ⟨t, false⟩ p r := by
  have hp := pathOk_of ha hv
  have hL : ∀ d ∈ ((List.range (cs.length + 1)).reverse.map fun i => cs.take i), PathOk cfg d := by
    intro d hd
    obtain ⟨i, _, rfl⟩ := List.mem_map.1 hd
    exact pathOk_sub hp (List.take_subset i cs)
  simp only [makedirs, fvalidate_of ha hv, run_bind, intermediateDirs, run_interGo h _ [] hL,
    Mem.makedirs, Bool.false_eq_true, if_false, hv, Mem.intermediateDirs]
  cases hgo : Mem.intermediateDirs.go ⟨t, false⟩ ((List.range (cs.length + 1)).reverse.map fun i => cs.take i) [] with
  | err e => simp [fail, unitVal]
  | ok l =>
    have hdirs : ∀ d ∈ l.dropLast, PathOk cfg d := fun d hd =>
      intermediateDirs_go_all _ _ _ _ _ hL (fun _ hm => by cases hm) hgo d (List.dropLast_subset _ hd)
    have h1 := hyp_foldl l.dropLast hdirs t h
    simp only [Ftp.run]
    generalize ht1 : (l.dropLast.foldl (fun t d => Node.set d t (Node.dir [])) t) = t1 at h1
    have hmem : Mem.makedir ⟨t1, false⟩ p false = step1 ⟨t1, false⟩ cs (.makedir p false) := by
      have := mem_makedir ⟨t1, false⟩ p cs rfl hv false
      simpa [Mem.step] using this
    rw [run_bind, run_makedir h1 cs hp false p (fvalidate_of ha hv), hmem, ← makedirSpec_step1 t1 p cs false]
    have h2 := hyp_makedirSpec h1 hp false
    cases hms : (makedirSpec t1 cs false).2 with
    | ok u => cases u; simp [unitVal, done]
    | err e =>
      -- `DirectoryExists` is the one class `makedirs` examines again (`recreate`, then `opendir`); the others pass through
      by_cases he : e = .DirectoryExists
      · subst he
        cases r <;> simp [unitVal, fail, run_opendirC h2 cs hp, mem_opendirCheck _ p cs hv, done]
        cases opendirSpec (makedirSpec t1 cs false).1 cs <;> simp
      · cases e <;> simp [unitVal, fail] at he ⊢

theorem ftp_makedirs_eq_mem {cfg : Profile} (t : Node) (p : Str) (cs : List Name) (h : Hyp cfg t)
    (hv : Ref.validate p = .ok cs) (ha : ArgOk cfg p) (r : Bool) :
    Ftp.step (exec cfg) cfg.cy ⟨t, false⟩ (.makedirs p r) = Mem.makedirs ⟨t, false⟩ p r := by
  rw [step_open h.conf ⟨t, false⟩ rfl (by nofun), ← run_makedirs_mem t p cs h hv ha r]
  simp only [opProg, run_mapRes]
  cases (Ftp.run (exec cfg) (makedirs cfg.cy cfg.mlsd p r) t).2 with
  | ok u => cases u; rfl
  | err e => rfl

theorem run_makedirs_of {cfg : Profile} (t : Node) (p : Str) (cs : List Name) (h : Hyp cfg t)
    (hv : Ref.validate p = .ok cs) (ha : ArgOk cfg p) (r : Bool) {t' : Node} {o : Out}
    (hm : Mem.makedirs ⟨t, false⟩ p r = (⟨t', false⟩, o)) :
    Ftp.run (exec cfg) (makedirs cfg.cy cfg.mlsd p r) t = (t', o.map fun _ => ()) := by
  have e := run_makedirs_mem t p cs h hv ha r
  rw [hm] at e
  generalize Ftp.run (exec cfg) (makedirs cfg.cy cfg.mlsd p r) t = x at e
  obtain ⟨t1, x⟩ := x
  simp only [Prod.mk.injEq, State.mk.injEq, and_true] at e
  obtain ⟨rfl, rfl⟩ := e
  cases x <;> rfl

/-! ### two-path operations, valid paths -/

theorem run_openRb {cfg : Profile} {t : Node} (h : Hyp cfg t) (a : List Name) (hpa : PathOk cfg a) (sp : Str)
    (hv : Ftp.validate sp = .ok a) :
    Ftp.run (exec cfg) (openbin cfg.cy cfg.mlsd sp ['r', 'b']) t = (t, match t.get a with
      | none => .err .ResourceNotFound
      | some (.dir _) => .err .FileExpected
      | some (.file _) => .ok a) := by
  simp only [openbin, QueryLemmas.mode_rb, hv, run_bind, run_getinfo_ent h a hpa]
  rcases t.get a with _ | _ | _ <;> rfl

/-- creating the missing directories along one path leaves every other existing resource alone -/
theorem mkdirs_get_other (a : List Name) (n : Node) : ∀ (cs pre : List Name) (t : Node),
    t.get a = some n → ¬ a <+: pre ++ cs → (mkdirs pre cs t).get a = some n :=
  fun cs pre t => mkdirs_keep cs pre a t n

/-- base-class `movedir` on the tree, for ANY two paths — a destination above the source included -/
def movedirSpec (t : Node) (a b : List Name) (c : Bool) : Node × Res Unit :=
  if a = b then (t, .ok ())
  else if isPrefix a b then (t, .err .IllegalDestination)
  else if (c || (t.get b).isSome) = false then (t, .err .ResourceNotFound)
  else match t.get a with
    | none => (t, .err .ResourceNotFound)
    | some (.file _) => (t, .err .DirectoryExpected)
    | some (.dir _) =>
      match (makedirSpec t b true).2 with
      | .err e => ((makedirSpec t b true).1, .err e)
      | .ok () =>
        match mergeDir a b (makedirSpec t b true).1 with
        | none => ((makedirSpec t b true).1, .err .OperationFailed)
        | some t2 => removetreeSpec t2 a

section
variable {cfg : Profile} (t : Node) (sp dp : Str) (a b : List Name) (h : Hyp cfg t)
  (hva : Ref.validate sp = .ok a) (hvb : Ref.validate dp = .ok b) (has : ArgOk cfg sp) (had : ArgOk cfg dp)
include h hva hvb has had

/-- past the guards, `upload` of the source's bytes on the one side, `writeFile` on the other -/
theorem ftp_copy (o : Bool) :
    Ftp.step (exec cfg) cfg.cy ⟨t, false⟩ (.copy sp dp o) = step2 ⟨t, false⟩ a b (.copy sp dp o) := by
  have hpa := pathOk_of has hva
  have hpb := pathOk_of had hvb
  rw [step_open h.conf ⟨t, false⟩ rfl (by nofun)]
  simp only [opProg, run_mapRes, copy, fvalidate_of has hva, fvalidate_of had hvb, run_bind, run_existsUnless h b hpb]
  by_cases h1 : (!o && (t.get b).isSome) = true
  · simp [step2, h1, fail]
  · by_cases hab : a = b
    · simp [step2, h1, hab, fail]
    · simp only [h1, hab, if_false, run_bind, run_openRb h a hpa sp (fvalidate_of has hva)]
      rcases hga : t.get a with _ | data | ds
      · simp [step2, h1, hab, hga, fail]
      · simp only [run_bind, run_readbytesC h a hpa, readSpec, hga, run_uploadC h b hpb]
        rw [QueryLemmas.step2_copy_write ⟨t, false⟩ a b sp dp o data hga hab (by simpa using h1)]
        exact writeSpec_writeFile t b _ _
      · simp [step2, h1, hab, hga, fail]

/-- `FS.move` over FTPFS: the reference's `move`, except that the destination is looked at first — when both fail,
    with a class that is truthful too -/
theorem ftp_move (o : Bool) :
    Agree (adm2 t a b (.move sp dp o)) ⟨t, false⟩ (Ftp.step (exec cfg) cfg.cy ⟨t, false⟩ (.move sp dp o))
      (step2 ⟨t, false⟩ a b (.move sp dp o)) := by
  have hpa := pathOk_of has hva
  have hpb := pathOk_of had hvb
  rw [step_open h.conf ⟨t, false⟩ rfl (by nofun)]
  simp only [opProg, run_mapRes, move, fvalidate_of has hva, fvalidate_of had hvb, run_bind, run_existsUnless h b hpb]
  by_cases h1 : (!o && (t.get b).isSome) = true
  · have hadm := QueryLemmas.destExists_mem_adm2_move t sp dp a b o h1
    simp only [h1]
    rcases hga : t.get a with _ | data | ds
    · exact agree_of_fails .DestinationExists (by simp) (by simp [step2, hga, fail, Res.isOk]) hadm
    · left; simp [step2, hga, h1, fail]
    · exact agree_of_fails .DestinationExists (by simp) (by simp [step2, hga, fail, Res.isOk]) hadm
  · simp only [Bool.not_eq_true] at h1
    simp only [h1, run_bind, run_getinfo_ent h a hpa]
    left
    rcases hga : t.get a with _ | data | ds
    · simp [step2, hga, fail]
    · by_cases hab : a = b
      · subst hab
        have ho : o = true := by simpa [hga] using h1
        simp [step2, hga, ho, Node.isDir, done]
      · simp only [Node.isDir, hab, if_false, run_bind, run_openRb h a hpa sp (fvalidate_of has hva), hga,
          run_readbytesC h a hpa, readSpec, run_uploadC h b hpb]
        rw [QueryLemmas.step2_move_write ⟨t, false⟩ a b sp dp o data hga hab h1, ← writeSpec_writeFile t b _ .unit]
        rcases writeSpec_cases h b fun _ => data with ⟨x, hw, hnd⟩ | hw <;> rw [hw]
        · have h' : Hyp cfg (t.set b (.file data)) := hyp_set h b hpb _ rfl (treeOk_file cfg data (h.ok a _ hga).2)
          have hga' : (t.set b (.file data)).get a = some (.file data) :=
            TreeLemmas.get_set_file b a t _ data hga fun hpre => by
              obtain ⟨ds, hds⟩ := TreeLemmas.get_proper_prefix_dir hpre (fun e => hab e.symm) hga
              simp [isDirAt, hds] at hnd
          simp [run_removeC h' a hpa, removeSpec, hga', ne_nil_of_file h.isDir hga]
        · rfl
    · simp [step2, hga, Node.isDir, fail]

/-- `FS.copydir` over FTPFS is the reference's `copydir` -/
theorem ftp_copydir (c : Bool) :
    Ftp.step (exec cfg) cfg.cy ⟨t, false⟩ (.copydir sp dp c) = step2 ⟨t, false⟩ a b (.copydir sp dp c) := by
  have hpa := pathOk_of has hva
  have hpb := pathOk_of had hvb
  have hmk := @run_makedirs_of cfg t dp b h hvb had true
  rw [step_open h.conf ⟨t, false⟩ rfl (by nofun)]
  simp only [opProg, run_mapRes, copydir, fvalidate_of has hva, fvalidate_of had hvb, step2]
  by_cases hpre : isPrefix a b = true
  · simp [hpre, fail]
  · simp only [hpre, if_false, Bool.false_eq_true, run_bind, run_existsOr h b hpb]
    cases hga : t.get a with
    | none => cases hgb : t.get b with
      | none => cases c <;> simp [run_bind, run_getinfo_ent h a hpa, hga, fail]
      | some n => cases n <;> simp [run_bind, run_getinfo_ent h a hpa, hga, fail]
    | some n =>
      cases n with
      | file x => cases hgb : t.get b with
        | none => cases c <;> simp [run_bind, run_getinfo_ent h a hpa, hga, Node.isDir, fail]
        | some n => cases n <;> simp [run_bind, run_getinfo_ent h a hpa, hga, Node.isDir, fail]
      | dir es =>
        cases hgb : t.get b with
        | none =>
          cases c
          · simp [fail]
          · cases hbl : blockedByFile t [] b
            · have hes : entsWf es = true := TreeLemmas.entsWf_of_get h.wf hga
              have hbne : b ≠ [] := by rintro rfl; simp [Node.get] at hgb
              have hnab : ¬ a <+: [] ++ b := by
                simpa using fun hh => hpre ((TreeLemmas.isPrefix_iff a b).2 hh)
              have hm : mergeDir a b (mkdirs [] b t) = some ((mkdirs [] b t).set b (.dir es)) := by
                simp only [mergeDir, mkdirs_get_other a _ b [] t hga hnab,
                  mkdirs_get_new h.isDir hbl hgb,
                  mergeEnts_nil hes, Option.map_some, setAt, hbne, if_false]
              simp [Node.isDir, run_bind, run_getinfo_ent h a hpa, hga,
                hmk (makedirs_new ⟨t, false⟩ dp b rfl hvb h.isDir true hbl hgb), Ftp.run, hm, upd]
            · simp [Node.isDir, run_bind, run_getinfo_ent h a hpa, hga,
                hmk (makedirs_blocked ⟨t, false⟩ dp b rfl hvb h.isDir true (Or.inl hbl)), fail]
        | some n =>
          cases n with
          | file x =>
            simp [Node.isDir, run_bind, run_getinfo_ent h a hpa, hga,
              hmk (makedirs_blocked ⟨t, false⟩ dp b rfl hvb h.isDir true (Or.inr (isFileAt_of_file hgb))), fail]
          | dir ds =>
            simp only [Node.isDir, Option.isSome_some, Bool.or_true, run_bind, run_getinfo_ent h a hpa,
              hmk (makedirs_dir ⟨t, false⟩ dp b rfl hvb h.isDir true ds hgb), map_ok, Ftp.run, mergeDir, hga, hgb]
            cases mergeEnts es ds <;> simp [fail, upd]

theorem run_movedir (c : Bool) :
    Ftp.run (exec cfg) (movedir cfg.cy cfg.mlsd sp dp c) t = movedirSpec t a b c := by
  have hpa := pathOk_of has hva
  have hpb := pathOk_of had hvb
  simp only [movedir, movedirSpec, fvalidate_of has hva, fvalidate_of had hvb]
  by_cases hab : a = b
  · simp only [hab, if_true, run_ret]
  by_cases hpre : isPrefix a b = true
  · simp only [hab, hpre, if_false, if_true, run_ret]
  simp only [hab, hpre, if_false, Bool.false_eq_true, run_bind, run_existsOr h b hpb]
  cases (c || (t.get b).isSome)
  · rfl
  simp only [Bool.true_eq_false, if_false, run_bind, run_getinfo_ent h a hpa]
  cases hga : t.get a with
  | none => rfl
  | some n =>
    cases n with
    | file x => rfl
    | dir es =>
      have h1 := hyp_makedirSpec h hpb true
      simp only [Node.isDir, run_bind, run_makedir h b hpb true dp (fvalidate_of had hvb)]
      cases (makedirSpec t b true).2 with
      | err e => rfl
      | ok u =>
        cases hm : mergeDir a b (makedirSpec t b true).1 with
        | none => simp only [run_edit_none _ _ _ _ _ hm]; rfl
        | some t2 =>
          simp only [run_edit _ _ _ _ _ _ hm]
          exact run_removetree (hyp_mergeDir h1 hpb hm) a hpa sp (fvalidate_of has hva)

theorem step_movedir (c : Bool) :
    Ftp.step (exec cfg) cfg.cy ⟨t, false⟩ (.movedir sp dp c) =
      (⟨(movedirSpec t a b c).1, false⟩, (movedirSpec t a b c).2.map fun _ => .unit) := by
  rw [step_open h.conf ⟨t, false⟩ rfl (by nofun)]
  simp only [opProg, run_mapRes, run_movedir t sp dp a b h hva hvb has had c]

theorem ftp_movedir (c : Bool) (hk : ¬ (b <+: a ∧ a ≠ b)) :
    Agree (adm2 t a b (.movedir sp dp c)) ⟨t, false⟩ (Ftp.step (exec cfg) cfg.cy ⟨t, false⟩ (.movedir sp dp c))
      (step2 ⟨t, false⟩ a b (.movedir sp dp c)) := by
  rw [step_movedir t sp dp a b h hva hvb has had c]
  simp only [movedirSpec]
  by_cases hab : a = b
  · left; simp [hab, step2, done]
  · by_cases hpre : Ref.isPrefix a b = true
    · left; simp [hab, hpre, step2, fail]
    · have hnab : ¬ a <+: b := fun hh => hpre ((TreeLemmas.isPrefix_iff a b).2 hh)
      have hnba : ¬ b <+: a := fun hh => hk ⟨hh, hab⟩
      have hane : a ≠ [] := by rintro rfl; exact hnab List.nil_prefix
      have hbne : b ≠ [] := by rintro rfl; exact hnba List.nil_prefix
      simp only [hab, hpre, if_false, Bool.false_eq_true]
      cases hga : t.get a with
      | none =>
        left
        cases hcb : (c || (t.get b).isSome) <;> simp [step2, hab, hpre, hga, fail]
      | some n =>
        rcases n with data | es
        · cases hcb : (c || (t.get b).isSome)
          · simp only [Bool.or_eq_false_iff] at hcb
            have hgb : t.get b = none := by
              cases hh : t.get b with
              | none => rfl
              | some x => rw [hh] at hcb; simp at hcb
            refine agree_of_fails .ResourceNotFound (by simp)
              (by simp [step2, hab, hpre, hga, fail, Res.isOk]) ?_
            simp [adm2, hab, kindAt, hgb, hcb.1]
          · left; simp [step2, hab, hpre, hga, fail]
        · have hes : entsWf es = true := TreeLemmas.entsWf_of_get h.wf hga
          left
          rw [QueryLemmas.step2_movedir_diverge ⟨t, false⟩ sp dp a b c es hnab hnba hga]
          rcases sit t b with h' | ⟨hne', hp', hg'⟩ | ⟨x', hne', hp', hg'⟩ | ⟨es', hne', hp', hl', hg'⟩ | ⟨es', n', hne', hp', hl', hg'⟩
          · exact absurd h' hbne
          · cases c <;> simp [makedirSpec, hne', hg', hp', parentOf, fail]
          · cases c <;> simp [makedirSpec, hne', hg', hp', parentOf, fail]
          · cases c
            · simp [hg', fail]
            · have hs1 : (t.set b (.dir [])).get b = some (.dir []) := TreeLemmas.get_set_same b _ _ es' hne' hp'
              have hga1 : (t.set b (.dir [])).get a = some (.dir es) := by
                rw [TreeLemmas.get_set_disjoint b a _ _ hnba hnab]; exact hga
              have hga2 : (t.set b (.dir es)).get a = some (.dir es) := by
                rw [TreeLemmas.get_set_disjoint b a _ _ hnba hnab]; exact hga
              have hm : mergeDir a b (t.set b (.dir [])) = some (t.set b (.dir es)) := by
                simp only [mergeDir, hga1, hs1, mergeEnts_nil hes, Option.map_some, setAt, hbne, if_false,
                  TreeLemmas.set_set_same]
              simp [makedirSpec, hne', hg', hp', parentOf, hm, removetreeSpec, hga2, hane, upd]
          · rcases n' with data' | ds'
            · simp [makedirSpec, hne', hg', hp', fail]
            · simp only [makedirSpec, hne', hg', hp', if_false, if_true, Option.isSome_some, Bool.or_true, mergeDir, hga]
              cases hm : mergeEnts es ds' with
              | none => simp [fail]
              | some m =>
                have hga2 : (t.set b (.dir m)).get a = some (.dir es) := by
                  rw [TreeLemmas.get_set_disjoint b a _ _ hnba hnab]; exact hga
                simp [setAt, hbne, removetreeSpec, hga2, hane, upd]

end

end Fs.FtpStepLemmas
