/-
  Bridging lemmas: the general Python primitives of `FsModel/PyStr.lean` (what generated code uses)
  versus the slash-specialised helpers of the hand transcription `FsModel/Path.lean`; then facts about the
  primitives alone that the proofs about several generated modules share.  The last four are declared into
  `Fs.PathGenLemmas`, which their users open beside this namespace.
-/
import FsModel.PyStr
import FsProofs.Lemmas.PathLemmas

namespace Fs.PyStrLemmas
open Fs Fs.Path Fs.PyStr Fs.PathLemmas

theorem single_beq (c d : Char) : (([c] : Str) == [d]) = (c == d) :=
  Bool.and_true _

theorem pyLstrip_slash (s : Str) : pyLstrip ['/'] s = lstripSlash s := by
  induction s with
  | nil => rfl
  | cons c cs ih =>
    by_cases h : c = '/'
    · subst h; simp [pyLstrip, lstripSlash, ih]
    · simp [pyLstrip, lstripSlash, h]

theorem pyRstrip_slash (s : Str) : pyRstrip ['/'] s = rstripSlash s := by
  simp [pyRstrip, rstripSlash, pyLstrip_slash]

theorem pyStrip_slash (s : Str) : pyStrip ['/'] s = stripSlash s := by
  simp [pyStrip, stripSlash, pyLstrip_slash, pyRstrip_slash]

theorem pyEndsWith_slash (s : Str) : pyEndsWith s ['/'] = endsWithSlash s := by
  simp [pyEndsWith, endsWithSlash, startsWith_slash]

/-- `[c] in s` is membership of the character -/
theorem pyIn_char (c : Char) (s : Str) : pyIn [c] s = s.contains c := by
  induction s with
  | nil => rfl
  | cons x xs ih =>
    simp only [pyIn, ih, startsWith_single]
    by_cases h : x = c
    · simp [h]
    · simp [h, Ne.symm h]

theorem pyIn_nil (s : Str) : pyIn [] s = true := by
  cases s <;> simp [pyIn, startsWith_nil]

/-- `p in "/"` -/
theorem pyIn_slash (p : Str) : pyIn p ['/'] = (p == [] || p == ['/']) := by
  match p with
  | [] => rfl
  | [c] => simp [pyIn, Path.startsWith, BEq.comm (a := '/') (b := c)]
  | c :: d :: r => simp [pyIn, Path.startsWith]

/-- `c in ".."` -/
theorem pyIn_dotdot (c : Str) : pyIn c ['.', '.'] = inDotDot c := by
  match c with
  | [] => rfl
  | [a] => simp [pyIn, Path.startsWith, inDotDot, BEq.comm (a := '.') (b := a)]
  | [a, b] =>
    simp [pyIn, Path.startsWith, inDotDot, BEq.comm (a := '.') (b := a), BEq.comm (a := '.') (b := b)]
  | a :: b :: d :: r => simp [pyIn, Path.startsWith, inDotDot]

/-! ### primitives used by the Mode translation -/

theorem pyReplace_nil (s : Str) (c : Char) : pyReplace s c [] = s.filter (fun x => x != c) := by
  induction s with
  | nil => rfl
  | cons x xs ih =>
    have ih' : List.flatMap (fun x => if x = c then [] else [x]) xs = List.filter (fun x => x != c) xs := ih
    by_cases h : x = c
    · simp [pyReplace, h] at ih' ⊢; exact ih'
    · simp [pyReplace, h] at ih' ⊢; exact ih'

theorem pySumBool_map {α} (l : List α) (f : α → Bool) : pySumBool (l.map f) = (l.filter f).length := by
  induction l with
  | nil => rfl
  | cons x xs ih =>
    simp only [pySumBool] at ih ⊢
    cases h : f x <;> simp [h, ih]

theorem eraseDups_length_le : ∀ l : List Char, l.eraseDups.length ≤ l.length
  | [] => by simp
  | a :: as => by
    have h1 := List.length_filter_le (fun b => !b == a) as
    have h2 := eraseDups_length_le (List.filter (fun b => !b == a) as)
    rw [List.eraseDups_cons]
    simp only [List.length_cons]
    omega
termination_by l => l.length
decreasing_by simp only [List.length_cons]; omega

theorem eraseDups_length_eq_iff (l : List Char) : l.eraseDups.length = l.length ↔ l.Nodup := by
  induction l with
  | nil => simp
  | cons a as ih =>
    rw [List.eraseDups_cons, List.nodup_cons]
    simp only [List.length_cons]
    have hle := eraseDups_length_le (List.filter (fun b => !b == a) as)
    have hfl := List.length_filter_le (fun b => !b == a) as
    -- the lengths agree only if the filter drops nothing, that is, `a` does not occur again
    have hfe : a ∉ as → List.filter (fun b => !b == a) as = as := fun ha =>
      List.filter_eq_self.mpr fun x hx => by
        have : x ≠ a := fun e => ha (e ▸ hx)
        simp [this]
    constructor
    · intro he
      have ha : a ∉ as := fun ha => by
        have := (List.length_filter_lt_length_iff_exists (p := fun b => !b == a) (l := as)).2 ⟨a, ha, by simp⟩
        omega
      rw [hfe ha] at he
      exact ⟨ha, ih.1 (by omega)⟩
    · rintro ⟨ha, hnd⟩
      rw [hfe ha, ih.2 hnd]

theorem not_nodup_eq (l : List Char) : (!decide l.Nodup) = (l.eraseDups.length != l.length) := by
  by_cases hN : l.Nodup
  · have := (eraseDups_length_eq_iff l).2 hN
    simp [hN, this]
  · have : ¬ (l.eraseDups.length = l.length) := fun e => hN ((eraseDups_length_eq_iff l).1 e)
    simp [hN, this]

/-! ### indices, slices, `find` -/

theorem pyIdx_neg_one_snoc {α} (i : List α) (x : α) : pyIdx (i ++ [x]) (-1 : Int) = .ok x := by
  simp [pyIdx]

theorem pyPop_snoc {α} (i : List α) (x : α) : pyPop (i ++ [x]) = .ok (i, x) := by
  simp [pyPop]

theorem findGo_of_mem (c : Char) (xs : Str) (k : Nat) (h : c ∈ xs) :
    ∃ j, findGo c xs k = some j ∧ k ≤ j ∧ j < k + xs.length := by
  induction xs generalizing k with
  | nil => cases h
  | cons x xs ih =>
    by_cases hx : x = c
    · exact ⟨k, by simp [findGo, hx], Nat.le_refl _, by simp⟩
    · have hm : c ∈ xs := by
        cases h with
        | head => exact absurd rfl hx
        | tail _ h' => exact h'
      obtain ⟨j, hj, h1, h2⟩ := ih (k + 1) hm
      exact ⟨j, by simp [findGo, hx, hj], by omega, by simp; omega⟩

theorem clampIdx_ofNat (len n : Nat) (h : n ≤ len) : clampIdx len (Int.ofNat n) = n := by
  have h0 : ¬ (Int.ofNat n < 0) := by simp
  simp only [clampIdx, h0, if_false]
  exact Nat.min_eq_left h

theorem pySliceTo_ofNat {α} (s : List α) (i : Nat) (h : i ≤ s.length) :
    pySliceTo s (Int.ofNat i) = s.take i := by
  rw [pySliceTo, clampIdx_ofNat _ _ h]

theorem skip_eq_drop {β} (f : Str → Nat → β) (h0 : ∀ k, f [] k = f [] 0) (hs : ∀ c cs k, f (c :: cs) (k + 1) = f cs k)
    (s : Str) (k : Nat) : f s k = f (s.drop k) 0 := by
  induction s generalizing k with
  | nil => rw [List.drop_nil]; exact h0 k
  | cons c r ih =>
    cases k with
    | zero => rfl
    | succ k => rw [hs, List.drop_succ_cons]; exact ih k

theorem pyJoinS_nil (l : List Str) : pyJoinS [] l = l.flatten := by
  induction l with
  | nil => rfl
  | cons a r ih =>
    cases r with
    | nil => simp [pyJoinS]
    | cons b r' => simp only [pyJoinS, List.append_nil, List.flatten_cons] at ih ⊢; rw [ih]

/-! ### subscripts with a natural-number index -/

theorem pyIdx_ofNat {α} (l : List α) (j : Nat) :
    pyIdx l (Int.ofNat j) = match l[j]? with | some x => .ok x | none => .err .IndexError := by
  have h0 : ¬ (Int.ofNat j < 0) := by simp
  simp only [pyIdx, h0, if_false]
  rfl

theorem pyStrIdx_ofNat (s : Str) (j : Nat) :
    pyStrIdx s (Int.ofNat j) = match s[j]? with | some c => .ok [c] | none => .err .IndexError := by
  simp only [pyStrIdx, pyIdx_ofNat]
  cases s[j]? <;> rfl

theorem pyJoinS_pyChars (s : Str) : pyJoinS [] (pyChars s) = s := by
  rw [pyJoinS_nil]
  induction s with
  | nil => rfl
  | cons c r ih => simp only [pyChars, List.map_cons, List.flatten_cons] at ih ⊢; rw [ih]; rfl

theorem map_zip_pyChars {α} (P : α → Bool) (ns : List α) (cs : Str) :
    (List.zip ns (pyChars cs)).map (fun it' => if P it'.1 then it'.2 else ['-']) =
      pyChars ((List.zip ns cs).map fun nc => if P nc.1 then nc.2 else '-') := by
  simp only [pyChars, List.zip_map_right, List.map_map]
  apply List.map_congr_left
  intro nc _
  simp only [Function.comp, Prod.map, id]
  cases P nc.1 <;> rfl

end Fs.PyStrLemmas

namespace Fs.PathGenLemmas
open Fs Fs.PyStr

theorem pyIdx_two_0 {α} (a b : α) : pyIdx [a, b] (0 : Int) = .ok a := rfl

theorem pyIdx_two_1 {α} (a b : α) : pyIdx [a, b] (1 : Int) = .ok b := rfl

theorem pyStrIdx_cons_zero (c : Char) (r : Str) : pyStrIdx (c :: r) (0 : Int) = .ok [c] := rfl

theorem pyRepeat_single {α} (x : α) (a b : Nat) :
    pyRepeat [x] (Int.ofNat a - Int.ofNat b) = List.replicate (a - b) x := by
  simp [pyRepeat]

end Fs.PathGenLemmas
