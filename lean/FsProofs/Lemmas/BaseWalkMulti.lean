/-
  A MultiFS with ONE layer (its write layer) over a filesystem `F` that refines the reference — every call the
  base-class bulk algorithms make on the MultiFS object (`MultiFs.prim F`) follows the reference's primitive on the
  layer's tree (`PrimSim`, and `PrimAdm` for the calls before the first write).
-/
import FsProofs.Lemmas.BaseWalkAdm
import FsProofs.Lemmas.MultiFsSingle

namespace Fs.BaseWalkMulti
open Fs Fs.Path Fs.Ref Fs.BaseWalk Fs.BaseWalkPrim Fs.BaseWalkRm Fs.BaseWalkLift Fs.BaseWalkSim Fs.BaseWalkAdm Fs.WrapRefines
  Fs.MultiFs Fs.MultiFsLemmas

/-- `MultiFsLemmas.Single` without `good` -/
structure Cfg (s : MState State) (l : Layer State) : Prop where
  lay : s.layers = [l]
  wr : s.writeIdx = some l.idx
  opn : s.closed = false

section
variable {s : MState State} {l : Layer State}

theorem single_put (C : Cfg s l) (t : State) (G : GoodS t) : Single (put1 s l t) { l with st := t } :=
  ⟨rfl, C.wr, C.opn, good_of t G⟩

theorem put1_put1 (t t' : State) : put1 (put1 s l t) { l with st := t } t' = put1 s l t' := rfl

theorem callAdm_of_sim1 {t : State} {op : Op} {r : MState State × Out}
    (h : Sim1 (put1 s l t) { l with st := t } op r) : CallAdm (put1 s l) t op r := by
  rcases h with ⟨hok, hr⟩ | ⟨e0, e', he, hr, ha⟩
  · refine ⟨fun t' v h0 => ?_, fun e he => ?_⟩
    · rw [hr]
      show (put1 s l (Ref.step t op).1, (Ref.step t op).2) = _
      rw [h0]
    · have hok' : (Ref.step t op).2.isOk = true := hok
      rw [he] at hok'
      cases hok'
  · refine ⟨fun t' v h0 => ?_, fun e _ => ⟨e', hr, ha⟩⟩
    have he' : (Ref.step t op).2 = .err e0 := he
    rw [h0] at he'
    cases he'

/-- The fuel argument of `stepOpen` is read by the walkers only; `0` stands for any. -/
theorem sim1_of_step (F : FS State) (hF : RefinesRef F) (C : Cfg s l) (t : State) (G : GoodS t) (op : Op)
    (hop : op ≠ .close) (hwk : walker op = false) :
    Sim1 (put1 s l t) { l with st := t } op (stepOpen 0 F (put1 s l t) op) := by
  rw [← step_open 0 F (put1 s l t) C.opn op hop]
  exact sim1_step 0 F hF (put1 s l t) { l with st := t } (single_put C t G) op hop hwk

theorem query_single (F : FS State) (hF : RefinesRef F) (C : Cfg s l) (t : State) (G : GoodS t) (op : Op) (p : Str)
    (hop : op = .listdir p ∨ op = .getinfo p) :
    (∃ v, Ref.step t op = (t, .ok v) ∧ callLayer F (put1 s l t) 0 op = (put1 s l t, .ok v)) ∨
    (∃ e e', Ref.step t op = (t, .err e) ∧ callLayer F (put1 s l t) 0 op = (put1 s l t, .err e')) := by
  have S := single_put C t G
  have hq := RouteLemmas.step_query_state t op (by rcases hop with rfl | rfl <;> rfl)
  have hb : bulk op = false := by rcases hop with rfl | rfl <;> rfl
  rcases callLayer_cases F hF (put1 s l t) (single_allGood S) 0 _ (single_layer0 S) op hb with ⟨hok, h⟩ | ⟨e, e', hr, h, _⟩
  · rcases hr : Ref.step t op with ⟨t1, v | e⟩
    · rw [hr] at hq
      cases hq
      exact Or.inl ⟨v, rfl, by rw [h]; simp only [hr]; rfl⟩
    · have hok' : (Ref.step t op).2.isOk = true := hok
      rw [hr] at hok'
      cases hok'
  · exact Or.inr ⟨e, e', hr, h⟩

/-- the `Info`s of the only layer: the names were not seen before (they are distinct), so `MultiFS._scandir`'s
filter lets all of them through — the base-class `scandir` of the layer -/
theorem scanNames_single (F : FS State) (hF : RefinesRef F) (C : Cfg s l) (t : State) (G : GoodS t) (p : Str) :
    ∀ (ns seen : List Name) (acc : List ScanInfo), ns.Nodup → (∀ x ∈ ns, x ∉ seen) →
      match (BaseWalk.scanNames Ref.step p ns acc t).2 with
      | .ok acc' => ∃ seen', MultiFs.scanNames F 0 p ns seen acc (put1 s l t) = (put1 s l t, .ok (seen', acc'))
      | .err _ => ∃ e', MultiFs.scanNames F 0 p ns seen acc (put1 s l t) = (put1 s l t, .err e')
  | [], seen, acc, _, _ => ⟨_, rfl⟩
  | n :: ns, seen, acc, hnd, hns => by
    have hn : n ∉ seen := hns n (by simp)
    have hnd' := List.nodup_cons.1 hnd
    simp only [BaseWalk.scanNames, MultiFs.scanNames, hn, if_false]
    rcases query_single F hF C t G (.getinfo (combine p n)) _ (Or.inr rfl) with
      ⟨v, hr, hcl⟩ | ⟨e, e', hr, hcl⟩ <;> rw [hr, hcl]
    · cases v with
      | info nm d sz =>
        refine scanNames_single F hF C t G p ns (seen ++ [n]) (acc ++ [(n, d, sz)]) hnd'.2 fun x hx hmem => ?_
        rcases List.mem_append.1 hmem with h | h
        · exact hns x (by simp [hx]) h
        · cases List.mem_singleton.1 h
          exact hnd'.1 hx
      | _ => exact ⟨_, rfl⟩
    · exact ⟨_, rfl⟩

theorem listdir_ok (t : State) (G : GoodS t) (p : Str) (v : Val) (h : (Ref.step t (.listdir p)).2 = .ok v) :
    ∃ ns, v = .names ns ∧ ns.Nodup := by
  rw [QueryLemmas.step_one t _ p G.opn rfl (by intro q m e; cases e)] at h
  cases hv : validate p with
  | err e => rw [hv] at h; cases h
  | ok cs =>
    rw [hv] at h
    simp only [step1] at h
    rcases hg : t.root.get cs with _ | ⟨fb | es⟩ <;> rw [hg] at h <;> cases h
    exact ⟨_, rfl, TreeLemmas.names_nodup (TreeLemmas.entsWf_of_get G.wf hg)⟩

/-- on one layer, whatever the class its `listdir` fails with, `scandir` fails with it
(ResourceNotFound: then no layer has listed the path; DirectoryExpected: none had before) -/
theorem scanM_single_err {S : MState State} (F : FS State) (ho : order S = [0]) (p : Str) (e : Err)
    (h : callLayer F S 0 (.listdir p) = (S, .err e)) : scanM F S p = (S, .err e) := by
  simp only [scanM, ho, scanLoop, h]
  cases e <;> rfl

/-- `MultiFS.scandir` on one layer follows the reference's base-class `scandir` of the layer's tree -/
theorem scanM_single (F : FS State) (hF : RefinesRef F) (C : Cfg s l) (t : State) (G : GoodS t) (p : Str) :
    LiftE (put1 s l) (scanM F (put1 s l t) p) (scanOf Ref.step t p) := by
  have S := single_put C t G
  rcases query_single F hF C t G (.listdir p) p (Or.inl rfl) with ⟨v, hr, hcl⟩ | ⟨e, e', hr, hcl⟩
  · simp only [scanM, single_order S, scanLoop, scanOf, hr, hcl]
    obtain ⟨ns, rfl, hnd⟩ := listdir_ok t G p v (by rw [hr])
    have h := scanNames_single F hF C t G p ns [] [] hnd (by simp)
    have hst := scanNames_state t p ns []
    rcases hs : BaseWalk.scanNames Ref.step p ns [] t with ⟨t', acc' | e⟩ <;> rw [hs] at h hst <;>
      simp only at h hst <;> subst hst <;> obtain ⟨x, hm⟩ := h <;> simp only [hm]
    · exact Or.inl ⟨t', acc', hs, rfl⟩
    · exact Or.inr ⟨t', e, x, hs, rfl⟩
  · rw [scanM_single_err F (single_order S) p e' hcl]
    simp only [scanOf, hr]
    exact liftE_err _ t e e'

theorem prim_single (F : FS State) (hF : RefinesRef F) (C : Cfg s l) :
    PrimSim (MultiFs.prim F) (put1 s l) ∧ PrimAdm (MultiFs.prim F) (put1 s l) := by
  -- `prim F` is unfolded once, so that each field is compared with the method it names; `sim1_of_step` at an operation
  -- fits because `stepOpen 0 F S op` reduces to that method (`existsM`, `onWrite`, `copyM`, `onDelegate`) by `rfl`
  unfold MultiFs.prim
  have call := fun t G op hop hwk => callAdm_of_sim1 (sim1_of_step F hF C t G op hop hwk)
  exact prim_of_calls _ (put1 s l)
    (fun t p G =>
      have S := single_put C t G
      validateM_eq F hF _ (single_allGood S) p 0 (single_writePos S) (by simp [put1]))
    (fun t p G => call t G (.exists_ p) (by intro h; cases h) rfl)
    (fun t p G => call t G (.getinfo p) (by intro h; cases h) rfl)
    (fun t p G => call t G (.makedir p true) (by intro h; cases h) rfl)
    (fun t p G => call t G (.makedirs p true) (by intro h; cases h) rfl)
    (fun t a b G => call t G (.copy a b true) (by intro h; cases h) rfl)
    (fun t p G => call t G (.remove p) (by intro h; cases h) rfl)
    (fun t p G => call t G (.removedir p) (by intro h; cases h) rfl)
    (fun t p G => scanM_single F hF C t G p)
    (fun t p e G he => by
      have S := single_put C t G
      show ∃ e', scanM F (put1 s l t) p = _ ∧ _
      rcases callLayer_cases F hF (put1 s l t) (single_allGood S) 0 _ (single_layer0 S) (.listdir p) rfl with
        ⟨hok, _⟩ | ⟨e0, e', _, hcl, ha⟩
      · simp only at hok; rw [he] at hok; cases hok
      · exact ⟨e', scanM_single_err F (single_order S) p e' hcl, ha⟩)

theorem primSim_single (F : FS State) (hF : RefinesRef F) (C : Cfg s l) : PrimSim (MultiFs.prim F) (put1 s l) :=
  (prim_single F hF C).1

theorem primAdm_single (F : FS State) (hF : RefinesRef F) (C : Cfg s l) : PrimAdm (MultiFs.prim F) (put1 s l) :=
  (prim_single F hF C).2

end

end Fs.BaseWalkMulti
