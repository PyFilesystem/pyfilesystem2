/-
  The reference semantics is LOCAL to the top-level entries its paths go through
  (for `MultiRefines.multi_mutators_refine_when_unshadowed`).

  `step_local`: on two trees that hold the same entry under every top-level name in `P` (`AgreeOn P`), an operation
  whose paths go through names in `P` gives the same answer, the resulting trees agree on `P`, and every top-level
  entry outside `P` of either tree is untouched (`Local`); `adm_local`: the same admissible classes.  One path goes
  by `step1_of_alike` (StepAct.lean) and what each act does to the entry, two paths by `step2_act` (StepAct2.lean).
-/
import FsProofs.Lemmas.TreeLemmas
import FsProofs.Lemmas.QueryLemmas
import FsProofs.Lemmas.StepAct2

namespace Fs.MultiFsLemmas
open Fs Fs.Ref

/-! ### trees that agree under one top-level name -/

/-- two directory trees that hold the same entry (sub-tree) under the top-level name `c` -/
def AgreeAt (c : Name) (t u : Node) : Prop :=
  ∃ et eu, t = .dir et ∧ u = .dir eu ∧ Ents.lookup c et = Ents.lookup c eu

/-- the top-level entry `k` of a tree -/
def topOf (t : Node) (k : Name) : Option Node := Ents.lookup k t.entries

/-- the top-level names of a tree do not repeat -/
def NodupTop (t : Node) : Prop := (Ents.names t.entries).Nodup

theorem agree_get {c : Name} {t u : Node} (h : AgreeAt c t u) (rest : List Name) :
    t.get (c :: rest) = u.get (c :: rest) := by
  obtain ⟨et, eu, rfl, rfl, hl⟩ := h
  rw [TreeLemmas.get_cons_dir, TreeLemmas.get_cons_dir, hl]

theorem agree_kind {c : Name} {t u : Node} (h : AgreeAt c t u) (rest q : List Name) (hq : q <+: c :: rest) :
    (t.get q).map Node.isDir = (u.get q).map Node.isDir := by
  cases q with
  | nil => obtain ⟨et, eu, rfl, rfl, _⟩ := h; rfl
  | cons c' q' =>
    obtain ⟨rfl, _⟩ := List.cons_prefix_cons.1 hq
    rw [agree_get h]

theorem alike_agree {c : Name} {t u : Node} (h : AgreeAt c t u) (rest : List Name) :
    Alike t (c :: rest) u (c :: rest) where
  node := congrArg see (agree_get h rest)
  parent := agree_kind h rest _ (List.dropLast_prefix _)
  blocked := blocked_of_kinds _ [] (agree_kind h rest)
  root := Iff.rfl
  last := rfl

/-- `TreeLemmas.alterAt` covers `Node.set` and `Node.del` below the top-level name `c` -/
theorem top_alterAt {f : Name → Ents → Ents} (hf : ∀ c k es, k ≠ c → Ents.lookup k (f c es) = Ents.lookup k es)
    (t : Node) (c : Name) (rest : List Name) (k : Name) (hk : k ≠ c) :
    topOf (TreeLemmas.alterAt f (c :: rest) t) k = topOf t k := by
  cases t with
  | file b => simp [TreeLemmas.alterAt]
  | dir et =>
    cases rest with
    | nil => exact hf c k et hk
    | cons d r =>
      simp only [TreeLemmas.alterAt]
      cases Ents.lookup c et with
      | none => rfl
      | some ch => exact TreeLemmas.lookup_put_other _ _ _ _ hk

/-- `hf`: when the entry `c` itself is altered -/
theorem agree_alterAt {f : Name → Ents → Ents} {c : Name} {et eu : Ents} (hl : Ents.lookup c et = Ents.lookup c eu)
    (rest : List Name) (hf : Ents.lookup c (f c et) = Ents.lookup c (f c eu)) :
    AgreeAt c (TreeLemmas.alterAt f (c :: rest) (.dir et)) (TreeLemmas.alterAt f (c :: rest) (.dir eu)) := by
  cases rest with
  | nil => exact ⟨_, _, rfl, rfl, hf⟩
  | cons d r =>
    simp only [TreeLemmas.alterAt]
    rw [← hl]
    cases hc : Ents.lookup c et with
    | none => exact ⟨et, eu, rfl, rfl, hl⟩
    | some ch => exact ⟨_, _, rfl, rfl, by rw [TreeLemmas.lookup_put_same, TreeLemmas.lookup_put_same]⟩

theorem agree_set {c : Name} {t u : Node} (h : AgreeAt c t u) (rest : List Name) (n : Node) :
    AgreeAt c (t.set (c :: rest) n) (u.set (c :: rest) n) := by
  obtain ⟨et, eu, rfl, rfl, hl⟩ := h
  rw [TreeLemmas.set_eq_alterAt, TreeLemmas.set_eq_alterAt]
  exact agree_alterAt hl rest (by rw [TreeLemmas.lookup_put_same, TreeLemmas.lookup_put_same])

theorem top_set (t : Node) (c : Name) (rest : List Name) (n : Node) (k : Name) (hk : k ≠ c) :
    topOf (t.set (c :: rest) n) k = topOf t k := by
  rw [TreeLemmas.set_eq_alterAt]
  exact top_alterAt (fun c k es hk => TreeLemmas.lookup_put_other c k n es hk) t c rest k hk

theorem lookup_erase_nodup (c : Name) : ∀ (es : Ents), (Ents.names es).Nodup → Ents.lookup c (Ents.erase c es) = none
  | [], _ => rfl
  | (k, v) :: es, hn => by
    obtain ⟨h1, h2⟩ := List.nodup_cons.1 (show (k :: Ents.names es).Nodup from hn)
    by_cases hk : k = c
    · subst hk
      simp only [Ents.erase, if_true]
      exact Decidable.of_not_not fun h => h1 ((TreeLemmas.mem_names_iff k es).2 h)
    · simp only [Ents.erase, hk, if_false, Ents.lookup]
      exact lookup_erase_nodup c es h2

theorem agree_del {c : Name} {t u : Node} (h : AgreeAt c t u) (ht : NodupTop t) (hu : NodupTop u)
    (rest : List Name) : AgreeAt c (t.del (c :: rest)) (u.del (c :: rest)) := by
  obtain ⟨et, eu, rfl, rfl, hl⟩ := h
  rw [TreeLemmas.del_eq_alterAt, TreeLemmas.del_eq_alterAt]
  exact agree_alterAt hl rest (by rw [lookup_erase_nodup c et ht, lookup_erase_nodup c eu hu])

theorem top_del (t : Node) (c : Name) (rest : List Name) (k : Name) (hk : k ≠ c) :
    topOf (t.del (c :: rest)) k = topOf t k := by
  rw [TreeLemmas.del_eq_alterAt]
  exact top_alterAt (fun c k es hk => TreeLemmas.lookup_erase_other c k es hk) t c rest k hk

theorem agree_mkdirs_pre {c : Name} : ∀ (cs pre : List Name) (t u : Node), AgreeAt c t u →
    AgreeAt c (mkdirs (c :: pre) cs t) (mkdirs (c :: pre) cs u) := by
  intro cs
  induction cs with
  | nil => intro _ t u h; exact h
  | cons d cs ih =>
    intro pre t u h
    simp only [mkdirs, List.cons_append]
    rw [← agree_get h (pre ++ [d])]
    cases t.get (c :: (pre ++ [d])) with
    | none => exact ih (pre ++ [d]) _ _ (agree_set h (pre ++ [d]) _)
    | some x => exact ih (pre ++ [d]) _ _ h

theorem agree_mkdirs {c : Name} {t u : Node} (h : AgreeAt c t u) (rest : List Name) :
    AgreeAt c (mkdirs [] (c :: rest) t) (mkdirs [] (c :: rest) u) := by
  simp only [mkdirs, List.nil_append]
  rw [← agree_get h []]
  cases t.get [c] with
  | none => exact agree_mkdirs_pre rest [] _ _ (agree_set h [] _)
  | some x => exact agree_mkdirs_pre rest [] _ _ h

theorem top_mkdirs (t : Node) (c : Name) (rest : List Name) (k : Name) (hk : k ≠ c) :
    topOf (mkdirs [] (c :: rest) t) k = topOf t k :=
  TreeLemmas.mkdirs_induct (P := fun u => topOf u k = topOf t k) (c :: rest) [] t
    (fun u q hq hne _ h => by
      cases q with
      | nil => exact absurd rfl hne
      | cons c' q' =>
        obtain ⟨rfl, _⟩ := List.cons_prefix_cons.1 hq
        exact (top_set u c' q' _ k hk).trans h) rfl

/-- the admissible classes of a one-path operation are local too -/
theorem adm1_agree {c : Name} {t u : Node} (h : AgreeAt c t u) (rest : List Name) (op : Op) :
    adm1 t (c :: rest) op = adm1 u (c :: rest) op :=
  adm1_of_alike (alike_agree h rest) op

theorem get_top {t : Node} (ht : t.isDir = true) (k : Name) : t.get [k] = topOf t k := by
  cases t with
  | file _ => cases ht
  | dir es => simp only [Node.get, topOf, Node.entries]; cases Ents.lookup k es <;> rfl

theorem get_of_top {t u : Node} (ht : t.isDir = true) (hu : u.isDir = true) (k : Name)
    (h : topOf t k = topOf u k) (q : List Name) : t.get (k :: q) = u.get (k :: q) := by
  cases t with
  | file _ => cases ht
  | dir et =>
    cases u with
    | file _ => cases hu
    | dir eu =>
      simp only [topOf, Node.entries] at h
      rw [TreeLemmas.get_cons_dir, TreeLemmas.get_cons_dir, h]

/-! ### trees that agree on a SET of top-level names -/

def AgreeOn (P : Name → Prop) (t u : Node) : Prop :=
  t.isDir = true ∧ u.isDir = true ∧ ∀ k, P k → topOf t k = topOf u k

def PathIn (P : Name → Prop) (cs : List Name) : Prop := ∃ c rest, cs = c :: rest ∧ P c

/-- the conclusion of locality -/
structure Local (P : Name → Prop) (t u : State) (rt ru : State × Out) : Prop where
  out : rt.2 = ru.2
  agree : AgreeOn P rt.1.root ru.1.root
  left : ∀ k, ¬ P k → topOf rt.1.root k = topOf t.root k
  right : ∀ k, ¬ P k → topOf ru.1.root k = topOf u.root k

section
variable {P : Name → Prop}

theorem AgreeOn.at {t u : Node} (h : AgreeOn P t u) {c : Name} (hc : P c) : AgreeAt c t u := by
  obtain ⟨ht, hu, hk⟩ := h
  cases t with
  | file _ => cases ht
  | dir et =>
    cases u with
    | file _ => cases hu
    | dir eu => exact ⟨et, eu, rfl, rfl, hk c hc⟩

/-- all that `step2` and `adm` look at on a path -/
theorem AgreeOn.along {t u : Node} (h : AgreeOn P t u) {cs : List Name} (hcs : PathIn P cs) :
    (t.get cs).map shallow = (u.get cs).map shallow ∧ parentKind t cs = parentKind u cs ∧
    blockedByFile t [] cs = blockedByFile u [] cs := by
  obtain ⟨c, rest, rfl, hc⟩ := hcs
  have ha := alike_agree (h.at hc) rest
  exact ⟨by rw [agree_get (h.at hc)], ha.parent, ha.blocked⟩

theorem AgreeOn.kinds {t u : Node} (h : AgreeOn P t u) {cs : List Name} (hcs : PathIn P cs) :
    kindAt t cs = kindAt u cs ∧ kindAt t (parentOf cs) = kindAt u (parentOf cs) ∧
    blockedByFile t [] cs = blockedByFile u [] cs := by
  obtain ⟨h1, h2, h3⟩ := h.along hcs
  exact ⟨by rw [kindAt_eq, kindAt_eq]; exact kind_of_shallow h1, by rw [kindAt_eq, kindAt_eq]; exact h2, h3⟩

theorem Local.same {t u : State} (h : AgreeOn P t.root u.root) (o : Out) : Local P t u (t, o) (u, o) :=
  ⟨rfl, h, fun _ _ => rfl, fun _ _ => rfl⟩

theorem Local.under {t u : State} (h : AgreeOn P t.root u.root) {c : Name} (hc : P c) {t' u' : Node} (o : Out)
    (hA : AgreeAt c t' u') (ht : ∀ k, k ≠ c → topOf t' k = topOf t.root k)
    (hu : ∀ k, k ≠ c → topOf u' k = topOf u.root k) :
    Local P t u ({ t with root := t' }, o) ({ u with root := u' }, o) := by
  have hne : ∀ k, ¬ P k → k ≠ c := fun k hk e => hk (e ▸ hc)
  obtain ⟨et, eu, rfl, rfl, hl⟩ := hA
  refine ⟨rfl, ⟨rfl, rfl, fun k hk => ?_⟩, fun k hk => ht k (hne k hk), fun k hk => hu k (hne k hk)⟩
  by_cases hkc : k = c
  · subst hkc; exact hl
  · rw [ht k hkc, hu k hkc]; exact h.2.2 k hk

theorem applyAct_local {t u : State} (hA : AgreeOn P t.root u.root) (ht : NodupTop t.root) (hu : NodupTop u.root)
    {cs : List Name} (hcs : PathIn P cs) {a : Act} (ha : a ≠ .clear) :
    Local P t u (applyAct t cs a) (applyAct u cs a) := by
  obtain ⟨c, rest, rfl, hcs⟩ := hcs
  have hc := hA.at hcs
  cases a with
  | fail e => exact Local.same hA _
  | done v => exact Local.same hA _
  | clear => exact absurd rfl ha
  | set n v => exact Local.under hA hcs _ (agree_set hc rest n) (top_set t.root c rest n) (top_set u.root c rest n)
  | del v => exact Local.under hA hcs _ (agree_del hc ht hu rest) (top_del t.root c rest) (top_del u.root c rest)
  | mkdirs v =>
    exact Local.under hA hcs _ (agree_mkdirs hc rest) (top_mkdirs t.root c rest) (top_mkdirs u.root c rest)

theorem step1_local {t u : State} (hA : AgreeOn P t.root u.root) (ht : NodupTop t.root) (hu : NodupTop u.root)
    {cs : List Name} (hcs : PathIn P cs) (op : Op) : Local P t u (step1 t cs op) (step1 u cs op) := by
  obtain ⟨c, rest, rfl, hc⟩ := hcs
  exact step1_of_alike (alike_agree (hA.at hc) rest) fun a ha =>
    applyAct_local hA ht hu ⟨c, rest, rfl, hc⟩ (by rintro rfl; cases ha.1)

/-- **locality of the reference semantics**: on two trees that agree under the top-level name `c`, an
operation on a path through `c` gives the same answer, the resulting trees agree under `c`, and every other
top-level entry of either tree is what it was -/
theorem step1_agree (c : Name) (rest : List Name) (t u : State) (hA : AgreeAt c t.root u.root)
    (ht : NodupTop t.root) (hu : NodupTop u.root) (op : Op) :
    (step1 t (c :: rest) op).2 = (step1 u (c :: rest) op).2 ∧
    AgreeAt c (step1 t (c :: rest) op).1.root (step1 u (c :: rest) op).1.root ∧
    (∀ k, k ≠ c → topOf (step1 t (c :: rest) op).1.root k = topOf t.root k) ∧
    (∀ k, k ≠ c → topOf (step1 u (c :: rest) op).1.root k = topOf u.root k) := by
  have hA' : AgreeOn (· = c) t.root u.root := by
    obtain ⟨et, eu, h1, h2, h3⟩ := hA
    rw [h1, h2]; exact ⟨rfl, rfl, fun k hk => hk ▸ h3⟩
  have h := step1_local hA' ht hu ⟨c, rest, rfl, rfl⟩ op
  exact ⟨h.out, h.agree.at rfl, h.left, h.right⟩

theorem nodup_names_put (c : Name) (m : Node) : ∀ es : Ents, (Ents.names es).Nodup → (Ents.names (Ents.put c m es)).Nodup
  | [], _ => by simp [Ents.put, Ents.names]
  | (k, v) :: es, h => by
    obtain ⟨h1, h2⟩ := List.nodup_cons.1 (show (k :: Ents.names es).Nodup from h)
    by_cases hk : k = c
    · simpa [Ents.put, hk, Ents.names] using h
    · simp only [Ents.put, hk, if_false]
      show (k :: Ents.names (Ents.put c m es)).Nodup
      refine List.nodup_cons.2 ⟨fun hm => h1 ?_, nodup_names_put c m es h2⟩
      rwa [TreeLemmas.mem_names_iff, TreeLemmas.lookup_put_other _ _ _ _ hk, ← TreeLemmas.mem_names_iff] at hm

theorem nodupTop_set (t : Node) (cs : List Name) (n : Node) (h : NodupTop t) : NodupTop (t.set cs n) := by
  cases t with
  | file b => cases cs <;> simpa [Node.set] using h
  | dir es =>
    cases cs with
    | nil => exact h
    | cons c cs =>
      rcases MountTree.set_head_shape c cs es n with h' | ⟨X, h'⟩ <;> rw [h']
      · exact h
      · exact nodup_names_put c X es h

theorem step2_local {t u : State} (hA : AgreeOn P t.root u.root) (ht : NodupTop t.root) (hu : NodupTop u.root)
    {a b : List Name} (ha : PathIn P a) (hb : PathIn P b) (op : Op) (hbk : bulk op = false) :
    Local P t u (step2 t a b op) (step2 u a b op) := by
  rw [step2_act t a b op hbk, step2_act u a b op hbk, (hA.along ha).1, (hA.along hb).1, (hA.along hb).2.1]
  generalize act2 a b _ _ _ op = x
  cases x with
  | fail e => exact Local.same hA _
  | done v => exact Local.same hA _
  | copy d => exact applyAct_local hA ht hu hb (a := .set (.file d) .unit) nofun
  | move d =>
    have h1 := applyAct_local hA ht hu hb (a := .set (.file d) .unit) nofun
    have h2 := applyAct_local h1.agree (nodupTop_set _ _ _ ht) (nodupTop_set _ _ _ hu) ha (a := .del .unit) nofun
    exact ⟨h2.out, h2.agree, fun k hk => (h2.left k hk).trans (h1.left k hk),
      fun k hk => (h2.right k hk).trans (h1.right k hk)⟩

def OpIn (P : Name → Prop) (op : Op) : Prop := ∀ p ∈ op.paths, ∀ cs, validate p = .ok cs → PathIn P cs

/-- **locality of the reference step** -/
theorem step_local {t u : State} (hct : t.closed = false) (hcu : u.closed = false)
    (hA : AgreeOn P t.root u.root) (ht : NodupTop t.root) (hu : NodupTop u.root) (op : Op) (hop : op ≠ .close)
    (hb : bulk op = false) (hP : OpIn P op) : Local P t u (Ref.step t op) (Ref.step u op) := by
  -- the front does not look at the tree: `u` refuses or admits the call as `t` does
  cases QueryLemmas.front t op hct with
  | close h => exact absurd h hop
  | refused e hr hs _ => rw [hs, (QueryLemmas.refused hcu hr).1]; exact Local.same hA _
  | one p cs hp hr hv hs _ =>
    rw [hs, QueryLemmas.step_admitted hcu hp hv fun q m h => by
      subst h; obtain ⟨md, hmd⟩ := QueryLemmas.parse_of_admitted hr; rw [hmd]; rfl]
    exact step1_local hA ht hu (hP p (by simp [hp]) cs hv) op
  | two p q a b hp hva hvb hs _ =>
    rw [hs, (QueryLemmas.step_two_admitted hcu hp hva hvb).1]
    exact step2_local hA ht hu (hP p (by simp [hp]) a hva) (hP q (by simp [hp]) b hvb) op hb

theorem adm_local {t u : State} (hct : t.closed = false) (hcu : u.closed = false)
    (hA : AgreeOn P t.root u.root) (op : Op) (hb : bulk op = false) (hP : OpIn P op) : adm t op = adm u op := by
  have one : ∀ p cs, p ∈ op.paths → validate p = .ok cs → adm1 t.root cs op = adm1 u.root cs op := by
    intro p cs hm hv
    obtain ⟨c, rest, rfl, hc⟩ := hP p hm _ hv
    exact adm1_agree (hA.at hc) rest op
  rcases QueryLemmas.op_cases op with rfl | ⟨p, m, rfl⟩ | ⟨p, hp, hno⟩ | ⟨a, b, hab⟩
  · rfl
  · rw [QueryLemmas.adm_openbin t p m hct, QueryLemmas.adm_openbin u p m hcu]
    cases hv : validate p with
    | err e => rfl
    | ok cs => exact one p cs (by simp [Op.paths]) hv
  · rw [QueryLemmas.adm_one t op p hct hp hno, QueryLemmas.adm_one u op p hcu hp hno]
    cases hv : validate p with
    | err e => rfl
    | ok cs => exact one p cs (by simp [hp]) hv
  · rw [QueryLemmas.adm_two t op a b hct hab, QueryLemmas.adm_two u op a b hcu hab]
    have any : ∀ p cs, p ∈ op.paths → validate p = .ok cs → admAny t.root cs = admAny u.root cs := by
      intro p cs hm hv
      obtain ⟨hk, _, hb⟩ := hA.kinds (hP p hm cs hv)
      simp only [admAny, hk, hb]
    cases hva : validate a with
    | err e =>
      cases hvb : validate b with
      | err e' => rfl
      | ok cb => simp only [any b cb (by simp [hab]) hvb]
    | ok ca =>
      cases hvb : validate b with
      | err e' => simp only [any a ca (by simp [hab]) hva]
      | ok cb =>
        obtain ⟨hka, _, hba⟩ := hA.kinds (hP a (by simp [hab]) ca hva)
        obtain ⟨hkb, hkpb, hbb⟩ := hA.kinds (hP b (by simp [hab]) cb hvb)
        -- `adm2` reads these five facts for `move` and `copy` and lists nothing for a one-path operation; `movedir` and
        -- `copydir` are bulk (`hb`)
        cases op <;> first | (simp only [adm2, admFileArg, admFileTarget, hka, hba, hkb, hkpb, hbb]; done) | cases hb

end

end Fs.MultiFsLemmas
