/-
  Validated paths: `Ref.validate` is "no NUL, and the components resolve" (`validate_iff`).
  Namespace `Fs.TreeLemmas`: this is the part of TreeLemmas.lean that needs path strings (PathLemmas).
-/
import FsProofs.Lemmas.TreeLemmas
import FsProofs.Lemmas.PathLemmas

namespace Fs.TreeLemmas
open Fs Fs.Ref

/-! ### validate: every component of a validated path is a legal name -/

section Validate
open Fs.Path Fs.PathSpec Fs.PathLemmas

/-- every fact about the validation of a spelling is a fact about `resolve (splitSlash ·)` -/
theorem validate_iff {p : Str} {cs : List Name} :
    validate p = .ok cs ↔ '\x00' ∉ p ∧ resolve (splitSlash p) = some cs := by
  unfold validate
  by_cases hn : '\x00' ∈ p
  · rw [if_pos (by simpa using hn)]
    exact ⟨nofun, fun h => absurd hn h.1⟩
  · rw [if_neg (by simpa using hn), ConfineLemmas.iteratepath_eq_resolve]
    cases resolve (splitSlash p) <;> simp [hn]

theorem validate_clean (p : Str) (cs : List Name) (h : validate p = .ok cs) :
    ∀ c ∈ cs, cleanName c = true := by
  obtain ⟨h0, hr⟩ := validate_iff.1 h
  intro c hc'
  exact cleanName_iff.2 ⟨resolve_result_clean p cs hr c hc', fun hm => h0 (mem_of_mem_resolve hr c hc' _ hm)⟩

/-- a path that validates: its components are legal names and it normalises to their join -/
theorem validate_ok {p : Str} {cs : List Name} (h : validate p = .ok cs) :
    (∀ c ∈ cs, cleanName c = true) ∧ normpath p = .ok (mkp (startsWithSlash p) cs) :=
  ⟨validate_clean p cs h, ConfineLemmas.normpath_of_resolve p cs (validate_iff.1 h).2⟩

theorem validate_mkp (a : Bool) {cs : List Name} (h : ∀ c ∈ cs, cleanName c = true) :
    validate (mkp a cs) = .ok cs :=
  validate_iff.2 ⟨not_mem_mkp (by decide) a fun c hc => (cleanName_iff.1 (h c hc)).2,
    resolve_splitOn_mkp (clean_of_cleanName h)⟩

end Validate

end Fs.TreeLemmas
