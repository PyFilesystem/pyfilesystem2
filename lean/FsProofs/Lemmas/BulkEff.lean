/-
  C09 helper: what a step of the producer does to the shared state and to what the producer holds.

  The 19 transitions of `PTrans` inside the loop fall into four kinds as far as the invariants of `Inv` can tell:
    raise    the loop body raises: everything the producer held is closed / done / dropped, then `stop()`
    advance  the producer works on the task it holds (open, body step): same tasks, one handle more or less
    handOver `queue.put(task)`: the task and its two handles go to the queue
    finish   the inline transfer of a task is over: the task goes to `done`
  and the six steps of `Copier.stop()` / `__exit__` (`SEff`), during which the producer holds nothing.
  `PTrans.eff` sorts the transitions into these kinds; the invariants of `Inv` are then preserved by cases on `PEff`.
  `PEff` says nothing of the event of a step, of the guard it passed or of the bytes it wrote, so what speaks of
  these (`Dest`, the failure counter, "no fault injected, no failure") goes over `PTrans` directly.
-/
import FsProofs.Lemmas.BulkInv

namespace Fs.BulkLemmas
open Fs Fs.Bulk

/-- the producer is inside the `for` loop (it may hold a task); otherwise it is in `stop()`/`__exit__` -/
def inLoop : Prod → Bool
  | .loop .. | .srcOpen .. | .failClose .. | .bothOpen .. | .inl .. => true
  | _ => false

theorem inLoop_counters {c : Cfg} {p : Prod} (h : inLoop p = true) :
    sentPut c.n p = 0 ∧ joined c.n p = 0 := by
  cases p <;> first | exact ⟨rfl, rfl⟩ | cases h

theorem inLoop_flags {p : Prod} (h : inLoop p = true) :
    raised p = false ∧ p.isFinished = false ∧ ptList p = [] := by
  cases p <;> first | exact ⟨rfl, rfl, rfl⟩ | cases h

theorem notLoop_holds {c : Cfg} {p : Prod} (h : inLoop p = false) :
    p.pending = [] ∧ p.inflight = [] ∧ prodHandles c p = [] := by
  cases p <;> first | exact ⟨rfl, rfl, rfl⟩ | cases h

theorem perm_inl_tasks (i : Nat) (rest : List Nat) : (rest ++ [i]).Perm ((i :: rest) ++ []) := by
  rw [List.append_nil]; exact List.perm_append_singleton i rest

/-- the steps of `Copier.stop()` and the end of `__exit__` -/
inductive SEff (c : Cfg) (s : St) : St → Prop
  | putSentinel (k exc) : s.prod = .sentinels k exc → s.queue.length < c.n →
      SEff c s { s with prod := if k + 1 < c.n then .sentinels (k + 1) exc else .joining 0 exc,
                        queue := s.queue ++ [none] }
  | join (k exc) : s.prod = .joining k exc → s.workers[k]? = some .exited →
      SEff c s { s with prod := if k + 1 < c.n then .joining (k + 1) exc else afterJoin c s.allTasks exc }
  | ptimesFail (i todo exc) : s.prod = .ptimes i todo exc →
      SEff c s { s with prod := .exiting true, nfail := s.nfail + 1 }
  | ptimesOk (i todo exc) : s.prod = .ptimes i todo exc →
      SEff c s { s with prod := ptimesNext todo exc, timed := s.timed ++ [i] }
  | qjoin (exc) : s.prod = .qjoin exc → unfinished s = 0 → SEff c s { s with prod := .exiting exc }
  | exit (exc) : s.prod = .exiting exc →
      SEff c s { s with prod := .finished (if exc then .other else if s.errors.isEmpty then .ok else .bulk) }

theorem SEff.frame {c : Cfg} {s s' : St} (h : SEff c s s') :
    inLoop s.prod = false ∧ ∃ p' ns tm nf, inLoop p' = false ∧ (ns = [] ∨ ns = [none]) ∧
      s' = { s with prod := p', queue := s.queue ++ ns, timed := tm, nfail := nf } := by
  have vj := view_afterJoin inLoop c fun _ _ _ => rfl
  have vp := view_ptimesNext inLoop fun _ _ _ => rfl
  have nil : ∀ (p' : Prod) tm nf, ({ s with prod := p', timed := tm, nfail := nf } : St)
      = { s with prod := p', queue := s.queue ++ [], timed := tm, nfail := nf } := by
    intros; rw [List.append_nil]
  cases h with
  | putSentinel k exc hp hl =>
    exact ⟨hp ▸ rfl, _, [none], _, _, by split <;> rfl, .inr rfl, rfl⟩
  | join k exc hp hx =>
    refine ⟨hp ▸ rfl, _, [], _, _, ?_, .inl rfl, nil _ _ _⟩
    split
    · rfl
    · exact vj _ _
  | ptimesFail i todo exc hp => exact ⟨hp ▸ rfl, _, [], _, _, rfl, .inl rfl, nil _ _ _⟩
  | ptimesOk i todo exc hp => exact ⟨hp ▸ rfl, _, [], _, _, vp _ _, .inl rfl, nil _ _ _⟩
  | qjoin exc hp hu => exact ⟨hp ▸ rfl, _, [], _, _, rfl, .inl rfl, nil _ _ _⟩
  | exit exc hp => exact ⟨hp ▸ rfl, _, [], _, _, rfl, .inl rfl, nil _ _ _⟩

inductive PEff (c : Cfg) (s : St) : St → Prop
  | raise (o' : List (Nat × Side)) (done' dn dr : List Nat) (nf : Nat) :
      inLoop s.prod = true → done' = s.done ++ dn →
      (s.prod.pending ++ s.prod.inflight).Perm (dr ++ dn) →
      Moves s.opened o' (prodHandles c s.prod) [] →
      (nf = s.nfail + 1 ∨ nf = s.nfail ∧ prodExc s.prod = true) →
      PEff c s { s with prod := afterBody c true, opened := o', done := done',
                        dropped := s.dropped ++ dr, nfail := nf }
  | advance (p' : Prod) (o' : List (Nat × Side)) (d' : Store) (at' : List Nat) (nf : Nat) :
      inLoop s.prod = true → inLoop p' = true → (stageOk c s.prod → stageOk c p') →
      (p'.pending ++ p'.inflight).Perm (s.prod.pending ++ s.prod.inflight) →
      Moves s.opened o' (prodHandles c s.prod) (prodHandles c p') →
      (nf = s.nfail ∧ prodExc p' = prodExc s.prod ∨ nf = s.nfail + 1 ∧ prodExc p' = true) →
      (at' = s.allTasks ∨ ∃ i ∈ s.prod.pending, at' = s.allTasks ++ [i]) →
      PEff c s { s with prod := p', opened := o', dest := d', allTasks := at', nfail := nf }
  | handOver (i : Nat) (rest : List Nat) :
      s.prod = .bothOpen i rest → s.queue.length < c.n →
      PEff c s { s with prod := nextLoop c rest, queue := s.queue ++ [some i] }
  | finish (i : Nat) (rest : List Nat) (o' : List (Nat × Side)) (tm : List Nat) :
      inLoop s.prod = true → s.prod.pending = rest → s.prod.inflight = [i] → prodExc s.prod = false →
      Moves s.opened o' (prodHandles c s.prod) [] →
      PEff c s { s with prod := nextLoop c rest, opened := o', timed := tm, done := s.done ++ [i] }
  | stop {s' : St} : SEff c s s' → PEff c s s'

/-- with the state taken apart, `cases hp` puts the control state in, and what `PEff` asks of it is evaluated -/
theorem PTrans.eff {c : Cfg} {s s' : St} {e : Ev} (hs : PTrans c s s' e) : PEff c s s' := by
  obtain ⟨p, qu, ws, op, er, al, d, tm, dn, dr, nf⟩ := s
  cases hs with
  | inlOpen1Fail i rest hp hn hf | openSrcFail i rest hp hn hf =>
    cases hp
    exact .raise _ _ [] _ _ rfl (List.append_nil _).symm (.refl _) (Moves.refl _ _) (.inl rfl)
  | inlOpen1Ok i rest hp hn hf =>
    cases hp
    exact .advance _ _ _ _ _ rfl rfl (fun _ => hn) (perm_inl_tasks i rest) (Moves.open _ (.refl _)) (.inl ⟨rfl, rfl⟩)
      (.inl rfl)
  | openSrcOk i rest hp hn hf =>
    cases hp
    exact .advance _ _ d al _ rfl rfl (fun _ => hn) (.refl _) (Moves.open _ (.refl _)) (.inl ⟨rfl, rfl⟩) (.inl rfl)
  | openDstFail i rest hp hf | inlOpen2Fail i rest hp hf =>
    cases hp
    exact .advance _ op d al _ rfl rfl id (.refl _) (Moves.refl _ _) (.inr ⟨rfl, rfl⟩) (.inl rfl)
  | openDstOk i rest hp hf =>
    cases hp
    exact .advance _ _ _ _ _ rfl rfl id (.refl _) (Moves.open _ (.swap _ _ _)) (.inl ⟨rfl, rfl⟩)
      (.inr ⟨i, List.mem_cons_self, rfl⟩)
  | failCloseFail i rest hp hf =>
    cases hp
    exact .raise _ _ [] _ _ rfl (List.append_nil _).symm (.refl _) (Moves.close _ (.refl _)) (.inl rfl)
  | failCloseOk i rest hp hf =>
    cases hp
    exact .raise _ _ [] _ _ rfl (List.append_nil _).symm (.refl _) (Moves.close _ (.refl _)) (.inr ⟨rfl, rfl⟩)
  | put i rest hp hl => exact .handOver i rest hp hl
  | inlOpen2Ok i rest hp hf =>
    cases hp
    exact .advance _ _ _ al _ rfl rfl id (.refl _)
      (Moves.open _ (by
        show List.Perm [(i, _), (i, (firstSide c).other.other)] _; rw [side_other_other]; exact .refl _))
      (.inl ⟨rfl, rfl⟩) (.inl rfl)
  | inlFailCloseFail i rest hp hf =>
    cases hp
    exact .raise _ _ [] _ _ rfl (List.append_nil _).symm (perm_inl_tasks i rest) (Moves.close _ (.refl _)) (.inl rfl)
  | inlFailCloseOk i rest hp hf =>
    cases hp
    exact .raise _ _ [] _ _ rfl (List.append_nil _).symm (perm_inl_tasks i rest) (Moves.close _ (.refl _))
      (.inr ⟨rfl, rfl⟩)
  | inlBodyCont i rest ph ph' e s1 hp hb =>
    cases hp
    have hm := hb.handles
    have hv := hb.vis
    obtain ⟨d', o', k, rfl⟩ := hb.eq_update
    exact .advance _ _ _ al _ rfl rfl id (.refl _) hm hv (.inl rfl)
  | inlBodyRaise i rest ph e s1 hp hb =>
    cases hp
    cases hb with
    | closeBFail exc hf =>
      exact .raise _ _ [i] rest _ rfl rfl (.refl _) (Moves.close _ (.refl _)) (.inl rfl)
    | closeBOk exc hf =>
      exact .raise _ _ [i] rest _ rfl rfl (.refl _) (Moves.close _ (.refl _)) (.inr ⟨rfl, rfl⟩)
  | inlBodyToPtime i rest ph e s1 hp hb hpt =>
    cases hp
    cases hb with
    | closeBOk exc hf =>
      exact .advance _ _ d al _ rfl rfl id (.refl _) (Moves.close _ (.refl _)) (.inl ⟨rfl, rfl⟩) (.inl rfl)
  | inlBodyNext i rest ph e s1 hp hb hpt =>
    cases hp
    cases hb with
    | closeBOk exc hf => exact .finish i rest _ tm rfl rfl rfl rfl (Moves.close _ (.refl _))
  | inlPtimeFail i rest hp hf =>
    cases hp
    exact .raise op _ [i] rest _ rfl rfl (.refl _) (Moves.refl _ _) (.inl rfl)
  | inlPtimeOk i rest hp hf =>
    cases hp
    exact .finish i rest op _ rfl rfl rfl rfl (Moves.refl _ _)
  | putSentinel k exc hp hl => exact .stop (.putSentinel k exc hp hl)
  | join k exc hp hx => exact .stop (.join k exc hp hx)
  | ptimesFail i todo exc hp hf => exact .stop (.ptimesFail i todo exc hp)
  | ptimesOk i todo exc hp hf => exact .stop (.ptimesOk i todo exc hp)
  | qjoin exc hp hu => exact .stop (.qjoin exc hp hu)
  | exit exc hp => exact .stop (.exit exc hp)

theorem cons_eff {c : Cfg} {s s' : St} (h : Cons c s) (he : PEff c s s') : Cons c s' := by
  intro x
  rw [← h x, count_allTasksView, count_allTasksView]
  cases he with
  | raise o' done' dn dr nf hl hdn hT hM hV =>
    have := hT.count_eq x
    simp only [pending_afterBody, inflight_afterBody, St.queued, hdn, List.count_append, List.count_nil] at this ⊢
    omega
  | advance p' o' d' at' nf hl hl' hst hT hM hV =>
    have := hT.count_eq x
    simp only [St.queued, List.count_append] at this ⊢
    omega
  | handOver i rest hp hl =>
    simp only [pending_nextLoop, inflight_nextLoop, St.queued, hp]
    simp only [Prod.pending, Prod.inflight, List.filterMap_append, List.filterMap_cons, List.filterMap_nil, id,
      List.count_append, count_cons_b2n, List.count_nil]
    omega
  | finish i rest o' tm hl hpd hin hx hM =>
    simp only [pending_nextLoop, inflight_nextLoop, St.queued, hpd, hin, List.count_append, List.count_nil]
    omega
  | stop hs =>
    obtain ⟨h1, p', ns, tm, nf, h2, hns, rfl⟩ := hs.frame
    have a := notLoop_holds (c := c) h1
    have b := notLoop_holds (c := c) h2
    rcases hns with rfl | rfl <;> simp [St.queued, a.1, a.2.1, b.1, b.2.1]

theorem hand_eff {c : Cfg} {s s' : St} (h : Hand c s) (he : PEff c s s') : Hand c s' := by
  intro x
  have hx := h x
  rw [count_held] at hx ⊢
  cases he with
  | raise o' done' dn dr nf hl hdn hT hM hV =>
    have := hM x (by omega)
    simp only [prodHandles_afterBody, List.count_nil] at this ⊢
    omega
  | advance p' o' d' at' nf hl hl' hst hT hM hV =>
    have := hM x (by omega)
    dsimp only
    omega
  | handOver i rest hp hl =>
    rw [hp] at hx
    simp only [prodHandles_nextLoop]
    simp only [prodHandles, qItemHandles, List.flatMap_append, List.flatMap_cons, List.flatMap_nil,
      List.count_append, List.count_nil, List.append_nil] at hx ⊢
    omega
  | finish i rest o' tm hl hpd hin hx' hM =>
    have := hM x (by omega)
    simp only [prodHandles_nextLoop, List.count_nil] at this ⊢
    omega
  | stop hs =>
    obtain ⟨h1, p', ns, tm, nf, h2, hns, rfl⟩ := hs.frame
    rw [(notLoop_holds h1).2.2] at hx
    rw [(notLoop_holds h2).2.2]
    rcases hns with rfl | rfl <;> simpa [qItemHandles] using hx

theorem invA_eff {c : Cfg} {s s' : St} (h : InvA c s) (he : PEff c s s') : InvA c s' := by
  have hstage := h.stage
  cases he with
  | raise o' done' dn dr nf hl hdn hT hM hV =>
    exact invA_prod_same h rfl rfl (by rw [(inLoop_counters hl).1]; exact sentPut_afterBody c true)
      (by rw [show joined c.n (afterBody c true) = 0 from joined_afterBody c true]; exact Nat.zero_le _)
      (stage_afterBody c true)
  | advance p' o' d' at' nf hl hl' hst hT hM hV =>
    exact invA_prod_same h rfl rfl (by rw [(inLoop_counters hl).1]; exact (inLoop_counters hl').1)
      (by rw [show joined c.n p' = 0 from (inLoop_counters hl').2]; exact Nat.zero_le _) (hst hstage)
  | handOver i rest hp hl =>
    exact invA_push h (some i) rfl rfl hl (by rw [hp]; exact sentPut_nextLoop c rest)
      (fun _ => by rw [hp]; rfl) (joined_nextLoop c rest) (stage_nextLoop c rest)
  | finish i rest o' tm hl hpd hin hx hM =>
    exact invA_prod_same h rfl rfl (by rw [(inLoop_counters hl).1]; exact sentPut_nextLoop c rest)
      (by rw [show joined c.n (nextLoop c rest) = 0 from joined_nextLoop c rest]; exact Nat.zero_le _)
      (stage_nextLoop c rest)
  | stop hs =>
    cases hs with
    | putSentinel k exc hp hlen =>
      rw [hp] at hstage
      have hk : k < c.n := hstage
      refine invA_push h none rfl rfl hlen ?_ (fun h => absurd rfl h) ?_ ?_
      · rw [hp]; show sentPut c.n (if _ then _ else _) = k + 1
        split
        · rfl
        · show c.n = k + 1; omega
      · show joined c.n (if _ then _ else _) = 0
        split <;> rfl
      · show stageOk c (if _ then _ else _)
        split
        · assumption
        · show 0 < c.n; omega
    | join k exc hp hex =>
      rw [hp] at hstage
      have hk : k < c.n := hstage
      refine invA_prod_joined h rfl rfl ?_ (fun j hj => ?_) ?_
      · rw [hp]; show sentPut c.n (if _ then _ else _) = c.n
        split
        · rfl
        · exact view_afterJoin (sentPut c.n) c (fun _ _ _ => rfl) _ _
      · have : j < k + 1 := by
          change j < joined c.n (if _ then _ else _) at hj
          split at hj
          · exact hj
          · rw [view_afterJoin (joined c.n) c (fun _ _ _ => rfl)] at hj
            exact Nat.lt_of_lt_of_le hj (by show c.n ≤ k + 1; omega)
        rw [hp]
        by_cases hjk : j = k
        · exact .inr (hjk ▸ hex)
        · exact .inl (show j < k by omega)
      · show stageOk c (if _ then _ else _)
        split
        · assumption
        · exact stage_afterJoin c _ _ (by omega)
    | ptimesOk i todo exc hp =>
      rw [hp] at hstage
      exact invA_prod_same h rfl rfl (by rw [hp]; exact view_ptimesNext (sentPut c.n) (fun _ _ _ => rfl) _ _)
        (by rw [hp, view_ptimesNext (joined c.n) (fun _ _ _ => rfl)]; exact Nat.le_refl _)
        (stage_ptimesNext c _ _ hstage)
    | ptimesFail i todo exc hp | qjoin exc hp hu | exit exc hp =>
      rw [hp] at hstage
      exact invA_prod_same h rfl rfl (by rw [hp]; rfl) (by rw [hp]; exact Nat.le_refl _) (by trivial)

attribute [local simp] other_bne_ok bulk_bne_ok ok_bne_ok in
theorem vis_eff {c : Cfg} {s s' : St} (h : Vis s) (he : PEff c s s') : Vis s' := by
  unfold Vis visN nExc at *
  cases he with
  | raise o' done' dn dr nf hl hdn hT hM hV =>
    simp only [prodExc_afterBody, b2n_true]
    rcases hV with rfl | ⟨rfl, hx⟩
    · omega
    · rw [hx, b2n_true] at h; omega
  | advance p' o' d' at' nf hl hl' hst hT hM hV =>
    rcases hV with ⟨rfl, hx⟩ | ⟨rfl, hx⟩
    · rw [hx]; exact h
    · rw [hx, b2n_true]; dsimp only; omega
  | handOver i rest hp hl =>
    rw [hp] at h
    simp only [prodExc_nextLoop]
    exact h
  | finish i rest o' tm hl hpd hin hx hM =>
    rw [hx] at h
    simp only [prodExc_nextLoop]
    exact h
  | stop hs =>
    have vp := view_ptimesNext prodExc fun _ _ _ => rfl
    have vj := view_afterJoin prodExc c fun _ _ _ => rfl
    cases hs with
    | exit exc hp =>
      rw [hp] at h; simp only [prodExc] at h
      simp only [prodExc]
      rcases Bool.eq_false_or_eq_true exc with hexc | hexc
      · simp only [hexc, b2n_true] at h ⊢; simp; omega
      · simp only [hexc, b2n_false] at h ⊢
        by_cases hE : s.errors = []
        · simp [hE] at h ⊢; omega
        · have : 0 < s.errors.length := List.length_pos_iff.mpr hE
          simp [hE]; omega
    | putSentinel k exc hp _ | join k exc hp _ | ptimesFail i todo exc hp | ptimesOk i todo exc hp | qjoin exc hp _ =>
      rw [hp] at h
      simp only [vp, vj, apply_ite prodExc] at h ⊢
      simp only [prodExc, b2n_true, ite_self] at h ⊢
      omega

theorem drop_eff {c : Cfg} {s s' : St} (h : Drop s) (he : PEff c s s') : Drop s' := by
  unfold Drop at *
  have loop : inLoop s.prod = true → s.dropped = [] := fun hl =>
    Decidable.of_not_not fun hd => by rw [(inLoop_flags hl).1] at h; exact nomatch h hd
  cases he with
  | raise o' done' dn dr nf hl hdn hT hM hV => exact fun _ => raised_afterBody c true
  | advance p' o' d' at' nf hl hl' hst hT hM hV => exact fun hd => absurd (loop hl) hd
  | handOver i rest hp hl => exact fun hd => absurd (loop (hp ▸ rfl)) hd
  | finish i rest o' tm hl hpd hin hx hM => exact fun hd => absurd (loop hl) hd
  | stop hs =>
    have vp := view_ptimesNext raised fun _ _ _ => rfl
    have vj := view_afterJoin raised c fun _ _ _ => rfl
    cases hs with
    | exit exc hp =>
      intro hd; have := h hd; rw [hp] at this
      simp only [raised] at this; subst this; rfl
    | ptimesFail i todo exc hp => exact fun _ => rfl
    | putSentinel k exc hp _ | join k exc hp _ | ptimesOk i todo exc hp | qjoin exc hp _ =>
      -- the flag `exc` is handed on
      rw [hp] at h
      simp only [vp, vj, apply_ite raised] at h ⊢
      simp only [raised, ite_self] at h ⊢
      exact h

theorem finE_eff {c : Cfg} {s s' : St} (he : PEff c s s') : FinE s' := by
  intro hf
  have nf := congrArg Prod.isFinished hf
  cases he with
  | raise o' done' dn dr nf hl hdn hT hM hV => rw [isFin_afterBody] at nf; cases nf
  | advance p' o' d' at' nf hl hl' hst hT hM hV => rw [(inLoop_flags hl').2.1] at nf; cases nf
  | handOver i rest hp hl => rw [isFin_nextLoop] at nf; cases nf
  | finish i rest o' tm hl hpd hin hx hM => rw [isFin_nextLoop] at nf; cases nf
  | stop hs =>
    have vp := view_ptimesNext Prod.isFinished fun _ _ _ => rfl
    have vj := view_afterJoin Prod.isFinished c fun _ _ _ => rfl
    cases hs with
    | exit exc hp =>
      simp only [Prod.finished.injEq] at hf
      cases exc
      · by_cases hE : s.errors.isEmpty
        · exact List.isEmpty_iff.mp hE
        · simp [hE] at hf
      · cases hf
    | putSentinel k exc hp _ | join k exc hp _ | ptimesFail i todo exc hp | ptimesOk i todo exc hp | qjoin exc hp _ =>
      simp only [vp, vj, apply_ite Prod.isFinished] at nf
      simp only [Prod.isFinished, ite_self, Bool.false_eq_true] at nf

theorem pt_eff {c : Cfg} {s s' : St} (hC : Cons c s) (h : PT c s) (he : PEff c s s') : PT c s' := by
  obtain ⟨ha, hp'⟩ := h
  have nil : ∀ j ∈ ([] : List Nat), j < c.tasks.length := fun _ hj => nomatch hj
  cases he with
  | raise o' done' dn dr nf hl hdn hT hM hV => exact ⟨ha, by rw [ptList_afterBody]; exact nil⟩
  | advance p' o' d' at' nf hl hl' hst hT hM hV hat =>
    refine ⟨?_, by rw [(inLoop_flags hl').2.2]; exact nil⟩
    rcases hat with rfl | ⟨i, hi, rfl⟩
    · exact ha
    · intro j hj
      rcases List.mem_append.mp hj with hj | hj
      · exact ha j hj
      · rw [List.mem_singleton.mp hj]; exact lt_of_mem_pending hC hi
  | handOver i rest hp hl => exact ⟨ha, by rw [ptList_nextLoop]; exact nil⟩
  | finish i rest o' tm hl hpd hin hx hM => exact ⟨ha, by rw [ptList_nextLoop]; exact nil⟩
  | stop hs =>
    refine ⟨by cases hs <;> exact ha, ?_⟩
    cases hs with
    | join k exc hp _ =>
      intro j hj
      simp only [apply_ite ptList] at hj
      split at hj
      · cases hj
      · exact ha j (ptList_afterJoin_sub c _ _ j hj)
    | ptimesOk i todo exc hp =>
      intro j hj
      rw [ptList_ptimesNext] at hj
      exact hp' j (by rw [hp]; exact List.mem_cons_of_mem _ hj)
    | putSentinel k exc hp _ => exact fun j hj => by rw [apply_ite ptList] at hj; split at hj <;> cases hj
    | ptimesFail i todo exc hp | qjoin exc hp _ | exit exc hp => exact nil

/-- `all_tasks` grows by the task whose second open succeeded; the loop starts from `all_tasks` -/
theorem pt_prod {c : Cfg} {s s' : St} {e : Ev} (hC : Cons c s) (h : PT c s) (hs : PTrans c s s' e) :
    PT c s' := pt_eff hC h hs.eff

/-! ### all invariants along every execution -/

structure Inv (c : Cfg) (s : St) : Prop where
  cons : Cons c s
  hand : Hand c s
  invA : InvA c s
  vis : Vis s
  drop : Drop s
  finE : FinE s
  pt : PT c s

theorem inv_init (c : Cfg) : Inv c (init c) where
  cons := cons_init c
  hand := hand_init c
  invA := invA_init c
  vis := vis_init c
  drop := fun h => absurd rfl h
  finE := fun _ => rfl
  pt := ⟨(fun _ hj => nomatch hj), by
    rw [show ptList (init c).prod = [] from ptList_nextLoop c _]; exact fun _ hj => nomatch hj⟩

theorem inv_step {c : Cfg} {s s' : St} {l : Label} {e : Ev} (h : Inv c s)
    (hs : stepEv c s l = some (s', e)) : Inv c s' := by
  cases l with
  | p =>
    have ht := (prodStep_sound hs).eff
    exact ⟨cons_eff h.cons ht, hand_eff h.hand ht, invA_eff h.invA ht, vis_eff h.vis ht,
      drop_eff h.drop ht, finE_eff ht, pt_eff h.cons h.pt ht⟩
  | w k =>
    have ht := workerStep_sound hs
    exact ⟨cons_worker h.cons ht, hand_worker h.hand ht, invA_worker h.invA ht, vis_worker h.vis ht,
      drop_worker h.drop ht, finE_worker h.invA ht, pt_worker h.pt ht⟩

theorem inv_reach {c : Cfg} {s : St} (h : Reach c s) : Inv c s := by
  induction h with
  | init => exact inv_init c
  | step _ hs ih => exact inv_step ih hs

end Fs.BulkLemmas
