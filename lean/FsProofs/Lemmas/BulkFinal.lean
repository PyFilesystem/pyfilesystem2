/-
  C09 helper: what the invariants give along `Reach` and `Exec`: the failure counter is the number
  of failed events, the state once every worker has been joined, "no failure injected, no failure
  fires", and deadlock freedom.
-/
import FsProofs.Lemmas.BulkDest

namespace Fs.BulkLemmas
open Fs Fs.Bulk

/-! ### every transition counts its failure -/

theorem BTrans.nfail_ev {c : Cfg} {s s1 : St} {i : Nat} {a : Side} {ph : Phase} {nx : BNext} {e : Ev}
    (hb : BTrans c s i a ph nx e s1) : s1.nfail = s.nfail + b2n e.failed := by
  cases hb <;> simp [Ev.failed]

theorem nfail_worker {c : Cfg} {s s' : St} {w : Nat} {e : Ev} (hs : WTrans c s w s' e) :
    s'.nfail = s.nfail + b2n e.failed := by
  induction hs with
  | body i ph nx e s1 hw hb => exact hb.nfail_ev
  | _ => rfl

theorem nfail_prod {c : Cfg} {s s' : St} {e : Ev} (hs : PTrans c s s' e) :
    s'.nfail = s.nfail + b2n e.failed := by
  induction hs
  case inlBodyCont hp hb => exact hb.nfail_ev
  case inlBodyRaise hp hb => exact hb.nfail_ev
  case inlBodyToPtime hp hb _ => exact hb.nfail_ev
  case inlBodyNext hp hb _ => exact hb.nfail_ev
  all_goals rfl

theorem dest_reach {c : Cfg} {s : St} (hwf : WfCfg c) (h : Reach c s) : Dest c s := by
  induction h with
  | init => exact dest_init c
  | @step s s' l e hr hs ih =>
    have hC' := (inv_step (inv_reach hr) hs).cons
    cases l with
    | p => exact dest_prod hwf ih hC' (prodStep_sound hs)
    | w k => exact dest_worker hwf ih hC' (workerStep_sound hs)

theorem nfail_step {c : Cfg} {s s' : St} {l : Label} {e : Ev} (hs : stepEv c s l = some (s', e)) :
    s'.nfail = s.nfail + b2n e.failed := by
  cases l with
  | p => exact nfail_prod (prodStep_sound hs)
  | w k => exact nfail_worker (workerStep_sound hs)

theorem reach_of_exec {c : Cfg} {t : Trace} {s : St} (h : Exec c t s) : Reach c s := by
  induction h with
  | init => exact .init
  | step _ hs ih => exact .step ih hs

theorem exec_of_reach {c : Cfg} {s : St} (h : Reach c s) : ∃ t, Exec c t s := by
  induction h with
  | init => exact ⟨[], .init⟩
  | step _ hs ih => obtain ⟨t, ht⟩ := ih; exact ⟨_, .step ht hs⟩

/-- the ghost counter is exactly the number of failed events of the trace -/
theorem nfail_exec {c : Cfg} {t : Trace} {s : St} (h : Exec c t s) :
    s.nfail = (t.filter fun le => le.2.failed).length := by
  induction h with
  | init => rfl
  | @step t s s' l e _ hs ih =>
    rw [nfail_step hs, ih]
    cases hf : e.failed <;> simp [hf]

/-! ### once every worker has been joined -/

/-- so that `List.countP`'s lemmas apply to `nStopped` -/
theorem count_stopMark (ws : List W) : List.count () (ws.flatMap stopMark) = ws.countP stopped := by
  induction ws with
  | nil => rfl
  | cons w ws ih =>
    rw [List.flatMap_cons, List.count_append, ih, List.countP_cons, Nat.add_comm]
    unfold stopMark; split <;> rfl

theorem queue_empty_of_joined {c : Cfg} {s : St} (hA : InvA c s) (hj : joined c.n s.prod = c.n)
    (hsent : sentPut c.n s.prod = c.n) : s.queue = [] := by
  have hex := allExited_of_joined hA hj
  have hn : nStopped s = c.n := by
    unfold nStopped; rw [count_stopMark, List.countP_eq_length.2 fun w hw => hex w hw ▸ rfl, hA.wlen]
  have hsent' := hA.sent
  rw [hsent, hn] at hsent'
  have hnone : List.count none s.queue = 0 := by omega
  by_cases hz : c.n = 0
  · have := hA.qlen; rw [hz] at this
    exact List.eq_nil_of_length_eq_zero (by omega)
  · have := hA.nosome (by omega)
    exact eq_nil_of_no_none_no_some _ hnone this

theorem flatMap_nil_of_allExited {β : Type} (g : W → List β) (hg : g W.exited = []) (ws : List W)
    (h : ∀ w ∈ ws, w = W.exited) : ws.flatMap g = [] :=
  List.flatMap_eq_nil_iff.2 fun w hw => h w hw ▸ hg

/-- the control states after the last `join` -/
def Joined (c : Cfg) (p : Prod) : Prop :=
  joined c.n p = c.n ∧ sentPut c.n p = c.n ∧ p.pending = [] ∧ p.inflight = [] ∧ prodHandles c p = []

theorem joined_of_finished {c : Cfg} {s : St} {o : Outcome} (hf : s.prod = .finished o) : Joined c s.prod :=
  hf ▸ ⟨rfl, rfl, rfl, rfl, rfl⟩

theorem done_dropped_of_joined {c : Cfg} {s : St} (hI : Inv c s) (hJ : Joined c s.prod) :
    s.queue = [] ∧ s.allExited ∧
      ∀ x, List.count x (s.done ++ s.dropped) = List.count x (List.range c.tasks.length) := by
  obtain ⟨hj, hsp, hpend, hinf, _⟩ := hJ
  have hq := queue_empty_of_joined hI.invA hj hsp
  have hex := allExited_of_joined hI.invA hj
  refine ⟨hq, hex, ?_⟩
  intro x
  have := hI.cons x
  simpa [St.allTasksView, St.pending, St.queued, St.inflight, hpend, hinf, hq,
    flatMap_nil_of_allExited W.tasks rfl _ hex, List.count_append] using this

theorem opened_nil_of_joined {c : Cfg} {s : St} (hI : Inv c s) (hJ : Joined c s.prod) : s.opened = [] := by
  obtain ⟨hq, hex, _⟩ := done_dropped_of_joined hI hJ
  apply eq_nil_of_count_zero
  intro h
  rw [hI.hand h]
  simp [held, hJ.2.2.2.2, hq, flatMap_nil_of_allExited wHandles rfl _ hex]

theorem dropped_nil_of_nofail {s : St} {c : Cfg} (hI : Inv c s) (h0 : s.nfail = 0) : s.dropped = [] := by
  by_cases hd : s.dropped = []
  · exact hd
  · have hr := raised_imp_prodExc _ (hI.drop hd)
    have hv := hI.vis
    unfold Vis visN at hv
    rw [hr] at hv
    simp at hv
    omega

theorem mem_done_of_joined {c : Cfg} {s : St} (hI : Inv c s) (hJ : Joined c s.prod)
    (h0 : s.nfail = 0) {i : Nat} (hi : i < c.tasks.length) : i ∈ s.done := by
  have h := (done_dropped_of_joined hI hJ).2.2 i
  rw [dropped_nil_of_nofail hI h0, List.append_nil, List.count_range, if_pos hi] at h
  exact List.count_pos_iff.mp (by omega)

theorem nfail_pos_iff_of_finished {c : Cfg} {s : St} {o : Outcome} (hI : Inv c s)
    (hf : s.prod = .finished o) : 0 < s.nfail ↔ o ≠ .ok := by
  have hv := hI.vis
  have hex := allExited_of_joined hI.invA (joined_of_finished hf).1
  unfold Vis visN nExc at hv
  rw [hv, hf, flatMap_nil_of_allExited excMark rfl _ hex]
  cases o
  · rw [hI.finE hf]; simp [prodExc]
  · simp [prodExc, bulk_bne_ok]
  · simp [prodExc, other_bne_ok]

/-! ### no failure injected ⇒ no failure fires -/

theorem fails_false_of_nofaults {c : Cfg} (hnf : c.faults = []) (i : Nat) (st : FStep) :
    c.fails i st = false := by
  simp [Cfg.fails, hnf]

theorem BTrans.nofault {c : Cfg} {s s1 : St} {i : Nat} {a : Side} {ph : Phase} {nx : BNext} {e : Ev}
    (hnf : c.faults = []) (hb : BTrans c s i a ph nx e s1) : e.failed = false := by
  cases hb <;> simp_all [fails_false_of_nofaults hnf, Ev.failed]

theorem nofault_worker {c : Cfg} {s s' : St} {w : Nat} {e : Ev} (hnf : c.faults = [])
    (hs : WTrans c s w s' e) : e.failed = false := by
  cases hs with
  | body i ph nx e s1 hw hb => exact hb.nofault hnf
  | _ => rfl

theorem nofault_prod {c : Cfg} {s s' : St} {e : Ev} (hnf : c.faults = [])
    (hI : Inv c s) (hD : Dest c s) (h0 : s.nfail = 0) (hs : PTrans c s s' e) : e.failed = false := by
  have hff := fails_false_of_nofaults hnf
  cases hs
  case inlBodyCont => exact BTrans.nofault hnf ‹BTrans c s _ _ _ _ _ _›
  case inlBodyRaise => exact BTrans.nofault hnf ‹BTrans c s _ _ _ _ _ _›
  case inlBodyToPtime => exact BTrans.nofault hnf ‹BTrans c s _ _ _ _ _ _›
  case inlBodyNext => exact BTrans.nofault hnf ‹BTrans c s _ _ _ _ _ _›
  case inlPtimeFail i rest hp hf =>
    have := (hD h0).1 (i, some (c.data i)) (mem_claims_prod (by rw [hp]; exact List.mem_cons_self))
    simp [hff] at hf
    simp at this; rw [this] at hf; simp at hf
  case ptimesFail i todo exc hp hf =>
    have hi : i < c.tasks.length := hI.pt.2 i (by simp [hp, ptList])
    have hmem := mem_done_of_joined hI (hp ▸ ⟨rfl, rfl, rfl, rfl, rfl⟩) h0 hi
    have := (hD h0).1 (i, some (c.data i)) (mem_claims_done hmem)
    simp [hff] at hf
    simp at this; rw [this] at hf; simp at hf
  -- the other transitions that fail are guarded by `c.fails … = true`, which `hff` refutes; the rest emit an
  -- event that reports no failure
  all_goals simp_all [Ev.failed]

theorem nofault_reach {c : Cfg} {s : St} (hwf : WfCfg c) (hnf : c.faults = []) (h : Reach c s) :
    s.nfail = 0 := by
  induction h with
  | init => rfl
  | @step s s' l e hr hs ih =>
    rw [nfail_step hs, ih]
    have : e.failed = false := by
      cases l with
      | p => exact nofault_prod hnf (inv_reach hr) (dest_reach hwf hr) ih (prodStep_sound hs)
      | w k => exact nofault_worker hnf (workerStep_sound hs)
    simp [this]

/-! ### no deadlock: in every reachable state that is not final some thread can move -/

theorem workerStep_eq_none {c : Cfg} {s : St} {w : Nat} (h : workerStep c s w = none) :
    s.workers[w]? = none ∨ s.workers[w]? = some .exited ∨ (s.workers[w]? = some .idle ∧ s.queue = []) := by
  unfold workerStep at h
  cases hw : s.workers[w]? with
  | none => exact .inl rfl
  | some a =>
    cases a with
    | idle =>
      -- `queue.get()` blocks on the empty queue only
      simp only [hw] at h
      split at h
      · exact .inr (.inr ⟨rfl, ‹_›⟩)
      · cases h
      · cases h
    | exited => exact .inr (.inl rfl)
    | run i ph => simp only [hw] at h; split at h <;> cases h
    | ending i exc => simp only [hw] at h; cases h
    | stopping => simp only [hw] at h; cases h

/-- a worker that is neither exited nor idle-on-an-empty-queue can move -/
theorem worker_enabled {c : Cfg} {s : St} {w : Nat} {a : W} (hw : s.workers[w]? = some a)
    (ha : a ≠ W.exited) (hq : a = W.idle → s.queue ≠ []) : ∃ s' e, workerStep c s w = some (s', e) := by
  cases h : workerStep c s w with
  | some r => exact ⟨r.1, r.2, rfl⟩
  | none =>
    rcases workerStep_eq_none h with h | h | ⟨h, hqe⟩ <;> rw [hw] at h
    · cases h
    · exact absurd (Option.some.inj h) ha
    · exact absurd hqe (hq (Option.some.inj h))

theorem some_worker_enabled {c : Cfg} {s : St} (hlt : nStopped s < s.workers.length) (hq : s.queue ≠ []) :
    ∃ l s' e, stepEv c s l = some (s', e) := by
  rw [nStopped, count_stopMark, List.length_eq_countP_add_countP stopped] at hlt
  obtain ⟨a, ha, hna⟩ := List.countP_pos_iff.1 (Nat.pos_of_lt_add_right hlt)
  obtain ⟨w, hw⟩ := List.mem_iff_getElem?.1 ha
  obtain ⟨s', e, h⟩ := worker_enabled (c := c) hw (by rintro rfl; simp [stopped] at hna) (fun _ => hq)
  exact ⟨.w w, s', e, h⟩

theorem prodStep_eq_none {c : Cfg} {s : St} (h : prodStep c s = none) :
    (c.n ≤ s.queue.length ∧ ((∃ i rest, s.prod = .bothOpen i rest) ∨ ∃ k exc, s.prod = .sentinels k exc)) ∨
    (∃ k exc, s.prod = .joining k exc ∧ s.workers[k]? ≠ some .exited) ∨
    (∃ exc, s.prod = .qjoin exc ∧ unfinished s ≠ 0) ∨ s.prod.isFinished = true := by
  unfold prodStep at h
  cases hp : s.prod with
  | bothOpen i rest => simp only [hp] at h; split at h; cases h; exact .inl ⟨by omega, .inl ⟨i, rest, rfl⟩⟩
  | sentinels k exc => simp only [hp] at h; split at h; cases h; exact .inl ⟨by omega, .inr ⟨k, exc, rfl⟩⟩
  | joining k exc => simp only [hp] at h; split at h; cases h; exact .inr (.inl ⟨k, exc, rfl, ‹_›⟩)
  | qjoin exc => simp only [hp] at h; split at h; cases h; exact .inr (.inr (.inl ⟨exc, rfl, ‹_›⟩))
  | finished o => exact .inr (.inr (.inr rfl))
  -- in the other control states every branch of `prodStep` ends in a transition
  | inl i st rest => cases st <;> simp only [hp] at h <;> (repeat' split at h) <;> cases h
  | loop i rest | srcOpen i rest | failClose i rest | ptimes i todo exc | exiting exc =>
    simp only [hp] at h; (repeat' split at h) <;> cases h

theorem progress {c : Cfg} {s : St} (hI : Inv c s) :
    s.prod.isFinished = true ∨ ∃ l s' e, stepEv c s l = some (s', e) := by
  have hA := hI.invA
  have hstage := hA.stage
  have hsent := hA.sent
  cases hps : prodStep c s with
  | some r => exact .inr ⟨.p, r.1, r.2, hps⟩
  | none =>
    rcases prodStep_eq_none hps with ⟨hlen, hp⟩ | ⟨k, exc, hp, hex⟩ | ⟨exc, hp, hu⟩ | hfin
    · -- fewer sentinels were put than there are workers, so a worker is live, and the queue is not empty
      right
      have hlt : nStopped s < c.n := by
        rcases hp with ⟨i, rest, hp⟩ | ⟨k, exc, hp⟩ <;> rw [hp] at hstage hsent <;>
          simp only [stageOk, sentPut] at hstage hsent <;> omega
      exact some_worker_enabled (by rw [hA.wlen]; exact hlt)
        (fun h => by rw [h] at hlen; exact absurd (Nat.le_zero.mp hlen) (by omega))
    · right
      rw [hp] at hstage hsent; simp only [stageOk, sentPut] at hstage hsent
      have hk : k < s.workers.length := by rw [hA.wlen]; exact hstage
      have hw : s.workers[k]? = some s.workers[k] := List.getElem?_eq_getElem hk
      by_cases hidle : s.workers[k] = W.idle ∧ s.queue = []
      · -- every sentinel was consumed, so every worker is stopping or exited: not idle
        exfalso
        have hn : nStopped s = s.workers.length := by
          rw [hidle.2] at hsent; simp at hsent; rw [hA.wlen]; exact hsent
        have := List.countP_eq_length.1 ((count_stopMark _).symm.trans hn) _ (List.mem_of_getElem? hw)
        rw [hidle.1] at this; cases this
      · obtain ⟨s', e, h⟩ := worker_enabled (c := c) hw (fun h => hex (h ▸ hw))
          (fun hi hq => hidle ⟨hi, hq⟩)
        exact ⟨.w k, s', e, h⟩
    · exfalso
      obtain ⟨hq, hex, _⟩ := done_dropped_of_joined hI (hp ▸ ⟨rfl, rfl, rfl, rfl, rfl⟩)
      apply hu
      simp only [unfinished, hq, List.length_nil, Nat.zero_add, List.length_eq_zero_iff,
        List.filter_eq_nil_iff]
      intro w hw; rw [hex w hw]; simp [busy]
    · exact .inl hfin

/-- at exit: some step failed ⇔ the call raises -/
theorem failed_iff_of_finished {c : Cfg} {t : Trace} {s : St} {o : Outcome} (h : Exec c t s)
    (hf : s.prod = .finished o) : (∃ le ∈ t, le.2.failed = true) ↔ o ≠ .ok := by
  rw [← nfail_pos_iff_of_finished (inv_reach (reach_of_exec h)) hf, nfail_exec h, List.length_pos_iff_exists_mem]
  simp only [List.mem_filter]

end Fs.BulkLemmas
