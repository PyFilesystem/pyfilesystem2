/-
  WildGenEq — the definitions regenerated from `$VERIF_REPO/fs/wildcard.py` on every run
  (`FsModel/Generated/WildGen.lean`, written by `harness/extract/puregen.py`) against the hand model
  `FsModel/Wild.lean` that the C14 theorems are stated over.

  * `translate_eq`: the generated `_translate` (an index-driven `while` with a nested scanning loop) never
    raises, terminates within its fuel hints, and returns exactly the regex text of `Wild.translateText`
    (for every string and both values of `case_sensitive`; `str.lower` in its ASCII model).
  * `match`/`imatch`/`match_any`/`imatch_any`/`get_matcher` (modulo the LRU cache, see puregen.py): equal to
    the hand model `Wild.wmatch` / `Wild.matchAny` / `Wild.getMatcher` (`match_eq_wmatch`, …): `match` / `imatch`
    compile the text, and `RegexRoundTrip.wildcard_text_parses` says that the model of Python's parser reads it as
    the AST the hand matchers use (proved for every pattern); the others follow pattern by pattern
    (`WildGenLemmas.toTR_matchAny`).
  Results of generated code are `Res`; `toTR` (FsModel/PyRe.lean) maps them to the `TR` of the hand model.
-/
import FsModel.Generated.WildGen
import FsProofs.Lemmas.WildGenLemmas
import FsProofs.RegexRoundTrip

namespace Fs.WildGenEq
open Fs Fs.PyStr Fs.PyRe Fs.PyStrLemmas Fs.PathGenLemmas Fs.WildGenLemmas

/-- exactly the functions the hand model transcribes were found and translated -/
theorem coverage : WildGen.translated =
    ["_translate", "get_matcher", "imatch", "imatch_any", "match", "match_any"] := by decide +kernel

theorem nothing_refused : WildGen.refused = [] := by decide +kernel

theorem translate_eq (p : Str) (cs : Bool) :
    WildGen._translate p cs = .ok (Wild.translateText p cs) := by
  simp only [WildGen._translate, Wild.translateText]
  generalize hp : (if (!cs) = true then Wild.lowerStr p else p) = pat
  have hp' : (if cs = true then p else Wild.lowerStr p) = pat := by cases cs <;> simpa using hp
  rw [hp']
  generalize hW : pyWhile _ _ _ = w
  have key : ∃ i' res', w = .done (i', res') ∧ res'.flatten = Wild.textGo pat 0 := by
    subst hW
    refine pyWhile_wstep pat _ ?_ _ 0 [] ?_
    · intro s
      obtain ⟨i, res⟩ := s
      simp only [wstep]
      by_cases hi : i < pat.length
      · obtain ⟨c, hc⟩ := getElem?_of_lt pat i hi
        have hidx : pyStrIdx pat (Int.ofNat i) = .ok [c] := by rw [pyStrIdx_ofNat, hc]
        simp only [hi, decide_true, if_true, hidx, hc]
        by_cases h1 : c = '*'
        · simp [h1]
        · by_cases h2 : c = '?'
          · simp [h2]
          · by_cases h3 : c = '['
            · subst h3
              have e1 : ((['['] : Str) == ['*']) = false := by decide
              have e2 : ((['['] : Str) == ['?']) = false := by decide
              have e3 : ((['['] : Str) == ['[']) = true := by decide
              simp only [e1, e2, e3, Bool.false_eq_true, if_false, if_true, h1, h2]
              refine (scan_code pat (i + 1) _).trans ?_
              generalize hst :
                pyReplace (List.drop (i + 1) (List.take (bracketEnd pat (i + 1)) pat)) '\\' ['\\', '\\'] = stuff
              exact bracketText_code [] pat (i + 1) res stuff hst.symm
            · simp [h1, h2, h3, pyReEscape]
      · simp [hi]
    · omega
  obtain ⟨i', res', rfl, e⟩ := key
  simp [pyJoinS_nil, e]

/-! ### `match` / `imatch` / `match_any` / `imatch_any` / `get_matcher`

The generated `match` hands the text `"(?ms)" + _translate(pattern) + "\\Z"` to `re.compile`, whose model is
`Regex.parse`.  The hand model `Wild.compile` builds the AST directly; that `parse` of the text is that AST
is `RegexRoundTrip.wildcard_text_parses` (the column `<parse-eq>` of the C14 correspondence), so the generated
matchers ARE the hand matchers of C14. -/

/-- the body of the generated `match` (`cs = true`) / `imatch` (`cs = false`), which differ in the flag only -/
theorem match_res (p n : Str) (cs : Bool) :
    toTR (match WildGen._translate p cs with
      | .err e' => Res.err e'
      | .ok t1' =>
        match pyReCompile ((['(', '?', 'm', 's', ')'] ++ t1') ++ ['\\', 'Z']) (!cs) with
        | .err e' => Res.err e'
        | .ok t2' => Res.ok (pyReMatch t2' n)) = Wild.wmatch p n cs := by
  rw [translate_eq, Wild.wmatch, ← RegexRoundTrip.wildcard_text_parses]
  simp only [Wild.regexText]
  have h := toTR_pyReCompile ((['(', '?', 'm', 's', ')'] ++ Wild.translateText p cs) ++ ['\\', 'Z']) (!cs)
  have e : "(?ms)".toList ++ Wild.translateText p cs ++ "\\Z".toList =
      (['(', '?', 'm', 's', ')'] ++ Wild.translateText p cs) ++ ['\\', 'Z'] := rfl
  rw [e, ← h]
  cases pyReCompile ((['(', '?', 'm', 's', ')'] ++ Wild.translateText p cs) ++ ['\\', 'Z']) (!cs) <;> rfl

theorem match_eq_wmatch (p n : Str) : toTR (WildGen.match p n) = Wild.wmatch p n true :=
  match_res p n true

theorem imatch_eq_wmatch (p n : Str) : toTR (WildGen.imatch p n) = Wild.wmatch p n false :=
  match_res p n false

theorem match_any_eq_matchAny (ps : List Str) (n : Str) :
    toTR (WildGen.match_any ps n) = Wild.matchAny ps n true :=
  toTR_matchAny (WildGen.match · n) (Wild.wmatch · n true) (match_eq_wmatch · n) _ (fun _ _ => rfl) ps

theorem imatch_any_eq_matchAny (ps : List Str) (n : Str) :
    toTR (WildGen.imatch_any ps n) = Wild.matchAny ps n false :=
  toTR_matchAny (WildGen.imatch · n) (Wild.wmatch · n false) (imatch_eq_wmatch · n) _ (fun _ _ => rfl) ps

/-- the callable `get_matcher` returns is `Wild.getMatcher` -/
theorem get_matcher_eq_getMatcher (ps : List Str) (cs : Bool) (n : Str) :
    toTR (WildGen.get_matcher ps cs n) = Wild.getMatcher ps cs n := by
  simp only [WildGen.get_matcher, Wild.getMatcher]
  cases hps : ps.isEmpty with
  | true => simp [Wild.matchAny, hps, toTR]
  | false =>
    cases cs with
    | true => simpa using match_any_eq_matchAny ps n
    | false => simpa using imatch_any_eq_matchAny ps n

end Fs.WildGenEq
