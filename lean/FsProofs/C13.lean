/-
  C13 — walking visits every resource exactly once and filters exactly.

  All statements quantify over every tree `t : Node` (any branching, depth, names), every start path, every option
  record `o : Opts` whose name matchers are *arbitrary* predicates (so they hold for whatever `fs.match` /
  `fs.match_glob` compute), and both search orders.

  Reading guide
  * `walkBreadth o d0 [(start, es)]` / `walkDepth o d0 [(start, es, none)]` are the event
    sequences of `Walker._walk_breadth` / `_walk_depth` started at a directory `start` whose
    listing is `es` (`hs : t.get start = some (.dir es)`); `resources` keeps the non-marker
    events as `(combine(dir, name), node)`.
  * `selected o t start` is the documented subset by recursion over the tree, `selectedPost`
    the same in post-order; `chain` is the documented subset stated per resource.
-/
import FsProofs.Lemmas.WalkLemmas
import FsProofs.Lemmas.WalkPathLemmas

namespace Fs.C13
open Fs Fs.Walk Fs.WalkSpec Fs.WalkLemmas

/-! ## both machines report exactly the documented subset -/

/-- breadth order: the reported resources are a permutation of the documented subset -/
theorem bfs_perm_spec (o : Opts) (t : Node) (start : WPath) (es : Ents)
    (hs : t.get start = some (.dir es)) :
    (resources (walkBreadth o start.length [(start, es)])).Perm (selected o t start) := by
  have := bfs_perm o start.length [(start, es)]
  simpa [selected, hs] using this

/-- depth order: the reported resources are the documented subset in post-order, as a sequence -/
theorem dfs_eq_postorder_spec (o : Opts) (t : Node) (start : WPath) (es : Ents)
    (hs : t.get start = some (.dir es)) :
    resources (walkDepth o start.length [(start, es, none)]) = selectedPost o t start := by
  rw [dfs_eq]
  simp [dfsSpec, parentRes, selectedPost, hs]

/-- the post-order enumeration is a permutation of the pre-order one -/
theorem postorder_perm_selected (o : Opts) (t : Node) (start : WPath) :
    (selectedPost o t start).Perm (selected o t start) := by
  unfold selectedPost selected
  split
  · exact selEntsPost_perm _ _ _ _
  · exact List.Perm.refl _

/-- depth order reports a directory only after everything inside it: no resource that comes later
in the sequence lies at or below an earlier one -/
theorem depth_children_before_parent (o : Opts) (t : Node) (start : WPath) (es : Ents)
    (hwf : t.wf = true) (hs : t.get start = some (.dir es)) :
    (resources (walkDepth o start.length [(start, es, none)])).Pairwise
      (fun x y => ¬ x.1 <+: y.1) := by
  rw [dfs_eq_postorder_spec o t start es hs]
  have hes : entsWf es = true := TreeLemmas.entsWf_of_get hwf hs
  simpa [selectedPost, hs] using selEntsPost_pairwise o start.length start es hes

/-- both orders report the same resources (as multisets) -/
theorem bfs_dfs_same_set (o : Opts) (t : Node) (start : WPath) (es : Ents)
    (hs : t.get start = some (.dir es)) :
    (resources (walkBreadth o start.length [(start, es)])).Perm
      (resources (walkDepth o start.length [(start, es, none)])) := by
  rw [dfs_eq_postorder_spec o t start es hs]
  exact (bfs_perm_spec o t start es hs).trans (postorder_perm_selected o t start).symm

/-! ## exactly once, with the correct path -/

/-- the documented subset is a sub-sequence of the enumeration of everything below the start -/
theorem selected_sublist_all (o : Opts) (t : Node) (start : WPath) :
    (selected o t start).Sublist (allBelow t start) := by
  rw [selected_eq_filter]
  exact List.filter_sublist

/-- without options the documented subset is every resource below the start (`Node.walk`) -/
theorem selected_none_eq_all (t : Node) (start : WPath) (es : Ents) (hs : t.get start = some (.dir es)) :
    selected {} t start = allBelow t start := by
  simp [selected, allBelow, hs, Node.walk, selEnts_none, allEnts_eq_entsWalk]

theorem selected_paths_nodup (o : Opts) (t : Node) (start : WPath) (hwf : t.wf = true) :
    ((selected o t start).map (·.1)).Nodup := by
  unfold selected
  cases h : t.get start with
  | none => simp
  | some n =>
    cases n with
    | file b => simp
    | dir es =>
      have hes : entsWf es = true := TreeLemmas.entsWf_of_get hwf h
      exact ((selEnts_sublist o start.length start es).map _).nodup (allEnts_nodup start es hes)

/-- every path is reported at most once — breadth order -/
theorem walk_nodup_breadth (o : Opts) (t : Node) (start : WPath) (es : Ents) (hwf : t.wf = true)
    (hs : t.get start = some (.dir es)) :
    ((resources (walkBreadth o start.length [(start, es)])).map (·.1)).Nodup :=
  ((bfs_perm_spec o t start es hs).map _).nodup_iff.mpr (selected_paths_nodup o t start hwf)

/-- every path is reported at most once — depth order -/
theorem walk_nodup_depth (o : Opts) (t : Node) (start : WPath) (es : Ents) (hwf : t.wf = true)
    (hs : t.get start = some (.dir es)) :
    ((resources (walkDepth o start.length [(start, es, none)])).map (·.1)).Nodup :=
  ((bfs_dfs_same_set o t start es hs).map _).nodup_iff.mp (walk_nodup_breadth o t start es hwf hs)

/-- **The documented subset, per resource.**  `(p, n)` is selected iff `p` extends the start by a
relative path `rel`, the tree holds `n` at `p`, and along `rel` every directory on the way is
opened and scanned and the last component passes its file / directory test (`chain`). -/
theorem selected_iff (o : Opts) (t : Node) (start : WPath) (es : Ents) (hwf : t.wf = true)
    (hs : t.get start = some (.dir es)) (p : WPath) (n : Node) :
    (p, n) ∈ selected o t start ↔
      ∃ rel, p = start ++ rel ∧ t.get p = some n ∧ chain o start.length n start rel = true := by
  simp only [selected, hs]
  rw [selEnts_mem_iff o start.length start es (TreeLemmas.entsWf_of_get hwf hs)]
  refine exists_congr fun rel => and_congr_right fun hp => ?_
  rw [hp, TreeLemmas.get_append, hs]; rfl

/-- membership in what either machine reports, for both orders at once -/
theorem walk_mem_iff (o : Opts) (s : Search) (t : Node) (start : WPath) (hwf : t.wf = true)
    (l : List (WPath × Node)) (hl : info o s t start = .ok l) (p : WPath) (n : Node) :
    (p, n) ∈ l ↔
      ∃ rel, p = start ++ rel ∧ t.get p = some n ∧ chain o start.length n start rel = true := by
  unfold info iterWalk at hl
  cases hs : t.get start with
  | none => simp [hs, Res.map] at hl
  | some nd =>
    cases nd with
    | file b => simp [hs, Res.map] at hl
    | dir es =>
      simp only [hs, Res.map, Res.ok.injEq] at hl
      subst hl
      rw [← selected_iff o t start es hwf hs]
      cases s with
      | breadth => exact (bfs_perm_spec o t start es hs).mem_iff
      | depth =>
        rw [dfs_eq_postorder_spec o t start es hs]
        exact (postorder_perm_selected o t start).mem_iff

/-- every reported path `p` satisfies `get t p = the reported node` -/
theorem paths_correct (o : Opts) (s : Search) (t : Node) (start : WPath) (hwf : t.wf = true)
    (l : List (WPath × Node)) (hl : info o s t start = .ok l) (p : WPath) (n : Node)
    (h : (p, n) ∈ l) : t.get p = some n ∧ start <+: p ∧ p ≠ start := by
  obtain ⟨rel, hp, hg, hc⟩ := (walk_mem_iff o s t start hwf l hl p n).mp h
  exact ⟨hg, ⟨rel, hp.symm⟩, fun e =>
    ((chain_iff o _ n start rel).1 hc).1 (List.self_eq_append_right.1 (e ▸ hp))⟩

/-- without options every resource strictly below the start is reported (nothing is skipped) -/
theorem walk_complete (s : Search) (t : Node) (start : WPath) (hwf : t.wf = true)
    (l : List (WPath × Node)) (hl : info {} s t start = .ok l) (rel : WPath) (n : Node)
    (hne : rel ≠ []) (hg : t.get (start ++ rel) = some n) : (start ++ rel, n) ∈ l :=
  (walk_mem_iff {} s t start hwf l hl _ n).mpr ⟨rel, rfl, hg, chain_none _ n start rel hne⟩

/-- the walk fails exactly when the start path is missing or a file, with the error the first
`scandir` raises; otherwise it terminates with a result (totality of both machines) -/
theorem walk_total (o : Opts) (s : Search) (t : Node) (start : WPath) :
    (∃ l, info o s t start = .ok l ∧ ∃ es, t.get start = some (.dir es)) ∨
    (info o s t start = .err .ResourceNotFound ∧ t.get start = none) ∨
    (info o s t start = .err .DirectoryExpected ∧ ∃ b, t.get start = some (.file b)) := by
  unfold info iterWalk
  cases hs : t.get start with
  | none => right; left; simp [Res.map]
  | some nd =>
    cases nd with
    | file b => right; right; simp [Res.map]
    | dir es => left; simp [Res.map]

/-! ## breadth order: the top of the tree first -/

/-- breadth order reports the resources by non-decreasing depth ("yields resources in the top of the
directory tree first") -/
theorem breadth_top_down (o : Opts) (start : WPath) (es : Ents) :
    (resources (walkBreadth o start.length [(start, es)])).Pairwise
      (fun x y => x.1.length ≤ y.1.length) :=
  bfs_sorted o start.length [(start, es)] (List.pairwise_singleton _ _)

/-- breadth order reports a directory before everything inside it: nothing that comes later in the
sequence is at or above (a prefix of) an earlier path -/
theorem breadth_parent_before_contents (o : Opts) (t : Node) (start : WPath) (es : Ents)
    (hwf : t.wf = true) (hs : t.get start = some (.dir es)) :
    (resources (walkBreadth o start.length [(start, es)])).Pairwise
      (fun x y => ¬ y.1 <+: x.1) := by
  have h2 := walk_nodup_breadth o t start es hwf hs
  rw [List.Nodup, List.pairwise_map] at h2
  exact ((breadth_top_down o start es).and h2).imp fun ⟨hle, hne⟩ hp => hne (hp.eq_of_length_le hle).symm

/-! ## files / dirs / info are projections of one event sequence -/

theorem files_dirs_info_projections (o : Opts) (s : Search) (t : Node) (start : WPath) :
    files o s t start = (info o s t start).map (fun l => (l.filter (fun r => !r.2.isDir)).map (·.1)) ∧
    dirs o s t start = (info o s t start).map (fun l => (l.filter (fun r => r.2.isDir)).map (·.1)) := by
  unfold files dirs info
  cases iterWalk o s t start with
  | err e => simp [Res.map]
  | ok evs =>
    exact ⟨congrArg Res.ok (filterMap_resources (fun n => !n.isDir) evs),
      congrArg Res.ok (filterMap_resources Node.isDir evs)⟩

/-! ## each option selects exactly its documented subset

`selected` and `allBelow` are read off the same enumeration of the tree: in the following section
the hypothesis `hwf` is not used (nor, in `selected_iff_all_and_chain`, `hs`). -/

section
set_option linter.unusedVariables false

/-- generic form: with options `o`, the selected resources are those of the option-free walk whose
relative path satisfies `chain o` -/
theorem selected_iff_all_and_chain (o : Opts) (t : Node) (start : WPath) (es : Ents) (hwf : t.wf = true)
    (hs : t.get start = some (.dir es)) (p : WPath) (n : Node) :
    (p, n) ∈ selected o t start ↔
      (p, n) ∈ allBelow t start ∧ chain o start.length n start (relOf start p) = true := by
  rw [selected_eq_filter, List.mem_filter]

/-- `filter`: every directory, and the files whose name matches -/
theorem filter_exact (f : Name → Bool) (t : Node) (start : WPath) (es : Ents) (hwf : t.wf = true)
    (hs : t.get start = some (.dir es)) (p : WPath) (n : Node) :
    (p, n) ∈ selected { filter := some f } t start ↔
      (p, n) ∈ allBelow t start ∧ (n.isDir = true ∨ p.getLast?.any f = true) := by
  refine selected_iff_of_chain hs fun rel hne hp => ?_
  rw [chain_noprune _ _ n (fun _ _ => rfl) (fun _ => rfl) start rel hne]
  have hl : p.getLast? = some (rel.getLast hne) := by
    rw [hp, List.getLast?_append, List.getLast?_eq_some_getLast hne]; simp
  simp [fileSel, optAll, optAny, globFileOk, hl]

/-- `exclude`: every directory, and the files whose name does not match -/
theorem exclude_exact (g : Name → Bool) (t : Node) (start : WPath) (es : Ents) (hwf : t.wf = true)
    (hs : t.get start = some (.dir es)) (p : WPath) (n : Node) :
    (p, n) ∈ selected { exclude := some g } t start ↔
      (p, n) ∈ allBelow t start ∧ (n.isDir = true ∨ p.getLast?.any g = false) := by
  refine selected_iff_of_chain hs fun rel hne hp => ?_
  rw [chain_noprune _ _ n (fun _ _ => rfl) (fun _ => rfl) start rel hne]
  have hl : p.getLast? = some (rel.getLast hne) := by
    rw [hp, List.getLast?_append, List.getLast?_eq_some_getLast hne]; simp
  simp [fileSel, optAll, optAny, globFileOk, hl]

/-- `filter_dirs`: the resources all of whose directory names below the start (the resource's own
name included when it is a directory) match — nothing inside a non-matching directory -/
theorem filter_dirs_exact (f : Name → Bool) (t : Node) (start : WPath) (es : Ents) (hwf : t.wf = true)
    (hs : t.get start = some (.dir es)) (p : WPath) (n : Node) :
    (p, n) ∈ selected { filterDirs := some f } t start ↔
      (p, n) ∈ allBelow t start ∧ ∀ c ∈ dirComps n (relOf start p), f c = true := by
  refine selected_iff_of_chain hs fun rel hne hp => ?_
  rw [relOf_eq start rel p hp, chain_dirsOnly _ _ n f (by intros; simp [dirSel, optAll, optAny, globDirOk])
    (fun _ _ => rfl) (fun _ => rfl) start rel hne]
  simp [List.all_eq_true]

/-- `exclude_dirs`: the resources none of whose directory names below the start match -/
theorem exclude_dirs_exact (g : Name → Bool) (t : Node) (start : WPath) (es : Ents) (hwf : t.wf = true)
    (hs : t.get start = some (.dir es)) (p : WPath) (n : Node) :
    (p, n) ∈ selected { excludeDirs := some g } t start ↔
      (p, n) ∈ allBelow t start ∧ ∀ c ∈ dirComps n (relOf start p), g c = false := by
  refine selected_iff_of_chain hs fun rel hne hp => ?_
  rw [relOf_eq start rel p hp, chain_dirsOnly _ _ n (fun c => !g c) (by intros; simp [dirSel, optAll, optAny, globDirOk])
    (fun _ _ => rfl) (fun _ => rfl) start rel hne]
  simp [List.all_eq_true]

/-- `max_depth = m`: the resources at relative depth `L` with `L = 1 ∨ L ≤ m` (the entries of the
start directory are always reported; `m ≤ 1` behaves like `1`) -/
theorem max_depth_exact (m : Int) (t : Node) (start : WPath) (es : Ents) (hwf : t.wf = true)
    (hs : t.get start = some (.dir es)) (p : WPath) (n : Node) :
    (p, n) ∈ selected { maxDepth := some m } t start ↔
      (p, n) ∈ allBelow t start ∧
        (p.length - start.length = 1 ∨ ((p.length - start.length : Nat) : Int) ≤ m) := by
  refine selected_iff_of_chain hs fun rel hne hp => ?_
  rw [chain_maxDepth _ _ n m (fun _ _ => rfl) (fun _ _ => rfl) (fun _ => rfl) start rel hne]
  have hlen : p.length - start.length = rel.length := by rw [hp, List.length_append, Nat.add_sub_cancel_left]
  have hR : relDepth start.length start = 1 := by rw [relDepth, Int.sub_self, Int.zero_add]
  rw [hlen, hR, decide_eq_true_eq, Int.add_comm, Int.add_le_add_iff_right]

/-- `exclude_glob`: the resources none of whose ancestor directories below the start, nor the
resource itself, is matched — each tested on the string the code builds for it -/
theorem exclude_glob_exact (g : Str → Bool) (t : Node) (start : WPath) (es : Ents) (hwf : t.wf = true)
    (hs : t.get start = some (.dir es)) (p : WPath) (n : Node) :
    (p, n) ∈ selected { excludeGlob := some g } t start ↔
      (p, n) ∈ allBelow t start ∧
        (∀ a k b, relOf start p = a ++ k :: b → b ≠ [] → g (dirGlobPath (start ++ a) k) = false) ∧
        (∀ a k, relOf start p = a ++ [k] →
          g (if n.isDir then dirGlobPath (start ++ a) k else fileGlobPath (start ++ a) k) = false) := by
  refine selected_iff_of_chain hs fun rel hne hp => ?_
  rw [relOf_eq start rel p hp, chain_iff]
  simp only [dirSel, fileSel, depthOk, optAll, optAny, globDirOk, globFileOk, Bool.true_and, Bool.and_true,
    and_true, ne_eq, hne, not_false_eq_true, true_and]
  -- with `exclude_glob` alone every test in `chain_iff` is `!g` of the glob string
  refine and_congr
    (forall_congr' fun a => forall_congr' fun k => forall_congr' fun b =>
      imp_congr_right fun _ => imp_congr_right fun _ => by simp)
    (forall_congr' fun a => forall_congr' fun k => imp_congr_right fun _ => by cases n.isDir <;> simp)

end

/-- **The documented subset with no recursion at all**: `(p, n)` is selected iff it is a resource of
the tree strictly below the start, every proper ancestor directory below the start passes the
directory test and is within `max_depth`, and the resource itself passes the directory test (if it
is a directory) or the file test. -/
theorem selected_iff_declarative (o : Opts) (t : Node) (start : WPath) (es : Ents) (hwf : t.wf = true)
    (hs : t.get start = some (.dir es)) (p : WPath) (n : Node) :
    (p, n) ∈ selected o t start ↔
      ∃ rel, rel ≠ [] ∧ p = start ++ rel ∧ t.get p = some n ∧
        (∀ a k b, rel = a ++ k :: b → b ≠ [] →
          dirSel o (start ++ a) k = true ∧ depthOk o (relDepth start.length (start ++ a)) = true) ∧
        (∀ a k, rel = a ++ [k] →
          (if n.isDir then dirSel o (start ++ a) k else fileSel o (start ++ a) k) = true) := by
  rw [selected_iff o t start es hwf hs]
  constructor
  · rintro ⟨rel, hp, hg, hc⟩
    obtain ⟨h1, h2, h3⟩ := (chain_iff o start.length n start rel).mp hc
    exact ⟨rel, h1, hp, hg, h2, h3⟩
  · rintro ⟨rel, h1, hp, hg, h2, h3⟩
    exact ⟨rel, hp, hg, (chain_iff o start.length n start rel).mpr ⟨h1, h2, h3⟩⟩

/-- the predicates the machines evaluate are the documented per-entry tests -/
theorem checks_are_documented_tests (o : Opts) (dir : WPath) (k : Name) (r : Int) :
    checkFile o dir k = fileSel o dir k ∧ checkOpenDir o dir k = dirSel o dir k ∧
      checkScanDir o r = depthOk o r :=
  ⟨checkFile_eq o dir k, checkOpenDir_eq o dir k, checkScanDir_eq o r⟩

/-! ## pruning is sound

As in the section before, `hwf` is not used in the next four theorems; nor is `hs` (nothing is selected below a start
that is not a directory). -/

section
set_option linter.unusedVariables false

/-- A directory rejected by `_check_open_dir` is not reported and contains nothing that is selected:
if `(p, n)` is selected and `p = d ++ k :: b` passes through (or is) the directory entry `k` of `d`
below the start, then `_check_open_dir` accepted that entry. -/
theorem prune_sound (o : Opts) (t : Node) (start : WPath) (es : Ents) (hwf : t.wf = true)
    (hs : t.get start = some (.dir es)) (a : WPath) (k : Name) (b : WPath) (n : Node)
    (hsel : (start ++ a ++ k :: b, n) ∈ selected o t start) (hdir : b ≠ [] ∨ n.isDir = true) :
    checkOpenDir o (start ++ a) k = true := by
  rw [checkOpenDir_eq]
  rw [List.append_assoc] at hsel
  have hc := ((mem_selected_append _ n).1 hsel).2
  by_cases hb : b = []
  · subst hb
    have hn : n.isDir = true := by rcases hdir with h | h; exact absurd rfl h; exact h
    have := chain_last o start.length n start a k hc
    simpa [hn] using this
  · exact (chain_ancestors o start.length n start a k b hb hc).1

/-- a directory that is not scanned (`max_depth`) contributes nothing from inside -/
theorem unscanned_contributes_nothing (o : Opts) (t : Node) (start : WPath) (es : Ents) (hwf : t.wf = true)
    (hs : t.get start = some (.dir es)) (a : WPath) (k : Name) (b : WPath) (n : Node) (hb : b ≠ [])
    (hsel : (start ++ a ++ k :: b, n) ∈ selected o t start) :
    checkScanDir o (relDepth start.length (start ++ a)) = true := by
  rw [checkScanDir_eq]
  rw [List.append_assoc] at hsel
  exact (chain_ancestors o start.length n start a k b hb ((mem_selected_append _ n).1 hsel).2).2

/-- **`filter_glob`: pruning is sound.**  Pruning directories by prefix acceptance drops no file that
matches a pattern exactly and passes every other option.  The matcher is a parameter of the model;
the one thing the prefix matcher must provide is `PrefixComplete` (exact match of a file's path ⇒
prefix acceptance of every directory on the way).  That is precisely what
`glob.get_matcher(accept_prefix=True)` is for, and the harness validates it on the real
`fs.glob.get_matcher` for every pattern list and path it explores.  (A matcher without this
property — as for `**.py`, `d/*/[*/f` — drops matching files: fixed in /repo a715270, bf57128.) -/
theorem prune_sound_glob (o : Opts) (g : GlobFilter) (t : Node) (start : WPath)
    (es : Ents) (hwf : t.wf = true) (hs : t.get start = some (.dir es))
    (ho : o.filterGlob = some g) (hpc : PrefixComplete g)
    (a : WPath) (name : Name) (b : Bytes)
    (hother : (start ++ (a ++ [name]), Node.file b) ∈ selected { o with filterGlob := none } t start)
    (hex : g.exact (fileGlobPath (start ++ a) name) = true) :
    (start ++ (a ++ [name]), Node.file b) ∈ selected o t start := by
  obtain ⟨hm, hc⟩ := (mem_selected_append _ _).1 hother
  exact (mem_selected_append _ _).2 ⟨hm, chain_glob_complete o g ho hpc start.length b start a name hc hex⟩

/-- conversely a file is reported only if its path matches `filter_glob` *exactly* (prefix
acceptance is for directories only — fix a47d87a) -/
theorem filter_glob_file_needs_exact (o : Opts) (g : GlobFilter) (t : Node) (start : WPath)
    (es : Ents) (hwf : t.wf = true) (hs : t.get start = some (.dir es)) (ho : o.filterGlob = some g)
    (a : WPath) (name : Name) (b : Bytes)
    (hsel : (start ++ (a ++ [name]), Node.file b) ∈ selected o t start) :
    g.exact (fileGlobPath (start ++ a) name) = true := by
  have := chain_last o start.length (.file b) start a name ((mem_selected_append _ _).1 hsel).2
  simp only [Node.isDir, Bool.false_eq_true, if_false, fileSel, globFileOk, ho, Bool.and_eq_true] at this
  exact this.1.2

end

/-- with `filter_glob` alone and a complete prefix matcher, the reported files are exactly the files
below the start whose path matches -/
theorem filter_glob_files_exact (g : GlobFilter) (hpc : PrefixComplete g) (t : Node) (start : WPath)
    (es : Ents) (hwf : t.wf = true) (hs : t.get start = some (.dir es))
    (a : WPath) (name : Name) (b : Bytes) :
    (start ++ (a ++ [name]), Node.file b) ∈ selected { filterGlob := some g } t start ↔
      (start ++ (a ++ [name]), Node.file b) ∈ allBelow t start ∧
        g.exact (fileGlobPath (start ++ a) name) = true := by
  constructor
  · intro h
    exact ⟨(selected_sublist_all _ t start).subset h,
      filter_glob_file_needs_exact _ g t start es hwf hs rfl a name b h⟩
  · rintro ⟨hall, hex⟩
    rw [← selected_none_eq_all t start es hs] at hall
    exact prune_sound_glob { filterGlob := some g } g t start es hwf hs rfl hpc a name b hall hex

/-- the hypothesis `PrefixComplete` cannot be dropped: an exact matcher that accepts the file `/a/x`
with a prefix matcher that does not accept the directory `/a` (the shape of the matcher for `**.py`
that /repo a715270 fixed) — the file matches exactly, passes everything else, and is not selected -/
theorem prefix_completeness_needed :
    ∃ (g : GlobFilter) (t : Node) (p : WPath) (b : Bytes),
      t.wf = true ∧ t.get p = some (.file b) ∧ g.exact (render p) = true ∧
      (p, Node.file b) ∈ selected {} t [] ∧
      (p, Node.file b) ∉ selected { filterGlob := some g } t [] := by
  refine ⟨⟨fun s => s == "/a/x".toList, fun s => s == "/a/x".toList⟩,
    .dir [("a".toList, .dir [("x".toList, .file [])])], ["a".toList, "x".toList], [], ?_, ?_, ?_, ?_, ?_⟩
  · decide +kernel
  · rfl
  · decide +kernel
  · exact (selected_iff {} _ [] _ (by decide +kernel) rfl _ _).2
      ⟨_, rfl, rfl, chain_none _ _ _ _ (List.cons_ne_nil _ _)⟩
  · -- the directory `/a` is not accepted as a prefix, so `chain` fails at its first step
    intro h
    obtain ⟨rel, hp, _, hc⟩ := (selected_iff _ _ [] _ (by decide +kernel) rfl _ _).1 h
    cases hp
    exact absurd hc (by decide +kernel)

/-- guards against C13-filter-glob-prune (fixed in /repo a715270): on the tree `/a/x` with the exact
matcher of `prefix_completeness_needed`, *every* complete prefix matcher lets the walk report the file -/
theorem prune_glob_repaired (pref : Str → Bool)
    (hpc : PrefixComplete ⟨fun s => s == "/a/x".toList, pref⟩) :
    (["a".toList, "x".toList], Node.file []) ∈
      selected { filterGlob := some ⟨fun s => s == "/a/x".toList, pref⟩ }
        (.dir [("a".toList, .dir [("x".toList, .file [])])]) [] := by
  have h := prune_sound_glob { filterGlob := some ⟨fun s => s == "/a/x".toList, pref⟩ } _
    (.dir [("a".toList, .dir [("x".toList, .file [])])]) [] _ (by decide +kernel) rfl rfl hpc
    ["a".toList] "x".toList []
    ((selected_iff {} _ [] _ (by decide +kernel) rfl _ _).2
      ⟨_, rfl, rfl, chain_none _ _ _ _ (List.cons_ne_nil _ _)⟩)
    (by simp [fileGlobPath, render, Fs.Path.combine, Fs.Path.joinWith, Fs.Path.rstripSlash, Fs.Path.lstripSlash])
  simpa using h

/-- guards against C13-filter-glob-file-prefix (fixed in /repo a47d87a): with
`filter_glob=["foo/bar/*.py"]` (exact: only `/foo/bar/<x>.py`‑like strings, here none of the tree;
prefix: `/foo`, `/foo/bar`) the *file* `/foo/bar` is not reported — only the directory `/foo` is -/
theorem file_prefix_not_accepted_repaired :
    (selected { filterGlob := some ⟨fun s => s == "/foo/bar/q.py".toList,
        fun s => s == "/foo".toList || s == "/foo/bar".toList⟩ }
      (.dir [("foo".toList, .dir [("bar".toList, .file [])])]) []).map (·.1) = [["foo".toList]] := by
  simp only [selected, Node.get, selEnts]
  decide +kernel

/-! ## `walk()`: the Steps group the reported resources by directory -/

/-- The Steps of `Walker.walk` hold exactly the info events of the underlying walk (each Step
standing for the pairs `(step.path, info)`, directories listed in `dirs`, files in `files`), one
Step per end marker, in the order of the end markers. -/
theorem steps_group_by_dir (o : Opts) (s : Search) (t : Node) (start : WPath) (evs : List Event)
    (hi : iterWalk o s t start = .ok evs) :
    ∃ steps, walk o s t start = .ok steps ∧
      (steps.flatMap stepFlat).Perm (infoEvents evs) ∧
      steps.map (·.path) = markers evs ∧
      (∀ st ∈ steps, (∀ i ∈ st.dirs, i.2.isDir = true) ∧ (∀ i ∈ st.files, i.2.isDir = false)) := by
  exact ⟨(regroup evs []).1, by simp [walk, hi, Res.map], regroup_closed evs (iterWalk_closed hi),
    regroup_paths evs [], regroup_kinds evs []⟩

/-- the resources of a walk are its info events with the path joined: `combine(dir, info.name)` -/
theorem resources_are_info_events (evs : List Event) :
    resources evs = (infoEvents evs).map (fun x => (x.1 ++ [x.2.1], x.2.2)) := by
  induction evs with
  | nil => rfl
  | cons e evs ih =>
    obtain ⟨d, i⟩ := e
    cases i with
    | none => exact ih
    | some i => exact congrArg (_ :: ·) ih

/-! ## the strings of the code on rendered component paths -/

/-- `_calculate_depth` of the path string of a clean component list is its number of components, so
the relative depth the machines compute is `len(dir) - len(start) + 1` -/
theorem calculate_depth_counts_components (cs : WPath) (h : ∀ c ∈ cs, cleanName c = true) :
    calculateDepth (render cs) = cs.length :=
  WalkPathLemmas.calculateDepth_render cs (TreeLemmas.clean_of_cleanName h)

/-- the glob string of a directory entry is its absolute path -/
theorem glob_path_of_dir_entry (dir : WPath) (k : Name) (h : ∀ c ∈ dir ++ [k], cleanName c = true) :
    dirGlobPath dir k = render (dir ++ [k]) :=
  WalkPathLemmas.dirGlobPath_eq dir k (TreeLemmas.clean_of_cleanName h)

/-- the glob string of a file entry is its absolute path — in every directory, the root included
(not `"//name"` in the root: fixed in /repo a47d87a) -/
theorem glob_path_of_file_entry (dir : WPath) (k : Name) (h : ∀ c ∈ dir ++ [k], cleanName c = true) :
    fileGlobPath dir k = render (dir ++ [k]) :=
  WalkPathLemmas.fileGlobPath_eq dir k (TreeLemmas.clean_of_cleanName h)

/-- guards against C13-glob-root-double-slash (fixed in /repo a47d87a): the glob string of `x.py` in
the root is its real path -/
theorem glob_path_of_root_file_repaired :
    fileGlobPath [] "x.py".toList = "/x.py".toList ∧ fileGlobPath [] "x.py".toList = render ["x.py".toList] := by
  constructor <;> decide +kernel

/-! ## the start path is normalised by every entry point -/

/-- `_iter_walk` normalises the start path (`abspath(normpath(path))`, /repo 429ed79): every spelling
`"/" + "/".join(cs)` or `"/".join(cs)` of a clean component list starts the same walk, for `info`,
`files`, `dirs` and `walk` alike -/
theorem start_path_normalised (o : Opts) (s : Search) (t : Node) (absolute : Bool) (cs : WPath)
    (h : ∀ c ∈ cs, cleanName c = true) :
    iterWalkStr o s t (PathLemmas.mkp absolute cs) = iterWalk o s t cs ∧
    infoStr o s t (PathLemmas.mkp absolute cs) = info o s t cs ∧
    filesStr o s t (PathLemmas.mkp absolute cs) = files o s t cs ∧
    dirsStr o s t (PathLemmas.mkp absolute cs) = dirs o s t cs ∧
    walkStr o s t (PathLemmas.mkp absolute cs) = walk o s t cs := by
  have hs := WalkPathLemmas.startOf_mkp absolute cs (TreeLemmas.clean_of_cleanName h)
  simp [iterWalkStr, infoStr, filesStr, dirsStr, walkStr, hs, Res.bind]

/-- guards against C13-start-path-not-normalised (fixed in /repo 429ed79): the relative spelling `"a"`
and the redundant spelling `"a/../a/"` resolve to the component path `["a"]`, `""` to the root, and
`"../a"` is refused -/
theorem start_path_normalised_repaired :
    startOf "a".toList = .ok ["a".toList] ∧ startOf "a/../a/".toList = .ok ["a".toList] ∧
    startOf "".toList = .ok [] ∧ startOf "../a".toList = .err .IllegalBackReference := by
  refine ⟨?_, ?_, ?_, ?_⟩ <;> decide +kernel

/-! ## the work-list of the code holds paths only -/

/-- `_walk_breadth` keeps only directory *paths* in its queue and re-reads each directory with
`scandir`; the model machine carries the listing instead.  For a well-formed tree the two produce
the same event sequence (the carried listing is what `scandir` would read) with any fuel above the
number of nodes below the start: the paths-only machine then never runs out of fuel and never hits a
scan error. -/
theorem breadth_paths_only_machine (o : Opts) (t : Node) (start : WPath) (es : Ents) (hwf : t.wf = true)
    (hs : t.get start = some (.dir es)) (fuel : Nat) (hf : 1 + entsCount es ≤ fuel) :
    walkBreadthPaths o start.length t fuel [start] = walkBreadth o start.length [(start, es)] := by
  have := walkBreadthPaths_eq o start.length t hwf [(start, es)] fuel
    (by intro x hx; simp only [List.mem_singleton] at hx; subst hx; exact hs)
    (by simpa [qsize] using hf)
  simpa using this

/-- in particular for the fuel the driver uses (the number of nodes of the whole tree) -/
theorem iter_walk_paths_eq (o : Opts) (t : Node) (start : WPath) (es : Ents) (hwf : t.wf = true)
    (hs : t.get start = some (.dir es)) :
    iterWalkPaths o t start = walkBreadth o start.length [(start, es)] := by
  have := TreeLemmas.get_count hs
  simp only [Node.count] at this
  exact breadth_paths_only_machine o t start es hwf hs t.count this

/-! ## the hypotheses are satisfiable: a concrete non-trivial instance -/

/-- `/a/x.py`, `/a/b/y.py`, `/x.py` -/
def exEnts : Ents :=
  [("a".toList, .dir [("x.py".toList, .file []), ("b".toList, .dir [("y.py".toList, .file [])])]),
   ("x.py".toList, .file [])]
def exTree : Node := .dir exEnts

example : exTree.wf = true := by decide +kernel
example : exTree.get [] = some (.dir exEnts) := rfl
example : exTree.get ["a".toList] =
    some (.dir [("x.py".toList, .file []), ("b".toList, .dir [("y.py".toList, .file [])])]) := rfl
example : ∃ l, info {} .breadth exTree [] = .ok l := by simp [info, iterWalk, exTree, Node.get, Res.map]
/-- breadth order, no options: top level first -/
example : (resources (walkBreadth {} 0 [([], exEnts)])).map (·.1) =
    [["a".toList], ["x.py".toList], ["a".toList, "x.py".toList], ["a".toList, "b".toList],
     ["a".toList, "b".toList, "y.py".toList]] := by
  simp [walkBreadth, scanBreadth, exEnts, checkOpenDir, checkFile, checkScanDir, optAny, optAll, globDirOk, globFileOk, resources]
/-- depth order with `max_depth = 2`: `/a/b` is reported but not scanned, `/a` after its contents -/
example : (resources (walkDepth { maxDepth := some 2 } 0 [([], exEnts, none)])).map (·.1) =
    [["a".toList, "x.py".toList], ["a".toList, "b".toList], ["a".toList], ["x.py".toList]] := by
  simp [walkDepth, exEnts, checkOpenDir, checkFile, checkScanDir, optAny, optAll, globDirOk, globFileOk, resources, relDepth]
/-- `filter_dirs` that rejects `b`: nothing below `/a/b` -/
example : (selected { filterDirs := some (fun k => k == "a".toList) } exTree []).map (·.1) =
    [["a".toList], ["a".toList, "x.py".toList], ["x.py".toList]] := by
  simp only [selected, exTree, exEnts, Node.get, selEnts]
  decide +kernel
/-- `PrefixComplete` is satisfiable (and is what a correct prefix matcher provides) -/
example : PrefixComplete ⟨fun s => s == "/a/x.py".toList, fun _ => true⟩ := fun _ _ _ _ _ => rfl
/-- the hypotheses of `prune_sound` are met non-trivially: `/a/b/y.py` is selected without options -/
example : (["a".toList, "b".toList, "y.py".toList], Node.file []) ∈ selected {} exTree [] := by
  simp [selected, exTree, exEnts, Node.get, selEnts, fileSel, dirSel, depthOk, optAny, optAll, globDirOk, globFileOk]

end Fs.C13
