/-
  C16 — file objects from every filesystem behave like Python io files.

  The reference `IoRef` is `io.FileIO` on a regular file restated as a pure state machine (validated
  against the real `io.FileIO` on every run); `MemFile` is `_MemoryFile` of fs/memoryfs.py (/repo c4647cd)
  line by line over a model of the shared `io.BytesIO`.  All statements quantify over every mode string /
  flag combination, every initial content, every position and every finite sequence of calls.
-/
import FsProofs.Lemmas.FileLemmas

namespace Fs.C16
open Fs Fs.File Fs.FileLemmas

/-! ## mode flags -/

/-- For every mode string that Python's `open` accepts, the
flags `Mode` derives (by membership tests) are the ones `io.open`/`io.FileIO.__init__` compute
by scanning the string — up to `Mode.truncate`, which `Mode` also sets for `x` (unobservable:
an exclusively created file is new and empty). All strings, no length bound. -/
theorem mode_flags_correct (m : Str) (fl : Flags)
    (hp : PyMode.pyOpen m = some fl) :
    Mode.flags m = { fl with truncate := fl.truncate || fl.exclusive } := by
  unfold PyMode.pyOpen at hp
  cases hraw : PyMode.ioOpenRawMode m with
  | none => rw [hraw] at hp; cases hp
  | some raw =>
    rw [hraw] at hp
    obtain ⟨hone, rfl⟩ := ioOpenRawMode_some m raw hraw
    have hp' : PyMode.fileioParse (rawMode m) = some fl := hp
    have h := fileioParse_rawMode m hone
    rw [hp'] at h
    exact (Option.some.inj h).symm

/-- `Mode.validate` is no wider than Python: every string it accepts — all strings, no length bound — is one
`io.open` + `FileIO.__init__` accept.  Guards against `Mode.validate` accepting `"rw"`, which Python's `open`
rejects and `MemoryFS.openbin` opened as read/write/truncate (fixed in /repo by `fix: Mode.validate rejects the
mode strings io.open rejects`): `"rw"` is a `ValueError` on both sides. -/
theorem mode_validate_wider_than_python_repaired :
    (∀ m : Str, Mode.validate m = .ok () → (PyMode.pyOpen m).isSome = true) ∧
    Mode.validate ['r', 'w'] = .err .ValueError ∧ PyMode.pyOpen ['r', 'w'] = none := by
  refine ⟨?_, by decide, by decide⟩
  intro m h
  obtain ⟨hone, _, hraw⟩ := validate_facts m h
  have ht := fileioParse_rawMode m hone
  rw [PyMode.pyOpen, hraw]
  show (PyMode.fileioParse (rawMode m)).isSome = true
  cases hq : PyMode.fileioParse (rawMode m) with
  | none => rw [hq] at ht; cases ht
  | some fl => rfl

/-- `to_platform_bin` yields a binary mode with the same flags. -/
theorem to_platform_bin_flags (m : Str) (h : Mode.validateBin m = .ok ()) :
    Mode.flags (Mode.toPlatformBin m) = Mode.flags m ∧ Mode.has (Mode.toPlatformBin m) 'b' = true :=
  toPlatformBin_flags m

example : Mode.validateBin ['r', '+'] = .ok () := by decide +kernel
example : PyMode.pyOpen ['a', 'b', '+'] = some ⟨true, true, true, false, false, true⟩ := by decide +kernel

/-! ## `_MemoryFile` refines the io reference -/

/-- opening: same verdict, and the handle starts in related states -/
theorem open_refines (fl : Flags) (hx : fl.exclusive = true → fl.create = true) (ex : Option Bytes) :
    match MemFile.openFile fl ex, IoRef.openFile fl ex with
    | .ok m, .ok r => R m r
    | .err e, .err e' => e = e'
    | _, _ => False := by
  rcases openFile_cases fl hx ex with ⟨e, h1, h2⟩ | ⟨m, r, h1, h2, hR⟩
  · rw [h1, h2]
  · rw [h1, h2]; exact hR

/-- one call outside the two tolerated vacuous calls: same result, related states — open or
closed handle, any flags, any position (also beyond EOF), any arguments -/
theorem step_refines (fl : Flags) (m : MemState) (r : IoState) (op : Op)
    (hR : R m r) (hd : deviates fl r op = false) :
    R (MemFile.step fl m op).1 (IoRef.step fl r op).1 ∧
    (MemFile.step fl m op).2 = (IoRef.step fl r op).2 :=
  FileLemmas.step_refines fl m r op hR hd

theorem deviates_iff_mayReject (fl : Flags) (r : IoState) (op : Op) :
    deviates fl r op = (IoRef.mayReject fl r op).isSome := by
  obtain ⟨rd, wr, ap, tr, ex, cr⟩ := fl
  obtain ⟨b, p, c⟩ := r
  cases op with
  | readline n =>
    cases n with
    | none => rfl
    | some z =>
      by_cases hz : z = 0
      · subst hz
        cases c <;> cases rd <;> rfl
      · simp [deviates, devClass, IoRef.mayReject, hz]
  | writelines ls => cases c <;> cases wr <;> cases ls <;> rfl
  | _ => rfl

/-- in the two tolerated classes only the result of that call differs: the implementation
rejects it with the error the tolerance names, the reference lets it through, and neither
changes its state (so the states stay related) -/
theorem tolerated_calls_keep_state (fl : Flags) (m : MemState) (r : IoState) (op : Op) (hR : R m r)
    (ht : deviates fl r op = true) :
    (MemFile.step fl m op).1 = m ∧ (IoRef.step fl r op).1 = r ∧
    ∃ e, IoRef.mayReject fl r op = some e ∧ (MemFile.step fl m op).2 = .err e := by
  obtain ⟨⟨b, bp⟩, p, c⟩ := m
  obtain ⟨b', p', c'⟩ := r
  obtain ⟨rd, wr, ap, tr, ex, cr⟩ := fl
  obtain ⟨_, _, rfl⟩ := hR
  rcases (deviates_iff _ _ _).mp ht with ⟨rfl, rfl | rfl⟩ | ⟨rfl, rfl, rfl⟩
  · exact ⟨rfl, rfl, .closed, rfl, rfl⟩
  · cases c
    · exact ⟨rfl, rfl, .notPermitted, rfl, rfl⟩
    · exact ⟨rfl, rfl, .closed, rfl, rfl⟩
  · exact ⟨rfl, rfl, .notPermitted, rfl, rfl⟩

/-- one call, any call: the states stay related and the implementation's result is admitted by
the reference (its own result, or the tolerated rejection) -/
theorem step_admits (fl : Flags) (m : MemState) (r : IoState) (op : Op) (hR : R m r) :
    R (MemFile.step fl m op).1 (IoRef.step fl r op).1 ∧
    IoRef.admitsOut fl r op (MemFile.step fl m op).2 = true := by
  cases hd : deviates fl r op with
  | false =>
    obtain ⟨hR', ho⟩ := FileLemmas.step_refines fl m r op hR hd
    exact ⟨hR', by simp [IoRef.admitsOut, ho]⟩
  | true =>
    obtain ⟨hm, hr, e, he, ho⟩ := tolerated_calls_keep_state fl m r op hR hd
    refine ⟨by rw [hm, hr]; exact hR, ?_⟩
    simp [IoRef.admitsOut, he, ho]

/-- any sequence of calls from related states is admitted by the reference -/
theorem runFrom_admits (fl : Flags) (ops : List Op) (m : MemState) (r : IoState) (hR : R m r) :
    IoRef.admitsFrom fl r ops (MemFile.runFrom fl m ops) = true := by
  induction ops generalizing m r with
  | nil => simp [MemFile.runFrom, IoRef.admitsFrom, hR.1]
  | cons op ops ih =>
    obtain ⟨hR', ho⟩ := step_admits fl m r op hR
    have hrest := ih _ _ hR'
    simp only [MemFile.runFrom]
    cases hrun : MemFile.runFrom fl (MemFile.step fl m op).1 ops with
    | mk tr fin =>
      rw [hrun] at hrest
      simp only [IoRef.admitsFrom, Bool.and_eq_true, decide_eq_true_eq]
      exact ⟨⟨ho, by simp [MemFile.obsTell, IoRef.obsTell, hR'.2.1, hR'.2.2]⟩, hrest⟩

/-- **The refinement theorem, unconditional.**  For every mode string, every initial content (or a
missing file) and every finite sequence of calls, what a MemoryFS file object does is admitted by
the io reference: the open verdict is the same; every call returns the reference's result — or,
for exactly `readline(0)` on a closed/unreadable handle and `writelines([])` on a read-only handle,
the rejection the documented tolerance allows (`IoRef.mayReject`); `tell()` after every call and the
bytes of the file at the end are the reference's. -/
theorem memfile_refines_ioref (mode : Str) (init : Option Bytes) (ops : List Op) :
    IoRef.admits mode init ops (MemFile.run mode init ops) = true := by
  unfold MemFile.run IoRef.admits
  cases hv : Mode.validateBin mode with
  | err e => simp
  | ok u =>
    rcases openFile_cases _ (flags_exclusive_create mode) init with ⟨e, h1, h2⟩ | ⟨m, r, h1, h2, hR⟩
    · simp [h1, h2]
    · simpa [h1, h2] using runFrom_admits (Mode.flags mode) ops m r hR

/-- `admits` is not vacuous: a wrong result, a wrong position, wrong final bytes or a rejection
outside the tolerance are not admitted -/
theorem admits_is_strict :
    IoRef.admits ['r'] (some [48]) [.read none] (.ok ([(.bytes [], some 1)], [48])) = false ∧
    IoRef.admits ['r'] (some [48]) [.read none] (.ok ([(.bytes [48], some 0)], [48])) = false ∧
    IoRef.admits ['r', '+'] (some [48]) [.write [49]] (.ok ([(.nat 1, some 1)], [48])) = false ∧
    IoRef.admits ['r'] (some [48]) [.read none] (.ok ([(.err .notPermitted, some 0)], [48])) = false ∧
    IoRef.admits ['w'] none [.readline (some 0)] (.ok ([(.err .closed, some 0)], [])) = false ∧
    IoRef.admits ['x'] (some [48]) [] (.ok ([], [48])) = false :=
  ⟨by decide +kernel, by decide +kernel, by decide +kernel, by decide +kernel, by decide +kernel, by decide +kernel⟩

/-! ### exact equality outside the tolerance -/

/-- no call of the session is one of the two tolerated vacuous calls (along the reference run) -/
def sessionAvoids (mode : Str) (init : Option Bytes) (ops : List Op) : Bool :=
  match IoRef.openFile (Mode.flags mode) init with
  | .ok s => avoids (Mode.flags mode) s ops
  | .err _ => true

/-- any sequence of calls from related states: same results, same `tell()` after every call,
same final bytes -/
theorem runFrom_refines (fl : Flags) (ops : List Op) (m : MemState) (r : IoState)
    (hR : R m r) (ha : avoids fl r ops = true) :
    MemFile.runFrom fl m ops = IoRef.runFrom fl r ops := by
  induction ops generalizing m r with
  | nil => simp [MemFile.runFrom, IoRef.runFrom, hR.1]
  | cons op ops ih =>
    simp only [avoids, Bool.and_eq_true, Bool.not_eq_true'] at ha
    obtain ⟨hR', ho⟩ := FileLemmas.step_refines fl m r op hR ha.1
    have hrest := ih _ _ hR' ha.2
    simp only [MemFile.runFrom, IoRef.runFrom]
    rw [hrest, ho]
    simp [MemFile.obsTell, IoRef.obsTell, hR'.2.1, hR'.2.2]

/-- when the tolerance is not exercised, "admitted" is plain equality of all observations -/
theorem memfile_eq_ioref_of_avoids (mode : Str) (init : Option Bytes) (ops : List Op)
    (h : sessionAvoids mode init ops = true) :
    MemFile.run mode init ops = IoRef.run mode init ops := by
  unfold MemFile.run IoRef.run
  cases hv : Mode.validateBin mode with
  | err e => rfl
  | ok u =>
    rcases openFile_cases _ (flags_exclusive_create mode) init with ⟨e, h1, h2⟩ | ⟨m, r, h1, h2, hR⟩
    · simp only [h1, h2]
    · simp only [sessionAvoids, h2] at h
      simp only [h1, h2, runFrom_refines (Mode.flags mode) ops m r hR h]

def noVacuousCall : Op → Bool
  | .readline (some z) => z != 0
  | .writelines ls => !ls.isEmpty
  | _ => true

theorem avoids_of_noVacuousCall (fl : Flags) (ops : List Op) (s : IoState)
    (h : ops.all noVacuousCall = true) : avoids fl s ops = true := by
  induction ops generalizing s with
  | nil => rfl
  | cons op ops ih =>
    simp only [List.all_cons, Bool.and_eq_true] at h
    simp only [avoids, Bool.and_eq_true, Bool.not_eq_true']
    refine ⟨Bool.eq_false_iff.mpr fun hd => ?_, ih _ h.2⟩
    rcases (deviates_iff _ _ _).mp hd with ⟨rfl, _⟩ | ⟨rfl, _⟩ <;> cases h.1

/-- a static sufficient condition: a session without `readline(0)` and without `writelines([])`
is equal on all observations — for every mode, content, and whatever else it does (zero-length
writes, use after close, seeks anywhere, truncates, iteration, …) -/
theorem memfile_eq_ioref_of_noVacuousCall (mode : Str) (init : Option Bytes) (ops : List Op)
    (h : ops.all noVacuousCall = true) :
    MemFile.run mode init ops = IoRef.run mode init ops := by
  apply memfile_eq_ioref_of_avoids
  unfold sessionAvoids
  split
  · exact avoids_of_noVacuousCall _ _ _ h
  · rfl

/-- the hypotheses are satisfiable by non-trivial sessions (the second one runs through every
class of calls repaired in /repo (below): clamped seek, truncate() beyond EOF, iteration, zero-length append
write, use after close) -/
example : sessionAvoids ['r', '+'] (some [48, 49, 10, 50])
    [.seek 2 0, .truncate (some 8), .tell, .write [88], .seek (-3) 2, .readline none, .close] = true := by
  decide +kernel
example : List.all [Op.seek (-1) 1, .seek 9 0, .truncate none, .seek 0 0, .iter, .write [], .read none,
    .close, .write [88], .tell] noVacuousCall = true := by decide +kernel

/-- the tolerance is really exercised by the code: plain equality fails on exactly these calls
(T0 `readline(0)` on a write-only / closed handle, T1 `writelines([])` on a read-only handle) -/
theorem tolerated_classes_counterexample :
    MemFile.run ['w'] none [.readline (some 0)] = .ok ([(.err .notPermitted, some 0)], []) ∧
    IoRef.run ['w'] none [.readline (some 0)] = .ok ([(.bytes [], some 0)], []) ∧
    MemFile.run ['r'] (some [48]) [.close, .readline (some 0)] = .ok ([(.none, none), (.err .closed, none)], [48]) ∧
    IoRef.run ['r'] (some [48]) [.close, .readline (some 0)] = .ok ([(.none, none), (.bytes [], none)], [48]) ∧
    MemFile.run ['r'] (some []) [.writelines []] = .ok ([(.err .notPermitted, some 0)], []) ∧
    IoRef.run ['r'] (some []) [.writelines []] = .ok ([(.none, some 0)], []) :=
  ⟨by decide +kernel, by decide +kernel, by decide +kernel, by decide +kernel, by decide +kernel, by decide +kernel⟩

/-! ### regression theorems: defects of `_MemoryFile` fixed in /repo (commit ids given); on each witness both
machines agree -/

/-- fixed in /repo 85c55f3: a closed `_MemoryFile` rejects reads and writes and leaves the stored file alone -/
theorem use_after_close_repaired :
    MemFile.run ['r', '+'] (some [48, 49]) [.close, .write [88], .read none, .tell, .flush, .close] =
      .ok ([(.none, none), (.err .closed, none), (.err .closed, none), (.err .closed, none),
            (.err .closed, none), (.none, none)], [48, 49]) ∧
    MemFile.run ['r', '+'] (some [48, 49]) [.close, .write [88], .read none, .tell, .flush, .close] =
      IoRef.run ['r', '+'] (some [48, 49]) [.close, .write [88], .read none, .tell, .flush, .close] :=
  ⟨by decide +kernel, by decide +kernel⟩

/-- fixed in /repo c173fc2: a relative seek to a negative offset is rejected and does not move -/
theorem seek_negative_repaired :
    MemFile.run ['r'] (some [48]) [.seek (-1) 1, .seek (-2) 2] =
      .ok ([(.err .invalid, some 0), (.err .invalid, some 0)], [48]) ∧
    MemFile.run ['r'] (some [48]) [.seek (-1) 1, .seek (-2) 2] =
      IoRef.run ['r'] (some [48]) [.seek (-1) 1, .seek (-2) 2] :=
  ⟨by decide +kernel, by decide +kernel⟩

/-- fixed in /repo d2dd72d: `seek(3); truncate()` extends the file with zeros -/
theorem truncate_none_past_eof_repaired :
    MemFile.run ['r', '+'] (some [48]) [.seek 3 0, .truncate none] =
      .ok ([(.nat 3, some 3), (.nat 3, some 3)], [48, 0, 0]) ∧
    MemFile.run ['r', '+'] (some [48]) [.seek 3 0, .truncate none] =
      IoRef.run ['r', '+'] (some [48]) [.seek 3 0, .truncate none] :=
  ⟨by decide +kernel, by decide +kernel⟩

/-- fixed in /repo dee803f: iteration advances the position and honours the mode -/
theorem iteration_repaired :
    MemFile.run ['r'] (some [97, 10, 98]) [.iter, .read none] =
      .ok ([(.lines [[97, 10], [98]], some 3), (.bytes [], some 3)], [97, 10, 98]) ∧
    MemFile.run ['a'] (some [97, 10, 98]) [.seek 0 0, .next, .iter] =
      .ok ([(.nat 0, some 0), (.err .notPermitted, some 0), (.err .notPermitted, some 0)], [97, 10, 98]) ∧
    MemFile.run ['r'] (some [97, 10, 98]) [.iter, .read none] =
      IoRef.run ['r'] (some [97, 10, 98]) [.iter, .read none] ∧
    MemFile.run ['a'] (some [97, 10, 98]) [.seek 0 0, .next, .iter] =
      IoRef.run ['a'] (some [97, 10, 98]) [.seek 0 0, .next, .iter] :=
  ⟨by decide +kernel, by decide +kernel, by decide +kernel, by decide +kernel⟩

/-- fixed in /repo c4647cd: a zero-length write / writelines in
append mode leaves the position alone; `a+`: `seek(0); write(b""); read()` returns the file -/
theorem append_empty_write_repaired :
    MemFile.run ['a', '+'] (some [48, 49]) [.seek 0 0, .write [], .writelines [[], []], .read none] =
      .ok ([(.nat 0, some 0), (.nat 0, some 0), (.none, some 0), (.bytes [48, 49], some 2)], [48, 49]) ∧
    MemFile.run ['a', '+'] (some [48, 49]) [.seek 0 0, .write [], .writelines [[], []], .read none] =
      IoRef.run ['a', '+'] (some [48, 49]) [.seek 0 0, .write [], .writelines [[], []], .read none] ∧
    MemFile.run ['a'] (some [48]) [.seek 0 0, .writelines [[], [88]], .tell] =
      .ok ([(.nat 0, some 0), (.none, some 2), (.nat 2, some 2)], [48, 88]) :=
  ⟨by decide +kernel, by decide +kernel, by decide +kernel⟩

/-- fixed in /repo 5781f51: truncate(size) keeps the position, append writes at EOF, read-only handles reject
truncate and writelines -/
theorem repaired_defects_agree :
    MemFile.run ['r', '+'] (some [48, 49, 50, 51]) [.seek 2 0, .truncate (some 8), .tell] =
      IoRef.run ['r', '+'] (some [48, 49, 50, 51]) [.seek 2 0, .truncate (some 8), .tell] ∧
    MemFile.run ['a'] (some [48, 49]) [.seek 0 0, .write [88]] = .ok ([(.nat 0, some 0), (.nat 1, some 3)], [48, 49, 88]) ∧
    MemFile.run ['r'] (some [48]) [.truncate (some 0)] = .ok ([(.err .notPermitted, some 0)], [48]) ∧
    MemFile.run ['r'] (some [48]) [.writelines [[88]]] = .ok ([(.err .notPermitted, some 0)], [48]) :=
  ⟨by decide +kernel, by decide +kernel, by decide +kernel, by decide +kernel⟩

/-! ## the corollaries named by the property (stated on the implementation model `MemFile`,
and on the reference where it reads differently)

A corollary about `_MemoryFile` is `step_refines` at the reference state the handle stands for (`step_refines_at`),
then the reference's equation for the call; only the refusals for want of permission or on a closed handle, which
cover the two tolerated calls as well, open `MemFile.step` itself.  What an open leaves behind is read off the
reference through `memfile_eq_ioref_of_noVacuousCall` on the empty session. -/

theorem append_writes_at_end_ref (fl : Flags) (s : IoState) (d : Bytes)
    (hw : fl.writing = true) (ha : fl.appending = true) (ho : s.closed = false) (hd : d ≠ []) :
    (IoRef.step fl s (.write d)).1.bytes = s.bytes ++ d ∧
    (IoRef.step fl s (.write d)).1.pos = (s.bytes ++ d).length := by
  simp [step_write, ho, hw, IoRef.write1, ha, hd, writeAt_end]

/-- append mode: wherever the position is, the data goes to the end of the file and the
position ends up after it -/
theorem append_writes_at_end (fl : Flags) (m : MemState) (d : Bytes)
    (hw : fl.writing = true) (ha : fl.appending = true) (ho : m.closed = false) :
    (MemFile.step fl m (.write d)).1.bio.bytes = m.bio.bytes ++ d ∧
    (d ≠ [] → (MemFile.step fl m (.write d)).1.pos = (m.bio.bytes ++ d).length) ∧
    (d = [] → (MemFile.step fl m (.write d)).1.pos = m.pos) ∧
    (MemFile.step fl m (.write d)).2 = .nat d.length := by
  obtain ⟨⟨h1, h2, _⟩, h3⟩ := step_refines_at fl m (.write d) rfl
  rw [h1, h2, h3]
  by_cases hd : d = [] <;> simp [step_write, ho, hw, IoRef.write1, ha, hd, writeAt_end]

/-- `writelines` in append mode: all pieces go to the end, in order -/
theorem append_writelines_at_end (fl : Flags) (m : MemState) (ls : List Bytes)
    (hw : fl.writing = true) (ha : fl.appending = true) (ho : m.closed = false) :
    (MemFile.step fl m (.writelines ls)).1.bio.bytes = m.bio.bytes ++ ls.flatten := by
  obtain ⟨⟨h1, _, _⟩, _⟩ := step_refines_at fl m (.writelines ls) (by simp [deviates, devClass, hw])
  rw [h1, step_writelines fl _ ho hw]
  exact foldl_write_append_bytes fl ha ls _

/-- `truncate(size)` and `truncate()` (= `truncate(tell())`): the position does not move; the file
keeps its first `size` bytes and is extended with zero bytes when it was shorter -/
theorem truncate_keeps_pos_zero_extends (fl : Flags) (m : MemState) (size : Option Int)
    (hw : fl.writing = true) (hz : ∀ z, size = some z → 0 ≤ z) (ho : m.closed = false) :
    let n : Nat := match size with | none => m.pos | some z => z.toNat
    (MemFile.step fl m (.truncate size)).1.pos = m.pos ∧
    (MemFile.step fl m (.truncate size)).1.bio.bytes =
      m.bio.bytes.take n ++ zeros (n - m.bio.bytes.length) ∧
    (MemFile.step fl m (.truncate size)).2 = .nat n := by
  obtain ⟨⟨h1, h2, _⟩, h3⟩ := step_refines_at fl m (.truncate size) rfl
  rw [h1, h2, h3, step_open fl _ _ ho rfl]
  cases size with
  | none => simp [IoRef.stepOpen, hw, resize_eq]
  | some z => simp [IoRef.stepOpen, hw, Int.not_lt.mpr (hz z rfl), resize_eq]

/-- opening with `w` empties an existing file (both machines), whatever the other flags -/
theorem w_truncates (mode : Str) (b : Bytes) (hv : Mode.validateBin mode = .ok ())
    (hw : Mode.has mode 'w' = true) (hx : Mode.has mode 'x' = false) :
    MemFile.run mode (some b) [] = .ok ([], []) ∧ IoRef.run mode (some b) [] = .ok ([], []) := by
  have h : IoRef.run mode (some b) [] = .ok ([], []) := by
    simp [IoRef.run, hv, IoRef.openFile, Mode.flags, Mode.truncate, Mode.exclusive, hw, hx, IoRef.runFrom]
  exact ⟨(memfile_eq_ioref_of_noVacuousCall mode _ [] rfl).trans h, h⟩

/-- opening with `x` fails with FileExists when the file exists (both machines) -/
theorem x_fails_if_exists (mode : Str) (b : Bytes) (ops : List Op) (hv : Mode.validateBin mode = .ok ())
    (hx : Mode.has mode 'x' = true) :
    MemFile.run mode (some b) ops = .err .FileExists ∧ IoRef.run mode (some b) ops = .err .FileExists := by
  constructor
  · simp [MemFile.run, hv, MemFile.openFile, Mode.flags, Mode.exclusive, Mode.create, hx]
  · simp [IoRef.run, hv, IoRef.openFile, Mode.flags, Mode.exclusive, hx]

/-- … and creates the file when it does not exist -/
theorem x_creates_if_missing (mode : Str) (hv : Mode.validateBin mode = .ok ())
    (hx : Mode.has mode 'x' = true) :
    MemFile.run mode none [] = .ok ([], []) ∧ IoRef.run mode none [] = .ok ([], []) := by
  have h : IoRef.run mode none [] = .ok ([], []) := by
    simp [IoRef.run, hv, IoRef.openFile, Mode.flags, Mode.exclusive, Mode.create, hx, IoRef.runFrom]
  exact ⟨(memfile_eq_ioref_of_noVacuousCall mode _ [] rfl).trans h, h⟩

/-- `r`/`r+` on a missing file: ResourceNotFound -/
theorem r_fails_if_missing (mode : Str) (ops : List Op) (hv : Mode.validateBin mode = .ok ())
    (hc : Mode.create mode = false) :
    MemFile.run mode none ops = .err .ResourceNotFound ∧ IoRef.run mode none ops = .err .ResourceNotFound := by
  constructor
  · simp [MemFile.run, hv, MemFile.openFile, Mode.flags, hc]
  · simp [IoRef.run, hv, IoRef.openFile, Mode.flags, hc]

/-- a handle without write permission rejects write, writelines (even of nothing) and truncate
and changes nothing -/
theorem no_write_rejects_write_writelines_truncate (fl : Flags) (m : MemState) (hw : fl.writing = false)
    (ho : m.closed = false) (d : Bytes) (ls : List Bytes) (z : Option Int) :
    MemFile.step fl m (.write d) = (m, .err .notPermitted) ∧
    MemFile.step fl m (.writelines ls) = (m, .err .notPermitted) ∧
    MemFile.step fl m (.truncate z) = (m, .err .notPermitted) := by
  simp [MemFile.step, MemFile.stepOpen, hw, ho]

theorem no_write_rejects_write_writelines_truncate_ref (fl : Flags) (s : IoState) (hw : fl.writing = false)
    (ho : s.closed = false) (d : Bytes) (ls : List Bytes) (hls : ls ≠ []) (z : Option Int) :
    IoRef.step fl s (.write d) = (s, .err .notPermitted) ∧
    IoRef.step fl s (.writelines ls) = (s, .err .notPermitted) ∧
    IoRef.step fl s (.truncate z) = (s, .err .notPermitted) := by
  have : ls.isEmpty = false := by cases ls <;> simp_all
  simp [IoRef.step, IoRef.stepOpen, IoRef.isReadline0, hw, ho, this]

/-- a handle without read permission rejects every reading call — read, readall, readinto,
readline, readlines, `next` and iteration — and changes nothing -/
theorem no_read_rejects_reads (fl : Flags) (m : MemState) (hr : fl.reading = false)
    (ho : m.closed = false) (n : Option Int) (k : Nat) :
    MemFile.step fl m (.read n) = (m, .err .notPermitted) ∧
    MemFile.step fl m .readall = (m, .err .notPermitted) ∧
    MemFile.step fl m (.readinto k) = (m, .err .notPermitted) ∧
    MemFile.step fl m (.readline n) = (m, .err .notPermitted) ∧
    MemFile.step fl m .readlines = (m, .err .notPermitted) ∧
    MemFile.step fl m .next = (m, .err .notPermitted) ∧
    MemFile.step fl m .iter = (m, .err .notPermitted) := by
  simp [MemFile.step, MemFile.stepOpen, MemFile.nextStep, MemFile.iterLoop, hr, ho]

theorem no_read_rejects_reads_ref (fl : Flags) (s : IoState) (hr : fl.reading = false)
    (ho : s.closed = false) (n : Option Int) (hn : n ≠ some 0) (k : Nat) :
    IoRef.step fl s (.read n) = (s, .err .notPermitted) ∧
    IoRef.step fl s .readall = (s, .err .notPermitted) ∧
    IoRef.step fl s (.readinto k) = (s, .err .notPermitted) ∧
    IoRef.step fl s (.readline n) = (s, .err .notPermitted) ∧
    IoRef.step fl s .readlines = (s, .err .notPermitted) ∧
    IoRef.step fl s .next = (s, .err .notPermitted) ∧
    IoRef.step fl s .iter = (s, .err .notPermitted) := by
  rw [step_open fl s (.readline n) ho (isReadline0_readline hn)]
  simp [IoRef.step, IoRef.stepOpen, IoRef.isReadline0, hr, ho]

/-- close() is final: every call on a closed `_MemoryFile` except `close()` itself is rejected
with the closed-file error and neither the handle nor the stored file changes -/
theorem closed_rejects_everything (fl : Flags) (m : MemState) (hc : m.closed = true) (op : Op)
    (h1 : op ≠ .close) :
    MemFile.step fl m op = (m, .err .closed) ∧ MemFile.step fl m .close = (m, .none) := by
  obtain ⟨bio, p, c⟩ := m
  obtain rfl : c = true := hc
  cases op with
  | close => exact absurd rfl h1
  | _ => exact ⟨rfl, rfl⟩

theorem closed_rejects_everything_ref (fl : Flags) (s : IoState) (hc : s.closed = true) (op : Op)
    (h1 : op ≠ .close) (h2 : IoRef.isReadline0 op = false) :
    IoRef.step fl s op = (s, .err .closed) := by
  obtain ⟨b, p, c⟩ := s
  obtain rfl : c = true := hc
  cases op with
  | close => exact absurd rfl h1
  | readline n => rw [IoRef.step, h2]; rfl
  | _ => rfl

/-- a relative seek whose target would be negative is rejected and moves nothing -/
theorem seek_negative_rejected (fl : Flags) (m : MemState) (off : Int) (ho : m.closed = false) :
    (Int.ofNat m.pos + off < 0 → (MemFile.step fl m (.seek off 1)).2 = .err .invalid ∧
      (MemFile.step fl m (.seek off 1)).1.pos = m.pos) ∧
    (Int.ofNat m.bio.bytes.length + off < 0 → (MemFile.step fl m (.seek off 2)).2 = .err .invalid ∧
      (MemFile.step fl m (.seek off 2)).1.pos = m.pos) := by
  have hR := fun w => step_refines_at fl m (.seek off w) rfl
  have hS := step_seek_negative fl ⟨m.bio.bytes, m.pos, m.closed⟩ ho off
  exact ⟨fun h => by rw [(hR 1).2, (hR 1).1.2.1, hS.1 h]; exact ⟨rfl, rfl⟩,
    fun h => by rw [(hR 2).2, (hR 2).1.2.1, hS.2 h]; exact ⟨rfl, rfl⟩⟩

/-- seeking beyond EOF and writing fills the gap with zero bytes -/
theorem seek_past_end_write_zero_fills (fl : Flags) (m : MemState) (k : Nat) (d : Bytes)
    (hw : fl.writing = true) (ha : fl.appending = false) (hd : d ≠ []) (ho : m.closed = false)
    (hp : m.pos = m.bio.bytes.length + k) :
    (MemFile.step fl m (.write d)).1.bio.bytes = m.bio.bytes ++ zeros k ++ d := by
  obtain ⟨⟨h1, _, _⟩, _⟩ := step_refines_at fl m (.write d) rfl
  rw [h1]
  simp [step_write, ho, hw, IoRef.write1, ha, hd, hp, writeAt_past_end]

/-- reads at or beyond EOF return nothing and do not move -/
theorem read_at_eof_empty (fl : Flags) (m : MemState) (n : Option Int)
    (hr : fl.reading = true) (ho : m.closed = false) (hp : m.bio.bytes.length ≤ m.pos) :
    (MemFile.step fl m (.read n)).2 = .bytes [] ∧ (MemFile.step fl m (.read n)).1.pos = m.pos := by
  obtain ⟨⟨_, h2, _⟩, h3⟩ := step_refines_at fl m (.read n) rfl
  rw [h2, h3, step_read fl _ ho hr, IoRef.readN, List.drop_eq_nil_of_le hp, limit_nil]
  exact ⟨rfl, rfl⟩

/-! ### non-vacuity of the corollaries' hypotheses -/
example : (Mode.flags ['a', '+']).writing = true ∧ (Mode.flags ['a', '+']).appending = true := by decide +kernel
example : (Mode.flags ['r']).writing = false ∧ (Mode.flags ['w']).reading = false := by decide +kernel
example : Mode.validateBin ['x', 'b'] = .ok () ∧ Mode.has ['x', 'b'] 'x' = true := by decide +kernel
example : Mode.validateBin ['w', '+'] = .ok () ∧ Mode.has ['w', '+'] 'w' = true ∧ Mode.has ['w', '+'] 'x' = false := by
  decide +kernel
example : deviates (Mode.flags ['r', '+']) ⟨[1, 2, 3], 1, false⟩ (.truncate (some 7)) = false := by decide +kernel
example : deviates (Mode.flags ['r', '+']) ⟨[1, 2, 3], 9, true⟩ (.truncate none) = false := by decide +kernel
example : devClass (Mode.flags ['w']) ⟨[], 0, false⟩ (.readline (some 0)) = some .readlineZero := by decide +kernel
example : R ⟨⟨[1, 2, 3], 0⟩, 2, false⟩ ⟨[1, 2, 3], 2, false⟩ := ⟨rfl, rfl, rfl⟩

end Fs.C16
