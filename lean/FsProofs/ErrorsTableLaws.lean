/-
  ErrorsTableLaws — the class table of `fs/errors.py` / `fs/opener/errors.py`, regenerated from `$VERIF_REPO` on
  every run (`FsModel/Generated/ErrorsTable.lean`, written by harness/extract/errorstable.py), against what the
  model assumes about the error classes it reports (`FsModel/ErrorsModel.lean`: `pyAncestors`, `modelled`).
  What is said of the regenerated table is decided by the kernel in the one evaluation `table_laws` whose fields the
  theorems are: a change of a base class, of a message template, of a constructor, of a `__reduce__` makes the
  corresponding field false and the build fail, and the obligation goes to C06's failing-input search (the live
  classes: `__mro__`, `vars()`, `str()`, a pickle round trip).
-/
import FsModel.ErrorsModel
import FsModel.Generated.ErrorsTable

namespace Fs.ErrorsTableLaws
open Fs Fs.ErrorsModel Fs.Generated

/-- every class has exactly one base, which is a builtin exception or a class stated EARLIER in the table -/
def basesEarlier : List ErrClass → List String → Bool
  | [], _ => true
  | c :: r, seen =>
    (match c.bases with
     | [b] => seen.contains b || (builtins.map (·.1)).contains b
     | _ => false) && basesEarlier r (c.name :: seen)

/-- `s.toList`, read off the bytes: the guess "every byte is a character" is kept when it encodes back to the bytes of
`s` (so for ASCII).  `String.toList` decodes UTF-8 by well-founded recursion, which is slow in the kernel; the templates
are where `table_laws` would otherwise spend most of its evaluation. -/
def chars (s : String) : List Char :=
  let bs := s.toByteArray.data.toList
  let l := bs.map fun b => Char.ofNat b.toNat
  if l.flatMap String.utf8EncodeChar = bs then l else s.toList

theorem chars_eq (s : String) : chars s = s.toList := by
  simp only [chars]
  split
  next h =>
    refine .symm <| (congrArg String.toList (String.toByteArray_inj.mp ?_)).symm.trans String.toList_ofList
    rw [String.toByteArray_ofList, List.utf8Encode, h]
    cases s.toByteArray
    simp [ByteArray.ext_iff]
  · rfl

theorem placeholders_eq (s : String) : placeholders s = (placeholdersGo (chars s) .text []).map String.ofList := by
  rw [chars_eq, placeholders]

/-- What the regenerated table must show: the theorems of this file, as the fields of one structure that is decided
in one evaluation.  The linearisation, the fields and the template of a class are looked up by name in every law; the
kernel keeps what it has computed within one proof only, so apart each law would pay for the look-ups and for the
string literals of the table again. -/
structure TableLaws : Prop where
  table_understood : errorsTableNotes = [] ∧ errorsTable.all (fun c => c.unknown.isEmpty) = true
  names_distinct : (errorsTable.map (·.name)).Nodup
  bases_defined_earlier : basesEarlier errorsTable [] = true
  model_classes_exist : ∀ e ∈ modelled,
    (find errorsTable e.name).isSome = true ∧ mro errorsTable e.name = e.name :: pyAncestors e
  model_family : ∀ e ∈ modelled,
    (mro errorsTable e.name).contains "FSError" = !(e == .IllegalBackReference || e == .ParseError)
  model_templates : ∀ e ∈ modelled,
    (mro errorsTable e.name).contains "FSError" = true → (templateOf errorsTable e.name).isSome = true
  fs_errors_family :
    (errorsTable.filter (fun c => c.file == "fs/errors.py" && !(mro errorsTable c.name).contains "FSError")).map (·.name)
      = outsideFSError
  caught_classes_are_leaves :
    errorsTable.all (fun c => !(mro errorsTable c.name).contains "ResourceNotFound" || c.name == "ResourceNotFound") = true
  super_names_ancestor :
    errorsTable.all (fun c => match c.superInit with
      | some w => (mro errorsTable c.name).contains w
      | none => true) = true
  templates_closed :
    errorsTable.all (fun c => match templateOf errorsTable c.name with
      | some tpl => (placeholders tpl).all (fun p => (fieldsOf errorsTable c.name).contains p)
      | none => true) = true
  str_attribute_set :
    errorsTable.all (fun c => match formatsOf errorsTable c.name with
      | some a => (fieldsOf errorsTable c.name).contains a
      | none => true) = true
  render_is_fserrors :
    errorsTable.all (fun c => !(mro errorsTable c.name).contains "FSError" || c.name == "FSError" ||
      (!c.definesStr && !c.definesRepr && c.formats.isNone)) = true
  pickle_sound_except :
    (errorsTable.filter (fun c => !pickleSound errorsTable c.name)).all (fun c => pickleRecorded.contains c.name) = true

theorem table_laws : TableLaws := by
  -- the structure is the conjunction of its fields; that is decided, with the templates scanned through `chars`
  refine (fun ⟨h1, h2, h3, h4, h5, h6, h7, h8, h9, h10, h11, h12, h13⟩ =>
      ⟨h1, h2, h3, h4, h5, h6, h7, h8, h9, h10, h11, h12, h13⟩ :
    _ ∧ _ ∧ _ ∧ _ ∧ _ ∧ _ ∧ _ ∧ _ ∧ _ ∧ _ ∧ _ ∧ _ ∧ _ → TableLaws) ?_
  simp only [placeholders_eq]
  decide +kernel

/-- the extractor read both files and understood every statement of every class -/
theorem table_understood :
    errorsTableNotes = [] ∧ errorsTable.all (fun c => c.unknown.isEmpty) = true := table_laws.table_understood

/-- no two classes share a name -/
theorem names_distinct : (errorsTable.map (·.name)).Nodup := table_laws.names_distinct

/-- single inheritance from classes stated earlier: the hierarchy is a forest, so `chain` (hence `mro`) follows
the one path to a builtin, which is Python's linearisation -/
theorem bases_defined_earlier : basesEarlier errorsTable [] = true := table_laws.bases_defined_earlier

/-- `modelled` lists exactly the classes with assumed ancestors -/
theorem modelled_complete (e : Err) : pyAncestors e ≠ [] ↔ e ∈ modelled := by
  cases e <;> decide +kernel

/-- every class the model reports exists, with exactly the ancestors the model assumes: `ResourceNotFound` below
`ResourceError` below `FSError`, `FileExpected` / `DirectoryExpected` below `ResourceInvalid`, …,
`IllegalBackReference` and `ParseError` below `ValueError` and NOT below `FSError` -/
theorem model_classes_exist (e : Err) (h : pyAncestors e ≠ []) :
    (find errorsTable e.name).isSome = true ∧ mro errorsTable e.name = e.name :: pyAncestors e :=
  table_laws.model_classes_exist e ((modelled_complete e).mp h)

/-- a modelled class is caught by `except FSError` unless the model says it is a `ValueError` -/
theorem model_family (e : Err) (h : e ∈ modelled) :
    (mro errorsTable e.name).contains "FSError" = !(e == .IllegalBackReference || e == .ParseError) :=
  table_laws.model_family e h

/-- the classes of fs/errors.py outside `FSError` are the four recorded ones -/
theorem fs_errors_family :
    (errorsTable.filter (fun c => c.file == "fs/errors.py" && !(mro errorsTable c.name).contains "FSError")).map (·.name)
      = outsideFSError := table_laws.fs_errors_family

/-- nothing derives from `ResourceNotFound`, the one class the translated functions catch by name
(`except ResourceNotFound:` in `fs.copy._copy_is_necessary` is the arm `.err .ResourceNotFound` of the generated
code) -/
theorem caught_classes_are_leaves :
    errorsTable.all (fun c => !(mro errorsTable c.name).contains "ResourceNotFound" || c.name == "ResourceNotFound") = true :=
  table_laws.caught_classes_are_leaves

/-- `super(C, self).__init__` names the class itself or one of its ancestors -/
theorem super_names_ancestor :
    errorsTable.all (fun c => match c.superInit with
      | some w => (mro errorsTable c.name).contains w
      | none => true) = true := table_laws.super_names_ancestor

/-- every replacement field of every class's message template is an attribute its constructor chain sets:
`default_message.format(**self.__dict__)` cannot raise KeyError -/
theorem templates_closed :
    errorsTable.all (fun c => match templateOf errorsTable c.name with
      | some tpl => (placeholders tpl).all (fun p => (fieldsOf errorsTable c.name).contains p)
      | none => true) = true := table_laws.templates_closed

/-- a class whose `__str__` formats `self._msg` has `_msg` set by its constructor chain (also `CreateFailed`,
which does not call `FSError.__init__`) -/
theorem str_attribute_set :
    errorsTable.all (fun c => match formatsOf errorsTable c.name with
      | some a => (fieldsOf errorsTable c.name).contains a
      | none => true) = true := table_laws.str_attribute_set

/-- `__str__` / `__repr__` / `_format_msg` of the `FSError` family are `FSError`'s: no subclass overrides them -/
theorem render_is_fserrors :
    errorsTable.all (fun c => !(mro errorsTable c.name).contains "FSError" || c.name == "FSError" ||
      (!c.definesStr && !c.definesRepr && c.formats.isNone)) = true := table_laws.render_is_fserrors

/-- every modelled class below `FSError` has a message template -/
theorem model_templates (e : Err) (h : e ∈ modelled) :
    (mro errorsTable e.name).contains "FSError" = true → (templateOf errorsTable e.name).isSome = true :=
  table_laws.model_templates e h

/-- the constructor call `__reduce__` asks for is the class's own constructor with the attributes it set, for
every class but the two recorded ones -/
theorem pickle_sound_except :
    (errorsTable.filter (fun c => !pickleSound errorsTable c.name)).all (fun c => pickleRecorded.contains c.name) = true :=
  table_laws.pickle_sound_except

/-- the scanner on the shapes that matter: escaped braces, conversions, attribute / index access -/
theorem placeholders_examples :
    placeholders "path '{path}' has no '{purpose}' URL" = ["path", "purpose"] ∧
    placeholders "{{literal}} {a!r} {b:>4} {c.d} {e[0]} {}" = ["a", "b", "c", "e", ""] := by
  simp only [placeholders_eq]
  decide +kernel

end Fs.ErrorsTableLaws
