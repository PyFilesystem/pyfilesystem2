/-
  C09 — parallel bulk copy equals sequential copy and never hides a failure.

  The model is the labelled transition system `FsModel.Bulk` (fs/_bulk.py `Copier`, `_Worker.run`,
  `_CopyTask.__call__`, fs/copy.py `copy_file_internal` for the inline path).  Every theorem quantifies over
    * every configuration `c` : any number of workers `c.n` (0 = inline), any task list, any fault
      oracle `c.faults` (which open / read / write / close / setinfo calls raise), any chunk size
      (positive, and the destination paths distinct, in the three theorems of "parallel = sequential"),
      preserve_time on/off, both `with` orders of the inline path, any initial destination;
    * every schedule: `Reach c s` / `Exec c t s` is the closure of the initial state under every
      enabled transition of every thread.
  "At exit" is `s.prod = .finished o` (`Copier.__exit__` has returned (`o = .ok`) or raised).
-/
import FsProofs.Lemmas.BulkFinal

namespace Fs.C09
open Fs Fs.Bulk Fs.BulkLemmas

/-! ## task conservation -/

/-- tasks = pending ⊎ queued ⊎ inflight ⊎ done ⊎ dropped, at every moment of every run
    (`dropped` = the tasks the producer never handed over because its loop raised) -/
theorem bulk_task_conservation {c : Cfg} {s : St} (h : Reach c s) :
    (s.pending ++ s.queued ++ s.inflight ++ s.done ++ s.dropped).Perm (List.range c.tasks.length) :=
  List.perm_iff_count.mpr (inv_reach h).cons

/-- hence no task is executed (or queued, or held) twice -/
theorem bulk_task_at_most_once {c : Cfg} {s : St} (h : Reach c s) :
    (s.pending ++ s.queued ++ s.inflight ++ s.done ++ s.dropped).Nodup :=
  (bulk_task_conservation h).nodup_iff.mpr List.nodup_range

/-- the call comes back only after every worker thread has returned from `run`; nothing is
    pending, queued or in flight any more, and the queue itself is empty -/
theorem returns_after_all_workers {c : Cfg} {s : St} {o : Outcome} (h : Reach c s)
    (hf : s.prod = .finished o) :
    s.allExited ∧ s.pending = [] ∧ s.queued = [] ∧ s.inflight = [] ∧ s.queue = [] ∧
      (s.done ++ s.dropped).Perm (List.range c.tasks.length) := by
  have hI := inv_reach h
  obtain ⟨hq, hex, hcnt⟩ := done_dropped_of_joined hI (joined_of_finished hf)
  refine ⟨hex, by simp [St.pending, hf, Prod.pending], by simp [St.queued, hq], ?_, hq,
    List.perm_iff_count.mpr hcnt⟩
  simp [St.inflight, hf, Prod.inflight, flatMap_nil_of_allExited W.tasks rfl _ hex]

/-- a normal return means every single task was transferred -/
theorem bulk_ok_all_done {c : Cfg} {s : St} (h : Reach c s) (hf : s.prod = .finished .ok) :
    s.done.Perm (List.range c.tasks.length) := by
  have hI := inv_reach h
  have hd : s.dropped = [] := by
    by_cases hd : s.dropped = []
    · exact hd
    · have := hI.drop hd; simp [hf, raised] at this
  have := (returns_after_all_workers h hf).2.2.2.2.2
  simpa [hd] using this

/-- the bounded queue never holds more than `num_workers` items -/
theorem bulk_queue_bounded {c : Cfg} {s : St} (h : Reach c s) : s.queue.length ≤ c.n :=
  (inv_reach h).invA.qlen

/-- no deadlock: in every reachable state that is not final, some thread can move (while the
    producer is blocked on a full queue a live worker can take an item; while it waits in `join()`
    for worker `k`, that worker can move; `queue.join()` never blocks).  This speaks of the next
    step only: nothing is assumed or said about fairness, so not that a waiting thread moves in
    the end. -/
theorem bulk_no_deadlock {c : Cfg} {s : St} (h : Reach c s) :
    s.prod.isFinished = true ∨ ∃ l s' e, stepEv c s l = some (s', e) :=
  progress (inv_reach h)

/-! ## parallel = sequential -/

/-- copies to distinct destination paths commute (observationally) -/
theorem copyOne_comm (d : Store) (a b : Task) (h : a.dst ≠ b.dst) (p : Str) :
    (copyOne (copyOne d a) b).get p = (copyOne (copyOne d b) a).get p := by
  by_cases hb : p = b.dst
  · subst hb
    rw [get_copyOne_self, get_copyOne_ne _ a _ (Ne.symm h), get_copyOne_self]
  · by_cases ha : p = a.dst
    · subst ha
      rw [get_copyOne_ne _ b _ hb, get_copyOne_self, get_copyOne_self]
    · rw [get_copyOne_ne _ b _ hb, get_copyOne_ne _ a _ ha, get_copyOne_ne _ a _ ha, get_copyOne_ne _ b _ hb]

/-- the sequential result does not depend on the order of the tasks -/
theorem sequential_order_irrelevant {ts ts' : List Task} (hp : ts.Perm ts')
    (hn : (ts.map (·.dst)).Nodup) (d : Store) (p : Str) :
    (ts.foldl copyOne d).get p = (ts'.foldl copyOne d).get p := by
  have hn' : (ts'.map (·.dst)).Nodup := (hp.map _).nodup_iff.mp hn
  by_cases h : ∃ t ∈ ts, t.dst = p
  · obtain ⟨t, ht, rfl⟩ := h
    rw [foldl_copyOne_task ts d t hn ht, foldl_copyOne_task ts' d t hn' (hp.mem_iff.mp ht)]
  · have h1 : ∀ t ∈ ts, t.dst ≠ p := fun t ht heq => h ⟨t, ht, heq⟩
    have h2 : ∀ t ∈ ts', t.dst ≠ p := fun t ht heq => h ⟨t, hp.mem_iff.mpr ht, heq⟩
    rw [foldl_copyOne_other ts d p h1, foldl_copyOne_other ts' d p h2]

/-- Whenever no failure fired during a run — whatever the fault oracle, the number of workers and
    the schedule — the call returns normally and the destination at exit is the sequential one. -/
theorem bulk_equals_sequential_of_no_failure {c : Cfg} {s : St} {o : Outcome}
    (hn : (c.tasks.map (·.dst)).Nodup) (hch : 0 < c.chunk)
    (h : Reach c s) (hf : s.prod = .finished o) (h0 : s.nfail = 0) :
    o = .ok ∧ ∀ p, s.dest.get p = (c.tasks.foldl copyOne c.d0).get p := by
  have hwf : WfCfg c := ⟨hn, hch⟩
  have hI := inv_reach h
  obtain ⟨hD1, hD2⟩ := dest_reach hwf h h0
  constructor
  · exact Decidable.of_not_not fun ho => absurd ((nfail_pos_iff_of_finished hI hf).mpr ho) (by omega)
  · intro p
    by_cases hp : ∃ i, i < c.tasks.length ∧ c.dstp i = p
    · obtain ⟨i, hi, rfl⟩ := hp
      have hmem := mem_done_of_joined hI (joined_of_finished hf) h0 hi
      have h1 := hD1 (i, some (c.data i)) (mem_claims_done hmem)
      have h2 := foldl_copyOne_task c.tasks c.d0 c.tasks[i] hn (List.getElem_mem hi)
      simp only [Cfg.dstp, Cfg.data, List.getElem?_eq_getElem hi] at h1 ⊢
      rw [h1, h2]
    · have hne : ∀ i, i < c.tasks.length → c.dstp i ≠ p := fun i hi heq => hp ⟨i, hi, heq⟩
      rw [hD2 p hne, foldl_copyOne_other]
      intro t ht heq
      obtain ⟨i, hi, rfl⟩ := List.mem_iff_getElem.mp ht
      exact hne i hi (by simp [Cfg.dstp, List.getElem?_eq_getElem hi, heq])

/-- no failure injected → destination at exit = `foldl copyOne d0 tasks`, for every number of
    workers and every schedule (hypotheses: destination paths pairwise distinct, chunk size
    positive) -/
theorem bulk_equals_sequential {c : Cfg} {s : St} {o : Outcome}
    (hn : (c.tasks.map (·.dst)).Nodup) (hch : 0 < c.chunk) (hnf : c.faults = [])
    (h : Reach c s) (hf : s.prod = .finished o) :
    o = .ok ∧ ∀ p, s.dest.get p = (c.tasks.foldl copyOne c.d0).get p :=
  bulk_equals_sequential_of_no_failure hn hch h hf (nofault_reach ⟨hn, hch⟩ hnf h)

/-- in particular two un-faulted runs over the same tasks from the same initial destination
    agree, whatever their worker counts, schedules, (positive) chunk sizes, `with` orders and
    preserve_time flags -/
theorem bulk_independent_of_workers_and_schedule {c₁ c₂ : Cfg} {s₁ s₂ : St} {o₁ o₂ : Outcome}
    (ht : c₁.tasks = c₂.tasks) (hd : c₁.d0 = c₂.d0)
    (hn : (c₁.tasks.map (·.dst)).Nodup) (hch₁ : 0 < c₁.chunk) (hch₂ : 0 < c₂.chunk)
    (hnf₁ : c₁.faults = []) (hnf₂ : c₂.faults = [])
    (h₁ : Reach c₁ s₁) (h₂ : Reach c₂ s₂) (hf₁ : s₁.prod = .finished o₁) (hf₂ : s₂.prod = .finished o₂) :
    ∀ p, s₁.dest.get p = s₂.dest.get p := by
  intro p
  rw [(bulk_equals_sequential hn hch₁ hnf₁ h₁ hf₁).2 p,
    (bulk_equals_sequential (ht ▸ hn) hch₂ hnf₂ h₂ hf₂).2 p, ht, hd]

/-! ## failures are never hidden -/

/-- a transfer step failed (an open / read / write / close / setinfo event with `ok = false`
    occurs in the trace) → the call raises, it never returns normally -/
theorem bulk_error_never_hidden {c : Cfg} {t : Trace} {s : St} {o : Outcome} (h : Exec c t s)
    (hf : s.prod = .finished o) (hfail : ∃ le ∈ t, le.2.failed = true) : o ≠ .ok :=
  (failed_iff_of_finished h hf).mp hfail

/-- conversely the call raises only when some step failed -/
theorem bulk_raises_only_on_failure {c : Cfg} {t : Trace} {s : St} {o : Outcome} (h : Exec c t s)
    (hf : s.prod = .finished o) (ho : o ≠ .ok) : ∃ le ∈ t, le.2.failed = true :=
  (failed_iff_of_finished h hf).mpr ho

/-- a normal return means the error list is empty, and the exception is `BulkCopyFailed` only if a
    failure fired -/
theorem bulk_exit_rule {c : Cfg} {s : St} (h : Reach c s) :
    (s.prod = .finished .ok → s.errors = []) ∧ (s.prod = .finished .bulk → 0 < s.nfail) := by
  have hI := inv_reach h
  exact ⟨hI.finE, fun hf => (nfail_pos_iff_of_finished hI hf).mpr nofun⟩

/-! ## every handle is closed -/

/-- at exit every file object opened by the call has been closed — even when reads, writes or
    closes fail, in workers or in the producer -/
theorem bulk_all_closed {c : Cfg} {s : St} {o : Outcome} (h : Reach c s) (hf : s.prod = .finished o) :
    s.opened = [] :=
  opened_nil_of_joined (inv_reach h) (joined_of_finished hf)

/-- at every moment each open handle has exactly one owner (producer, queued task or worker) -/
theorem bulk_handles_owned {c : Cfg} {s : St} (h : Reach c s) : s.opened.Perm (held c s) :=
  List.perm_iff_count.mpr (inv_reach h).hand

/-! ## the thread-safe gate -/

/-- worker threads are used ⇔ workers were requested and both filesystems' meta say thread_safe
    (`is_thread_safe` + `num_workers=workers if _thread_safe else 0` in copy_dir_if and mirror) -/
theorem thread_safe_gate (workers : Nat) (src dst : Bool) :
    0 < effectiveWorkers workers src dst ↔ (0 < workers ∧ src = true ∧ dst = true) := by
  cases src <;> cases dst <;> simp [effectiveWorkers, isThreadSafe]

theorem thread_safe_gate_value (workers : Nat) (src dst : Bool) :
    effectiveWorkers workers src dst = if src && dst then workers else 0 := by
  cases src <;> cases dst <;> simp [effectiveWorkers, isThreadSafe]

/-- `is_thread_safe(*filesystems)` is `all(...)` -/
theorem isThreadSafe_iff (metas : List Bool) : isThreadSafe metas = true ↔ ∀ m ∈ metas, m = true := by
  simp [isThreadSafe]

/-! ## the hypotheses are satisfiable; concrete runs -/

/-- `n` workers, three files (one empty), chunk 2, one other file in the destination beforehand -/
def exCfg (n : Nat) (faults : List (Nat × FStep)) : Cfg :=
  { n := n
    tasks := [⟨['a'], ['x'], [1, 2, 3]⟩, ⟨['b'], ['y'], []⟩, ⟨['c'], ['z'], [4]⟩]
    faults := faults, chunk := 2, preserveTime := false, dstFirst := false, d0 := [(['k'], [9])] }

example : ((exCfg 2 []).tasks.map (·.dst)).Nodup := by decide +kernel
example : 0 < (exCfg 2 []).chunk := by decide +kernel

/-- un-faulted runs (`run` follows the schedule given, then lets the lowest enabled thread move
    until none can): with 2 workers the call returns and everything is closed; with 2 workers and
    inline (`exCfg 0`) the destination is as expected -/
example : (run (exCfg 2 []) [.p, .p, .p, .w 1, .w 1, .p]).1.prod = .finished .ok := by decide +kernel
example : (run (exCfg 2 []) [.p, .p, .p, .w 1]).1.opened = [] := by decide +kernel
example : (run (exCfg 2 []) []).1.dest.get ['x'] = some [1, 2, 3] := by decide +kernel
example : (run (exCfg 0 []) []).1.dest.get ['x'] = some [1, 2, 3] := by decide +kernel

/-- a write failing in a worker: `BulkCopyFailed`, everything closed, the chunk written before it
    left in the destination; an open failing in the producer (2 workers) and a close failing in the
    inline transfer (`exCfg 0`): the injected error propagates -/
example : (run (exCfg 2 [(0, .write 1)]) []).1.prod = .finished .bulk := by decide +kernel
example : (run (exCfg 2 [(0, .write 1)]) []).1.opened = [] := by decide +kernel
example : (run (exCfg 2 [(0, .write 1)]) []).1.dest.get ['x'] = some [1, 2] := by decide +kernel
example : (run (exCfg 2 [(1, .open .dst)]) [.p, .p, .p, .p, .p]).1.prod = .finished .other := by decide +kernel
example : (run (exCfg 0 [(2, .close .src)]) []).1.prod = .finished .other := by decide +kernel

/-- the traces produced by `run` are accepted -/
example : accepts (exCfg 2 [(0, .write 1)]) (run (exCfg 2 [(0, .write 1)]) [.w 0, .p, .w 1]).2 = true := by
  decide +kernel

end Fs.C09
