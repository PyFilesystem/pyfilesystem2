/-
  C20 — parsers of external text are total and faithful.

  Models: FsModel.Parse (`parse_fs_url`, `urllib.parse.unquote/quote/parse_qs`, `Registry.open`,
  the URL builder), FsModel.FtpParse (LIST / MLSD / FEAT parsers, `strptime` formats, calendar
  arithmetic) — transcriptions of the code in /repo.
  All statements quantify over every `Str = List Char`, no length bound.

  Totality.  Python helpers that can raise (`int` beyond the digit limit, `calendar.timegm`,
  `datetime(...)`) return `Res` in the model and the `try … except ValueError` of their callers are
  transcribed, so "the parser raises nothing but ParseError / nothing at all" is a theorem about
  which constructors the top-level model functions can return.  That the Python code behaves like
  the model is validated by the correspondence (harness/props/c20.py).

  The `…_repaired` theorems state what the parsers do at inputs where a defect was fixed in /repo
  (findings/applied): six found by this property, and `mlsd_name_separators_repaired` for the MLSD
  name defect found by C10 and fixed in /repo ec30a14 (`_parse_facts` reads `facts SP pathname`).
-/
import FsModel.Parse
import FsModel.FtpParse
import FsProofs.Lemmas.ParseLemmas
import FsProofs.Lemmas.FtpLemmas

namespace Fs.C20
open Fs Fs.Path Fs.Parse Fs.FtpParse Fs.ParseLemmas Fs.FtpLemmas

/-! ## parse_fs_url: totality -/

/-- the text contains `://` -/
def HasScheme (s : Str) : Prop := ∃ a b, s = a ++ ':' :: '/' :: '/' :: b

/-- For every string, `parse_fs_url` returns a `ParseResult` or raises
    `ParseError` — never another exception. -/
theorem parse_only_ParseError (s : Str) (e : Err) (he : parseFsUrl s = .err e) :
    e = .ParseError := by
  unfold parseFsUrl at he
  cases hg : reFsUrl s with
  | none => rw [hg] at he; cases he; rfl
  | some g =>
    rw [hg] at he
    simp only at he
    split at he <;> cases he

theorem parse_total (s : Str) :
    (∃ r, parseFsUrl s = .ok r) ∨ parseFsUrl s = .err .ParseError := by
  cases h : parseFsUrl s with
  | ok r => exact Or.inl ⟨r, rfl⟩
  | err e => rw [parse_only_ParseError s e h]; exact Or.inr rfl

/-- the regex matches iff the text contains `://` and has no line feed except possibly as its very
    last character (`.` without DOTALL; `$` before a final `\n`) -/
theorem regex_matches_iff (s : Str) :
    (reFsUrl s).isSome = true ↔ (HasScheme s ∧ '\n' ∉ dropFinalNl s) := by
  unfold reFsUrl
  cases hs : splitScheme s with
  | none =>
    have hno : ¬ HasScheme s := fun h => by simpa [hs] using (splitScheme_isSome_iff s).2 h
    simp [hno]
  | some ab =>
    obtain ⟨a, b⟩ := ab
    have hsab := (splitScheme_some hs).1
    have hdrop : dropFinalNl s = a ++ ':' :: '/' :: '/' :: dropFinalNl b := by
      rw [hsab, dropFinalNl_append _ _ (by simp)]
      cases b with
      | nil => rfl
      | cons x xs =>
        have := dropFinalNl_append [':', '/', '/'] (x :: xs) (by simp)
        simpa using congrArg (a ++ ·) this
    have hnl : '\n' ∈ dropFinalNl s ↔ (has '\n' a || has '\n' (dropFinalNl b)) = true := by
      rw [hdrop, Bool.or_eq_true, has_eq_true_iff, has_eq_true_iff, List.mem_append]
      exact or_congr_right ⟨fun h => by simpa using h, fun h => by simp [h]⟩
    simp only [show HasScheme s from ⟨a, b, hsab⟩, hnl, true_and]
    cases has '\n' a || has '\n' (dropFinalNl b)
    · simp only [Bool.false_eq_true, if_false]; split <;> simp
    · simp

/-- `ParseError` exactly when the regex does not match: no `://`, or a line feed where `.` is
    required -/
theorem parse_err_iff (s : Str) :
    parseFsUrl s = .err .ParseError ↔ ¬ (HasScheme s ∧ '\n' ∉ dropFinalNl s) := by
  rw [← regex_matches_iff]
  unfold parseFsUrl
  cases reFsUrl s with
  | none => simp
  | some g =>
    simp only [Option.isSome_some, not_true_eq_false, iff_false]
    split <;> simp

/-- an empty credentials part is accepted and reads like `x://:@host` (guards against an
    `AttributeError` behind `if not credentials:`, fixed in /repo) -/
theorem parse_empty_credentials_repaired :
    parseFsUrl ['x', ':', '/', '/', '@', 'h', 'o', 's', 't'] =
      .ok ⟨['x'], some [], some [], ['h', 'o', 's', 't'], [], none⟩ := by decide +kernel

/-- …as does every URL of that shape: `<proto>://@<rest>` has user and password `""` -/
theorem parse_empty_credentials_family (p r : Str) (h1 : splitScheme (p ++ [':', '/']) = none)
    (h2 : '\n' ∉ p) (h3 : '\n' ∉ r) :
    ∃ x, parseFsUrl (p ++ ':' :: '/' :: '/' :: '@' :: r) = .ok x ∧ x.protocol = p ∧
      x.username = some [] ∧ x.password = some [] := by
  have hnl : '\n' ∉ [] ++ '@' :: r := by
    simp only [List.nil_append, List.mem_cons, not_or]; exact ⟨by decide, h3⟩
  unfold parseFsUrl
  rw [← List.nil_append ('@' :: r), reFsUrl_build_cred p [] r h1 h2 (List.not_mem_nil) hnl]
  exact ⟨_, rfl, rfl, by simp [partition, unquote, has, finishUrl], by simp [partition, unquote, has, finishUrl]⟩

/-! ## URL dispatch (`Registry.open`) -/

/-- the opener that gets called is the one registered for the parsed protocol (for the default
    opener when the protocol is empty); it receives exactly the parser's result for the URL — the
    given one, or `default://text` when the text contains no `://` -/
theorem registry_dispatch (known : List Str) (dO dP url u : Str)
    (r : ParseResult) (h : registryOpen known dO dP url = .ok (u, r)) :
    parseFsUrl u = .ok r ∧ known.contains (if r.protocol = [] then dO else r.protocol) = true ∧
    ((HasScheme url ∧ u = url) ∨ (¬ HasScheme url ∧ u = dP ++ ':' :: '/' :: '/' :: url)) := by
  unfold registryOpen at h
  simp only at h
  cases hP : parseFsUrl (if (splitScheme url).isSome = true then url else dP ++ ':' :: '/' :: '/' :: url) with
  | err e => rw [hP] at h; cases h
  | ok r' =>
    rw [hP] at h
    simp only at h
    by_cases hk : known.contains (if r'.protocol = [] then dO else r'.protocol) = true
    · rw [if_pos hk] at h
      simp only [Res.ok.injEq, Prod.mk.injEq] at h
      obtain ⟨rfl, rfl⟩ := h
      refine ⟨hP, hk, ?_⟩
      by_cases hs : (splitScheme url).isSome = true
      · exact Or.inl ⟨(splitScheme_isSome_iff url).1 hs, if_pos hs⟩
      · exact Or.inr ⟨fun h => hs ((splitScheme_isSome_iff url).2 h), if_neg hs⟩
    · rw [if_neg hk] at h; cases h

/-- it fails only with the parser's error or `UnsupportedProtocol` -/
theorem registry_errors (known : List Str) (dO dP url : Str) (e : Err)
    (h : registryOpen known dO dP url = .err e) :
    e = .Unsupported ∨ e = .ParseError := by
  unfold registryOpen at h
  simp only at h
  cases hP : parseFsUrl (if (splitScheme url).isSome = true then url else dP ++ ':' :: '/' :: '/' :: url) with
  | err e' => rw [hP] at h; cases h; exact Or.inr (parse_only_ParseError _ _ hP)
  | ok r' =>
    rw [hP] at h
    simp only at h
    by_cases hk : known.contains (if r'.protocol = [] then dO else r'.protocol) = true
    · rw [if_pos hk] at h; cases h
    · rw [if_neg hk] at h; cases h; exact Or.inl rfl

/-! ## parse_fs_url: faithfulness -/

/-- percent-decoding inverts percent-encoding for every Unicode string (UTF-8, all four
    sequence lengths) -/
theorem unquote_quote (s : Str) : unquote (quoteAll s) = s := unquote_quoteAll s

/-- `fs._url_tools.url_quote` (non-Windows) is inverted by `unquote` -/
theorem unquote_url_quote (s : Str) : unquote (urlQuote s) = s :=
  unquote_quoteWith _ (by decide) s

/-- For arbitrary Unicode protocol, user, password, resource, parameter names,
    parameter values and sub-path subject only to `wfParts` (Parse.lean: the protocol contains no
    `://` and no line feed; user and password are both present or both absent; parameter names
    are distinct; the sub-path has no line feed and, when there are no credentials, no `@`) the
    parser recovers exactly the parts the URL was built from (`buildFsUrl`: the conventional
    percent-encoding of user, password, resource, names and values). -/
theorem url_roundtrip (x : ParseResult) (h : wfParts x = true) :
    parseFsUrl (buildFsUrl x) = .ok x := by
  obtain ⟨proto, u, p, res, ps, path⟩ := x
  unfold wfParts at h
  simp only [Bool.and_eq_true, Option.isNone_iff_eq_none, Bool.not_eq_true', has_eq_false_iff,
    beq_iff_eq, decide_eq_true_eq] at h
  obtain ⟨⟨⟨⟨h1, h2⟩, h3⟩, h4⟩, h5⟩ := h
  rw [buildFsUrl_eq]
  simp only
  -- the text between the credentials and the sub-path holds quoted characters and `=`, `&`, `?` only
  have hbody : ∀ c, ¬ QOut noSafe c → c ≠ '=' → c ≠ '&' → c ≠ '?' → c ∉ quoteAll res ++ qsOf ps :=
    fun c hc e1 e2 e3 => List.not_mem_append (not_mem_quoteAll c hc res) (not_mem_qs c hc e1 e2 e3 ps)
  have hbang := hbody '!' nq_bang (by decide) (by decide) (by decide)
  have hnlb := hbody '\n' nq_nl (by decide) (by decide) (by decide)
  have htail : '\n' ∉ tailOf path ∧ (u = none → '@' ∉ tailOf path) := by
    cases path with
    | none => simp [tailOf]
    | some pp =>
      simp only [pathOk, Bool.and_eq_true, Bool.not_eq_true', has_eq_false_iff, Bool.or_eq_true] at h5
      simp only [tailOf, List.mem_cons, not_or]
      exact ⟨⟨by decide, h5.1⟩, fun e => ⟨by decide, h5.2.resolve_left (by simp [e])⟩⟩
  have hpath : (if path.isSome = true then some (path.getD []) else none) = path := by
    cases path <;> rfl
  unfold parseFsUrl
  cases u with
  | none =>
    cases p with
    | some _ => simp at h3
    | none =>
      simp only [List.nil_append]
      rw [reFsUrl_build_nocred _ _ h1 h2
        (List.not_mem_append (hbody '@' nq_at (by decide) (by decide) (by decide)) (htail.2 rfl))
        (List.not_mem_append hnlb htail.1), partition_tail _ hbang, hpath]
      simp only [Option.getD_some]
      rw [finishUrl_build _ _ _ _ _ _ h4]
  | some uu =>
    cases p with
    | none => simp at h3
    | some pw =>
      simp only [Option.getD_some]
      have hcred : ∀ c, ¬ QOut noSafe c → c ≠ ':' → c ∉ quoteAll uu ++ ':' :: quoteAll pw := fun c hc e =>
        List.not_mem_append (not_mem_quoteAll c hc uu) (List.not_mem_cons_of_ne_of_not_mem e (not_mem_quoteAll c hc pw))
      rw [List.append_assoc, List.append_assoc, List.singleton_append,
        reFsUrl_build_cred _ _ _ h1 h2 (hcred '@' nq_at (by decide))
          (List.not_mem_append (hcred '\n' nq_nl (by decide))
            (List.not_mem_cons_of_ne_of_not_mem (by decide) (List.not_mem_append hnlb htail.1))),
        partition_tail _ hbang, hpath]
      simp only
      rw [partition_append_sep _ _ _ (not_mem_quoteAll _ nq_colon _)]
      simp only [unquote_quoteAll, Option.getD_some]
      rw [finishUrl_build _ _ _ _ _ _ h4]

example : wfParts ⟨"ftp".toList, some "jo:e@x".toList, some "p%40ss wörd".toList,
    "ftp.example.org/d ir".toList, [("a b".toList, "100%41".toList), ([], "&=".toList)],
    some "sub/p@th!x".toList⟩ = true := by
  -- here and below: `"…".toList` becomes the list of its characters first; the kernel would otherwise encode the
  -- literal to UTF-8 and decode it again
  repeat rw [String.toList_ofList]
  decide +kernel

/-- a parameter value is percent-decoded once (guards against `{k: unquote(v[0])}`, which decoded
    twice and read `x://h?k=%2541` as `{'k': 'A'}`; fixed in /repo) -/
theorem params_decoded_once_repaired :
    buildFsUrl ⟨['x'], none, none, ['h'], [(['k'], ['%', '4', '1'])], none⟩ = "x://h?k=%2541".toList ∧
    parseFsUrl "x://h?k=%2541".toList =
      .ok ⟨['x'], none, none, ['h'], [(['k'], ['%', '4', '1'])], none⟩ := by
  repeat rw [String.toList_ofList]
  decide +kernel

/-! ### every hypothesis of `wfParts` is needed: the round trip *fails* at each excluded point
    (these deviations remain; the same points are run through the real parser by the harness,
    `directed_excluded_points`) -/

/-- sub-path containing `@` without credentials: read as credentials -/
theorem wf_path_at_counterexample :
    parseFsUrl (buildFsUrl ⟨['x'], none, none, ['h'], [], some ['a', '@', 'b']⟩) =
      .ok ⟨['x'], some ['h', '!', 'a'], some [], ['b'], [], none⟩ := by decide +kernel

/-- protocol containing `://`: cut at the first one -/
theorem wf_protocol_counterexample :
    parseFsUrl (buildFsUrl ⟨['a', ':', '/', '/', 'b'], none, none, ['h'], [], none⟩) =
      .ok ⟨['a'], none, none, ['b', ':', '/', '/', 'h'], [], none⟩ := by decide +kernel

/-- duplicate parameter name: first value wins -/
theorem wf_keys_counterexample :
    parseFsUrl (buildFsUrl ⟨['x'], none, none, ['h'], [(['k'], ['1']), (['k'], ['2'])], none⟩) =
      .ok ⟨['x'], none, none, ['h'], [(['k'], ['1'])], none⟩ := by decide +kernel

/-- user without password: the parser always reports a password string -/
theorem wf_creds_counterexample :
    parseFsUrl (buildFsUrl ⟨['x'], some ['u'], none, ['h'], [], none⟩) =
      .ok ⟨['x'], some ['u'], some [], ['h'], [], none⟩ := by decide +kernel

/-- line feed in the sub-path: not a URL at all -/
theorem wf_path_nl_counterexample :
    parseFsUrl (buildFsUrl ⟨['x'], none, none, ['h'], [], some ['a', '\n', 'b']⟩) =
      .err .ParseError := by decide +kernel

/-! ## FTP LIST parsers: totality -/

/-- `parse_line` never raises, whatever the server sent: the only exception
    a decoder can raise is the `ValueError` of `int(size)` beyond the digit limit
    (`FtpLemmas.decodeLinux_err`, `decodeNt_err`), and `parse_line` catches it -/
theorem parse_line_total (cy : Nat) (l : Str) : ∃ r, parseLine cy l = .ok r := parseLine_ok cy l

/-- and so `parse` never raises: it is exactly the `parse_line` results of the non-blank lines, in
    order, with unparseable lines dropped -/
theorem garbage_skipped (cy : Nat) (lines : List Str) :
    parse cy lines = .ok ((lines.filter (fun l => decide (strip l ≠ []))).filterMap
      (fun l => okVal (parseLine cy l))) := parse_eq cy lines

/-- a line neither regex matches yields nothing -/
theorem unmatched_line_skipped (cy : Nat) (l : Str) (h1 : reLinux l = none)
    (h2 : reNt l = none) : parseLine cy l = .ok none := by
  unfold parseLine; rw [h1, h2]

/-- `int()` raises exactly beyond the digit limit … -/
theorem int_digit_limit (s : Str) : intOfDigits s = .err .ValueError ↔ s.length > maxStrDigits := by
  simp [intOfDigits_err_iff]

/-- … and a unix LIST line whose size field is beyond it is skipped (guards against an uncaught
    `ValueError` from `int(size)`, fixed in /repo) -/
theorem parse_line_digit_limit_repaired (cy : Nat) (l : Str) (g : LinuxGroups)
    (hg : reLinux l = some g) (hsz : g.size.length > maxStrDigits) : parseLine cy l = .ok none := by
  unfold parseLine
  rw [hg]
  simp only
  rw [(decodeLinux_err_iff cy l g _).2 ⟨rfl, hsz⟩]
  rfl

/-- `Feb 29 HH:MM` in a non-leap current year keeps the entry, without a modification time (guards
    against an uncaught `ValueError('day is out of range for month')` from
    `datetime(current_year, 2, 29, …)`, fixed in /repo) -/
theorem parse_line_feb29_repaired :
    parseLine 2026 "-rw-r--r-- 1 u g 10 Feb 29 12:00 x".toList =
      .ok (some ⟨['x'], false, some 10, none,
        some (["g_r", "o_r", "u_r", "u_w"].map String.toList), some ['u'], some ['g'],
        "-rw-r--r-- 1 u g 10 Feb 29 12:00 x".toList⟩) := by
  repeat rw [String.toList_ofList]
  decide +kernel

/-- for a time `strptime` accepted, that is the only case in which `_parse_time` yields nothing -/
theorem parse_time_none_iff (cy : Nat) (hcy : 1 ≤ cy ∧ cy ≤ 9999) (tm : Tm) (hv : tmValid tm = true) :
    finishTime cy (some tm) = .ok none ↔
      (tm.year = none ∧ tm.month = 2 ∧ tm.day = 29 ∧ isLeap cy = false) := by
  obtain ⟨yr, m, d, h, mi⟩ := tm
  have key : finishTime cy (some ⟨yr, m, d, h, mi⟩) = .ok none ↔ ¬ validDate (substYear cy yr) m d = true := by
    unfold finishTime; simp only; split <;> simp_all
  rw [key]
  cases yr with
  | some yy =>
    have : validDate (substYear cy (some yy)) m d = true := by
      simp only [substYear]; split
      · rename_i e; subst e; exact validDate_of_1900 cy m d hcy hv
      · exact hv
    simp [this]
  | none =>
    rw [tmValid_none] at hv
    simp only [substYear, validDate_iff_1900 cy m d hcy, true_and]
    have h29 : ¬ validDate 1900 2 29 = true := by decide
    constructor
    · intro hn
      rcases hv with hv | ⟨rfl, rfl⟩
      · exact absurd (Or.inl hv) hn
      · refine ⟨rfl, rfl, ?_⟩
        cases hl : isLeap cy with
        | false => rfl
        | true => exact absurd (Or.inr ⟨rfl, rfl, hl⟩) hn
    · rintro ⟨rfl, rfl, hl⟩ (h | ⟨_, _, h⟩)
      · exact h29 h
      · rw [hl] at h; cases h

example : parse 2026 ["".toList, "total 12".toList, "  ".toList,
    "11-02-18  02:12PM       <DIR>          images".toList, "garbage".toList] =
    .ok [⟨"images".toList, true, none, some 1518358320, none, none, none,
      "11-02-18  02:12PM       <DIR>          images".toList⟩] := by
  repeat rw [String.toList_ofList]
  decide +kernel

/-! ## FTP LIST parsers: faithfulness -/

/-- A unix LIST line rendered from an entry (`renderLinux`: type,
    nine permission characters incl. `s S t T`, optional `.`/`+`, link count, owner, group, size,
    `Mon DD YYYY` or `Mon DD HH:MM`, name, `name -> target` for links) parses back to its name, type,
    size, time, owner, group and `permNames` of its permission characters.  For `s S t T` these are
    names (`u_s`, `g_S`, `o_t`, …) that nothing else in the library reads: the open finding
    `C20/line/unfaithful/permissions-special-bits` (`InfoLaws.list_special_bits_counterexample`).
    `WFLinux` (FtpParse.lean) lists the hypotheses: the fields are in the
    regex's character classes, the size has at most 4300 digits (a longer one makes the line
    unparseable: `parse_line_digit_limit_repaired`), the date exists (`wfLTime`),
    the name does not start with white space, has no line feed and — for links — no `->` and no
    outer white space. -/
theorem linux_line_roundtrip (cy : Nat) (e : LinuxEntry) (h : WFLinux cy e) :
    parseLine cy (renderLinux e) = .ok (some ⟨e.name, e.ty == 'd' || e.ty == 'l',
      some (natOfDigits e.size), some (ltimeEpoch cy e.month e.day e.time),
      some (permNames e.perms), some e.uid, some e.gid, renderLinux e⟩) :=
  linux_line_roundtrip_core cy e h

example : permOk "rwsr-Sr-T".toList = true ∧
    permNames "rwsr-Sr-T".toList = ["g_S", "g_r", "o_T", "o_r", "u_r", "u_s", "u_w"].map String.toList := by
  repeat rw [String.toList_ofList]
  decide +kernel

example : renderLinux ⟨'l', "rwxrwxrwx".toList, [], ['1'], "root".toList, "root".toList, ['4'], 1, 5,
      .clock 9 30, "my link".toList, some "/x/y z".toList⟩ =
    "lrwxrwxrwx 1 root root 4 Jan 05 09:30 my link -> /x/y z".toList := by
  repeat rw [String.toList_ofList]
  decide +kernel

/-- the same for a Windows NT line (12 h and 24 h clocks, `<DIR>` and sizes) -/
theorem windows_line_roundtrip (cy : Nat) (e : NtEntry) (h : WFNt e) :
    parseLine cy (renderNt e) = .ok (some ⟨e.name, e.size.isNone, e.size.map natOfDigits,
      some (epochOf (fullYear e.yy) e.month e.day e.hour e.minute 0), none, none, none,
      renderNt e⟩) := by
  unfold parseLine
  have hlin : reLinux (renderNt e) = none := by
    have := digit_not_type _ (Nat.mod_lt (e.day / 10) (by decide : 0 < 10))
    show reLinux (digitChar (e.day / 10) :: _) = none
    simp only [reLinux, digitChar, this, Bool.not_false, if_true]
  rw [hlin, reNt_render e h]
  simp only
  unfold decodeNt
  have hsz : ntSize e.size = .ok (e.size.map natOfDigits) := by
    cases hs : e.size with
    | none => rfl
    | some ds =>
      simp only [ntSize, intOfDigits_ok ds (h.size ds hs).2.2, Option.map_some]
  rw [hsz]
  simp only
  have := decodeNtTime_render cy e h.time
  unfold ntTimeText at this
  rw [this]
  rfl

example : renderNt ⟨11, 2, 18, 14, 12, true, none, "images".toList⟩ =
    "11-02-18  02:12PM  <DIR> images".toList := by
  repeat rw [String.toList_ofList]
  decide +kernel

example : parseLine 2026 (renderNt ⟨11, 2, 18, 14, 12, true, none, "images".toList⟩) =
    .ok (some ⟨"images".toList, true, none, some 1518358320, none, none, none,
      "11-02-18  02:12PM  <DIR> images".toList⟩) := by
  repeat rw [String.toList_ofList]
  decide +kernel

/-! ## MLSD / MLST

  An entry is `[ facts ] SP pathname` (RFC 3659 7.2): the line is cut at its FIRST space; the text
  before it is the facts part (`fact;fact;…;`, no space anywhere), everything behind it is the
  pathname, whatever it contains.  `renderMlsd facts name` = `k1=v1;k2=v2;…; name`. -/

theorem mlsd_line_total (l : Str) : ∃ r, parseMlsxLine l = .ok r := ⟨_, parseMlsxLine_eq l⟩

/-- `_parse_mlsx` never raises, whatever the server sent -/
theorem mlsd_total (lines : List Str) : ∃ r, parseMlsx lines = .ok r := ⟨_, parseMlsx_eq lines⟩

/-- a size that `isdigit()` accepts and `int()` rejects counts as 0 (guards against
    `ValueError: invalid literal for int()`, fixed in /repo) -/
theorem mlsd_size_repaired :
    parseMlsxLine "size=²; f".toList =
      .ok (some ⟨['f'], false, [("size".toList, ['²'])], 0, none, none⟩) := by
  repeat rw [String.toList_ofList]
  decide +kernel

/-- an impossible date is reported as `None` (guards against `ValueError: month must be in 1..12`
    from a `calendar.timegm` outside the `try`, fixed in /repo) -/
theorem mlsd_time_repaired :
    parseMlsxLine "modify=20201301000000; f".toList =
      .ok (some ⟨['f'], false, [("modify".toList, "20201301000000".toList)], 0, some none, none⟩) := by
  repeat rw [String.toList_ofList]
  decide +kernel

/-- names containing `;`, `=` and outer blanks are listed as they are (guards against splitting the
    whole line at every `;`, each piece at `=`, and stripping, which listed the first entry as `a`
    with a made-up fact `b=c` and the second as `x`; fixed in /repo ec30a14) -/
theorem mlsd_name_separators_repaired :
    parseMlsx ["type=file;size=3; a; b=c".toList, "type=dir;  x \r\n".toList] =
      .ok [⟨"a; b=c".toList, false, [("type".toList, "file".toList), ("size".toList, ['3'])], 3, none, none⟩,
           ⟨" x ".toList, true, [("type".toList, "dir".toList)], 0, none, none⟩] := by
  repeat rw [String.toList_ofList]
  decide +kernel

/-- `_parse_facts` on `k1=v1;…; name`, for EVERY text `name`:
    the facts come back (keys in any case and any order lower-cased, in order) and the name is
    `pathName` of everything behind the first space — never split, trimmed or case-changed -/
theorem facts_roundtrip_any_name (facts : List (Str × Str)) (name : Str)
    (hf : ∀ kv ∈ facts, WFFact kv) (hnd : (facts.map (fun kv => lower kv.1)).Nodup) :
    parseFacts (renderMlsd facts name) = (pathName name, facts.map (fun kv => (lower kv.1, kv.2))) :=
  parseFacts_render_any facts name hf hnd

/-- whenever `pathName` yields a name it is `basename(pathname.rstrip("/"))` -/
theorem path_name_is_basename (p n : Str) (h : pathName p = some n) :
    n = basename (rstripSlash p) := pathName_some p n h

/-- `WFName` is exact: a pathname is returned as the name, unchanged, iff it is not empty,
    contains no `/` and is not `.` or `..` -/
theorem name_verbatim_iff (name : Str) : pathName name = some name ↔ WFName name := by
  constructor
  · intro h
    have hb := pathName_some _ _ h
    have hsl : '/' ∉ name := by rw [hb]; exact PathLemmas.basename_no_slash _
    refine ⟨?_, hsl, ?_, ?_⟩
    · intro e; subst e; exact absurd h (by decide)
    · intro e; subst e; exact absurd h (by decide)
    · intro e; subst e; exact absurd h (by decide)
  · exact pathName_wf name

/-- `_parse_facts` recovers name and facts from `k1=v1;k2=v2;…; name` -/
theorem facts_roundtrip (facts : List (Str × Str)) (name : Str) (hf : ∀ kv ∈ facts, WFFact kv)
    (hn : WFName name) (hnd : (facts.map (fun kv => lower kv.1)).Nodup) :
    parseFacts (renderMlsd facts name) = (some name, facts.map (fun kv => (lower kv.1, kv.2))) := by
  rw [parseFacts_render_any facts name hf hnd, pathName_wf name hn]

/-- a text without a facts part — no space at all, or a non-empty text before the first space that
    does not end with `;` — is a pathname as a whole and states no facts -/
theorem facts_absent (l : Str) (h : noFactsPart l = true) : parseFacts l = (pathName l, []) := by
  unfold parseFacts
  simp only [h, if_true]
  simp [splitOn, factStep_nil]

theorem facts_absent_no_space (l : Str) (h : ' ' ∉ l) : parseFacts l = (pathName l, []) := by
  apply facts_absent
  unfold noFactsPart
  rw [partition_not_mem _ _ h]
  rfl

/-- `_parse_ftp_time` on `YYYYMMDDHHMMSS[.fff]` is the epoch of that UTC time -/
theorem ftp_time_roundtrip (y m d h mi s : Nat) (frac : Str)
    (hy : 1 ≤ y ∧ y ≤ 9999) (hm : 1 ≤ m ∧ m ≤ 12) (hd : 1 ≤ d ∧ d < 100) (hh : h < 100)
    (hmi : mi < 100) (hs : s < 100) :
    parseFtpTime (stamp y m d h mi s ++ frac) = .ok (some (epochOf y m d h mi s)) := by
  unfold parseFtpTime
  have e1 : (stamp y m d h mi s ++ frac).take 4 = pad4 y := rfl
  have e2 : ((stamp y m d h mi s ++ frac).drop 4).take 2 = pad2 m := rfl
  have e3 : ((stamp y m d h mi s ++ frac).drop 6).take 2 = pad2 d := rfl
  have e4 : ((stamp y m d h mi s ++ frac).drop 8).take 2 = pad2 h := rfl
  have e5 : ((stamp y m d h mi s ++ frac).drop 10).take 2 = pad2 mi := rfl
  have e6 : ((stamp y m d h mi s ++ frac).drop 12).take 2 = pad2 s := rfl
  rw [e1, e2, e3, e4, e5, e6, pyInt_pad4 y (by omega), pyInt_pad2 m (by omega), pyInt_pad2 d (by omega),
    pyInt_pad2 h hh, pyInt_pad2 mi hmi, pyInt_pad2 s hs]
  simp only
  unfold timegm
  have hc : (1 : Int) ≤ (y : Int) ∧ (y : Int) ≤ 9999 ∧ (1 : Int) ≤ (m : Int) ∧ (m : Int) ≤ 12 := by omega
  rw [if_pos hc]
  simp only [Int.toNat_natCast]
  rw [days_from_first y m d hd.1]
  exact congrArg (fun v => Res.ok (some v)) (by unfold epochOf; omega)

/-- An MLSD line with at least one fact, all well-formed (any order, any key case; `WFFact`),
    whose type is `dir` or `file` (or absent: `file`) yields exactly its name, type, facts, size
    (`size`, else `sizd`, else 0) and times — for every name that is `WFName` (not empty, no `/`,
    not `.`/`..`) and does not end with CR / LF; the name may contain `;`, `=`, inner, leading and
    trailing blanks and any other character. -/
theorem mlsd_roundtrip (facts : List (Str × Str)) (name : Str)
    (hf : ∀ kv ∈ facts, WFFact kv) (hne : facts ≠ []) (hn : WFName name) (heol : NoEol name)
    (hnd : (facts.map (fun kv => lower kv.1)).Nodup)
    (ty : Str) (hty : (dictGet kType (facts.map (fun kv => (lower kv.1, kv.2)))).getD kFile = ty)
    (htyok : ty = kDir ∨ ty = kFile)
    (sz : Nat) (hsz : mlsdSize (facts.map (fun kv => (lower kv.1, kv.2))) = .ok sz)
    (mo cr : Option (Option Int))
    (hmo : mlsdTime (facts.map (fun kv => (lower kv.1, kv.2))) kModify = .ok mo)
    (hcr : mlsdTime (facts.map (fun kv => (lower kv.1, kv.2))) kCreate = .ok cr) :
    parseMlsxLine (renderMlsd facts name) =
      .ok (some ⟨name, ty = kDir, facts.map (fun kv => (lower kv.1, kv.2)), sz, mo, cr⟩) :=
  by rw [parseMlsxLine_rendered facts name hf hne hnd, rstripEol_noEol name heol, pathName_wf name hn,
    mlsxVal_some name _ ty hty htyok sz hsz mo cr hmo hcr]

/-- For every rendered line `facts; SP text` — `text` arbitrary — an entry
    that is listed carries the line's facts and the name `basename(text.rstrip("\r\n").rstrip("/"))`:
    the bytes of the name are never split, trimmed or case-changed -/
theorem mlsd_name_verbatim (facts : List (Str × Str)) (name : Str)
    (hf : ∀ kv ∈ facts, WFFact kv) (hne : facts ≠ [])
    (hnd : (facts.map (fun kv => lower kv.1)).Nodup)
    (info : MlsdInfo) (h : parseMlsxLine (renderMlsd facts name) = .ok (some info)) :
    info.name = basename (rstripSlash (rstripEol name)) ∧
      info.facts = facts.map (fun kv => (lower kv.1, kv.2)) := by
  have := mlsd_name_core facts name hf hne hnd info h
  exact ⟨pathName_some _ _ this.1, this.2⟩

/-- The name hypotheses of `mlsd_roundtrip` are exact: if the entry comes back under the
    very name the line states, that name is `WFName` and does not end with CR / LF -/
theorem mlsd_name_exact (facts : List (Str × Str)) (name : Str)
    (hf : ∀ kv ∈ facts, WFFact kv) (hne : facts ≠ [])
    (hnd : (facts.map (fun kv => lower kv.1)).Nodup)
    (info : MlsdInfo) (h : parseMlsxLine (renderMlsd facts name) = .ok (some info))
    (hname : info.name = name) : WFName name ∧ NoEol name := by
  have hp := (mlsd_name_core facts name hf hne hnd info h).1
  rw [hname] at hp
  have hb := pathName_some _ _ hp
  have h1 := PathLemmas.basename_length_le (rstripSlash (rstripEol name))
  have h2 := PathLemmas.rstripSlash_length_le (rstripEol name)
  have h3 := rstripEol_length_le name
  have hlen : (rstripEol name).length = name.length := by
    have : name.length = (basename (rstripSlash (rstripEol name))).length := congrArg List.length hb
    omega
  have heol := noEol_of_rstripEol name hlen
  rw [rstripEol_noEol name heol] at hp
  exact ⟨(name_verbatim_iff name).1 hp, heol⟩

/-- the MLST reply form — the entry preceded by one space — reads like the MLSD form -/
theorem mlst_leading_space (l : Str) (h : Stops (fun c => c == ' ') l) :
    parseMlsxLine (' ' :: l) = parseMlsxLine l := parseMlsxLine_lead_space l h

/-- a line without facts, `SP name` (or the bare `name`), is a file of that name with size 0 —
    provided the name itself cannot be read as `facts SP pathname` (`noFactsPart`: it has no
    space, or the text before its first space is non-empty and does not end with `;`) -/
theorem mlsd_nofacts_roundtrip (name : Str) (hn : WFName name) (heol : NoEol name)
    (hnf : noFactsPart name = true) :
    parseMlsxLine (' ' :: name) = .ok (some ⟨name, false, [], 0, none, none⟩) ∧
    parseMlsxLine name = .ok (some ⟨name, false, [], 0, none, none⟩) := by
  have hst : Stops (fun c => c == ' ') name := by
    intro c r hcr
    subst hcr
    by_cases hc : c = ' '
    · subst hc; simp [noFactsPart, partition] at hnf
    · simpa using hc
  have h2 : parseMlsxLine name = .ok (some ⟨name, false, [], 0, none, none⟩) := by
    rw [parseMlsxLine_eq, rstripEol_noEol name heol, dropLeadSpace_of_stops name hst,
      facts_absent name hnf, pathName_wf name hn]
    rfl
  exact ⟨by rw [parseMlsxLine_lead_space name hst]; exact h2, h2⟩

/-- the size stated by a decimal `size` (or `sizd`) fact -/
theorem mlsd_size_stated (F : List (Str × Str)) (sz : Str)
    (hsz : (dictGet kSize F).getD ((dictGet kSizd F).getD ['0']) = sz)
    (hne : sz ≠ []) (hd : ∀ c ∈ sz, isDigit c = true) (hlen : sz.length ≤ maxStrDigits) :
    mlsdSize F = .ok (natOfDigits sz) := mlsdSize_digits F sz hsz hne hd hlen

/-- the time stated by a `modify` / `create` fact -/
theorem mlsd_time_stated (F : List (Str × Str)) (k : Str) (y m d h mi s : Nat) (frac : Str)
    (hk : dictGet k F = some (stamp y m d h mi s ++ frac))
    (hy : 1 ≤ y ∧ y ≤ 9999) (hm : 1 ≤ m ∧ m ≤ 12) (hd : 1 ≤ d ∧ d < 100) (hh : h < 100)
    (hmi : mi < 100) (hs : s < 100) :
    mlsdTime F k = .ok (some (some (epochOf y m d h mi s))) := by
  unfold mlsdTime
  rw [hk]
  simp only
  rw [ftp_time_roundtrip y m d h mi s frac hy hm hd hh hmi hs]

/-- `cdir`, `pdir`, `OS.unix=slink:…` and every other type are skipped, whatever the name -/
theorem mlsd_other_type_skipped (facts : List (Str × Str)) (name : Str)
    (hf : ∀ kv ∈ facts, WFFact kv)
    (hnd : (facts.map (fun kv => lower kv.1)).Nodup)
    (ty : Str) (hty : dictGet kType (facts.map (fun kv => (lower kv.1, kv.2))) = some ty)
    (h1 : ty ≠ kDir) (h2 : ty ≠ kFile) :
    parseMlsxLine (renderMlsd facts name) = .ok none := by
  have hne : facts ≠ [] := by intro e; subst e; simp [dictGet] at hty
  rw [parseMlsxLine_rendered facts name hf hne hnd, mlsxVal]
  cases pathName (rstripEol name) with
  | none => rfl
  | some n => simp only [tyOf, hty, Option.getD_some]; rw [if_pos ⟨h1, h2⟩]

example : parseMlsxLine
    (renderMlsd [("Type".toList, "dir".toList), ("Modify".toList, stamp 2020 2 29 23 59 58),
      ("sizd".toList, "4096".toList)] " my; dir=1 ".toList) =
    .ok (some ⟨" my; dir=1 ".toList, true, [("type".toList, "dir".toList),
      ("modify".toList, "20200229235958".toList), ("sizd".toList, "4096".toList)], 4096,
      some (some 1583020798), none⟩) := by
  repeat rw [String.toList_ofList]
  decide +kernel

/-- a value may contain `=` (RFC 3659: `value = *SCHAR`, SCHAR includes `=`) -/
example : parseFacts "Type=OS.unix=slink:/t;x=1; n".toList =
    (some ['n'], [("type".toList, "OS.unix=slink:/t".toList), (['x'], ['1'])]) := by
  repeat rw [String.toList_ofList]
  decide +kernel

/-! ### what lies outside the hypotheses: one `decide`d point per excluded class, showing what
    the code does with it (the same lines are run through the real parser by the harness,
    `MLSD_EXCLUDED_POINTS`) -/

/-- a name containing `/` is a pathname: its last component is listed (`a/b` → `b`, `d/` → `d`),
    `/` alone gives no entry -/
theorem name_slash_counterexample :
    parseMlsxLine "type=file; a/b".toList =
      .ok (some ⟨['b'], false, [("type".toList, "file".toList)], 0, none, none⟩) ∧
    parseMlsxLine "type=dir; d/".toList =
      .ok (some ⟨['d'], true, [("type".toList, "dir".toList)], 0, none, none⟩) ∧
    parseMlsxLine "type=dir; /".toList = .ok none := by
  repeat rw [String.toList_ofList]
  decide +kernel

/-- the empty name, `.` and `..` give no entry -/
theorem name_empty_dot_counterexample :
    parseMlsxLine "type=file; ".toList = .ok none ∧
    parseMlsxLine "type=dir; .".toList = .ok none ∧
    parseMlsxLine "type=dir; ..".toList = .ok none ∧
    parseMlsxLine "type=dir; ./".toList = .ok none := by
  repeat rw [String.toList_ofList]
  decide +kernel

/-- CR / LF at the end of a name belong to the line terminator (all of them), elsewhere they stay -/
theorem name_eol_counterexample :
    parseMlsxLine "type=file; a\r".toList =
      .ok (some ⟨['a'], false, [("type".toList, "file".toList)], 0, none, none⟩) ∧
    parseMlsxLine "type=file; a\n\r\n".toList =
      .ok (some ⟨['a'], false, [("type".toList, "file".toList)], 0, none, none⟩) ∧
    parseMlsxLine "type=file; a\nb \r\n".toList =
      .ok (some ⟨"a\nb ".toList, false, [("type".toList, "file".toList)], 0, none, none⟩) := by
  repeat rw [String.toList_ofList]
  decide +kernel

/-- a space inside a fact (not legal per RFC 3659: `value = *SCHAR` has no SP) ends the facts part
    there; that part does not end with `;`, so the whole line is taken for a pathname -/
theorem fact_space_counterexample :
    parseMlsxLine "type=dir;x=a b; n".toList =
      .ok (some ⟨"type=dir;x=a b; n".toList, false, [], 0, none, none⟩) ∧
    parseMlsxLine "type=dir;x=a; b; n".toList =
      .ok (some ⟨"b; n".toList, true, [("type".toList, "dir".toList), (['x'], ['a'])], 0, none, none⟩) := by
  repeat rw [String.toList_ofList]
  decide +kernel

/-- a `;` inside a value ends the fact; a piece without `=` is ignored -/
theorem fact_semicolon_counterexample :
    parseMlsxLine "x=a;b;type=dir; n".toList =
      .ok (some ⟨['n'], true, [(['x'], ['a']), ("type".toList, "dir".toList)], 0, none, none⟩) := by
  repeat rw [String.toList_ofList]
  decide +kernel

/-- outer white space other than SP around key or value is dropped; of two facts with the same
    lower-cased key the later value wins (at the earlier position) -/
theorem fact_strip_duplicate_counterexample :
    parseFacts "\tK=\tv\t;Size=1;size=2; n".toList =
      (some ['n'], [(['k'], ['v']), ("size".toList, ['2'])]) := by
  repeat rw [String.toList_ofList]
  decide +kernel

/-- without facts a name is ambiguous: a leading blank is taken for the separator, `a; b` for
    facts `a;` (a piece without `=`: ignored) and the name `b` -/
theorem nofacts_counterexample :
    parseMlsxLine "  x".toList = .ok (some ⟨['x'], false, [], 0, none, none⟩) ∧
    parseMlsxLine " a; b".toList = .ok (some ⟨['b'], false, [], 0, none, none⟩) ∧
    parseMlsxLine " k=v; b".toList = .ok (some ⟨['b'], false, [(['k'], ['v'])], 0, none, none⟩) := by
  repeat rw [String.toList_ofList]
  decide +kernel

example : noFactsPart "my file; v=2".toList = true ∧ noFactsPart "name".toList = true ∧
    noFactsPart " x".toList = false ∧ noFactsPart "a; b".toList = false := by
  repeat rw [String.toList_ofList]
  decide +kernel

/-! ## FEAT -/

/-- A `211-` FEAT reply listing features (names without space, no line
    breaks, distinct) parses to exactly that table. -/
theorem feat_roundtrip (feats : List (Str × Str))
    (hk : ∀ kv ∈ feats, ' ' ∉ kv.1) (hb : ∀ kv ∈ feats, NoBreak kv.1 ∧ NoBreak kv.2)
    (hnd : (feats.map Prod.fst).Nodup) :
    parseFeatures (renderFeat feats) = feats := feat_roundtrip_core feats hk hb hnd

/-- a reply that does not start with `211-` yields no features -/
theorem feat_other_reply (resp : Str) (h : (partition '-' resp).1 ≠ ['2', '1', '1']) :
    parseFeatures resp = [] := by
  unfold parseFeatures; rw [if_neg h]

example : parseFeatures (renderFeat [("MDTM".toList, []), ("MLST".toList, "type*;size*;".toList),
    ("UTF8".toList, [])]) =
    [("MDTM".toList, []), ("MLST".toList, "type*;size*;".toList), ("UTF8".toList, [])] := by
  repeat rw [String.toList_ofList]
  decide +kernel

/-! ## calendar arithmetic (what `datetime - EPOCH` and `calendar.timegm` compute) -/

/-! `daysFromCivil` counts days: anchored at the epoch (`epoch_anchor`) and advancing by one per
    calendar day — within a month, across a month end, across a year end — so it is the day count
    of the proleptic Gregorian calendar. -/

theorem epoch_anchor : daysFromCivil 1970 1 1 = 0 := by decide

theorem epoch_next_day (y m d : Nat) (hd : 1 ≤ d) :
    daysFromCivil y m (d + 1) = daysFromCivil y m d + 1 := days_succ_day y m d hd

theorem epoch_next_month (y m : Nat) (hy : 1 ≤ y) (hm1 : 1 ≤ m) (hm : m < 12) :
    daysFromCivil y (m + 1) 1 = daysFromCivil y m (daysInMonth y m) + 1 :=
  days_succ_month y m hy hm1 hm

theorem epoch_next_year (y : Nat) : daysFromCivil (y + 1) 1 1 = daysFromCivil y 12 31 + 1 :=
  days_succ_year y

/-- days → civil date inverts civil date → days for every date of
    years 1–9999 -/
theorem epoch_civil_roundtrip (y m d : Nat) (h : validDate y m d = true) :
    civilFromDays (daysFromCivil y m d) = (y, m, d) := civil_roundtrip y m d h

example : epochOf 2018 2 11 14 12 0 = 1518358320 := by decide +kernel

/-! ## the hypotheses of the round-trip theorems are satisfiable -/

/-- the hypotheses of `linux_line_roundtrip` are met by a symbolic link with spaces in both names -/
example : WFLinux 2026 ⟨'l', "rwxrwxrwx".toList, [], ['1'], "root".toList, "a-b_c@d$".toList, ['4'], 1, 5,
    .clock 9 30, "my link".toList, some "/x/y z".toList⟩ where
  ty := by decide
  perms := by decide
  suffix := Or.inl rfl
  links := ⟨by decide, by decide⟩
  uid := ⟨⟨'r', "oot".toList, [], rfl, by decide, by decide, Or.inl rfl⟩⟩
  gid := ⟨⟨'a', "-b_c@d".toList, ['$'], rfl, by decide, by decide, Or.inr rfl⟩⟩
  size := ⟨by decide, by decide, by decide⟩
  time := ⟨by decide, by decide, by decide⟩
  name := {
    start := stops_cons _ _ _ (by decide)
    nl := by decide
    nl_target := by intro t h; cases h; decide
    link := fun _ => ⟨by unfold NoArrow; decide, stops_cons _ _ _ (by decide), stops_cons _ _ _ (by decide)⟩
    target := by intro t h; exact ⟨rfl, by decide⟩ }

/-- … and by a setuid file dated with a year -/
example : WFLinux 2026 ⟨'-', "rwsr-Sr-T".toList, ['+'], "12".toList, "u".toList, "0".toList,
    "18446744073709551616".toList, 2, 29, .year 2024, "日本 語.txt".toList, none⟩ where
  ty := by decide
  perms := by decide
  suffix := Or.inr (Or.inr rfl)
  links := ⟨by decide, by decide⟩
  uid := ⟨⟨'u', [], [], rfl, by decide, by decide, Or.inl rfl⟩⟩
  gid := ⟨⟨'0', [], [], rfl, by decide, by decide, Or.inl rfl⟩⟩
  size := ⟨by decide, by decide, by decide⟩
  time := ⟨by decide, by decide⟩
  name := {
    start := stops_cons _ _ _ (by decide)
    nl := by decide
    nl_target := by intro t h; cases h
    link := fun h => absurd h (by decide)
    target := by intro t h; cases h }

example : WFNt ⟨11, 2, 18, 14, 12, true, some "9276".toList, "logo file.gif".toList⟩ where
  time := ⟨by decide, by decide, by decide, by decide⟩
  size := by intro ds h; cases h; exact ⟨by decide, by decide, by decide⟩
  name_start := stops_cons _ _ _ (by decide)
  name_nl := by decide

example : WFFact ("Modify".toList, stamp 2020 2 29 23 59 58) where
  k_eq := by decide
  k_semi := by decide
  k_sp := by decide
  v_semi := by decide
  v_sp := by decide
  k_strip := ⟨stops_cons _ _ _ (by decide), stops_cons _ _ _ (by decide)⟩
  v_strip := ⟨stops_cons _ _ _ (by decide), stops_cons _ _ _ (by decide)⟩

example : WFFact ("type".toList, "OS.unix=slink:/target".toList) where
  k_eq := by decide
  k_semi := by decide
  k_sp := by decide
  v_semi := by decide
  v_sp := by decide
  k_strip := ⟨stops_cons _ _ _ (by decide), stops_cons _ _ _ (by decide)⟩
  v_strip := ⟨stops_cons _ _ _ (by decide), stops_cons _ _ _ (by decide)⟩

example : WFName " my; dir=1 ".toList ∧ NoEol " my; dir=1 ".toList :=
  ⟨⟨by decide, by decide, by decide, by decide⟩, stops_cons _ _ _ (by decide)⟩

example : WFName "a\rb\t".toList ∧ NoEol "a\rb\t".toList :=
  ⟨⟨by decide, by decide, by decide, by decide⟩, stops_cons _ _ _ (by decide)⟩

end Fs.C20
