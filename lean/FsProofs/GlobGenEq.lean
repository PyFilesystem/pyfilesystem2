/-
  GlobGenEq — the definitions regenerated from `$VERIF_REPO/fs/glob.py` on every run
  (`FsModel/Generated/GlobGen.lean`, written by `harness/extract/puregen.py`) against the hand model
  `FsModel/Glob.lean` that the C14 (and, for the prefix expansion, C13) theorems are stated over.

  * `split_pattern_by_sep_eq`: the index-collecting loop + slice comprehension = `Glob.splitPatternBySep`.
  * `translate_eq` / `translate_res`: `_translate` = `Glob.translateText` (text, ValueError on `**`; never
    IndexError, fuel hints suffice).
  * `translate_glob_eq`: `_translate_glob` = `(levels, text)` of `Glob.translateGlobText` (`iteratepath` is
    the generated `PathGen.iteratepath`, identified with `Path.iteratepath` by `PathGenEq`).
  * `match` / `imatch` / `match_any` / `imatch_any` / `get_matcher` (modulo the LRU cache): equal to the hand
    model `Glob.gmatch` / `Glob.matchAny` / `Glob.getMatcher` (`match_eq_gmatch`, …): `match` / `imatch` through
    the regex text and the model of Python's parser (`Glob.translateGlobViaText`), which is the compiled pattern of
    `Glob.translateGlob` by `RegexRoundTrip.glob_text_parses` (proved for every pattern); the others follow pattern
    by pattern (`WildGenLemmas.toTR_matchAny`).  `get_matcher_eq_getMatcher` covers `accept_prefix=True`: the three
    nested loops build `Glob.prefixPatterns`.
-/
import FsModel.Generated.GlobGen
import FsProofs.Lemmas.GlobGenLemmas
import FsProofs.PathGenEq
import FsProofs.RegexRoundTrip

namespace Fs.GlobGenEq
open Fs Fs.PyStr Fs.PyRe Fs.PyStrLemmas Fs.PathGenLemmas Fs.WildGenLemmas Fs.GlobGenLemmas Fs.Regex

/-- exactly the pure functions the hand model transcribes were found and translated -/
theorem coverage : GlobGen.translated =
    ["_split_pattern_by_sep", "_translate", "_translate_glob", "get_matcher", "imatch", "imatch_any", "match",
     "match_any"] := by decide +kernel

theorem nothing_refused : GlobGen.refused = [] := by decide +kernel

theorem translate_res (pat : Str) : GlobGen._translate pat = ofTR (Glob.translateText pat) := by
  simp only [GlobGen._translate, Glob.translateText]
  generalize hW : pyWhile _ _ _ = w
  have key : lout [] (Glob.textGo pat 0) w := by
    subst hW
    refine pyWhile_gstep pat _ ?_ _ 0 [] ?_
    · intro s
      obtain ⟨i, res⟩ := s
      simp only [gstep]
      by_cases hi : i < pat.length
      · obtain ⟨c, hc⟩ := getElem?_of_lt pat i hi
        have hidx : pyStrIdx pat (Int.ofNat i) = .ok [c] := by rw [pyStrIdx_ofNat, hc]
        simp only [hi, decide_true, if_true, hidx, hc]
        by_cases h1 : c = '*'
        · subst h1
          have e1 : ((['*'] : Str) == ['*']) = true := by decide
          simp only [e1, if_true, pyStrIdx_ofNat]
          by_cases hj : i + 1 < pat.length
          · simp only [hj, decide_true, if_true, List.getElem?_eq_getElem hj]
            by_cases hdd : pat[i + 1] = '*' <;> simp [hdd]
          · simp [hj]
        · by_cases h2 : c = '?'
          · simp [h2]
          · by_cases h3 : c = '['
            · subst h3
              have e1 : ((['['] : Str) == ['*']) = false := by decide
              have e2 : ((['['] : Str) == ['?']) = false := by decide
              have e3 : ((['['] : Str) == ['[']) = true := by decide
              simp only [e1, e2, e3, Bool.false_eq_true, if_false, if_true, h1, h2]
              refine (scan_code pat (i + 1) _).trans ?_
              generalize hst :
                pyReplace (List.drop (i + 1) (List.take (bracketEnd pat (i + 1)) pat)) '\\' ['\\', '\\'] = stuff
              exact bracketText_code ['(', '?', '!', '/', ')'] pat (i + 1) res stuff hst.symm
            · simp [h1, h2, h3, pyReEscape]
      · simp [hi]
    · omega
  cases hr : Glob.textGo pat 0 with
  | ok t =>
    rw [hr] at key
    obtain ⟨i', res', rfl, e⟩ := key
    simp [ofTR, pyJoinS_nil, e]
  | err e =>
    rw [hr] at key
    cases key
    rfl

theorem translate_eq (pat : Str) : toTR (GlobGen._translate pat) = Glob.translateText pat := by
  rw [translate_res, toTR_ofTR]

theorem translate_glob_res (pat : Str) :
    GlobGen._translate_glob pat =
      ofTR ((Glob.translateGlobText pat).map (fun r => (r.1.map Int.ofNat, r.2.2))) := by
  simp only [GlobGen._translate_glob, Glob.translateGlobText, PathGenEq.iteratepath_eq]
  cases hi : Path.iteratepath pat with
  | err e =>
    have := (ConfineLemmas.iteratepath_err pat e hi).1; subst this
    rfl
  | ok comps =>
    simp only [Glob.liftRes]
    rw [pyFor_compStep]
    · cases hm : Glob.mapM' Glob.compText comps with
      | err e => cases e <;> rfl
      | ok pieces =>
        simp only [ofTR, TR.map, Bool.false_or, pyJoinS_nil, pyEndsWith_slash, Glob.levelsOf,
          Glob.countSlash, pyCount]
        cases comps.any Glob.hasSS <;> cases Path.endsWithSlash pat <;> simp
    · intro c s
      simp only [compStep, Glob.compText, pyIn_ss, pySplitS_ss, translate_res]
      by_cases h1 : c = ['*', '*']
      · subst h1
        have hh : Glob.hasSS ['*', '*'] = true := by decide
        simp [ofTR, hh]
      · have h1' : (c == ['*', '*']) = false := by simpa using h1
        simp only [h1, h1', if_false, Bool.false_eq_true]
        by_cases h2 : Glob.hasSS c = true
        · simp only [h2, if_true, Bool.or_true]
          generalize hg : pyMapM _ _ = m
          have hm : m = ofTR (Glob.mapM' Glob.translateText (Glob.splitSS c)) := by
            rw [← hg, ← pyMapM_ofTR]
            congr 1
            funext x
            cases ofTR (Glob.translateText x) <;> rfl
          rw [hm]
          cases Glob.mapM' Glob.translateText (Glob.splitSS c) with
          | err e => rfl
          | ok l => simp [ofTR, TR.map, pyJoinS_eq_joinStr]
        · have h2' : Glob.hasSS c = false := by simpa using h2
          simp only [h2', Bool.false_eq_true, if_false, Bool.or_false]
          cases Glob.translateText c with
          | err e => rfl
          | ok t => simp [ofTR, Glob.tappend, TR.map]

/-- `_translate_glob`: `(levels, regex text)`, for every pattern -/
theorem translate_glob_eq (pat : Str) :
    toTR (GlobGen._translate_glob pat) =
      (Glob.translateGlobText pat).map (fun r => (r.1.map Int.ofNat, r.2.2)) := by
  rw [translate_glob_res, toTR_ofTR]

theorem split_pattern_by_sep_eq (p : Str) :
    GlobGen._split_pattern_by_sep p = .ok (Glob.splitPatternBySep p) := by
  simp only [GlobGen._split_pattern_by_sep]
  generalize hW : pyFor _ _ _ = w
  obtain ⟨o', rfl⟩ : ∃ o', w = .done ([(-1 : Int)] ++ (sepIdx p false 0).map Int.ofNat, o') :=
    hW ▸ pyFor_enumerate_sepStep _ (fun _ _ => rfl) p [(-1 : Int)] false
  dsimp only
  rw [slices_final p _ rfl]

/-! ### `match` / `imatch` / `match_any` / `imatch_any` / `get_matcher`

The generated `match` hands the text of `_translate_glob` to `re.compile`; `Glob.translateGlobViaText` is that route
in the hand model, and `RegexRoundTrip.glob_text_parses` says it is `Glob.translateGlob`, the AST `Glob.gmatch` uses. -/

theorem fixPath_res (path : Str) (r : Regex) :
    (if (!path.isEmpty) = true then
      (match pyStrIdx path (0 : Int) with
       | .err e' => Res.err e'
       | .ok t4' => if (t4' != ['/']) = true then Res.ok (pyReMatch r (['/'] ++ path)) else Res.ok (pyReMatch r path))
     else Res.ok (pyReMatch r path)) = Res.ok (r.matches (Glob.fixPath path)) := by
  cases path with
  | nil => rfl
  | cons c rest =>
    simp only [List.isEmpty_cons, Bool.not_false, if_true, pyStrIdx_cons_zero, Glob.fixPath, pyReMatch]
    by_cases hc : c = '/'
    · subst hc; simp
    · simp [hc]

/-- the body of the generated `match` (`cs = true`) / `imatch` (`cs = false`), which differ in the flag only -/
theorem match_res (p path : Str) (cs : Bool) :
    toTR (match GlobGen._translate_glob p with
      | .err e' => Res.err e'
      | .ok t1' =>
        match t1' with
        | (_, re_str) =>
          match pyReCompile re_str (!cs) with
          | .err e' => Res.err e'
          | .ok re_pattern =>
            if (!path.isEmpty) = true then
              (match pyStrIdx path (0 : Int) with
               | .err e' => Res.err e'
               | .ok t4' =>
                 if (t4' != ['/']) = true then Res.ok (pyReMatch re_pattern (['/'] ++ path))
                 else Res.ok (pyReMatch re_pattern path))
            else Res.ok (pyReMatch re_pattern path)) = Glob.gmatch p path cs := by
  rw [translate_glob_res, Glob.gmatch, Glob.compile, ← RegexRoundTrip.glob_text_parses]
  simp only [Glob.translateGlobViaText, fixPath_res]
  cases Glob.translateGlobText p with
  | err e => cases e <;> rfl
  | ok v =>
    obtain ⟨lv, rec_, text⟩ := v
    simp only [TR.map, ofTR]
    rw [← toTR_pyReCompile]
    cases pyReCompile text (!cs) <;> rfl

theorem match_eq_gmatch (p path : Str) : toTR (GlobGen.match p path) = Glob.gmatch p path true :=
  match_res p path true

theorem imatch_eq_gmatch (p path : Str) : toTR (GlobGen.imatch p path) = Glob.gmatch p path false :=
  match_res p path false

theorem match_any_eq_matchAny (ps : List Str) (path : Str) :
    toTR (GlobGen.match_any ps path) = Glob.matchAny ps path true :=
  toTR_matchAny (GlobGen.match · path) (Glob.gmatch · path true) (match_eq_gmatch · path) _ (fun _ _ => rfl) ps

theorem imatch_any_eq_matchAny (ps : List Str) (path : Str) :
    toTR (GlobGen.imatch_any ps path) = Glob.matchAny ps path false :=
  toTR_matchAny (GlobGen.imatch · path) (Glob.gmatch · path false) (imatch_eq_gmatch · path) _ (fun _ _ => rfl) ps

/-- `get_matcher(patterns, case_sensitive, accept_prefix)` returns the matcher of the hand model -/
theorem get_matcher_eq_getMatcher (ps : List Str) (cs ap : Bool) :
    ∃ m, GlobGen.get_matcher ps cs ap = .ok m ∧ ∀ path, toTR (m path) = Glob.getMatcher ps cs ap path := by
  simp only [GlobGen.get_matcher, Glob.getMatcher]
  cases hps : ps.isEmpty with
  | true => exact ⟨_, rfl, fun path => by simp [toTR]⟩
  | false =>
    simp only [Bool.false_eq_true, if_false]
    cases ap with
    | false =>
      simp only [Bool.false_eq_true, if_false]
      refine ⟨_, rfl, fun path => ?_⟩
      cases cs with
      | true => simpa using match_any_eq_matchAny ps path
      | false => simpa using imatch_any_eq_matchAny ps path
    | true =>
      simp only [if_true]
      rw [pyFor_append prefixOf _ ?_]
      · simp only [List.nil_append, ← prefixPatterns_eq]
        refine ⟨_, rfl, fun path => ?_⟩
        cases cs with
        | true => simpa using match_any_eq_matchAny _ path
        | false => simpa using imatch_any_eq_matchAny _ path
      · intro pattern acc
        rw [pyFor_append (fun i => [Path.joinSlash ((Path.splitSlash pattern).take i),
              Path.joinSlash ((Path.splitSlash pattern).take i) ++ ['/']]) _ ?_]
        · simp only [pyEnumerate_eq]
          rw [pyFor_firstSS (fun i => Path.joinSlash ((Path.splitSlash pattern).take i ++ [['*', '*']])) _ ?_]
          · simp only [prefixOf, ← List.tail_range, List.append_assoc]
          · intro x s
            simp only [pyIn_ss]
        · intro i s
          simp

end Fs.GlobGenEq
