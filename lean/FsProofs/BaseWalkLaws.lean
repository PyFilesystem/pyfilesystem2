/-
  BaseWalkLaws — the three bulk operations of `fs/base.py` AS CODED (`FsModel.BaseWalk`: depth-first walker
  + `remove`/`removedir`; `copy_structure` + breadth-first file walk + `copy_file_internal`; `move_dir`),
  run over the primitive calls of ANY filesystem that refines the reference semantics, compute the reference's
  tree-level result (`Ref.step` on `removetree` / `copydir` / `movedir`: sub-tree deletion, `Ref.mergeEnts`).

  Consequences: the modelling decision of `FsModel.Mem` / `FsModel.Os` ("`copy_dir` is the tree-level merge") is a
  theorem (f), and the single-layer MultiFS refines the reference for the walkers too (g), which
  `MultiRefines.multi_single_write_layer_refines_partial` leaves out.

  (a)–(c) are stated over the primitives of `Ref.step` itself (`prim_of_ref`, exact), (d) over ANY primitive interface
  whose calls follow the reference's (`PrimSim`, `PrimAdm`), and from there over any `F` with `RefinesRef F`.

  Entry ORDER: the real copier creates the directories of a level first and copies the files afterwards, the
  reference's merge inserts in source order — so the trees agree up to the order of entries inside directories
  (`ObsEq`: at every path the same type and bytes), and the exact order is given separately
  (`copydir_operational_exact`: `BaseWalkSpec.opMerge`).
-/
import FsProofs.Lemmas.BaseWalkMulti
import FsProofs.Lemmas.MountTree
import FsProofs.OsRefines
import FsProofs.MultiRefines

namespace Fs.BaseWalkLaws
open Fs Fs.Ref Fs.BaseWalk Fs.TreeLemmas Fs.WrapLemmas Fs.BaseWalkPrim Fs.BaseWalkRm Fs.BaseWalkSpec
  Fs.BaseWalkCopyDir Fs.BaseWalkMoveDir Fs.BaseWalkLift Fs.BaseWalkAdm Fs.BaseWalkMerge Fs.BaseWalkSim Fs.WrapRefines
  Fs.MemRefines

/-- the primitive interface of the reference semantics itself (= `BaseWalkRm.PR`) -/
abbrev prim_of_ref : Prim State := primOfStep Ref.step

/-- an open filesystem whose tree is a well-formed directory (what `RefinesRef` speaks about) -/
abbrev Good := GoodS

/-- the number of resources at and below the (validated) path — the fuel the walkers need is one more -/
def treeSize (root : Node) (p : Str) : Nat :=
  match validate p with
  | .ok cs => subCount root cs
  | .err _ => 0

theorem treeSize_of_validate {root : Node} {p : Str} {a : List Name} (h : validate p = .ok a) :
    treeSize root p = subCount root a := by
  simp only [treeSize, h]

/-! ## trees up to entry order -/

theorem obsEq_refl (a : Node) : ObsEq a a := fun _ => rfl

theorem obsEq_symm {a b : Node} (h : ObsEq a b) : ObsEq b a := fun q => (h q).symm

theorem obsEq_trans {a b c : Node} (h1 : ObsEq a b) (h2 : ObsEq b c) : ObsEq a c := fun q => (h1 q).trans (h2 q)

/-- a path not below `b` sees the same file, or a directory with the same names, whatever is put at `b`
(`MountTree.see_get_set`) -/
theorem obsEq_setAt {R : Node} {b : List Name} {u x y : Node} (hu : R.get b = some u) (h : ObsEq x y) :
    ObsEq (setAt R b x) (setAt R b y) := by
  intro q
  by_cases hq : b <+: q
  · obtain ⟨r, rfl⟩ := hq
    rw [get_setAt hu, get_setAt hu]
    exact h r
  · have hb : b ≠ [] := fun e => hq (e ▸ List.nil_prefix)
    have hs : (R.get b).isSome = true := by rw [hu]; rfl
    have := (MountTree.see_get_set b q R x hs hq).trans (MountTree.see_get_set b q R y hs hq).symm
    rw [setAt_ne hb, setAt_ne hb]
    rcases MultiFsLemmas.see_eq_cases this with e | ⟨_, _, e1, e2, _⟩
    · rw [e]
    · rw [e1, e2]; rfl

/-- a directory above `a` stays a directory, everything else is untouched -/
theorem shallow_get_del (a q : List Name) (t : Node) (h : ¬ a <+: q) :
    ((t.del a).get q).map shallow = (t.get q).map shallow := by
  by_cases hd : ∃ es, q <+: a ∧ t.get q = some (.dir es)
  · obtain ⟨es, ⟨r, rfl⟩, hu⟩ := hd
    rw [del_sub hu r (fun e => h (by simp [e])), get_setAt_self hu, hu]
    rcases hx : (Node.dir es).del r with fb | es'
    · have := TreeLemmas.isDir_del r (.dir es)
      rw [hx] at this
      cases this
    · rfl
  · rw [del_eq_alterAt, get_alterAt lookup_erase_other a q t h (fun hq es hu => hd ⟨es, hq, hu⟩)]

/-- deleting the same path in two well-formed trees that show the same -/
theorem obsEq_del {X Y : Node} (a : List Name) (hne : a ≠ []) (hX : X.wf = true) (hY : Y.wf = true)
    (h : ObsEq X Y) : ObsEq (X.del a) (Y.del a) := by
  intro q
  by_cases hq : a <+: q
  · obtain ⟨r, rfl⟩ := hq
    rw [get_del_append a r X hne hX, get_del_append a r Y hne hY]
  · rw [shallow_get_del a q X hq, shallow_get_del a q Y hq]
    exact h q

/-! ## (a) `FS.removetree` -/

/-- `FS.removetree` over the reference's own primitives.  On a good state, for EVERY path (`FS.removetree` validates
its argument: `removetree_nul_repaired`) and with fuel for the sub-tree (`treeSize + 1` suffices; fuel
bounds the nesting depth of the depth-first walk): `validatepath`, then the walker with its `remove` / `removedir`
calls, IS the reference's `removetree` — the same outcome (error class included: `InvalidCharsInPath`,
`IllegalBackReference`, `ResourceNotFound`, `DirectoryExpected`), the same tree (the sub-tree is gone; the root is
kept, empty). -/
theorem removetree_operational_eq_ref (fuel : Nat) (s : State) (G : Good s) (p : Str)
    (hf : treeSize s.root p < fuel) :
    removetree prim_of_ref fuel s p = Ref.step s (.removetree p) := by
  cases hv : validate p with
  | ok cs => exact removetree_ref_valid fuel s G p cs hv (treeSize_of_validate hv ▸ hf)
  | err e =>
    have hvp : prim_of_ref.validatepath s p = (s, .err e) := by
      show validateOf Ref.step s p = _
      rw [validateOf_ref s G.opn, hv]
    rw [QueryLemmas.step_one s _ p G.opn rfl (by intro q m e; cases e), hv]
    simp [removetree, hvp, fail]

/-! ## (b) `FS.copydir` -/

/-- the three ways a `copydir` between non-overlapping, validated paths can go (operational over the
reference's primitives `rP` against the reference `r0`) -/
inductive CopyCase (s : State) (a b : List Name) (create : Bool) (rP r0 : State × Out) : Prop
  /-- rejected by a check / by `makedirs`: the same class, nothing changed -/
  | rejected (e : Err) (h0 : r0 = (s, .err e)) (hl : e ≠ .OperationFailed) (hP : rP = r0)
  /-- merged: `root1` is the tree after `makedirs(dst)` (`s.root`, or with the destination path created),
  the reference puts `mergeEnts es ds0` at `b`, the walkers put `opMerge` there -/
  | merged (root1 : Node) (es ds0 m : Ents) (D2 : Node)
      (h0 : r0 = ({ s with root := setAt root1 b (.dir m) }, .ok .unit))
      (hP : rP = ({ root := setAt root1 b D2, closed := false }, .ok .unit))
      (hm : mergeEnts es ds0 = some m) (hop : opMerge (.dir es) (.dir ds0) = some D2) (hobs : ObsEq D2 (.dir m))
      (hD2 : ∃ d2, D2 = .dir d2 ∧ entsWf d2 = true)
      (hga : s.root.get a = some (.dir es)) (hga1 : root1.get a = some (.dir es))
      (hgb1 : root1.get b = some (.dir ds0)) (hw1 : root1.wf = true) (hd1 : root1.isDir = true)
      (hr1 : (root1 = s.root) ∨ (root1 = mkdirs [] b s.root ∧ ds0 = [] ∧ s.root.get b = none ∧ create = true ∧
        blockedByFile s.root [] b = false))
  /-- a file/directory conflict inside: the reference's loose marker; the walkers fail mid-way, in the
  structure walk (`DirectoryExpected`) if a source directory meets a destination file, else in the file walk
  (`FileExpected`); only the sub-tree at `b` has changed -/
  | conflict (es ds : Ents) (D' : Node) (c : Err)
      (h0 : r0 = (s, .err .OperationFailed))
      (hP : rP = ({ root := setAt s.root b D', closed := false }, .err c))
      (hga : s.root.get a = some (.dir es)) (hgb : s.root.get b = some (.dir ds)) (hm : mergeEnts es ds = none)
      (hc : (c = .DirectoryExpected ∧ recNode .struct (.dir es) (.dir ds) = none) ∨
            (c = .FileExpected ∧ ∃ D1, recNode .struct (.dir es) (.dir ds) = some D1 ∧ recNode .files (.dir es) D1 = none))

/-- from the outcome of the walks to the comparison with the merge -/
theorem copyCase_of_outcome (s : State) (a b : List Name) (create : Bool) (rP r0 : State × Out)
    (root1 : Node) (es ds0 : Ents) (hout : CopyOutcome id root1 b es ds0 rP)
    (h0 : r0 = match mergeEnts es ds0 with
      | none => (s, .err .OperationFailed)
      | some m => ({ s with root := setAt root1 b (.dir m) }, .ok .unit))
    (hga : s.root.get a = some (.dir es)) (hga1 : root1.get a = some (.dir es))
    (hgb1 : root1.get b = some (.dir ds0)) (hw1 : root1.wf = true) (hd1 : root1.isDir = true)
    (hr1 : (root1 = s.root) ∨ (root1 = mkdirs [] b s.root ∧ ds0 = [] ∧ s.root.get b = none ∧ create = true ∧
        blockedByFile s.root [] b = false))
    (hnone : mergeEnts es ds0 = none → root1 = s.root) :
    CopyCase s a b create rP r0 := by
  unfold CopyOutcome at hout
  cases hm : mergeEnts es ds0 with
  | some m =>
    rw [hm] at hout h0
    obtain ⟨d2, hw2, hop, hobs, hP⟩ := hout
    exact .merged root1 es ds0 m (.dir d2) h0 hP hm hop hobs ⟨d2, rfl, hw2⟩ hga hga1 hgb1 hw1 hd1 hr1
  | none =>
    rw [hm] at hout h0
    obtain ⟨D', c, hP, hc⟩ := hout
    obtain rfl := hnone hm
    exact .conflict es ds0 D' c h0 hP hga hgb1 hm hc

theorem copydir_ref_cases (fuel : Nat) (s : State) (G : Good s) (p q : Str) (create : Bool) (a b : List Name)
    (hva : validate p = .ok a) (hvb : validate q = .ok b) (inc : Inc a b) (hf : subCount s.root a < fuel) :
    CopyCase s a b create (copydir prim_of_ref fuel s p q create) (Ref.step s (.copydir p q create)) := by
  have ha : CleanN a := TreeLemmas.validate_clean p a hva
  have hb : CleanN b := TreeLemmas.validate_clean q b hvb
  have hr0 : Ref.step s (.copydir p q create) = step2 s a b (.copydir p q create) := by
    rw [QueryLemmas.step_two s _ p q G.opn rfl, hva, hvb]
  have hip : isPrefix a b = false := TreeLemmas.isPrefix_false_iff.2 inc.1
  by_cases hyes : CopyRuns s a b create
  · obtain ⟨⟨es, hga⟩, hdst⟩ := hyes
    have hwe : entsWf es = true := TreeLemmas.entsWf_of_get G.wf hga
    have hcnt : (Node.dir es).count < fuel := by simpa [subCount, hga] using hf
    rcases hdst with ⟨ds, hgb⟩ | ⟨hgb, hcr, hbl⟩
    · refine copyCase_of_outcome s a b create _ _ s.root es ds
        (copydir_existing fuel s G p q create a b hva hvb inc es ds hga hgb hcnt) ?_
        hga hga hgb G.wf G.dir (Or.inl rfl) (fun _ => rfl)
      rw [hr0]
      simp only [step2, hip, Bool.false_eq_true, if_false, hgb, hga]
      cases mergeEnts es ds <;> simp [fail, upd]
    · subst hcr
      have hbne : b ≠ [] := MountTree.Diverge.ne_nil_right inc
      have hga1 : (mkdirs [] b s.root).get a = some (.dir es) := mkdirs_keep b [] a _ _ hga (by simpa using inc.1)
      have hgb1 : (mkdirs [] b s.root).get b = some (.dir []) :=
        TreeLemmas.mkdirs_get_new G.dir hbl hgb
      have hmf := TreeLemmas.mergeEnts_nil hwe
      refine copyCase_of_outcome s a b true _ _ (mkdirs [] b s.root) es []
        (copydir_created fuel s G p q a b hva hvb inc es hga hgb hbl hcnt) ?_
        hga hga1 hgb1 (TreeLemmas.mkdirs_wf [] b _ hb G.wf)
        (by rw [TreeLemmas.isDir_mkdirs]; exact G.dir) (Or.inr ⟨rfl, rfl, hgb, rfl, hbl⟩) (fun h => by rw [hmf] at h; cases h)
      rw [hr0, hmf]
      simp [step2, hip, hgb, hga, hbl, upd, setAt_ne hbne]
  · obtain ⟨e, he, hl⟩ := (ref_copydir_rejected_iff s a b p q create inc.1).2 hyes
    exact .rejected e (by rw [hr0, he]) hl
      (by rw [hr0]; exact copydir_rejected fuel s G p q create a b hva hvb inc.1 hyes)

/-- the side condition of (b) and (c): the destination is not a PROPER ancestor of the source (destination
inside the source — `IllegalDestination` — and destination = source are covered) -/
def DstNotAboveSrc (p q : Str) : Prop :=
  ∀ a b, validate p = .ok a → validate q = .ok b → b <+: a → a = b

theorem inc_of_side {p q : Str} {a b : List Name} (hov : DstNotAboveSrc p q) (hva : validate p = .ok a)
    (hvb : validate q = .ok b) (hab : ¬ a <+: b) : Inc a b :=
  ⟨hab, fun h => hab ((hov a b hva hvb h) ▸ List.prefix_refl _)⟩

section Args
variable {σ : Type} (P : Prim σ) (emb : State → σ) (A : PrimAdm P emb)
include A

/-- `FS.copydir` starts with `validatepath` ×2 and the `isbase` test -/
theorem copydir_args (fuel : Nat) (t : State) (G : Good t) (p q : Str) (create : Bool) :
    (∃ e, e ≠ .OperationFailed ∧ Ref.step t (.copydir p q create) = (t, .err e) ∧
      copydir P fuel (emb t) p q create = (emb t, .err e)) ∨
    (∃ a b, validate p = .ok a ∧ validate q = .ok b ∧ ¬ a <+: b) := by
  rw [QueryLemmas.step_two t _ p q G.opn rfl]
  cases hva : validate p with
  | err e =>
    refine Or.inl ⟨e, fun h => MultiFsLemmas.validate_not_loose p (h ▸ hva), rfl, ?_⟩
    simp only [copydir, A.vpath t p G, hva]
  | ok a =>
    cases hvb : validate q with
    | err e =>
      refine Or.inl ⟨e, fun h => MultiFsLemmas.validate_not_loose q (h ▸ hvb), rfl, ?_⟩
      simp only [copydir, A.vpath t _ G, hva, hvb]
    | ok b =>
      by_cases hab : a <+: b
      · refine Or.inl ⟨.IllegalDestination, by simp, ?_, ?_⟩
        · simp [step2, (TreeLemmas.isPrefix_iff a b).2 hab, fail]
        · simp only [copydir, A.vpath t _ G, hva, hvb, if_true,
            (isbase_absOf (TreeLemmas.validate_clean p a hva) (TreeLemmas.validate_clean q b hvb)).2 hab]
      · exact Or.inr ⟨a, b, rfl, rfl, hab⟩

/-- `FS.movedir` starts with `validatepath` ×2, the same-path exit and the `isbase` test -/
theorem movedir_args (rt : σ → Str → σ × Out) (fuel : Nat) (t : State) (G : Good t) (p q : Str) (create : Bool) :
    (∃ e, e ≠ .OperationFailed ∧ Ref.step t (.movedir p q create) = (t, .err e) ∧
      movedir P rt fuel (emb t) p q create = (emb t, .err e)) ∨
    (Ref.step t (.movedir p q create) = (t, .ok .unit) ∧ movedir P rt fuel (emb t) p q create = (emb t, .ok .unit)) ∨
    (∃ a b, validate p = .ok a ∧ validate q = .ok b ∧ a ≠ b ∧ ¬ a <+: b) := by
  rw [QueryLemmas.step_two t _ p q G.opn rfl]
  cases hva : validate p with
  | err e =>
    refine Or.inl ⟨e, fun h => MultiFsLemmas.validate_not_loose p (h ▸ hva), rfl, ?_⟩
    simp only [movedir, A.vpath t p G, hva]
  | ok a =>
    cases hvb : validate q with
    | err e =>
      refine Or.inl ⟨e, fun h => MultiFsLemmas.validate_not_loose q (h ▸ hvb), rfl, ?_⟩
      simp only [movedir, A.vpath t _ G, hva, hvb]
    | ok b =>
      have ha : CleanN a := TreeLemmas.validate_clean p a hva
      have hb : CleanN b := TreeLemmas.validate_clean q b hvb
      by_cases hne : a = b
      · subst hne
        exact Or.inr (Or.inl ⟨by simp [step2, done], by simp only [movedir, A.vpath t _ G, hva, hvb, if_true]⟩)
      have hne' : absOf a ≠ absOf b := fun e => hne ((absOf_inj ha hb).1 e)
      by_cases hab : a <+: b
      · refine Or.inl ⟨.IllegalDestination, by simp, ?_, ?_⟩
        · simp [step2, hne, (TreeLemmas.isPrefix_iff a b).2 hab, fail]
        · simp only [movedir, A.vpath t _ G, hva, hvb, hne', if_false, (isbase_absOf ha hb).2 hab, if_true]
      · exact Or.inr (Or.inr ⟨a, b, rfl, rfl, hne, hab⟩)

end Args

theorem primAdm_ref : PrimAdm prim_of_ref id := primAdm_of_refines Ref.step ref_refines_ref

/-- `FS.copydir` over the reference's own primitives: rejections are EXACT.  Whenever the
reference refuses the call with a definite class (not the loose marker), the walkers over `Ref.step`'s
primitives refuse it with the SAME class and change nothing: the order of the checks in `FS.copydir` /
`copy_structure` is the reference's. -/
theorem copydir_operational_eq_ref (fuel : Nat) (s : State) (G : Good s) (p q : Str) (create : Bool)
    (hov : DstNotAboveSrc p q) (hf : treeSize s.root p < fuel) (e : Err)
    (h0 : (Ref.step s (.copydir p q create)).2 = .err e) (hl : e ≠ .OperationFailed) :
    copydir prim_of_ref fuel s p q create = Ref.step s (.copydir p q create) := by
  rcases copydir_args prim_of_ref id primAdm_ref fuel s G p q create with ⟨e', _, h0', hr⟩ | ⟨a, b, hva, hvb, hab⟩
  · rw [h0']; exact hr
  · cases copydir_ref_cases fuel s G p q create a b hva hvb (inc_of_side hov hva hvb hab)
      (treeSize_of_validate hva ▸ hf) with
    | rejected _ _ _ hP => exact hP
    | merged root1 es ds0 m D2 h0' => rw [h0'] at h0; cases h0
    | conflict es ds D' c h0' =>
      rw [h0'] at h0
      cases h0
      exact absurd rfl hl

/-- The tree, entry order included.  When the reference's `copydir` succeeds
the walkers succeed and leave, at the destination, exactly `opMerge` of the source directory over the
destination directory as `makedirs(dst)` left it — in each directory the sub-directories of the source that
were missing come first (source order), then the files that were missing (source order); existing names keep
their place — where the reference puts `mergeEnts` (source order throughout).  The two show the same at every
path (`ObsEq`). -/
theorem copydir_operational_exact (fuel : Nat) (s : State) (G : Good s) (p q : Str) (create : Bool)
    (a b : List Name) (hva : validate p = .ok a) (hvb : validate q = .ok b) (hov : DstNotAboveSrc p q)
    (hf : treeSize s.root p < fuel) (v : Val) (h0 : (Ref.step s (.copydir p q create)).2 = .ok v) :
    ∃ (root1 : Node) (es ds0 m : Ents) (D2 : Node),
      s.root.get a = some (.dir es) ∧ root1.get b = some (.dir ds0) ∧
      (root1 = s.root ∨ (root1 = mkdirs [] b s.root ∧ ds0 = [] ∧ s.root.get b = none)) ∧
      mergeEnts es ds0 = some m ∧ opMerge (.dir es) (.dir ds0) = some D2 ∧ ObsEq D2 (.dir m) ∧
      Ref.step s (.copydir p q create) = ({ s with root := setAt root1 b (.dir m) }, .ok .unit) ∧
      copydir prim_of_ref fuel s p q create = ({ root := setAt root1 b D2, closed := false }, .ok .unit) := by
  have hab : ¬ a <+: b := by
    intro hab
    rw [QueryLemmas.step_two s _ p q G.opn rfl, hva, hvb] at h0
    simp [step2, (TreeLemmas.isPrefix_iff a b).2 hab, fail] at h0
  have inc := inc_of_side hov hva hvb hab
  cases copydir_ref_cases fuel s G p q create a b hva hvb inc (treeSize_of_validate hva ▸ hf) with
  | rejected e h0' => rw [h0'] at h0; cases h0
  | conflict es ds D' c h0' => rw [h0'] at h0; cases h0
  | merged root1 es ds0 m D2 h0' hP hm hop hobs hD2 hga hga1 hgb1 hw1 hd1 hr1 =>
    refine ⟨root1, es, ds0, m, D2, hga, hgb1, ?_, hm, hop, hobs, h0', hP⟩
    rcases hr1 with h | ⟨h1, h2, h3, _, _⟩
    · exact Or.inl h
    · exact Or.inr ⟨h1, h2, h3⟩

open Classical in
/-- … and over the reference's own primitives the class tells WHICH conflict was met: `DirectoryExpected`
(from `makedir(recreate=True)` in the structure walk) exactly when some source DIRECTORY lies over a
destination FILE — anywhere in the tree, the structure walk is complete before the first file is copied —,
otherwise `FileExpected` (from `copy(overwrite=True)` in the file walk: a source FILE over a destination
DIRECTORY). -/
theorem copydir_conflict_class_ref (fuel : Nat) (s : State) (G : Good s) (p q : Str) (create : Bool)
    (hov : DstNotAboveSrc p q) (hf : treeSize s.root p < fuel)
    (h0 : (Ref.step s (.copydir p q create)).2 = .err .OperationFailed) :
    ∃ (a b : List Name) (es ds : Ents) (D' : Node),
      validate p = .ok a ∧ validate q = .ok b ∧ s.root.get a = some (.dir es) ∧ s.root.get b = some (.dir ds) ∧
      copydir prim_of_ref fuel s p q create =
        ({ root := setAt s.root b D', closed := false },
         .err (if (∃ x e fb, (Node.dir es).get x = some (.dir e) ∧ (Node.dir ds).get x = some (.file fb))
               then .DirectoryExpected else .FileExpected)) := by
  rcases copydir_args prim_of_ref id primAdm_ref fuel s G p q create with ⟨e, he, h0', _⟩ | ⟨a, b, hva, hvb, hab⟩
  · rw [h0'] at h0
    cases h0
    exact absurd rfl he
  cases copydir_ref_cases fuel s G p q create a b hva hvb (inc_of_side hov hva hvb hab)
      (treeSize_of_validate hva ▸ hf) with
  | rejected e h0' hl =>
    rw [h0'] at h0
    cases h0
    exact absurd rfl hl
  | merged root1 es ds0 m D2 h0' => rw [h0'] at h0; cases h0
  | conflict es ds D' c _ hP hga hgb hm hc =>
    refine ⟨a, b, es, ds, D', hva, hvb, hga, hgb, ?_⟩
    have hwe := TreeLemmas.entsWf_of_get G.wf hga
    have hwd := TreeLemmas.entsWf_of_get G.wf hgb
    rw [hP]
    rcases hc with ⟨rfl, hst⟩ | ⟨rfl, D1, hst, _⟩
    · rw [if_pos ((struct_none_iff es ds hwe hwd).1 hst)]
    · rw [if_neg]
      intro hex
      rw [(struct_none_iff es ds hwe hwd).2 hex] at hst
      cases hst

/-! ## (c) `FS.movedir` -/

/-- how a `movedir` that gets to its `copy_dir` ends (operational over the reference's primitives `rP`
against the reference `r0`) -/
inductive MoveCase (s : State) (b : List Name) (rP r0 : State × Out) : Prop
  | merged (X Y : Node) (h0 : r0 = ({ s with root := Y }, .ok .unit)) (hP : rP = ({ root := X, closed := false }, .ok .unit))
      (hobs : ObsEq X Y)
  | conflict (es ds : Ents) (D' : Node) (c : Err) (h0 : r0 = (s, .err .OperationFailed))
      (hP : rP = ({ root := setAt s.root b D', closed := false }, .err c))
      (hgb : s.root.get b = some (.dir ds)) (hm : mergeEnts es ds = none)

theorem moveCase_of_outcome (s : State) (a b : List Name) (inc : Inc a b) (hb : CleanN b)
    (rP r0 : State × Out) (root2 : Node) (es ds0 : Ents) (hout : CopyOutcome (·.del a) root2 b es ds0 rP)
    (hwe : entsWf es = true) (hgb2 : root2.get b = some (.dir ds0)) (hw2 : root2.wf = true)
    (h0 : r0 = match mergeEnts es ds0 with
      | none => (s, .err .OperationFailed)
      | some m => ({ s with root := (root2.set b (.dir m)).del a }, .ok .unit))
    (hnone : mergeEnts es ds0 = none → root2 = s.root ∧ s.root.get b = some (.dir ds0)) :
    MoveCase s b rP r0 := by
  have hbne : b ≠ [] := MountTree.Diverge.ne_nil_right inc
  unfold CopyOutcome at hout
  cases hm : mergeEnts es ds0 with
  | some m =>
    rw [hm] at hout h0
    obtain ⟨d2, hwd2, _, hobs, hP⟩ := hout
    refine .merged _ _ h0 hP ?_
    rw [setAt_ne hbne]
    refine obsEq_del a (MountTree.Diverge.ne_nil_left inc) (TreeLemmas.set_wf _ _ _ hb (wf_dir.2 hwd2) hw2)
      (TreeLemmas.set_wf _ _ _ hb (wf_dir.2 (mergeEnts_wf es ds0 m hwe (TreeLemmas.entsWf_of_get hw2 hgb2) hm)) hw2) ?_
    have := obsEq_setAt hgb2 hobs
    rwa [setAt_ne hbne, setAt_ne hbne] at this
  | none =>
    rw [hm] at hout h0
    obtain ⟨D', c, hP, _⟩ := hout
    obtain ⟨rfl, hgb⟩ := hnone hm
    exact .conflict es ds0 D' c h0 hP hgb hm

/-- `rt` is the `removetree` the move ends with -/
theorem movedir_ref_cases (rt : State → Str → State × Out) (fuel : Nat) (s : State) (G : Good s) (p q : Str)
    (create : Bool) (a b : List Name) (hva : validate p = .ok a) (hvb : validate q = .ok b) (inc : Inc a b)
    (hrt : RtSpec rt fuel p a) (hf : subCount s.root a < fuel) (hrun : MoveRuns s a b create) :
    MoveCase s b (movedir prim_of_ref rt fuel s p q create) (Ref.step s (.movedir p q create)) := by
  have ha : CleanN a := TreeLemmas.validate_clean p a hva
  have hb : CleanN b := TreeLemmas.validate_clean q b hvb
  have hne : a ≠ b := fun e => inc.1 (e ▸ List.prefix_refl _)
  have hbne : b ≠ [] := MountTree.Diverge.ne_nil_right inc
  have hr0 : Ref.step s (.movedir p q create) = step2 s a b (.movedir p q create) := by
    rw [QueryLemmas.step_two s _ p q G.opn rfl, hva, hvb]
  have hip : isPrefix a b = false := TreeLemmas.isPrefix_false_iff.2 inc.1
  obtain ⟨⟨es, hga⟩, hdst⟩ := hrun
  have hwe : entsWf es = true := TreeLemmas.entsWf_of_get G.wf hga
  have hcnt : (Node.dir es).count < fuel := by simpa [subCount, hga] using hf
  have hchk := movedir_checks rt fuel s G p q create a b hva hvb inc.1
  rcases hdst with ⟨ds, hgb⟩ | ⟨hgb, hcr, ps, hpar⟩
  · have hout := moveDirBody_existing rt fuel s G p q a b hva hvb inc hrt es ds hga hgb hcnt
    have hP : movedir prim_of_ref rt fuel s p q create = moveDirBody PR rt fuel s p q := by
      rw [hchk]
      simp [hga, hgb]
    rw [hP]
    refine moveCase_of_outcome s a b inc hb _ _ s.root es ds hout hwe hgb G.wf ?_ (fun _ => ⟨rfl, hgb⟩)
    rw [hr0, QueryLemmas.step2_movedir_diverge s p q a b create es inc.1 inc.2 hga, hgb]
    dsimp only
    cases mergeEnts es ds <;> rfl
  · subst hcr
    have hout := moveDirBody_created rt fuel s G p q a b hva hvb inc hrt es ps hga hgb hpar hcnt
    have hP : movedir prim_of_ref rt fuel s p q true = moveDirBody PR rt fuel s p q := by
      rw [hchk]
      simp [hga, hgb]
    rw [hP]
    have hmf := TreeLemmas.mergeEnts_nil hwe
    have hw2 : (s.root.set b (.dir [])).wf = true := TreeLemmas.set_wf _ _ _ hb (by simp [Node.wf, entsWf]) G.wf
    refine moveCase_of_outcome s a b inc hb _ _ (s.root.set b (.dir [])) es [] hout hwe
      (get_set_same b _ _ ps hbne hpar) hw2 ?_ (fun h => by rw [hmf] at h; cases h)
    rw [hr0, hmf]
    simp [step2, hne, hip, hga, hgb, hpar, upd, set_set_same]

/-- outside `MoveRuns` the reference refuses the call, and not with the loose marker -/
theorem ref_movedir_rejected (s : State) (a b : List Name) (p q : Str) (create : Bool) (hne : a ≠ b)
    (hab : ¬ a <+: b) (hno : ¬ MoveRuns s a b create) :
    ∃ e, step2 s a b (.movedir p q create) = (s, .err e) ∧ e ≠ .OperationFailed := by
  have hip : isPrefix a b = false := TreeLemmas.isPrefix_false_iff.2 hab
  simp only [step2, hne, if_false, hip, Bool.false_eq_true]
  rcases hga : s.root.get a with _ | ⟨fa | es⟩
  · exact ⟨_, rfl, by simp⟩
  · exact ⟨_, rfl, by simp⟩
  · rcases hgb : s.root.get b with _ | ⟨fb | ds⟩
    · cases create
      · exact ⟨_, rfl, by simp⟩
      · simp only [Bool.not_true, Bool.false_eq_true, if_false]
        rcases hpar : s.root.get (parentOf b) with _ | ⟨pf | ps⟩
        · exact ⟨_, rfl, by simp⟩
        · exact ⟨_, rfl, by simp⟩
        · exact absurd ⟨⟨es, hga⟩, Or.inr ⟨hgb, rfl, ps, hpar⟩⟩ hno
    · exact ⟨_, rfl, by simp⟩
    · exact absurd ⟨⟨es, hga⟩, Or.inl ⟨ds, hgb⟩⟩ hno

/-! ## (d) the three operations over a primitive interface on ANY state type

`P : Prim σ` reaches a reference state through `emb : State → σ` (a filesystem object that wraps one tree);
`PrimSim` / `PrimAdm` say that its nine calls follow the reference's.  A filesystem `F` that refines the reference
satisfies them with `emb = id` (`BaseWalkAdm.primSim_of_refines`, `primAdm_of_refines`), a single-layer
MultiFS with `emb = put1 s l` (`BaseWalkMulti.primSim_single`, `primAdm_single`). -/

section Prim
variable {σ : Type} (P : Prim σ) (emb : State → σ) (H : PrimSim P emb) (A : PrimAdm P emb)
include H A

theorem removetree_operational_eq_prim (fuel : Nat) (t : State) (G : Good t) (p : Str)
    (hf : treeSize t.root p < fuel) :
    let r := removetree P fuel (emb t) p
    let r0 := Ref.step t (.removetree p)
    r.2.isOk = r0.2.isOk ∧ (r0.2.isOk = true → r = (emb r0.1, r0.2)) ∧
    (∀ e, r.2 = .err e → r.1 = emb t ∧ e ∈ adm t (.removetree p)) := by
  intro r r0
  rcases hr0 : Ref.step t (.removetree p) with ⟨t1, v | e0⟩
  · -- the reference succeeds: the run over `P` follows the run over `PR`, which is the reference's
    have hr : r = (emb t1, .ok v) :=
      liftE_ok (sim_removetree P emb H fuel t G p).1 ((removetree_operational_eq_ref fuel t G p hf).trans hr0)
    have h0' : r0 = (t1, .ok v) := hr0
    rw [hr, h0']
    exact ⟨rfl, fun _ => rfl, fun e he => by cases he⟩
  · obtain rfl : t1 = t := by
      have := QueryLemmas.step_err_state (s := t) (op := .removetree p) (e := e0) (by rw [hr0])
      rw [hr0] at this
      exact this
    obtain ⟨f, rfl⟩ : ∃ f, fuel = f + 1 := ⟨fuel - 1, by omega⟩
    obtain ⟨e', hr, ha⟩ := removetree_P_rejected P emb A f t1 G p e0 hr0
    have hr' : r = (emb t1, .err e') := hr
    have h0' : r0 = (t1, .err e0) := hr0
    rw [hr', h0']
    refine ⟨rfl, fun h => (by cases h), fun e he => ?_⟩
    cases he
    exact ⟨rfl, ha⟩

/-- the shape of the conclusions of (b) and (c) for an interface over `σ` -/
def WalkerRefines (t : State) (op : Op) (r : σ × Out) (r0 : State × Out) (extra : Err → Prop) : Prop :=
  r.2.isOk = r0.2.isOk ∧
  (r0.2.isOk = true → r.2 = r0.2 ∧ ∃ t', r.1 = emb t' ∧ t'.closed = r0.1.closed ∧ ObsEq t'.root r0.1.root) ∧
  (∀ e, r.2 = .err e → r.1 = emb t ∧ (e ∈ adm t op ∨ extra e))

omit H A in
theorem walkerRefines_rejected {t : State} {op : Op} {r : σ × Out} {e : Err} {extra : Err → Prop} (G : Good t)
    (he : e ≠ .OperationFailed) (h0 : Ref.step t op = (t, .err e)) (hr : r = (emb t, .err e)) :
    WalkerRefines emb t op r (Ref.step t op) extra := by
  have ha : e ∈ adm t op := (QueryLemmas.step_truthful t op e G.dir (by rw [h0])).resolve_right he
  rw [h0, hr]
  refine ⟨rfl, fun h => (by cases h), fun e' he' => ?_⟩
  cases he'
  exact ⟨rfl, Or.inl ha⟩

theorem copydir_operational_eq_prim (fuel : Nat) (t : State) (G : Good t) (p q : Str) (create : Bool)
    (hov : DstNotAboveSrc p q) (hf : treeSize t.root p < fuel)
    (hl : (Ref.step t (.copydir p q create)).2 ≠ .err .OperationFailed) :
    WalkerRefines emb t (.copydir p q create) (copydir P fuel (emb t) p q create) (Ref.step t (.copydir p q create))
      (fun e => e = .ResourceNotFound ∧ ∃ b, validate q = .ok b ∧ blockedByFile t.root [] b = true) := by
  rcases copydir_args P emb A fuel t G p q create with ⟨e, he, h0, hr⟩ | ⟨a, b, hva, hvb, hab⟩
  · exact walkerRefines_rejected emb G he h0 hr
  cases copydir_ref_cases fuel t G p q create a b hva hvb (inc_of_side hov hva hvb hab)
      (treeSize_of_validate hva ▸ hf) with
  | rejected e h0 hle hP =>
    have hno : ¬ CopyRuns t a b create :=
      (ref_copydir_rejected_iff t a b p q create hab).1
        ⟨e, by rw [← h0, QueryLemmas.step_two t _ p q G.opn rfl, hva, hvb], hle⟩
    obtain ⟨e', hrF, hcls⟩ := copydir_P_rejected P emb A fuel t G p q create a b hva hvb hab hno
    rw [hrF, h0]
    refine ⟨rfl, fun h => (by cases h), fun x hx => ?_⟩
    cases hx
    exact ⟨rfl, hcls.imp_right fun ⟨h1, h2⟩ => ⟨h1, b, hvb, h2⟩⟩
  | merged root1 es ds0 m D2 h0 hP hm hop hobs hD2 hga hga1 hgb1 hw1 hd1 hr1 =>
    rw [liftE_ok (sim_copydir P emb H fuel t G p q create).1 hP, h0]
    exact ⟨rfl, fun _ => ⟨rfl, _, rfl, G.opn.symm, obsEq_setAt hgb1 hobs⟩,
      fun e he => by cases he⟩
  | conflict es ds D' c h0 _ _ _ _ _ => rw [h0] at hl; exact absurd rfl hl

/-- `copydir_operational_conflict` over any interface -/
theorem copydir_operational_conflict_prim (fuel : Nat) (t : State) (G : Good t) (p q : Str) (create : Bool)
    (hov : DstNotAboveSrc p q) (hf : treeSize t.root p < fuel)
    (h0 : (Ref.step t (.copydir p q create)).2 = .err .OperationFailed) :
    ∃ (a b : List Name) (es ds : Ents) (D' : Node) (c : Err),
      validate p = .ok a ∧ validate q = .ok b ∧ Inc a b ∧
      t.root.get a = some (.dir es) ∧ t.root.get b = some (.dir ds) ∧ mergeEnts es ds = none ∧
      copydir P fuel (emb t) p q create = (emb { root := setAt t.root b D', closed := false }, .err c) := by
  rcases copydir_args P emb A fuel t G p q create with ⟨e, he, h0', _⟩ | ⟨a, b, hva, hvb, hab⟩
  · rw [h0'] at h0
    cases h0
    exact absurd rfl he
  have inc := inc_of_side hov hva hvb hab
  cases copydir_ref_cases fuel t G p q create a b hva hvb inc (treeSize_of_validate hva ▸ hf) with
  | rejected e h0' hl =>
    rw [h0'] at h0
    cases h0
    exact absurd rfl hl
  | merged root1 es ds0 m D2 h0' => rw [h0'] at h0; cases h0
  | conflict es ds D' c _ hP hga hgb hm _ =>
    obtain ⟨e', hrF⟩ := liftE_fail (sim_copydir P emb H fuel t G p q create).1 hP
    exact ⟨a, b, es, ds, D', e', hva, hvb, inc, hga, hgb, hm, hrF⟩

theorem movedir_operational_eq_prim (rtM : σ → Str → σ × Out) (rtR : State → Str → State × Out)
    (hrtL : ∀ s p, GoodS s → LiftE emb (rtM (emb s) p) (rtR s p) ∧ GoodS (rtR s p).1)
    (fuel : Nat) (t : State) (G : Good t) (p q : Str) (create : Bool)
    (hrt : ∀ a, validate p = .ok a → RtSpec rtR fuel p a)
    (hov : DstNotAboveSrc p q) (hf : treeSize t.root p < fuel)
    (hl : (Ref.step t (.movedir p q create)).2 ≠ .err .OperationFailed) :
    WalkerRefines emb t (.movedir p q create) (movedir P rtM fuel (emb t) p q create) (Ref.step t (.movedir p q create))
      (fun _ => False) := by
  rcases movedir_args P emb A rtM fuel t G p q create with ⟨e, he, h0, hr⟩ | ⟨h0, hr⟩ | ⟨a, b, hva, hvb, hne, hab⟩
  · exact walkerRefines_rejected emb G he h0 hr
  · -- moving a directory onto itself: nothing to do
    rw [h0, hr]
    exact ⟨rfl, fun _ => ⟨rfl, t, rfl, rfl, obsEq_refl _⟩, fun e he => by cases he⟩
  by_cases hrun : MoveRuns t a b create
  · cases movedir_ref_cases rtR fuel t G p q create a b hva hvb (inc_of_side hov hva hvb hab) (hrt a hva)
        (treeSize_of_validate hva ▸ hf) hrun with
    | merged X Y h0 hP hobs =>
      rw [liftE_ok (sim_movedir P emb H rtM rtR hrtL fuel t G p q create).1 hP, h0]
      exact ⟨rfl, fun _ => ⟨rfl, _, rfl, G.opn.symm, hobs⟩, fun e he => by cases he⟩
    | conflict es ds D' c h0 _ _ _ => rw [h0] at hl; exact absurd rfl hl
  · obtain ⟨e', hrF, hcls⟩ := movedir_P_rejected P emb A rtM fuel t G p q create a b hva hvb hne hab hrun
    obtain ⟨e, h0, _⟩ := ref_movedir_rejected t a b p q create hne hab hrun
    have h0' : Ref.step t (.movedir p q create) = (t, .err e) := by
      rw [QueryLemmas.step_two t _ p q G.opn rfl, hva, hvb]; exact h0
    rw [hrF, h0']
    refine ⟨rfl, fun h => (by cases h), fun x hx => ?_⟩
    cases hx
    exact ⟨rfl, Or.inl hcls⟩

/-- `movedir_operational_conflict` over any interface, and `es` are the entries of the source directory -/
theorem movedir_operational_conflict_prim (rtM : σ → Str → σ × Out) (rtR : State → Str → State × Out)
    (hrtL : ∀ s p, GoodS s → Follows emb (rtM (emb s) p) (rtR s p))
    (fuel : Nat) (t : State) (G : Good t) (p q : Str) (create : Bool)
    (hrt : ∀ a, validate p = .ok a → RtSpec rtR fuel p a) (hov : DstNotAboveSrc p q)
    (hf : treeSize t.root p < fuel) (h0 : (Ref.step t (.movedir p q create)).2 = .err .OperationFailed) :
    ∃ (a b : List Name) (es ds : Ents) (D' : Node) (c : Err),
      validate p = .ok a ∧ validate q = .ok b ∧ Inc a b ∧
      t.root.get a = some (.dir es) ∧ t.root.get b = some (.dir ds) ∧ mergeEnts es ds = none ∧
      movedir P rtM fuel (emb t) p q create = (emb { root := setAt t.root b D', closed := false }, .err c) := by
  rcases movedir_args P emb A rtM fuel t G p q create with ⟨e, he, h0', _⟩ | ⟨h0', _⟩ | ⟨a, b, hva, hvb, hne, hab⟩
  · rw [h0'] at h0
    cases h0
    exact absurd rfl he
  · rw [h0'] at h0; cases h0
  have inc := inc_of_side hov hva hvb hab
  by_cases hrun : MoveRuns t a b create
  · cases movedir_ref_cases rtR fuel t G p q create a b hva hvb inc (hrt a hva)
        (treeSize_of_validate hva ▸ hf) hrun with
    | merged X Y h0' => rw [h0'] at h0; cases h0
    | conflict _ ds D' c _ hP hgb _ =>
      -- `MoveCase.conflict` does not tie its entries to the source: the reference's answer does
      obtain ⟨⟨es, hga⟩, _⟩ := hrun
      have hm : mergeEnts es ds = none := by
        have hr0 : Ref.step t (.movedir p q create) = step2 t a b (.movedir p q create) := by
          rw [QueryLemmas.step_two t _ p q G.opn rfl, hva, hvb]
        rw [hr0, QueryLemmas.step2_movedir_diverge t p q a b create es inc.1 inc.2 hga, hgb] at h0
        dsimp only at h0
        cases hm : mergeEnts es ds with
        | none => rfl
        | some m => rw [hm] at h0; cases h0
      obtain ⟨e', hrF⟩ := liftE_fail (sim_movedir P emb H rtM rtR hrtL fuel t G p q create).1 hP
      exact ⟨a, b, es, ds, D', e', hva, hvb, inc, hga, hgb, hm, hrF⟩
  · obtain ⟨e, he, hl⟩ := ref_movedir_rejected t a b p q create hne hab hrun
    have h0' : Ref.step t (.movedir p q create) = (t, .err e) := by
      rw [QueryLemmas.step_two t _ p q G.opn rfl, hva, hvb]; exact he
    rw [h0'] at h0
    cases h0
    exact absurd rfl hl

end Prim

/-! … and over any filesystem `F` that refines the reference (`emb = id`) -/

theorem walkerRefines_id {s : State} {op : Op} {r r0 : State × Out} {extra : Err → Prop}
    (h : WalkerRefines id s op r r0 extra) :
    r.2.isOk = r0.2.isOk ∧
    (r0.2.isOk = true → r.2 = r0.2 ∧ r.1.closed = r0.1.closed ∧ ObsEq r.1.root r0.1.root) ∧
    (∀ e, r.2 = .err e → r.1 = s ∧ (e ∈ adm s op ∨ extra e)) := by
  obtain ⟨h1, h2, h3⟩ := h
  refine ⟨h1, fun hok => ?_, h3⟩
  obtain ⟨hv, t', ht', hc, ho⟩ := h2 hok
  rw [show r.1 = t' from ht']
  exact ⟨hv, hc, ho⟩

/-- `FS.removetree` over the primitives of ANY filesystem `F` that refines the reference:
the same verdict as `Ref.removetree`; on success the same state; on failure nothing has changed and the
class is admissible (`Ref.adm`). -/
theorem removetree_operational_eq (F : FS State) (hF : RefinesRef F) (fuel : Nat) (s : State) (G : Good s)
    (p : Str) (hf : treeSize s.root p < fuel) :
    let r := removetree (primOfStep F) fuel s p
    let r0 := Ref.step s (.removetree p)
    r.2.isOk = r0.2.isOk ∧ (r0.2.isOk = true → r = r0) ∧ (∀ e, r.2 = .err e → e ∈ adm s (.removetree p) ∧ r.1 = s) := by
  intro r r0
  obtain ⟨h1, h2, h3⟩ := removetree_operational_eq_prim (primOfStep F) id (primSim_of_refines F hF)
    (primAdm_of_refines F hF) fuel s G p hf
  exact ⟨h1, h2, fun e he => (h3 e he).symm⟩

/-- `FS.copydir` as coded — `validatepath` ×2, the `isbase` test, `exists(dst)`
unless `create`, `getinfo(src).is_dir`, then `copy_dir`: `makedirs(dst)`, the breadth-first structure walk with
`makedir(recreate=True)`, the breadth-first file walk with `copy(overwrite=True)` — over the primitives of ANY
filesystem `F` that refines the reference, whenever the destination is not a proper ancestor of the source
and the reference's outcome is not the loose marker: the same verdict as `Ref.copydir`; on success the same
value and a tree that shows the same at every path (`ObsEq`: entry order aside); on failure nothing has changed
and the class is admissible for `copydir` (or it is the `ResourceNotFound` a filesystem may answer to
`makedirs` below a file). -/
theorem copydir_operational_eq (F : FS State) (hF : RefinesRef F) (fuel : Nat) (s : State) (G : Good s)
    (p q : Str) (create : Bool) (hov : DstNotAboveSrc p q) (hf : treeSize s.root p < fuel) :
    let r := copydir (primOfStep F) fuel s p q create
    let r0 := Ref.step s (.copydir p q create)
    r0.2 ≠ .err .OperationFailed →
      r.2.isOk = r0.2.isOk ∧
      (r0.2.isOk = true → r.2 = r0.2 ∧ r.1.closed = r0.1.closed ∧ ObsEq r.1.root r0.1.root) ∧
      (∀ e, r.2 = .err e → r.1 = s ∧ (e ∈ adm s (.copydir p q create) ∨
        (e = .ResourceNotFound ∧ ∃ b, validate q = .ok b ∧ blockedByFile s.root [] b = true))) := by
  intro r r0 hl
  exact walkerRefines_id (copydir_operational_eq_prim (primOfStep F) id (primSim_of_refines F hF)
    (primAdm_of_refines F hF) fuel s G p q create hov hf hl)

/-- What the loose marker stands for.  When the reference answers its
loose `OperationFailed` (a file/directory conflict somewhere inside: `mergeEnts = none`), the walkers over
ANY refining `F` FAIL MID-WAY: both paths validate, source and destination are directories, the call raises,
and the tree differs from the old one only in the sub-tree at the destination (`setAt s.root b D'`: the part
already copied) — the source and every bystander are untouched. -/
theorem copydir_operational_conflict (F : FS State) (hF : RefinesRef F) (fuel : Nat) (s : State) (G : Good s)
    (p q : Str) (create : Bool) (hov : DstNotAboveSrc p q) (hf : treeSize s.root p < fuel)
    (h0 : (Ref.step s (.copydir p q create)).2 = .err .OperationFailed) :
    ∃ (a b : List Name) (es ds : Ents) (D' : Node) (c : Err),
      validate p = .ok a ∧ validate q = .ok b ∧ Inc a b ∧
      s.root.get a = some (.dir es) ∧ s.root.get b = some (.dir ds) ∧ mergeEnts es ds = none ∧
      copydir (primOfStep F) fuel s p q create = ({ root := setAt s.root b D', closed := false }, .err c) :=
  copydir_operational_conflict_prim (primOfStep F) id (primSim_of_refines F hF) (primAdm_of_refines F hF)
    fuel s G p q create hov hf h0

/-- `rtF` / `rtR` are the `removetree` the move ends with, over `F` and over the reference -/
theorem movedir_refines (F : FS State) (hF : RefinesRef F) (rtF rtR : State → Str → State × Out)
    (hrtL : ∀ s p, GoodS s → Follows id (rtF s p) (rtR s p))
    (fuel : Nat) (s : State) (G : Good s) (p q : Str) (create : Bool)
    (hrt : ∀ a, validate p = .ok a → RtSpec rtR fuel p a)
    (hov : DstNotAboveSrc p q) (hf : treeSize s.root p < fuel)
    (hl : (Ref.step s (.movedir p q create)).2 ≠ .err .OperationFailed) :
    let r := movedir (primOfStep F) rtF fuel s p q create
    let r0 := Ref.step s (.movedir p q create)
    r.2.isOk = r0.2.isOk ∧
    (r0.2.isOk = true → r.2 = r0.2 ∧ r.1.closed = r0.1.closed ∧ ObsEq r.1.root r0.1.root) ∧
    (∀ e, r.2 = .err e → r.1 = s ∧ e ∈ adm s (.movedir p q create)) := by
  obtain ⟨h1, h2, h3⟩ := walkerRefines_id (movedir_operational_eq_prim (primOfStep F) id (primSim_of_refines F hF)
    (primAdm_of_refines F hF) rtF rtR hrtL fuel s G p q create hrt hov hf hl)
  exact ⟨h1, h2, fun e he => ⟨(h3 e he).1, (h3 e he).2.resolve_right id⟩⟩

/-- `FS.movedir`, with the hypothesis on the final `removetree` in the form `Lift`: `rtF` / `rtR` are the
`removetree` the move ends with, over `F` and over the reference (the base-class walker, or the class's own method) -/
theorem movedir_operational_eq_gen (F : FS State) (hF : RefinesRef F) (rtF rtR : State → Str → State × Out)
    (hrtL : ∀ s p, GoodS s → Lift (rtF s p) (rtR s p) ∧ GoodS (rtR s p).1)
    (fuel : Nat) (s : State) (G : Good s) (p q : Str) (create : Bool)
    (hrt : ∀ a, validate p = .ok a → RtSpec rtR fuel p a)
    (hov : DstNotAboveSrc p q) (hf : treeSize s.root p < fuel) :
    let r := movedir (primOfStep F) rtF fuel s p q create
    let r0 := Ref.step s (.movedir p q create)
    r0.2 ≠ .err .OperationFailed →
      r.2.isOk = r0.2.isOk ∧
      (r0.2.isOk = true → r.2 = r0.2 ∧ r.1.closed = r0.1.closed ∧ ObsEq r.1.root r0.1.root) ∧
      (∀ e, r.2 = .err e → r.1 = s ∧ e ∈ adm s (.movedir p q create)) := by
  intro r r0 hl
  exact movedir_refines F hF rtF rtR (fun s p G => ⟨liftE_of_lift (hrtL s p G).1, (hrtL s p G).2⟩)
    fuel s G p q create hrt hov hf hl

/-- `FS.movedir` as coded — `validatepath` ×2, the same-path exit, the `isbase`
test, `exists(dst)` unless `create`, then `move_dir`: `getinfo(src).is_dir`, `makedir(dst, recreate=True)`,
`copy_dir`, and the base-class `removetree(src)` (walker) — over the primitives of ANY filesystem `F` that
refines the reference, whenever the destination is not a proper ancestor of the source and the reference's
outcome is not the loose marker: the same verdict as `Ref.movedir`; on success the same value and a tree that
shows the same at every path (`ObsEq`) — in particular the source is gone and its complete content is at the
destination; on failure nothing has changed and the class is admissible. -/
theorem movedir_operational_eq (F : FS State) (hF : RefinesRef F) (fuel : Nat) (s : State) (G : Good s)
    (p q : Str) (create : Bool) (hov : DstNotAboveSrc p q) (hf : treeSize s.root p < fuel) :
    let r := movedir (primOfStep F) (removetree (primOfStep F) fuel) fuel s p q create
    let r0 := Ref.step s (.movedir p q create)
    r0.2 ≠ .err .OperationFailed →
      r.2.isOk = r0.2.isOk ∧
      (r0.2.isOk = true → r.2 = r0.2 ∧ r.1.closed = r0.1.closed ∧ ObsEq r.1.root r0.1.root) ∧
      (∀ e, r.2 = .err e → r.1 = s ∧ e ∈ adm s (.movedir p q create)) :=
  movedir_refines F hF _ (removetree PR fuel)
    (fun s' p' G' => sim_removetree (primOfStep F) id (primSim_of_refines F hF) fuel s' G' p')
    fuel s G p q create (fun a hva => rtSpec_base fuel p a hva) hov hf

/-- … and when the class overrides `removetree` (MemoryFS, OSFS): `move_dir` ends with the class's own -/
theorem movedir_operational_eq_own (F : FS State) (hF : RefinesRef F) (fuel : Nat) (s : State) (G : Good s)
    (p q : Str) (create : Bool) (hov : DstNotAboveSrc p q) (hf : treeSize s.root p < fuel) :
    let r := movedir (primOfStep F) (fun t x => F t (.removetree x)) fuel s p q create
    let r0 := Ref.step s (.movedir p q create)
    r0.2 ≠ .err .OperationFailed →
      r.2.isOk = r0.2.isOk ∧
      (r0.2.isOk = true → r.2 = r0.2 ∧ r.1.closed = r0.1.closed ∧ ObsEq r.1.root r0.1.root) ∧
      (∀ e, r.2 = .err e → r.1 = s ∧ e ∈ adm s (.movedir p q create)) :=
  movedir_refines F hF _ (fun t x => Ref.step t (.removetree x))
    (fun s' p' G' => ⟨lift_call F hF s' G' (.removetree p') rfl, goodS_step G' _ (by intro h; cases h)⟩)
    fuel s G p q create (fun a _ => rtSpec_own fuel p a) hov hf

/-- When the reference answers its loose `OperationFailed`, `move_dir`
over ANY refining `F` fails in its `copy_dir`, BEFORE `removetree(src)`: the call raises and the tree differs
from the old one only in the sub-tree at the destination — the source is complete, nothing was moved away.
(`es` are the source's entries: `movedir_operational_conflict_prim` says so.) -/
theorem movedir_operational_conflict (F : FS State) (hF : RefinesRef F) (fuel : Nat) (s : State) (G : Good s)
    (p q : Str) (create : Bool) (hov : DstNotAboveSrc p q) (hf : treeSize s.root p < fuel)
    (h0 : (Ref.step s (.movedir p q create)).2 = .err .OperationFailed) :
    ∃ (a b : List Name) (es ds : Ents) (D' : Node) (c : Err),
      validate p = .ok a ∧ validate q = .ok b ∧ Inc a b ∧ s.root.get b = some (.dir ds) ∧ mergeEnts es ds = none ∧
      movedir (primOfStep F) (removetree (primOfStep F) fuel) fuel s p q create =
        ({ root := setAt s.root b D', closed := false }, .err c) := by
  obtain ⟨a, b, es, ds, D', c, hva, hvb, inc, _, h⟩ :=
    movedir_operational_conflict_prim (primOfStep F) id (primSim_of_refines F hF) (primAdm_of_refines F hF) _
      (removetree PR fuel) (fun s' p' G' => sim_removetree (primOfStep F) id (primSim_of_refines F hF) fuel s' G' p')
      fuel s G p q create (fun a hva => rtSpec_base fuel p a hva) hov hf h0
  exact ⟨a, b, es, ds, D', c, hva, hvb, inc, h⟩

/-! ## (e) the side conditions are needed: counterexamples on the model of the code -/

section Examples
def fl (n : String) (b : Bytes) : Name × Node := (n.toList, .file b)
def dr (n : String) (es : Ents) : Name × Node := (n.toList, .dir es)
def st (es : Ents) : State := { root := .dir es, closed := false }
/-- the base-class algorithms over the reference's own primitives -/
def opRun (s : State) (op : Op) : State × Out := BaseWalk.step 16 false Ref.step s op
def readAt (r : State × Out) (p : String) : Out := (Ref.step r.1 (.readbytes p.toList)).2
def listAt (r : State × Out) (p : String) : Out := (Ref.step r.1 (.listdir p.toList)).2
def hasAt (r : State × Out) (p : String) : Out := (Ref.step r.1 (.exists_ p.toList)).2

/-- (c) `DstNotAboveSrc` is NEEDED for `movedir`: `movedir('a', '/')` with `a/a/x` — the walkers copy `a/a/x`
to `/a/x`, i.e. INTO the source, and `removetree('a')` then removes it with the source: the call returns, the
reference has the file at `/a/x`, the code has nothing left (the recorded open finding
`movedir-dst-ancestor-of-src-name-clash`) -/
theorem movedir_dst_above_src_counterexample :
    let s := st [dr "a" [dr "a" [fl "x" [1]]]]
    let op := Op.movedir "a".toList "/".toList true
    (opRun s op).2 = .ok .unit ∧ (Ref.step s op).2 = .ok .unit ∧
    readAt (Ref.step s op) "a/x" = .ok (.bytes [1]) ∧
    hasAt (opRun s op) "a/x" = .ok (.bool false) ∧ listAt (opRun s op) "/" = .ok (.names []) := by
  decide +kernel

/-- (b) for `copydir` the hypothesis `DstNotAboveSrc` is what the proof uses (the source is not touched by the
writes); it is not known to be needed: the walk reads a level before it writes into it, and on the C05 example
`copydir('a', '/')` with `a/f`, `a/a/f` code and reference give the same tree: -/
example :
    let s := st [dr "a" [fl "f" [1], dr "a" [fl "f" [2]]]]
    let op := Op.copydir "a".toList "/".toList false
    (opRun s op).2 = .ok .unit ∧ (Ref.step s op).2 = .ok .unit ∧
    readAt (opRun s op) "a/f" = .ok (.bytes [2]) ∧ readAt (Ref.step s op) "a/f" = .ok (.bytes [2]) ∧
    readAt (opRun s op) "f" = .ok (.bytes [1]) ∧ readAt (Ref.step s op) "f" = .ok (.bytes [1]) := by
  decide +kernel

/-- (b) `ObsEq` cannot be strengthened to equality: the walkers create the directories of a level before
they copy its files, the reference's merge follows the source order -/
theorem copydir_entry_order_counterexample :
    let s := st [dr "a" [fl "f" [1], dr "d" []], dr "b" []]
    let op := Op.copydir "a".toList "b".toList false
    listAt (opRun s op) "b" = .ok (.names ["d".toList, "f".toList]) ∧
    listAt (Ref.step s op) "b" = .ok (.names ["f".toList, "d".toList]) := by
  decide +kernel

/-- (b) the conflicts: a source directory over a destination file → `DirectoryExpected` (nothing copied: the
structure walk comes first); a source file over a destination directory → `FileExpected`, the files met
before it ARE copied (the reference: `OperationFailed`, nothing specified) -/
theorem copydir_conflict_examples :
    let s1 := st [dr "a" [fl "f" [1], dr "x" []], dr "b" [fl "x" [9]]]
    let s2 := st [dr "a" [fl "f" [1], fl "x" [2]], dr "b" [dr "x" []]]
    let op := Op.copydir "a".toList "b".toList false
    (Ref.step s1 op).2 = .err .OperationFailed ∧ (opRun s1 op).2 = .err .DirectoryExpected ∧
    hasAt (opRun s1 op) "b/f" = .ok (.bool false) ∧
    (Ref.step s2 op).2 = .err .OperationFailed ∧ (opRun s2 op).2 = .err .FileExpected ∧
    readAt (opRun s2 op) "b/f" = .ok (.bytes [1]) ∧ readAt (opRun s2 op) "a/x" = .ok (.bytes [2]) := by
  decide +kernel

/-- (a) guards against the defect fixed in /repo 433aea4 (finding `C01-removetree-unvalidated-path`): an
`FS.removetree` that normalises its argument (`abspath(normpath(…))`) WITHOUT validating it never sees an invalid
component that `..` cancels — `removetree('x\0/..')` emptied the root.  `FS.removetree` starts with `validatepath`
like every other method: InvalidCharsInPath, nothing changes — as the reference says -/
theorem removetree_nul_repaired :
    let s := st [fl "f" [1], dr "d" [fl "g" [2]]]
    let op := Op.removetree ['x', '\x00', '/', '.', '.']
    (Ref.step s op).2 = .err .InvalidCharsInPath ∧ hasAt (Ref.step s op) "f" = .ok (.bool true) ∧
    (opRun s op).2 = .err .InvalidCharsInPath ∧ hasAt (opRun s op) "f" = .ok (.bool true) ∧
    readAt (opRun s op) "d/g" = .ok (.bytes [2]) := by
  decide +kernel

/-- (a) fuel is what bounds the walk: without it the model answers `Leak` (Python: no bound, the loop ends
because the tree is finite) -/
theorem removetree_out_of_fuel_counterexample :
    (BaseWalk.step 1 false Ref.step (st [dr "d" [dr "e" []]]) (.removetree "d".toList)).2 = .err .Leak ∧
    (BaseWalk.step 3 false Ref.step (st [dr "d" [dr "e" []]]) (.removetree "d".toList)).2 = .ok .unit := by
  decide +kernel

/-- the hypotheses of (a)–(c) are satisfiable, and the three operations run -/
example :
    let s := st [dr "a" [fl "f" [1], dr "b" [fl "g" [2]]], fl "c" [3]]
    Good s ∧ DstNotAboveSrc "a".toList "e".toList ∧ treeSize s.root "a".toList < 16 ∧
    readAt (opRun s (.copydir "a".toList "e".toList true)) "e/b/g" = .ok (.bytes [2]) ∧
    hasAt (opRun s (.movedir "a".toList "e".toList true)) "a" = .ok (.bool false) ∧
    readAt (opRun s (.movedir "a".toList "e".toList true)) "e/f" = .ok (.bytes [1]) ∧
    hasAt (opRun s (.removetree "a".toList)) "a" = .ok (.bool false) := by
  refine ⟨⟨rfl, rfl, by decide +kernel⟩, ?_, by decide +kernel⟩
  intro a b ha hb hp
  have h1 : validate "a".toList = .ok ["a".toList] := by decide +kernel
  have h2 : validate "e".toList = .ok ["e".toList] := by decide +kernel
  rw [h1] at ha; rw [h2] at hb
  cases ha; cases hb
  exact absurd hp (by decide)

end Examples

/-! ## (f) the modelling decisions of `FsModel.Mem` / `FsModel.Os`, as theorems -/

theorem os_refines : RefinesRef Os.step := OsRefines.os_refines_ref

/-- the class's OWN `copydir` and the base-class algorithm over the class's primitives: the same verdict,
on success the same value and trees that show the same at every path, on failure nothing changed -/
def Agree (s : State) (rOwn rOp : State × Out) : Prop :=
  rOp.2.isOk = rOwn.2.isOk ∧
  (rOwn.2.isOk = true → rOp.2 = rOwn.2 ∧ rOp.1.closed = rOwn.1.closed ∧ ObsEq rOp.1.root rOwn.1.root) ∧
  (rOwn.2.isOk = false → rOp.1 = s ∧ rOwn.1 = s)

theorem agree_of_refines (F : FS State) (hF : RefinesRef F) (s : State) (G : Good s) (op : Op) (rOp : State × Out)
    (hk : ¬ knownDeviation op) (hl : (Ref.step s op).2 ≠ .err .OperationFailed)
    (h1 : rOp.2.isOk = (Ref.step s op).2.isOk)
    (h2 : (Ref.step s op).2.isOk = true → rOp.2 = (Ref.step s op).2 ∧ rOp.1.closed = (Ref.step s op).1.closed ∧
      ObsEq rOp.1.root (Ref.step s op).1.root)
    (h3 : ∀ e, rOp.2 = .err e → rOp.1 = s) : Agree s (F s op) rOp := by
  obtain ⟨f1, f2, f3⟩ := hF s op G.opn G.dir G.wf hk hl
  refine ⟨by rw [h1, f1], fun hok => ?_, fun herr => ?_⟩
  · rw [f1] at hok
    rw [f2 hok]; exact h2 hok
  · refine ⟨?_, ?_⟩
    · rcases hr : rOp.2 with v | e
      · have : rOp.2.isOk = false := by rw [h1, ← f1]; exact herr
        rw [hr] at this; cases this
      · exact h3 e hr
    · rcases hr : (F s op).2 with v | e
      · rw [hr] at herr; cases herr
      · exact (f3 e hr).2

theorem not_dev_of_side {p q : Str} {c : Bool} (hov : DstNotAboveSrc p q) : ¬ knownDeviation (.movedir p q c) := by
  rintro ⟨a, b, ha, hb, hp, hne⟩
  exact hne (hov a b ha hb hp)

/-- For ANY filesystem that refines the reference, its `copydir` agrees with
`FS.copydir` run over its own primitives — whatever its `copydir` is (the modelling decision "tree-level
merge" of `FsModel.Mem` / `FsModel.Os` included) -/
theorem own_copydir_is_operational (F : FS State) (hF : RefinesRef F) (fuel : Nat) (s : State) (G : Good s)
    (p q : Str) (create : Bool) (hov : DstNotAboveSrc p q) (hf : treeSize s.root p < fuel)
    (hl : (Ref.step s (.copydir p q create)).2 ≠ .err .OperationFailed) :
    Agree s (F s (.copydir p q create)) (BaseWalk.step fuel true F s (.copydir p q create)) := by
  obtain ⟨h1, h2, h3⟩ := copydir_operational_eq F hF fuel s G p q create hov hf hl
  exact agree_of_refines F hF s G _ _ (by simp [knownDeviation]) hl h1 h2 (fun e he => (h3 e he).1)

theorem own_movedir_is_operational (F : FS State) (hF : RefinesRef F) (fuel : Nat) (s : State) (G : Good s)
    (p q : Str) (create : Bool) (hov : DstNotAboveSrc p q) (hf : treeSize s.root p < fuel)
    (hl : (Ref.step s (.movedir p q create)).2 ≠ .err .OperationFailed) :
    Agree s (F s (.movedir p q create)) (BaseWalk.step fuel true F s (.movedir p q create)) := by
  obtain ⟨h1, h2, h3⟩ := movedir_operational_eq_own F hF fuel s G p q create hov hf hl
  exact agree_of_refines F hF s G _ _ (not_dev_of_side hov) hl h1 h2 (fun e he => (h3 e he).1)

theorem own_removetree_is_operational (F : FS State) (hF : RefinesRef F) (fuel : Nat) (s : State) (G : Good s)
    (p : Str) (hf : treeSize s.root p < fuel) :
    Agree s (F s (.removetree p)) (BaseWalk.step fuel false F s (.removetree p)) := by
  obtain ⟨h1, h2, h3⟩ := removetree_operational_eq F hF fuel s G p hf
  have hl : (Ref.step s (.removetree p)).2 ≠ .err .OperationFailed := MultiFsLemmas.not_loose s _ rfl
  refine agree_of_refines F hF s G _ _ (by simp [knownDeviation]) hl h1 (fun hok => ?_) (fun e he => (h3 e he).2)
  have := h2 hok
  show (removetree (primOfStep F) fuel s p).2 = _ ∧ (removetree (primOfStep F) fuel s p).1.closed = _ ∧
    ObsEq (removetree (primOfStep F) fuel s p).1.root _
  rw [this]
  exact ⟨rfl, rfl, obsEq_refl _⟩

/-- `FsModel.Mem.copydir` (base-class `FS.copydir` + `copy_dir` modelled as the
tree-level merge — "a modelling decision") IS `FS.copydir` as coded (`FsModel.BaseWalk`) over MemoryFS's own
`scandir` / `makedir(s)` / `copy` / … (`Mem.step`), entry order aside -/
theorem mem_copydir_is_operational (fuel : Nat) (s : State) (G : Good s) (p q : Str) (create : Bool)
    (hov : DstNotAboveSrc p q) (hf : treeSize s.root p < fuel)
    (hl : (Ref.step s (.copydir p q create)).2 ≠ .err .OperationFailed) :
    Agree s (Mem.step s (.copydir p q create)) (BaseWalk.step fuel true Mem.step s (.copydir p q create)) :=
  own_copydir_is_operational Mem.step mem_refines fuel s G p q create hov hf hl

/-- `MemoryFS.movedir` (its own re-linking, or the base class when the destination exists) against
`FS.movedir` as coded over MemoryFS's primitives (ending with `MemoryFS.removetree`) -/
theorem mem_movedir_is_operational (fuel : Nat) (s : State) (G : Good s) (p q : Str) (create : Bool)
    (hov : DstNotAboveSrc p q) (hf : treeSize s.root p < fuel)
    (hl : (Ref.step s (.movedir p q create)).2 ≠ .err .OperationFailed) :
    Agree s (Mem.step s (.movedir p q create)) (BaseWalk.step fuel true Mem.step s (.movedir p q create)) :=
  own_movedir_is_operational Mem.step mem_refines fuel s G p q create hov hf hl

/-- `MemoryFS.removetree` (un-linking the sub-tree) against the base-class walker over MemoryFS's primitives -/
theorem mem_removetree_is_operational (fuel : Nat) (s : State) (G : Good s) (p : Str)
    (hf : treeSize s.root p < fuel) :
    Agree s (Mem.step s (.removetree p)) (BaseWalk.step fuel false Mem.step s (.removetree p)) :=
  own_removetree_is_operational Mem.step mem_refines fuel s G p hf

/-- `Os.copydir`: the same modelling decision, over the POSIX model -/
theorem os_copydir_is_operational (fuel : Nat) (s : State) (G : Good s) (p q : Str) (create : Bool)
    (hov : DstNotAboveSrc p q) (hf : treeSize s.root p < fuel)
    (hl : (Ref.step s (.copydir p q create)).2 ≠ .err .OperationFailed) :
    Agree s (Os.step s (.copydir p q create)) (BaseWalk.step fuel true Os.step s (.copydir p q create)) :=
  own_copydir_is_operational Os.step os_refines fuel s G p q create hov hf hl

theorem os_movedir_is_operational (fuel : Nat) (s : State) (G : Good s) (p q : Str) (create : Bool)
    (hov : DstNotAboveSrc p q) (hf : treeSize s.root p < fuel)
    (hl : (Ref.step s (.movedir p q create)).2 ≠ .err .OperationFailed) :
    Agree s (Os.step s (.movedir p q create)) (BaseWalk.step fuel true Os.step s (.movedir p q create)) :=
  own_movedir_is_operational Os.step os_refines fuel s G p q create hov hf hl

theorem os_removetree_is_operational (fuel : Nat) (s : State) (G : Good s) (p : Str)
    (hf : treeSize s.root p < fuel) :
    Agree s (Os.step s (.removetree p)) (BaseWalk.step fuel false Os.step s (.removetree p)) :=
  own_removetree_is_operational Os.step os_refines fuel s G p hf

/-! ## (g) the single-layer MultiFS, walkers included -/

/-- `ObsEq` here is `MultiFsLemmas.ObsEq`, the relation of `multi_mutators_refine_when_unshadowed_partial` -/
theorem obsEq_iff_multi (a b : Node) : BaseWalkSpec.ObsEq a b ↔ MultiFsLemmas.ObsEq a b := by
  have h : BaseWalkSpec.shallow = MultiFsLemmas.shallow := by
    funext n; cases n <;> rfl
  simp only [BaseWalkSpec.ObsEq, MultiFsLemmas.ObsEq, h]

section Multi
open Fs.MultiFs Fs.MultiFsLemmas Fs.BaseWalkMulti

/-- the side conditions of (a)–(c), per operation -/
def WalkerSide (fuel : Nat) (t : State) : Op → Prop
  | .removetree p => treeSize t.root p < fuel
  | .copydir p q _ => DstNotAboveSrc p q ∧ treeSize t.root p < fuel
  | .movedir p q _ => DstNotAboveSrc p q ∧ treeSize t.root p < fuel
  | _ => True

theorem removetreeM_eq (F : FS State) (fuel : Nat) (s : MState State) (hc : s.closed = false) (p : Str) :
    removetreeM F fuel s p = removetree (MultiFs.prim F) fuel s p := by
  simp only [removetreeM, hc, Bool.false_eq_true, if_false]

/-- A MultiFS with exactly one layer, which is its write layer
(what `fsharness.make_backend("multi")` builds), over ANY layer filesystem `F` that refines the reference,
refines the reference for EVERY operation other than `close` — the three walkers `removetree`, `copydir`,
`movedir` included (`MultiFs.step`: the base-class algorithms over the MultiFS's own `scandir` / `makedir` /
`copy` / `remove` / …, `FsModel.BaseWalk`): the same verdict as `Ref.step` on the layer's tree; on success the
same value, only the layer's state changes, and it is the reference's resulting state — exactly for every
operation but `copydir` / `movedir`, where the tree shows the same at every path (`ObsEq`: the copier creates
directories before files); on failure nothing changes and the class is admissible (for `copydir` also the
`ResourceNotFound` a layer may answer to `makedirs` below a file).
Side conditions: the loose marker is not the reference's outcome; for the walkers `WalkerSide` (fuel for the
sub-tree; `copydir` / `movedir`: the destination is not a proper ancestor of the source —
`movedir_dst_above_src_counterexample`). -/
theorem multi_single_write_layer_refines (fuel : Nat) (F : FS State) (hF : RefinesRef F)
    (s : MState State) (l : Layer State) (hl : s.layers = [l]) (hw : s.writeIdx = some l.idx)
    (hc : s.closed = false) (G : MultiFsLemmas.Good l.st) (op : Op) (hop : op ≠ .close)
    (hside : WalkerSide fuel l.st op) (hloose : (Ref.step l.st op).2 ≠ .err .OperationFailed) :
    let r := MultiFs.step fuel F s op
    let ref := Ref.step l.st op
    (r.2.isOk = ref.2.isOk) ∧
    (ref.2.isOk = true → r.2 = ref.2 ∧ ∃ t', r.1 = { s with layers := [{ l with st := t' }] } ∧
      t'.closed = ref.1.closed ∧ BaseWalkSpec.ObsEq t'.root ref.1.root ∧ (bulk op = false → t' = ref.1)) ∧
    (∀ e, r.2 = .err e → r.1 = s ∧ (e ∈ adm l.st op ∨
      (e = .ResourceNotFound ∧ ∃ p q c b, op = .copydir p q c ∧ validate q = .ok b ∧ blockedByFile l.st.root [] b = true))) := by
  intro r ref
  have GS : GoodS l.st := ⟨G.opn, G.dir, G.wf⟩
  have C : Cfg s l := ⟨hl, hw, hc⟩
  have hput : put1 s l l.st = s := put1_self ⟨hl, hw, hc, G⟩
  have H := primSim_single F hF C
  have A := primAdm_single F hF C
  by_cases hwk : walker op = false
  · -- not a walker: `MultiRefines.multi_single_write_layer_refines_partial`
    obtain ⟨h1, h2, h3⟩ := MultiRefines.multi_single_write_layer_refines_partial fuel F hF s l hl hw hc G op hop hwk
    refine ⟨h1, fun hok => ?_, fun e he => ⟨(h3 e he).1, Or.inl (h3 e he).2⟩⟩
    obtain ⟨hr, _⟩ := h2 hok
    have hr' : r = ({ s with layers := [{ l with st := ref.1 }] }, ref.2) := hr
    exact ⟨by rw [hr'], ref.1, by rw [hr'], rfl, obsEq_refl _, fun _ => rfl⟩
  · have hso : r = stepOpen fuel F s op := step_open fuel F s hc op hop
    cases op <;> first | exact absurd rfl hwk | skip
    case removetree p =>
      have hf : treeSize l.st.root p < fuel := hside
      have hr : r = removetree (MultiFs.prim F) fuel (put1 s l l.st) p := by
        rw [hput]
        exact hso.trans (removetreeM_eq F fuel s hc p)
      obtain ⟨h1, h2, h3⟩ := removetree_operational_eq_prim (MultiFs.prim F) (put1 s l) H A fuel l.st GS p hf
      rw [← hr] at h1 h2 h3
      refine ⟨h1, fun hok => ?_, fun e he => ?_⟩
      · have := h2 hok
        exact ⟨by rw [this], ref.1, by rw [this]; rfl, rfl, obsEq_refl _, fun _ => rfl⟩
      · obtain ⟨hs, ha⟩ := h3 e he
        exact ⟨by rw [hs, hput], Or.inl ha⟩
    case copydir p q c =>
      obtain ⟨hov, hf⟩ := hside
      have hr : r = copydir (MultiFs.prim F) fuel (put1 s l l.st) p q c := by
        rw [hput]
        exact hso
      obtain ⟨h1, h2, h3⟩ := copydir_operational_eq_prim (MultiFs.prim F) (put1 s l) H A fuel l.st GS p q c hov hf hloose
      rw [← hr] at h1 h2 h3
      refine ⟨h1, fun hok => ?_, fun e he => ?_⟩
      · obtain ⟨hv, t', ht', hcl, hobs⟩ := h2 hok
        exact ⟨hv, t', ht', hcl, hobs, fun hb => by cases hb⟩
      · obtain ⟨hs, ha⟩ := h3 e he
        refine ⟨by rw [hs, hput], ?_⟩
        rcases ha with ha | ⟨h1', b, hvb, hbl⟩
        · exact Or.inl ha
        · exact Or.inr ⟨h1', p, q, c, b, rfl, hvb, hbl⟩
    case movedir p q c =>
      obtain ⟨hov, hf⟩ := hside
      have hr : r = movedir (MultiFs.prim F) (removetreeM F fuel) fuel (put1 s l l.st) p q c := by
        rw [hput]
        exact hso
      have hrtL : ∀ t x, GoodS t → Follows (put1 s l) (removetreeM F fuel (put1 s l t) x) (removetree PR fuel t x) := by
        intro t x Gt
        rw [removetreeM_eq F fuel (put1 s l t) hc x]
        exact sim_removetree (MultiFs.prim F) (put1 s l) H fuel t Gt x
      obtain ⟨h1, h2, h3⟩ := movedir_operational_eq_prim (MultiFs.prim F) (put1 s l) H A (removetreeM F fuel)
        (removetree PR fuel) hrtL fuel l.st GS p q c (fun a hva => rtSpec_base fuel p a hva) hov hf hloose
      rw [← hr] at h1 h2 h3
      refine ⟨h1, fun hok => ?_, fun e he => ?_⟩
      · obtain ⟨hv, t', ht', hcl, hobs⟩ := h2 hok
        exact ⟨hv, t', ht', hcl, hobs, fun hb => by cases hb⟩
      · obtain ⟨hs, ha⟩ := h3 e he
        refine ⟨by rw [hs, hput], ?_⟩
        rcases ha with ha | ha
        · exact Or.inl ha
        · exact absurd ha id

/-- instance: MultiFS over MemoryFS **as coded** (`FsModel.Mem`), the configuration the harness runs -/
theorem multi_single_mem_refines_full (fuel : Nat) (s : MState State) (l : Layer State) (hl : s.layers = [l])
    (hw : s.writeIdx = some l.idx) (hc : s.closed = false) (G : MultiFsLemmas.Good l.st) (op : Op) (hop : op ≠ .close)
    (hside : WalkerSide fuel l.st op) (hloose : (Ref.step l.st op).2 ≠ .err .OperationFailed) :
    let r := MultiFs.step fuel Mem.step s op
    let ref := Ref.step l.st op
    (r.2.isOk = ref.2.isOk) ∧
    (ref.2.isOk = true → r.2 = ref.2 ∧ ∃ t', r.1 = { s with layers := [{ l with st := t' }] } ∧
      t'.closed = ref.1.closed ∧ BaseWalkSpec.ObsEq t'.root ref.1.root ∧ (bulk op = false → t' = ref.1)) ∧
    (∀ e, r.2 = .err e → r.1 = s ∧ (e ∈ adm l.st op ∨
      (e = .ResourceNotFound ∧ ∃ p q c b, op = .copydir p q c ∧ validate q = .ok b ∧ blockedByFile l.st.root [] b = true))) :=
  multi_single_write_layer_refines fuel Mem.step mem_refines s l hl hw hc G op hop hside hloose

end Multi

end Fs.BaseWalkLaws
